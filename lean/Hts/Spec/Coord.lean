/-
Specification of the coordinate arithmetic, written from the SAM specification (v1, §1.4.6 CIGAR
operations, §4.2.1 BIN, §5.3 the binning scheme and its C code) and the CSI generalisation
(min_shift, depth), independently of the Go code (of the model only the type `CigarOp` is used).  The binning scheme is
natural-number arithmetic only.
-/
import Hts.Model.Coord
namespace Hts.Spec.Coord
open Hts.Model.Coord (CigarOp)

/-- §1.4.6: M, D, N, =, X consume the reference -/
def refConsuming (t : Nat) : Bool := t == 0 || t == 2 || t == 3 || t == 7 || t == 8

/-- §1.4.6: M, I, S, =, X consume the query -/
def queryConsuming (t : Nat) : Bool := t == 0 || t == 1 || t == 4 || t == 7 || t == 8

def refLen : List CigarOp → Int
  | [] => 0
  | co :: rest => (if refConsuming co.typ then (co.len : Int) else 0) + refLen rest

def queryLen : List CigarOp → Int
  | [] => 0
  | co :: rest => (if queryConsuming co.typ then (co.len : Int) else 0) + queryLen rest

/-- signed reference movement with the `B` (back, type 9) extension -/
def refMove (co : CigarOp) : Int :=
  if refConsuming co.typ then co.len else if co.typ = 9 then -(co.len : Int) else 0

/-- coordinate reached after a CIGAR prefix -/
def posAfter (pos : Int) : List CigarOp → Int
  | [] => pos
  | co :: rest => posAfter (pos + refMove co) rest

/-- highest coordinate reached by any prefix of the CIGAR (with `B`, the end of the alignment) -/
def maxReach (pos : Int) : List CigarOp → Int
  | [] => pos
  | co :: rest => let m := maxReach (pos + refMove co) rest; if pos < m then m else pos

/-- first bin number of level `l` (level 0 = the root bin): (8^l - 1)/7 -/
def levelOffset (l : Nat) : Nat := (8 ^ l - 1) / 7

/-- §5.3 `reg2bin` for the half-open interval [b, e+1): starting at the deepest level (shift `s`),
the first level at which both ends fall into the same bin.  `l` levels below the root remain. -/
def reg2binAux (b e : Nat) (s : Nat) : (l : Nat) → Nat
  | 0 => 0
  | l + 1 => if b >>> s = e >>> s then levelOffset (l + 1) + (b >>> s) else reg2binAux b e (s + 3) l

/-- bin of [beg, end) in the scheme (minShift, depth); BAI is (14, 5) -/
def reg2bin (beg end_ minShift depth : Nat) : Nat := reg2binAux beg (end_ - 1) minShift depth

/-- bins of level `l` overlapping [b, e] (inclusive `e`) -/
def levelBins (b e minShift depth l : Nat) : List Nat :=
  let s := minShift + 3 * (depth - l)
  (List.range ((e >>> s) - (b >>> s) + 1)).map (fun i => levelOffset l + (b >>> s) + i)

/-- §5.3 `reg2bins`: all bins of all levels overlapping [beg, end) -/
def reg2bins (beg end_ minShift depth : Nat) : List Nat :=
  (List.range (depth + 1)).flatMap (fun l => levelBins beg (end_ - 1) minShift depth l)

end Hts.Spec.Coord
