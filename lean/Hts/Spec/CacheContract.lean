/-
The abstract contract of `bgzf.Cache` that the reader relies on (bgzf/cache.go:13-34), independent of any
particular cache:

* `Get` returns a block stored under the requested key **and removes it** ("The returned Block must be
  removed from the Cache") — ownership passes to the caller;
* `Put` either refuses the block (nothing changes, the caller keeps it) or retains it, possibly handing
  back exactly one previously held block, which is no longer held;
* `Peek` says `true` exactly for the held keys and reports the held block's `NextBase()`.

`CacheOps` is the uniform executable interface (used by the reader model of C03 and by the driver);
`Contract` is the specification; Hts.Lemmas.CacheContract proves it for LRU, Random and any
StatsRecorder over a conforming cache, and holds the state on which FIFO violates `get_hit`
(`fifo_get_keeps_used`; C14's `fifo_violates_contract` is `¬ Contract fifoOps LCache.WF`).
Core Lean only.
-/
import Hts.Model.Cache
namespace Hts.Spec.CacheContract
open Hts.Model.Cache

/-- uniform interface; `put` takes the victim the implementation chose (only Random looks at it) and
answers `none` if that choice is not allowed -/
structure CacheOps (σ : Type) where
  put : Heap → σ → Nat → Option Nat → Option (σ × PutRes)
  get : Heap → σ → Int → σ × Option Nat
  peek : Heap → σ → Int → Bool × Int
  /-- the `(key, block)` pairs currently indexed -/
  held : σ → List Entry

def lruOps : CacheOps LCache where
  put h c id _ := some (c.put h id)
  get := LCache.get .lru
  peek := LCache.peek
  held c := c.items

def fifoOps : CacheOps LCache where
  put h c id _ := some (c.put h id)
  get := LCache.get .fifo
  peek := LCache.peek
  held c := c.items

def randomOps : CacheOps RCache where
  put := RCache.put
  get _ c k := c.get k
  peek := RCache.peek
  held c := c.items

/-- `StatsRecorder{Cache: inner}`: same blocks, plus counters -/
def recorderOps {σ : Type} (o : CacheOps σ) : CacheOps (σ × Stats) where
  put h s id hint := (o.put h s.1 id hint).map (fun (c, r) => ((c, s.2.onPut r), r))
  get h s k := let (c, r) := o.get h s.1 k; ((c, s.2.onGet r), r)
  peek h s k := o.peek h s.1 k
  held s := o.held s.1

/-- the contract, for states satisfying the cache's own well-formedness predicate `wf`
(capacity ≥ 1, keys pairwise distinct), which every operation preserves -/
structure Contract {σ : Type} (o : CacheOps σ) (wf : σ → Prop) : Prop where
  get_wf : ∀ h s k, wf s → wf (o.get h s k).1
  put_wf : ∀ h s id hint s' r, wf s → o.put h s id hint = some (s', r) → wf s'
  put_no_panic : ∀ h s id hint s', wf s → o.put h s id hint ≠ some (s', .panic)
  /-- Get hands the block over: it was held under the requested key and is not held afterwards -/
  get_hit : ∀ h s k s' id, wf s → o.get h s k = (s', some id) →
    ⟨k, id⟩ ∈ o.held s ∧ ∀ e, e ∈ o.held s' ↔ (e ∈ o.held s ∧ e ≠ ⟨k, id⟩)
  get_miss : ∀ h s k s', wf s → o.get h s k = (s', none) →
    o.held s' = o.held s ∧ ∀ e ∈ o.held s, e.key ≠ k
  put_refused : ∀ h s id hint s', wf s → o.put h s id hint = some (s', .refused) → o.held s' = o.held s
  /-- a retained block is indexed under its current base; at most one other block leaves -/
  put_kept : ∀ h s id hint s' ev, wf s → o.put h s id hint = some (s', .kept ev) →
    (∀ e ∈ o.held s, e.key ≠ (h id).base) ∧
    match ev with
    | none => ∀ e, e ∈ o.held s' ↔ (e = ⟨(h id).base, id⟩ ∨ e ∈ o.held s)
    | some v => ∃ kv, (⟨kv, v⟩ : Entry) ∈ o.held s ∧
        ∀ e, e ∈ o.held s' ↔ (e = ⟨(h id).base, id⟩ ∨ (e ∈ o.held s ∧ e ≠ ⟨kv, v⟩))
  peek_hit : ∀ h s k nx, wf s → o.peek h s k = (true, nx) → ∃ id, (⟨k, id⟩ : Entry) ∈ o.held s ∧ nx = (h id).next
  peek_miss : ∀ h s k nx, wf s → o.peek h s k = (false, nx) → nx = -1 ∧ ∀ e ∈ o.held s, e.key ≠ k
  /-- held keys are pairwise distinct -/
  keys_distinct : ∀ s, wf s → (o.held s).Pairwise (fun a b => a.key ≠ b.key)

/-! ### The stated eviction policy of LRU and FIFO, written down independently of the linked list

"LRU / FIFO … eviction behavior where Unused Blocks are preferentially evicted": retained blocks wait in
two queues in order of arrival — those that had been read from when they were put (`used`) and those that
had not (`unused`).  Eviction takes the newest unused block if there is one, otherwise the oldest used
block.  (`Get` removes, so for LRU "least recently used" is "least recently put".) -/

structure PolicyQ where
  cap : Int
  /-- oldest first -/
  used : List Entry
  /-- oldest first -/
  unused : List Entry
deriving DecidableEq, Repr

namespace PolicyQ

def new (n : Int) : PolicyQ := ⟨n, [], []⟩

def len (q : PolicyQ) : Int := q.used.length + q.unused.length

def holds (q : PolicyQ) (k : Int) : Bool := q.used.any (fun e => e.key == k) || q.unused.any (fun e => e.key == k)

/-- the victim and the state without it -/
def evict (q : PolicyQ) : Option (Entry × PolicyQ) :=
  match q.unused.getLast? with
  | some v => some (v, { q with unused := q.unused.dropLast })
  | none =>
    match q.used with
    | [] => none
    | v :: t => some (v, { q with used := t })

def put (h : Heap) (q : PolicyQ) (id : Nat) : PolicyQ × PutRes :=
  let b := h id
  if q.holds b.base then (q, .refused)
  else if q.len = q.cap then
    if !b.used then (q, .refused)
    else match q.evict with
      | none => (q, .panic)
      | some (v, q') => ({ q' with used := q'.used ++ [⟨b.base, id⟩] }, .kept (some v.id))
  else if b.used then ({ q with used := q.used ++ [⟨b.base, id⟩] }, .kept none)
  else ({ q with unused := q.unused ++ [⟨b.base, id⟩] }, .kept none)

def removeKeyQ (q : PolicyQ) (k : Int) : PolicyQ :=
  { q with used := q.used.filter (fun e => e.key != k), unused := q.unused.filter (fun e => e.key != k) }

/-- the block retained for base `k` (keys are pairwise distinct in every reachable state, so the order of
the search is immaterial; it is fixed as newest used block first to make `find` total) -/
def find (q : PolicyQ) (k : Int) : Option Entry :=
  (q.used.reverse.find? (fun e => e.key == k)).or (q.unused.find? (fun e => e.key == k))

/-- `Get(k)` at policy level: the block found leaves its queue (FIFO: unless it is `Used()`, as coded) -/
def get (fifo : Bool) (h : Heap) (q : PolicyQ) (k : Int) : PolicyQ × Option Nat :=
  match q.find k with
  | none => (q, none)
  | some e => (if fifo && (h e.id).used then q else q.removeKeyQ k, some e.id)

/-- `Peek(k)` at policy level -/
def peek (h : Heap) (q : PolicyQ) (k : Int) : Bool × Int :=
  match q.find k with
  | none => (false, -1)
  | some e => (true, (h e.id).next)

/-- evict `n` times (stops when empty) -/
def dropN (q : PolicyQ) : Nat → PolicyQ
  | 0 => q
  | n + 1 => match q.evict with
    | none => q
    | some (_, q') => dropN q' n

end PolicyQ

end Hts.Spec.CacheContract
