/-
C20 — ITF-8 and LTF-8 integer codecs are exact inverses for every value.
Every statement quantifies over all 2^32 / 2^64 values or all byte strings; nothing here
is sampled.  A `BitVec 32` (`BitVec 64`) is the two's-complement bit pattern of the Go `int32` (`int64`).
-/
import Hts.Lemmas.Itf8
import Hts.Lemmas.Itf8Spec
import Hts.Lemmas.CramStream
namespace Hts.Props.C20
open Hts.Model

/-- encode then decode returns the same integer, and the count reported by Decode equals Len -/
theorem itf8_decode_encode (v : BitVec 32) : Itf8.decode (Itf8.encode v) = (v, Itf8.len v, true) :=
  Itf8.decode_encode v

/-- trailing bytes after a complete encoding are not looked at -/
theorem itf8_decode_encode_append (v : BitVec 32) (rest : List (BitVec 8)) :
    Itf8.decode (Itf8.encode v ++ rest) = (v, Itf8.len v, true) := by
  have hd := Itf8.decode_encode v
  have hl := Itf8.encode_length v
  cases he : Itf8.encode v with
  | nil => rw [he] at hd; cases congrArg (·.2.2) hd
  | cons b0 t =>
    rw [he] at hd hl
    have hw : Itf8.width b0 = ((t.length + 1 : Nat) : Int) := by
      have := Itf8.decode_snd b0 t; rw [hd] at this; exact (Prod.mk.inj this).1.symm ▸ hl.symm
    -- decode (b0 :: t ++ rest) = decode (take (width b0) ...) = decode (b0 :: t)
    rw [List.cons_append, ← Itf8.decode_take b0 (t ++ rest) (by rw [hw, List.length_append]; omega), hw,
      Int.toNat_natCast, ← List.cons_append, ← List.length_cons, List.take_left, hd]

/-- the number of bytes written equals Len -/
theorem itf8_encode_length (v : BitVec 32) : ((Itf8.encode v).length : Int) = Itf8.len v :=
  Itf8.encode_length v

/-- the bytes equal the encoding defined by the CRAM specification (arithmetic spec) -/
theorem itf8_encode_is_spec (v : BitVec 32) :
    (Itf8.encode v).map BitVec.toNat = Hts.Spec.Itf8.encode v.toNat :=
  Itf8.encode_is_spec v

/-- decoding reports failure exactly when fewer bytes are available than the first byte announces,
and the reported width is the announced one -/
theorem itf8_decode_fails_iff_short (b0 : BitVec 8) (t : List (BitVec 8)) :
    (Itf8.decode (b0 :: t)).2.1 = Itf8.width b0 ∧
      ((Itf8.decode (b0 :: t)).2.2 = false ↔ ((t.length + 1 : Nat) : Int) < Itf8.width b0) := by
  rw [Itf8.decode_snd, decide_eq_false_iff_not, Int.not_le]
  exact ⟨rfl, Iff.rfl⟩

theorem itf8_decode_empty : Itf8.decode [] = (0#32, 0, false) := Itf8.decode_nil

/-- decoding never reads beyond the length announced by the first byte -/
theorem itf8_decode_reads_announced (b0 : BitVec 8) (t : List (BitVec 8))
    (h : Itf8.width b0 ≤ ((t.length + 1 : Nat) : Int)) :
    Itf8.decode ((b0 :: t).take (Itf8.width b0).toNat) = Itf8.decode (b0 :: t) :=
  Itf8.decode_take b0 t h

theorem ltf8_decode_encode (v : BitVec 64) : Ltf8.decode (Ltf8.encode v) = (v, Ltf8.len v, true) :=
  Ltf8.decode_encode v

theorem ltf8_encode_length (v : BitVec 64) : ((Ltf8.encode v).length : Int) = Ltf8.len v :=
  Ltf8.encode_length v

theorem ltf8_encode_is_spec (v : BitVec 64) :
    (Ltf8.encode v).map BitVec.toNat = Hts.Spec.Ltf8.encode v.toNat :=
  Ltf8.encode_is_spec v

theorem ltf8_decode_fails_iff_short (b0 : BitVec 8) (t : List (BitVec 8)) :
    (Ltf8.decode (b0 :: t)).2.1 = Ltf8.width b0 ∧
      ((Ltf8.decode (b0 :: t)).2.2 = false ↔ ((t.length + 1 : Nat) : Int) < Ltf8.width b0) := by
  rw [Ltf8.decode_snd, decide_eq_false_iff_not, Int.not_le]
  exact ⟨rfl, Iff.rfl⟩

theorem ltf8_decode_empty : Ltf8.decode [] = (0#64, 0, false) := Ltf8.decode_nil

theorem ltf8_decode_reads_announced (b0 : BitVec 8) (t : List (BitVec 8))
    (h : Ltf8.width b0 ≤ ((t.length + 1 : Nat) : Int)) :
    Ltf8.decode ((b0 :: t).take (Ltf8.width b0).toNat) = Ltf8.decode (b0 :: t) :=
  Ltf8.decode_take b0 t h

/-- the width the decoder derives from a first byte is the specification's -/
theorem itf8_width_is_spec (b0 : BitVec 8) : Itf8.width b0 = (Hts.Spec.Itf8.width b0.toNat : Nat) :=
  Itf8.width_is_spec b0

theorem ltf8_width_is_spec (b0 : BitVec 8) : Ltf8.width b0 = (Hts.Spec.Ltf8.width b0.toNat : Nat) :=
  Ltf8.width_is_spec b0

/-- whenever the announced bytes are present, the value Decode returns is the value the specification
assigns to exactly those bytes — also for encodings `Encode` never produces (overlong forms such as
`80 05`; a 5-byte ITF-8 whose last byte has a non-zero high nibble: the specification ignores it) -/
theorem itf8_decode_is_spec (b0 : BitVec 8) (t : List (BitVec 8))
    (h : Itf8.width b0 ≤ ((t.length + 1 : Nat) : Int)) :
    Hts.Spec.Itf8.value (((b0 :: t).take (Itf8.width b0).toNat).map BitVec.toNat)
      = some (Itf8.decode (b0 :: t)).1.toNat :=
  Itf8.decode_is_spec b0 t h

theorem ltf8_decode_is_spec (b0 : BitVec 8) (t : List (BitVec 8))
    (h : Ltf8.width b0 ≤ ((t.length + 1 : Nat) : Int)) :
    Hts.Spec.Ltf8.value (((b0 :: t).take (Ltf8.width b0).toNat).map BitVec.toNat)
      = some (Ltf8.decode (b0 :: t)).1.toNat :=
  Ltf8.decode_is_spec b0 t h

/-- the specification is coherent with itself: its value function inverts its encoder on every 32-bit
(64-bit) value.  (Proved by arithmetic alone: it says the two halves of the hand-written specification
agree; with the two facts about the code, encode = spec and decode = spec value, it gives
decode ∘ encode = id.) -/
theorem itf8_spec_value_encode (u : Nat) (hu : u < 2 ^ 32) :
    Hts.Spec.Itf8.value (Hts.Spec.Itf8.encode u) = some u :=
  (Hts.Spec.Itf8.encode_complete u hu).2

theorem ltf8_spec_value_encode (u : Nat) (hu : u < 2 ^ 64) :
    Hts.Spec.Ltf8.value (Hts.Spec.Ltf8.encode u) = some u :=
  (Hts.Spec.Ltf8.encode_complete u hu).2

/-- The stream readers `errorReader.itf8` / `errorReader.ltf8` of cram/cram.go: an encoded number followed by anything
reads back as that number, leaving exactly the rest -/
theorem itf8_stream_roundtrip (v : BitVec 32) (rest : List (BitVec 8)) :
    CramStream.itf8 (Itf8.encode v ++ rest) = .ok (v, rest) :=
  Hts.Lemmas.CramStream.Itf8S.stream_roundtrip v rest

/-- with the announced bytes available the reader consumes exactly them (never more) and never reports
"failed to decode" -/
theorem itf8_stream_consumes_announced (b0 : BitVec 8) (t : List (BitVec 8))
    (h : Itf8.width b0 ≤ ((t.length + 1 : Nat) : Int)) :
    CramStream.itf8 (b0 :: t) =
      .ok ((Itf8.decode ((b0 :: t).take (Itf8.width b0).toNat)).1, (b0 :: t).drop (Itf8.width b0).toNat) :=
  Hts.Lemmas.CramStream.itf8_eq_reader ▸
    (Hts.Lemmas.CramStream.reader_cons Itf8.decode_snd Itf8.width_pos b0 t).trans (if_pos h)

/-- a stream cut inside a number is an error, never a value -/
theorem itf8_stream_short_fails (b0 : BitVec 8) (t : List (BitVec 8))
    (h : ((t.length + 1 : Nat) : Int) < Itf8.width b0) : ∃ e, CramStream.itf8 (b0 :: t) = .error e :=
  ⟨_, Hts.Lemmas.CramStream.itf8_eq_reader ▸
    (Hts.Lemmas.CramStream.reader_cons Itf8.decode_snd Itf8.width_pos b0 t).trans
      (if_neg (Int.not_le.mpr h))⟩

theorem ltf8_stream_roundtrip (v : BitVec 64) (rest : List (BitVec 8)) :
    CramStream.ltf8 (Ltf8.encode v ++ rest) = .ok (v, rest) :=
  Hts.Lemmas.CramStream.Ltf8S.stream_roundtrip v rest

theorem ltf8_stream_consumes_announced (b0 : BitVec 8) (t : List (BitVec 8))
    (h : Ltf8.width b0 ≤ ((t.length + 1 : Nat) : Int)) :
    CramStream.ltf8 (b0 :: t) =
      .ok ((Ltf8.decode ((b0 :: t).take (Ltf8.width b0).toNat)).1, (b0 :: t).drop (Ltf8.width b0).toNat) :=
  Hts.Lemmas.CramStream.ltf8_eq_reader ▸
    (Hts.Lemmas.CramStream.reader_cons Ltf8.decode_snd Ltf8.width_pos b0 t).trans (if_pos h)

theorem ltf8_stream_short_fails (b0 : BitVec 8) (t : List (BitVec 8))
    (h : ((t.length + 1 : Nat) : Int) < Ltf8.width b0) : ∃ e, CramStream.ltf8 (b0 :: t) = .error e :=
  ⟨_, Hts.Lemmas.CramStream.ltf8_eq_reader ▸
    (Hts.Lemmas.CramStream.reader_cons Ltf8.decode_snd Ltf8.width_pos b0 t).trans
      (if_neg (Int.not_le.mpr h))⟩

example : Itf8.encode 0x12345678#32 = [0xf1#8, 0x23#8, 0x45#8, 0x67#8, 0x78#8] := by decide
example : Itf8.decode [0xf1#8, 0x23#8, 0x45#8, 0x67#8, 0x78#8, 0xaa#8] = (0x12345678#32, 5, true) := by decide
example : Itf8.width 0xf1#8 ≤ ((4 + 1 : Nat) : Int) := by decide
example : (Ltf8.encode 0xffffffffffffffff#64).length = 9 := by decide
example : CramStream.itf8 [0xf1#8, 0x23#8, 0x45#8, 0x67#8, 0x78#8, 0xaa#8] = .ok (0x12345678#32, [0xaa#8]) := by rfl
example : CramStream.ltf8 [0xff#8, 1#8, 2#8] = .error .unexpectedEOF := by rfl
-- overlong (non-canonical) input: accepted, with the specification's value; Encode never produces it
example : Itf8.decode [0x80#8, 0x05#8] = (5#32, 2, true) ∧ Itf8.encode 5#32 = [0x05#8] := by decide
example : Hts.Spec.Itf8.value [0x80, 0x05] = some 5 := by decide
example : Hts.Spec.Ltf8.value [0xfe, 1, 2, 3, 4, 5, 6, 7] = some 0x01020304050607 := by decide

end Hts.Props.C20
