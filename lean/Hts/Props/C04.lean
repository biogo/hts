/-
C04 — Index queries are complete: every added record that overlaps a query is covered by a returned
chunk.

Everything is stated for ALL coordinate-sorted record sequences (`SortedInput`: any length, any number
of references incl. skipped ids, unplaced records anywhere), ALL queries `[beg, end)` with `beg < end` — for BAI and
tabix from `0 ≤ beg` on and with any end, for CSI over all of `int64` (the `_any_end`/`_any_query` theorems; those
bounded by the indexable range are their corollaries) — and, where the code takes a merge strategy (`MergeChunks`, and
`bam.Index.Chunks` at query time), ALL strategies that satisfy `EncLaw` (proved below for Adjacent, Squash, every
CompressorStrategy(n) and the identity); `csi` and `tabix` answer a query with Adjacent, as the code does.  The models
mirror the code with the repairs fixes/C04-1..3, C04-5 and C04-6 applied.
"Covered" is the strong reading: ONE returned chunk encloses the record's whole chunk.
-/
import Hts.Lemmas.IndexMerge
import Hts.Lemmas.IndexCsi
import Hts.Lemmas.IndexTabix
import Hts.Props.C16
namespace Hts.Props.C04
open Hts.Model Hts.Model.Index

/-- `add_never_fails`: on every coordinate-sorted in-range sequence every `Add` returns nil
(no error, no panic) -/
theorem add_never_fails (recs : List Rec) (h : SortedInput recs) :
    ∀ x, x ∈ (addAll {} recs).2 → x = AddRes.ok :=
  (addAll_sorted recs h).1

/-- `bins_inv`: after the whole sequence the chunk of every placed record is stored under the
record's bin in the record's reference, and bin numbers are pairwise distinct -/
theorem bins_inv (recs : List Rec) (h : SortedInput recs) (r : Rec) (hr : r ∈ recs) (hp : r.placed = true) :
    ∃ ref, (addAll {} recs).1.refs[r.rid.toNat]? = some ref ∧ (ref.bins.map (·.bin)).Nodup ∧
      ∃ bn, bn ∈ ref.bins ∧ bn.bin = r.bin ∧ r.chunk ∈ bn.chunks := by
  obtain ⟨ref, href, ri, hm⟩ := (addAll_sorted recs h).2.refs.get (mem_placed_reverse hr hp)
  exact ⟨ref, href, ri.nodup, ri.bins r hm⟩

/-- `tiles_inv`: the tile array of the record's reference reaches the last tile the record overlaps,
and no entry up to that tile lies behind the record's chunk begin -/
theorem tiles_inv (recs : List Rec) (h : SortedInput recs) (r : Rec) (hr : r ∈ recs) (hp : r.placed = true) :
    ∃ ref, (addAll {} recs).1.refs[r.rid.toNat]? = some ref ∧
      lastTile r.start r.stop < ref.intervals.length ∧
      ∀ k v, k ≤ lastTile r.start r.stop → ref.intervals[k]? = some v → v ≤ r.chunk.b := by
  obtain ⟨ref, href, ri, hm⟩ := (addAll_sorted recs h).2.refs.get (mem_placed_reverse hr hp)
  exact ⟨ref, href, ri.tilesLen r hm, ri.tilesLe r hm⟩

/-- `sorted_tiles_le`: sorting the tile array (as `sort()` does) never makes the entry at a position
larger than a bound that held for the whole prefix up to that position -/
theorem sorted_tiles_le (l : List Int) (k : Nat) (B : Int) (hk : k < l.length)
    (hpre : ∀ j v, j ≤ k → l[j]? = some v → v ≤ B) :
    ∀ v, (l.mergeSort leOff)[k]? = some v → v ≤ B :=
  Index.sorted_tiles_le l k B hk hpre

/-! `Adjacent`, `Squash`, every `CompressorStrategy(n)` and the identity lose no chunk (`EncLaw`). -/

theorem adjacent_encloses : EncLaw Local.adjacent := Local.encLaw_adjacent
theorem squash_encloses : EncLaw Local.squash := Local.encLaw_squash
theorem compressor_encloses (near : Int) : EncLaw (Local.compressor near) := Local.encLaw_compressor near
theorem identity_encloses : EncLaw id := encLaw_id

/-- the strategies of the index model ARE C17's models (`Hts.Model.Merge`), carried over to integer
virtual offsets by `v ↦ (v / 65536, v % 65536)` and back by `vOff` -/
theorem strategies_are_C17 :
    Local.adjacent = Local.lift Hts.Model.Merge.adjacent ∧ Local.squash = Local.lift Hts.Model.Merge.squash ∧
      ∀ near, Local.compressor near = Local.lift (Hts.Model.Merge.compressor near) :=
  ⟨rfl, rfl, fun _ => rfl⟩

/-- the bridge: a strategy of C17's model that loses no chunk (`enclosedBy`, proved for Adjacent, Squash
and every Compressor in Hts.Lemmas.MergeEnc) satisfies `EncLaw` after the carry-over -/
theorem encLaw_of_C17 (s : List Hts.Model.Merge.Chunk → List Hts.Model.Merge.Chunk)
    (hs : ∀ ms, Hts.Model.Merge.SortedB ms → ∀ m, m ∈ ms → Hts.Model.Merge.enclosedBy (s ms) m) :
    EncLaw (Local.lift s) := Local.encLaw_lift s hs

/-- the two laws are different.  Losing no CHUNK (what C04 needs) implies losing no POSITION (C17's
`*_covers`) … -/
theorem enclosure_implies_coverage (s : List Hts.Model.Merge.Chunk → List Hts.Model.Merge.Chunk)
    (cs : List Hts.Model.Merge.Chunk) (h : ∀ c, c ∈ cs → Hts.Model.Merge.enclosedBy (s cs) c) (p : Int)
    (hp : Hts.Model.Merge.covers cs p) : Hts.Model.Merge.covers (s cs) p :=
  Hts.Model.Merge.enclosed_covers s cs h p hp

/-- … but not conversely: a function that cuts a chunk in two keeps every position and loses the chunk -/
theorem coverage_does_not_imply_enclosure :
    ∃ (s : List Hts.Model.Merge.Chunk → List Hts.Model.Merge.Chunk) (cs : List Hts.Model.Merge.Chunk),
      Hts.Model.Merge.SortedB cs ∧ (∀ p, Hts.Model.Merge.covers cs p → Hts.Model.Merge.covers (s cs) p) ∧
      ¬ ∀ c, c ∈ cs → Hts.Model.Merge.enclosedBy (s cs) c :=
  Hts.Model.Merge.covers_not_enclosed

def built (recs : List Rec) : Index := (addAll {} recs).1

/-- `chunks_complete` for `internal.Index`: for every query `[beg, stop)` with `0 ≤ beg < stop` and
every placed record with a non-empty reference interval (an empty one — `End() = Pos`, a CIGAR without
reference-consuming operation — overlaps nothing; such records are still covered by `add_never_fails`,
`bins_inv`, `tiles_inv` and `stats_true`) overlapping it whose bin is among the candidate bins, `Chunks` succeeds and, after
any strategy `s` with `EncLaw`, one returned chunk encloses the record's chunk; the same after
`MergeChunks pre` for any `pre` with `EncLaw` -/
theorem chunks_complete (recs : List Rec) (h : SortedInput recs) (r : Rec) (hr : r ∈ recs)
    (hp : r.placed = true) (hne : r.start < r.stop) (beg stop : Int) (bins : List Nat) (hb : 0 ≤ beg) (hq : beg < stop)
    (hov : beg < r.stop) (hbin : r.bin ∈ bins)
    (pre s : List Chunk → List Chunk) (hpre : EncLaw pre) (hs : EncLaw s) :
    (∃ cs, chunks (built recs) r.rid beg stop bins = .ok cs ∧ coveredBy (s cs) r.chunk) ∧
    (∃ cs, chunks (mergeChunks pre (built recs)) r.rid beg stop bins = .ok cs ∧ coveredBy (s cs) r.chunk) := by
  have inv := (addAll_sorted recs h).2
  have hmem : r ∈ (recs.filter (·.placed)).reverse := mem_placed_reverse hr hp
  have hok := h.ok r hr
  constructor
  · obtain ⟨cs, h1, h2, c, hc, hce⟩ := chunks_complete_cover _ _ inv.cover r hmem hok.ce hne beg stop bins hb hq hov hbin
    exact ⟨cs, h1, coveredBy_trans (hs cs h2 c hc) hce⟩
  · obtain ⟨cs, h1, h2, c, hc, hce⟩ := chunks_complete_cover _ _ (mergeChunks_cover pre hpre _ _ inv.cover) r hmem
      hok.ce hne beg stop bins hb hq hov hbin
    exact ⟨cs, h1, coveredBy_trans (hs cs h2 c hc) hce⟩

/-- the internal record `bam.Index.Add` derives from a `sam.Record` -/
abbrev baiRec (r : Bai.BaiRec) : Rec := Bai.toRec Coord.binFor r

def baiBuilt (recs : List Bai.BaiRec) : Index := built (recs.map baiRec)

/-- the bin law for a query whose end is ANY `int` (repair C04-5 cuts it at 2^29) -/
theorem bai_bin_law_any_end (r : Rec) (hok : RecOK r) (hp : r.placed = true) (hlt : r.start < r.stop)
    (hbin : r.bin = Coord.binFor r.start r.stop)
    (beg stop : Int) (hb : 0 ≤ beg) (hq : beg < stop)
    (hov1 : r.start < stop) (hov2 : beg < r.stop) : r.bin ∈ Coord.overlappingBinsFor beg stop := by
  have hv := validPos_range hok.vstop
  rw [hbin]
  exact Coord.binFor_mem_overlappingBinsFor _ _ beg stop (hok.pos hp).1 hlt (by omega) hb hq hov1 hov2

/-- the bin law of C16 in the form needed here: the bin `Record.Bin` files a placed record under is
listed by `OverlappingBinsFor` for every overlapping query in range -/
theorem bai_bin_law (r : Rec) (hok : RecOK r) (hp : r.placed = true) (hlt : r.start < r.stop)
    (hbin : r.bin = Coord.binFor r.start r.stop)
    (beg stop : Int) (hb : 0 ≤ beg) (hq : beg < stop) (hs : stop ≤ 536870912)
    (hov1 : r.start < stop) (hov2 : beg < r.stop) : r.bin ∈ Coord.overlappingBinsFor beg stop :=
  bai_bin_law_any_end r hok hp hlt hbin beg stop hb hq hov1 hov2

/-- `bai_chunks_complete` without the bound on the query's end: **every** query `[beg, stop)` with
`0 ≤ beg < stop` (e.g. `stop = math.MaxInt` for "to the end of the reference"; before repair C04-5 such a
query returned no chunks, theorem `Hts.Props.C16.unrepaired_bai_bins_huge_end_witness`) -/
theorem bai_chunks_complete_any_end (recs : List Bai.BaiRec) (h : SortedInput (recs.map baiRec))
    (r : Bai.BaiRec) (hr : r ∈ recs) (hp : (baiRec r).placed = true) (hne : r.pos < r.stop)
    (beg stop : Int) (hb : 0 ≤ beg) (hq : beg < stop)
    (hov1 : r.pos < stop) (hov2 : beg < r.stop)
    (pre s : List Chunk → List Chunk) (hpre : EncLaw pre) (hs : EncLaw s) :
    (∃ cs, Bai.chunks Coord.overlappingBinsFor s (baiBuilt recs) (baiRec r).rid beg stop = .ok cs ∧
        coveredBy cs r.chunk) ∧
    (∃ cs, Bai.chunks Coord.overlappingBinsFor s (mergeChunks pre (baiBuilt recs)) (baiRec r).rid beg stop = .ok cs ∧
        coveredBy cs r.chunk) := by
  have hmem : baiRec r ∈ recs.map baiRec := List.mem_map.2 ⟨r, hr, rfl⟩
  -- `Bai.recBin` bins an empty alignment as one base; for `pos < stop` it is `binFor pos stop`
  have hbinEq : (baiRec r).bin = Coord.binFor (baiRec r).start (baiRec r).stop :=
    congrArg (Coord.binFor r.pos) (if_neg (Int.ne_of_gt hne))
  have hbin := bai_bin_law_any_end (baiRec r) (h.ok _ hmem) hp hne hbinEq beg stop hb hq hov1 hov2
  obtain ⟨⟨cs, h1, h2⟩, ⟨cs', h1', h2'⟩⟩ := chunks_complete (recs.map baiRec) h (baiRec r) hmem hp hne beg stop
    (Coord.overlappingBinsFor beg stop) hb hq hov2 hbin pre s hpre hs
  exact ⟨⟨s cs, by unfold Bai.chunks baiBuilt; rw [h1], h2⟩, ⟨s cs', by unfold Bai.chunks baiBuilt; rw [h1'], h2'⟩⟩

/-- `chunks_complete` for BAI: for every coordinate-sorted sequence of `sam.Record`s, every query
`[beg, stop)` with `0 ≤ beg < stop ≤ 2^29` on any reference and every placed record overlapping it,
`bam.Index.Chunks` returns no error and one returned chunk encloses the record's chunk — with the
default strategy or any `MergeStrategy` satisfying `EncLaw`, and also after `MergeChunks pre` -/
theorem bai_chunks_complete (recs : List Bai.BaiRec) (h : SortedInput (recs.map baiRec))
    (r : Bai.BaiRec) (hr : r ∈ recs) (hp : (baiRec r).placed = true) (hne : r.pos < r.stop)
    (beg stop : Int) (hb : 0 ≤ beg) (hq : beg < stop) (hs29 : stop ≤ 536870912)
    (hov1 : r.pos < stop) (hov2 : beg < r.stop)
    (pre s : List Chunk → List Chunk) (hpre : EncLaw pre) (hs : EncLaw s) :
    (∃ cs, Bai.chunks Coord.overlappingBinsFor s (baiBuilt recs) (baiRec r).rid beg stop = .ok cs ∧
        coveredBy cs r.chunk) ∧
    (∃ cs, Bai.chunks Coord.overlappingBinsFor s (mergeChunks pre (baiBuilt recs)) (baiRec r).rid beg stop = .ok cs ∧
        coveredBy cs r.chunk) :=
  bai_chunks_complete_any_end recs h r hr hp hne beg stop hb hq hov1 hov2 pre s hpre hs

/-- the last clause for BAI and every query end -/
theorem bai_error_or_empty_means_no_overlap_any_end (recs : List Bai.BaiRec) (h : SortedInput (recs.map baiRec))
    (rid beg stop : Int) (hb : 0 ≤ beg) (hq : beg < stop)
    (s : List Chunk → List Chunk) (hs : EncLaw s)
    (hans : (∃ e, Bai.chunks Coord.overlappingBinsFor s (baiBuilt recs) rid beg stop = .error e) ∨
            Bai.chunks Coord.overlappingBinsFor s (baiBuilt recs) rid beg stop = .ok []) :
    ¬ ∃ r, r ∈ recs ∧ (baiRec r).placed = true ∧ (baiRec r).rid = rid ∧ r.pos < r.stop ∧ r.pos < stop ∧
      beg < r.stop := by
  rintro ⟨r, hr, hp, hrid, hne, hov1, hov2⟩
  obtain ⟨⟨cs, h1, hc⟩, _⟩ := bai_chunks_complete_any_end recs h r hr hp hne beg stop hb hq hov1 hov2 id s encLaw_id hs
  exact covered_not_error_or_empty (hrid ▸ h1) hc hans

/-- the last clause of the property for BAI: an error or an empty answer implies that no added placed
record overlaps the query -/
theorem bai_error_or_empty_means_no_overlap (recs : List Bai.BaiRec) (h : SortedInput (recs.map baiRec))
    (rid beg stop : Int) (hb : 0 ≤ beg) (hq : beg < stop) (hs29 : stop ≤ 536870912)
    (s : List Chunk → List Chunk) (hs : EncLaw s)
    (hans : (∃ e, Bai.chunks Coord.overlappingBinsFor s (baiBuilt recs) rid beg stop = .error e) ∨
            Bai.chunks Coord.overlappingBinsFor s (baiBuilt recs) rid beg stop = .ok []) :
    ¬ ∃ r, r ∈ recs ∧ (baiRec r).placed = true ∧ (baiRec r).rid = rid ∧ r.pos < r.stop ∧ r.pos < stop ∧
      beg < r.stop :=
  bai_error_or_empty_means_no_overlap_any_end recs h rid beg stop hb hq s hs hans

section csi
open Hts.Model.Csi

/-- `csi.New(minShift, depth)` for non-zero arguments (`New` puts the default 14 or 5 in place of a 0); version and
auxiliary data play no role for Add and Chunks -/
def csiNew (ms d : Nat) : CIndex := { minShift := ms, depth := d }

def csiBuilt (ms d : Nat) (recs : List CRec) : CIndex := (Csi.addAll Coord.reg2bin (csiNew ms d) recs).1

theorem csi_inv (ms d : Nat) (recs : List CRec) (h : CSortedInput ms d recs) :
    allOk (Csi.addAll Coord.reg2bin (csiNew ms d) recs).2 ∧ (csiBuilt ms d recs).minShift = ms ∧
      (csiBuilt ms d recs).depth = d ∧
      CIdxInv (fun x => Coord.reg2bin x.start x.stop ms d) (csiBuilt ms d recs) (recs.filter (·.placed)).reverse :=
  Csi.addAll_sorted Coord.reg2bin ms d (csiNew ms d) rfl rfl rfl rfl recs h

/-- `add_never_fails` for CSI, for the geometries Go's 64-bit position arithmetic supports
(`minShift + 3·depth ≤ 62`, the same range `csi.ReadFrom` accepts) -/
theorem csi_add_never_fails (ms d : Nat) (_hgeom : ms + 3 * d ≤ 62) (recs : List CRec) (h : CSortedInput ms d recs) :
    ∀ x, x ∈ (Csi.addAll Coord.reg2bin (csiNew ms d) recs).2 → x = AddRes.ok :=
  (csi_inv ms d recs h).1

/-- beyond that range the code is unusable rather than wrong: for `minShift + 3·depth ≥ 64` (`csi.New(14,17)`,
`csi.New(40,10)`) `1 << (minShift+3·depth)` is 0 on a 64-bit `int`, no position is valid and EVERY `Add`
returns the "outside indexable range" error, leaving the index unchanged -/
theorem csi_add_rejects_all_beyond_int64 (ms d : Nat) (hgeom : ms + 3 * d ≥ 64) (i : CIndex)
    (hms : i.minShift = ms) (hd : i.depth = d) (r : CRec) :
    Csi.add Coord.reg2bin i r = (i, AddRes.errRange) := by
  have hn : ¬ (Csi.validPos i.minShift i.depth r.start = true ∧ Csi.validPos i.minShift i.depth r.stop = true) := by
    -- the upper bound of `validIndexPos` is -2, below the lower bound -1
    simp only [Csi.validPos, Csi.posBound, hms, hd, if_neg (Nat.not_lt.2 hgeom), Bool.and_eq_true, decide_eq_true_eq]
    omega
  refine Csi.add_cases Coord.reg2bin i r (fun _ => rfl) ?_ ?_ ?_ ?_ <;> (intro hv; exact absurd hv hn)

/-- the bin law for ANY query over `int64`: negative begin, end beyond the range (repair C04-6) -/
theorem csi_bin_law_any_query (ms d : Nat) (hd : d ≤ 10) (hgeom : ms + 3 * d ≤ 62) (r : CRec) (hok : CRecOK ms d r)
    (hp : r.placed = true)
    (beg stop : Int) (hq : beg < stop)
    (hov1 : r.start < stop) (hov2 : beg < r.stop) :
    Coord.reg2bin r.start r.stop ms d ∈ Coord.reg2bins beg stop ms d := by
  obtain ⟨h0, hlt⟩ := hok.pos hp
  exact Coord.reg2bin_mem_reg2bins _ _ beg stop ms d hd hgeom h0 hlt
    (Int.le_of_lt (Csi.validPos_range ms d r.stop hok.vstop).2) hq hov1 hov2

/-- the bin law of C16 for CSI in the form needed here -/
theorem csi_bin_law (ms d : Nat) (hd : d ≤ 10) (hgeom : ms + 3 * d ≤ 62) (r : CRec) (hok : CRecOK ms d r)
    (hp : r.placed = true)
    (beg stop : Int) (hb : 0 ≤ beg) (hq : beg < stop) (hs : stop ≤ (2 : Int) ^ (ms + 3 * d))
    (hov1 : r.start < stop) (hov2 : beg < r.stop) :
    Coord.reg2bin r.start r.stop ms d ∈ Coord.reg2bins beg stop ms d :=
  csi_bin_law_any_query ms d hd hgeom r hok hp beg stop hq hov1 hov2

/-- `csi_chunks_complete` for **every** query `[beg, stop)` with `beg < stop` over all of `int64` -/
theorem csi_chunks_complete_any_query (ms d : Nat) (hd : d ≤ 10) (hgeom : ms + 3 * d ≤ 62) (recs : List CRec)
    (h : CSortedInput ms d recs)
    (r : CRec) (hr : r ∈ recs) (hp : r.placed = true)
    (beg stop : Int) (hq : beg < stop)
    (hov1 : r.start < stop) (hov2 : beg < r.stop)
    (pre : List Chunk → List Chunk) (hpre : EncLaw pre) :
    coveredBy (Csi.chunks Coord.reg2bins Local.adjacent (csiBuilt ms d recs) r.rid beg stop) r.chunk ∧
    coveredBy (Csi.chunks Coord.reg2bins Local.adjacent (Csi.mergeChunks pre (csiBuilt ms d recs)) r.rid beg stop)
      r.chunk := by
  obtain ⟨_, hms, hdp, inv⟩ := csi_inv ms d recs h
  have hmem : r ∈ (recs.filter (·.placed)).reverse := mem_placed_reverse hr hp
  have hbin : Coord.reg2bin r.start r.stop ms d ∈
      Coord.reg2bins beg stop (csiBuilt ms d recs).minShift (csiBuilt ms d recs).depth := by
    rw [hms, hdp]; exact csi_bin_law_any_query ms d hd hgeom r (h.ok r hr) hp beg stop hq hov1 hov2
  exact ⟨Csi.chunks_complete_cover Coord.reg2bins Local.adjacent Local.encLaw_adjacent _ _ _ inv.cover r hmem
      beg stop hbin,
    -- `MergeChunks` keeps minShift and depth (by `rfl`), so `hbin` serves the merged index as well
    Csi.chunks_complete_cover Coord.reg2bins Local.adjacent Local.encLaw_adjacent _ _ _
      (Csi.mergeChunks_cover pre hpre _ _ _ inv.cover) r hmem beg stop hbin⟩

/-- `chunks_complete` for CSI: for every geometry with depth ≤ 10, every coordinate-sorted sequence,
every query `[beg, stop)` with `0 ≤ beg < stop ≤ 2^(minShift+3·depth)` and every placed record
overlapping it, one chunk returned by `csi.Index.Chunks` encloses the record's chunk; also after
`MergeChunks pre` for every `pre` with `EncLaw` -/
theorem csi_chunks_complete (ms d : Nat) (hd : d ≤ 10) (hgeom : ms + 3 * d ≤ 62) (recs : List CRec)
    (h : CSortedInput ms d recs)
    (r : CRec) (hr : r ∈ recs) (hp : r.placed = true)
    (beg stop : Int) (hb : 0 ≤ beg) (hq : beg < stop) (hs : stop ≤ (2 : Int) ^ (ms + 3 * d))
    (hov1 : r.start < stop) (hov2 : beg < r.stop)
    (pre : List Chunk → List Chunk) (hpre : EncLaw pre) :
    coveredBy (Csi.chunks Coord.reg2bins Local.adjacent (csiBuilt ms d recs) r.rid beg stop) r.chunk ∧
    coveredBy (Csi.chunks Coord.reg2bins Local.adjacent (Csi.mergeChunks pre (csiBuilt ms d recs)) r.rid beg stop)
      r.chunk :=
  csi_chunks_complete_any_query ms d hd hgeom recs h r hr hp beg stop hq hov1 hov2 pre hpre

/-- **every call of `csi.Index.Chunks` returns**: for every built index and every `beg`, `stop` (empty,
reversed, negative, beyond the range) the bin enumeration of the query terminates (before repair C04-6
`Chunks(rid, 0, 0)` did not: `Hts.Props.C16.unrepaired_csi_reg2bins_empty_query_diverges_witness`), and an
empty or reversed query lists no bin -/
theorem csi_chunks_query_returns (ms d : Nat) (hd : d ≤ 10) (hgeom : ms + 3 * d ≤ 62) (beg stop : Int) :
    Coord.reg2binsGo beg stop ms d = some (Coord.reg2bins beg stop ms d) ∧
    (stop ≤ beg → Coord.reg2bins beg stop ms d = []) := by
  refine ⟨Hts.Props.C16.csi_reg2bins_returns beg stop ms d hd hgeom, ?_⟩
  intro hle
  rw [Coord.reg2bins_any_query_min beg stop ms d hd hgeom, if_pos]
  omega

/-- an empty answer (also the answer for an unknown reference) implies that no added placed record
overlaps the query -/
theorem csi_empty_means_no_overlap (ms d : Nat) (hd : d ≤ 10) (hgeom : ms + 3 * d ≤ 62) (recs : List CRec)
    (h : CSortedInput ms d recs)
    (rid beg stop : Int) (hb : 0 ≤ beg) (hq : beg < stop) (hs : stop ≤ (2 : Int) ^ (ms + 3 * d))
    (hans : Csi.chunks Coord.reg2bins Local.adjacent (csiBuilt ms d recs) rid beg stop = []) :
    ¬ ∃ r, r ∈ recs ∧ r.placed = true ∧ r.rid = rid ∧ r.start < stop ∧ beg < r.stop := by
  rintro ⟨r, hr, hp, hrid, hov1, hov2⟩
  obtain ⟨⟨c, hc, _⟩, _⟩ := csi_chunks_complete_any_query ms d hd hgeom recs h r hr hp beg stop hq hov1 hov2 id encLaw_id
  rw [hrid, hans] at hc
  cases hc

end csi

section tabix
open Hts.Model.Tabix

/-- `tabix.New()` with any header fields -/
def tbxNew (hdr : Header) : TIndex := { hdr := hdr }

/-- the internal records (with the reference ids assigned by the name table) a tabix input turns into -/
def tbxTrace (hdr : Header) (recs : List TRec) : List Rec := Tabix.trace Coord.binFor (tbxNew hdr) recs

def tbxBuilt (hdr : Header) (recs : List TRec) : TIndex := (Tabix.addAll Coord.binFor (tbxNew hdr) recs).1

/-- `add_never_fails` for tabix; "sorted" means: the internal records are coordinate-sorted, i.e. the
records of one name are contiguous (ids are given in order of first placed appearance) -/
theorem tabix_add_never_fails (hdr : Header) (recs : List TRec) (h : SortedInput (tbxTrace hdr recs)) :
    ∀ x, x ∈ (Tabix.addAll Coord.binFor (tbxNew hdr) recs).2 → x = AddRes.ok := by
  rw [(Tabix.addAll_idx Coord.binFor recs (tbxNew hdr)).2]
  exact (addAll_sorted _ h).1

/-- `tabix_chunks_complete` without the bound on the query's end -/
theorem tabix_chunks_complete_any_end (hdr : Header) (recs : List TRec) (h : SortedInput (tbxTrace hdr recs))
    (k : Nat) (r : TRec) (hk : recs[k]? = some r) (hp : r.placed = true) (hne : r.start < r.stop)
    (beg stop : Int) (hb : 0 ≤ beg) (hq : beg < stop)
    (hov1 : r.start < stop) (hov2 : beg < r.stop)
    (pre : List Chunk → List Chunk) (hpre : EncLaw pre) :
    (∃ cs, Tabix.chunks Coord.overlappingBinsFor Local.adjacent (tbxBuilt hdr recs) r.name beg stop = .ok cs ∧
        coveredBy cs r.chunk) ∧
    (∃ cs, Tabix.chunks Coord.overlappingBinsFor Local.adjacent (Tabix.mergeChunks pre (tbxBuilt hdr recs))
        r.name beg stop = .ok cs ∧ coveredBy cs r.chunk) := by
  obtain ⟨t', hx, (hname : mapGet (tbxBuilt hdr recs).nameMap r.name = some (ridOf t' r.name))⟩ :=
    (Tabix.names_final Coord.binFor recs (tbxNew hdr) (tabix_add_never_fails hdr recs h)).2 k r hk hp
  have hxmem : traceRec Coord.binFor t' r ∈ tbxTrace hdr recs := List.mem_of_getElem? hx
  have hidx : (tbxBuilt hdr recs).idx = built (tbxTrace hdr recs) :=
    (Tabix.addAll_idx Coord.binFor recs (tbxNew hdr)).1
  have hbin := bai_bin_law_any_end _ (h.ok _ hxmem) hp hne rfl beg stop hb hq hov1 hov2
  obtain ⟨⟨cs, h1, h2⟩, ⟨cs', h1', h2'⟩⟩ := chunks_complete (tbxTrace hdr recs) h _ hxmem hp hne beg stop
    (Coord.overlappingBinsFor beg stop) hb hq hov2 hbin pre Local.adjacent hpre Local.encLaw_adjacent
  -- the id of the trace record is the cast of the `Nat` the name maps to
  change Index.chunks _ ((ridOf t' r.name : Nat) : Int) _ _ _ = _ at h1 h1'
  exact ⟨⟨Local.adjacent cs, by unfold Tabix.chunks; simp only [hname, hidx, h1], h2⟩,
    ⟨Local.adjacent cs', by unfold Tabix.chunks Tabix.mergeChunks; simp only [hname, hidx, h1'], h2'⟩⟩

/-- `chunks_complete` for tabix: the `k`-th record, if placed, is covered by one chunk of the answer
to every overlapping in-range query on its reference NAME; also after `MergeChunks pre` -/
theorem tabix_chunks_complete (hdr : Header) (recs : List TRec) (h : SortedInput (tbxTrace hdr recs))
    (k : Nat) (r : TRec) (hk : recs[k]? = some r) (hp : r.placed = true) (hne : r.start < r.stop)
    (beg stop : Int) (hb : 0 ≤ beg) (hq : beg < stop) (hs29 : stop ≤ 536870912)
    (hov1 : r.start < stop) (hov2 : beg < r.stop)
    (pre : List Chunk → List Chunk) (hpre : EncLaw pre) :
    (∃ cs, Tabix.chunks Coord.overlappingBinsFor Local.adjacent (tbxBuilt hdr recs) r.name beg stop = .ok cs ∧
        coveredBy cs r.chunk) ∧
    (∃ cs, Tabix.chunks Coord.overlappingBinsFor Local.adjacent (Tabix.mergeChunks pre (tbxBuilt hdr recs))
        r.name beg stop = .ok cs ∧ coveredBy cs r.chunk) :=
  tabix_chunks_complete_any_end hdr recs h k r hk hp hne beg stop hb hq hov1 hov2 pre hpre

/-- an error or an empty answer for a name implies that no placed record of that name overlaps -/
theorem tabix_error_or_empty_means_no_overlap (hdr : Header) (recs : List TRec)
    (h : SortedInput (tbxTrace hdr recs)) (name : Name) (beg stop : Int) (hb : 0 ≤ beg) (hq : beg < stop)
    (hs29 : stop ≤ 536870912)
    (hans : (∃ e, Tabix.chunks Coord.overlappingBinsFor Local.adjacent (tbxBuilt hdr recs) name beg stop = .error e) ∨
            Tabix.chunks Coord.overlappingBinsFor Local.adjacent (tbxBuilt hdr recs) name beg stop = .ok []) :
    ¬ ∃ (k : Nat) (r : TRec), recs[k]? = some r ∧ r.placed = true ∧ r.name = name ∧ r.start < r.stop ∧
      r.start < stop ∧ beg < r.stop := by
  rintro ⟨k, r, hk, hp, hn, hne, hov1, hov2⟩
  obtain ⟨⟨cs, h1, hc⟩, _⟩ := tabix_chunks_complete_any_end hdr recs h k r hk hp hne beg stop hb hq hov1 hov2 id encLaw_id
  exact covered_not_error_or_empty (hn ▸ h1) hc hans

end tabix

/-! Non-vacuity: a sorted BAI input with a tile-straddling record, a record spanning three tiles,
a skipped reference id, a placed-unmapped and an unplaced record. -/

def exBai : List Bai.BaiRec :=
  [ ⟨true, 0, 100, 200, false, false, ⟨100, 150⟩⟩,
    ⟨true, 0, 16000, 16500, false, false, ⟨150, 200⟩⟩,
    ⟨false, -1, -1, 0, true, true, ⟨200, 250⟩⟩,
    ⟨true, 2, 5, 40000, false, true, ⟨250, 300⟩⟩,
    ⟨true, 2, 20000, 20001, true, true, ⟨300, 65536⟩⟩,
    ⟨true, 2, 32768, 32768, false, false, ⟨65536, 65600⟩⟩ ]   -- CIGAR `5I`: End() = Pos, at a tile edge

example : SortedInput (exBai.map baiRec) := by decide
example : (addAll {} (exBai.map baiRec)).2 = [.ok, .ok, .ok, .ok, .ok, .ok] := by decide
/-- the theorem applied: the tile-straddling record is found by a query inside its second tile -/
example : ∃ cs, Bai.chunks Coord.overlappingBinsFor Local.adjacent (baiBuilt exBai) 0 16400 16450 = .ok cs ∧
    coveredBy cs ⟨150, 200⟩ :=
  (bai_chunks_complete exBai (by decide) ⟨true, 0, 16000, 16500, false, false, ⟨150, 200⟩⟩ (by decide) (by decide)
    (by decide) 16400 16450 (by decide) (by decide) (by decide) (by decide) (by decide) id Local.adjacent encLaw_id
    adjacent_encloses).1
example : EncLaw (Local.compressor (-1)) := compressor_encloses (-1)
/-- `bai_chunks_complete_any_end` applied: the query "from 16400 to the largest int" finds the record -/
example : ∃ cs, Bai.chunks Coord.overlappingBinsFor Local.adjacent (baiBuilt exBai) 0 16400 9223372036854775807 = .ok cs ∧
    coveredBy cs ⟨150, 200⟩ :=
  (bai_chunks_complete_any_end exBai (by decide) ⟨true, 0, 16000, 16500, false, false, ⟨150, 200⟩⟩ (by decide) (by decide)
    (by decide) 16400 9223372036854775807 (by decide) (by decide) (by decide) (by decide) id Local.adjacent encLaw_id
    adjacent_encloses).1

/-- a tabix input: two names, an unplaced line naming a third one in between -/
def exTbx : List Tabix.TRec :=
  [ ⟨[99, 104, 114, 49], 100, 200, ⟨0, 150⟩, true, true⟩,
    ⟨[99, 104, 114, 49], 16000, 16500, ⟨150, 200⟩, true, true⟩,
    ⟨[42], -1, 0, ⟨200, 250⟩, false, false⟩,
    ⟨[99, 104, 114, 50], 5, 40000, ⟨250, 300⟩, true, false⟩ ]
example : SortedInput (tbxTrace {} exTbx) := by decide
example : (tbxBuilt {} exTbx).names = [[99, 104, 114, 49], [99, 104, 114, 50]] := by decide
example : ∃ cs, Tabix.chunks Coord.overlappingBinsFor Local.adjacent (tbxBuilt {} exTbx) [99, 104, 114, 50] 39000 39500
    = .ok cs ∧ coveredBy cs ⟨250, 300⟩ :=
  (tabix_chunks_complete {} exTbx (by decide) 3 _ rfl (by decide) (by decide) 39000 39500 (by decide) (by decide) (by decide)
    (by decide) (by decide) id encLaw_id).1

/-- a small CSI geometry (minShift 4, depth 2: positions below 1024) with a record over two finest bins -/
def exCsi : List Csi.CRec :=
  [ ⟨0, 0, 17, ⟨2309, 524288⟩, true, true⟩, ⟨1, -1, 0, ⟨524288, 524300⟩, false, false⟩,
    ⟨0, 128, 290, ⟨524300, 600000⟩, true, false⟩, ⟨3, 1021, 1022, ⟨600000, 600001⟩, true, true⟩ ]
example : Csi.CSortedInput 4 2 exCsi := by decide
example : coveredBy (Csi.chunks Coord.reg2bins Local.adjacent (csiBuilt 4 2 exCsi) 0 2 3) ⟨2309, 524288⟩ :=
  (csi_chunks_complete 4 2 (by decide) (by decide) exCsi (by decide) ⟨0, 0, 17, ⟨2309, 524288⟩, true, true⟩ (by decide)
    (by decide) 2 3 (by decide) (by decide) (by decide) (by decide) (by decide) id encLaw_id).1

/-- `csi_chunks_complete_any_query` applied: a query from -7 to the largest int64 finds the record -/
example : coveredBy (Csi.chunks Coord.reg2bins Local.adjacent (csiBuilt 4 2 exCsi) 0 (-7) 9223372036854775807) ⟨2309, 524288⟩ :=
  (csi_chunks_complete_any_query 4 2 (by decide) (by decide) exCsi (by decide) ⟨0, 0, 17, ⟨2309, 524288⟩, true, true⟩ (by decide)
    (by decide) (-7) 9223372036854775807 (by decide) (by decide) (by decide) id encLaw_id).1
example : Coord.reg2bins 0 0 4 2 = [] ∧ Coord.reg2binsGo 0 0 4 2 = some [] := have ⟨hgo, hempty⟩ := csi_chunks_query_returns 4 2 (by decide) (by decide) 0 0; have he := hempty (by decide); ⟨he, he ▸ hgo⟩

end Hts.Props.C04
