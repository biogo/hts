/-
C03 — block caches are transparent.
Model: Hts.Model.CachedReader; contract: Hts.Spec.CacheContract; proofs: Hts.Lemmas.CachedReader*, Hts.Lemmas.CacheHom, Hts.Lemmas.CacheContract (who satisfies the contract; sums).

Scope of the theorems: the sequential reader (`rd = 1`), every file whose members have positive size, every history
of Seek / Read / ReadByte / Blocked / SetCache(new cache | nil | a cache used earlier in the history) of any length, every cache that satisfies the
contract (proved for LRU, Random and StatsRecorder around them in C14; FIFO does not satisfy it — FIFO has its own
invariant and theorems, `fifo_inv` and `fifo_repaired_transparent`, for the variants with repair C03-5).
The code variant is any one in which a block whose load failed keeps no data (`Cfg.noStale`: repair C03-1
`clearOnRebase` — `setBase` drops the previous data — or repair C09-2 `failReset` — `decompressor.failAt` — or both, as in
the current tree `Cfg.repaired`), with or without repair C03-2 (`peekGuard`).  For the unchanged tree (`Cfg.asIs`) the statements are false:
`stale_block_witness` (LRU) and `fifo_witness`.  Read-ahead (`rd > 1`) is not covered by any theorem here: it is
checked by the correspondence harness only, and has its own recorded finding.
-/
import Hts.Lemmas.CachedReader
import Hts.Lemmas.CacheContract
import Hts.Lemmas.CacheReadAhead
import Hts.Lemmas.CachedReaderVsC02
import Hts.Lemmas.CachedReaderC02Sim
import Hts.Lemmas.CachedReaderFifo
import Hts.Lemmas.CacheHom
namespace Hts.Props.C03
open Hts.Model.Cache Hts.Spec.CacheContract Hts.Model.CachedReader

variable {σ : Type}

/-- the outputs of a whole run from `NewReader`: none when `NewReader` returns an error value, a `Fault` when `NewReader`
or a call does not return normally (panics or never returns).  Same body as `Hts.Model.CachedReader.outputsOf`, of which
the lemma files speak: their statements apply to `outputs` by unfolding. -/
def outputs (cfg : Cfg) (o : CacheOps σ) (f : File) (ops : List (Op σ)) : Except Fault (List Out) :=
  match newReader o cfg f with
  | .error e => .error e
  | .ok (r, e) =>
    if e ≠ .none then .ok []
    else match run cfg o f r ops with
      | .error e => .error e
      | .ok (_, outs) => .ok outs

/-- after every history (including `SetCache` of new caches, `SetCache(nil)` and re-attaching a
cache used earlier, at arbitrary points) every entry `(k, id)` of the attached cache and of every detached cache
refers to an allocated block that is not the current block, whose base is `k` and whose data, header size and
file offset are those of the member at `k`; block identities are pairwise distinct within and across these caches;
the current block, if it claims to hold data, holds the member of its base. -/
theorem cache_inv (o : CacheOps σ) (wf : σ → Prop) (ct : Contract o wf) (cfg : Cfg)
    (hcfg : cfg.noStale) (f : File) (hf : FileOK f) (ops : List (Op σ))
    (ok : ∀ op ∈ ops, OpOK o wf op) (r0 r : Reader σ) (outs : List Out)
    (h0 : newReader o cfg f = .ok (r0, .none)) (hr : run cfg o f r0 ops = .ok (r, outs)) :
    Inv o wf f r := by
  obtain ⟨_, _, s⟩ := (run_new_sim (Inv.simInv ct hcfg) hf ops ok h0).of_ok hr
  exact s.rel.inv

/-- for every cache satisfying the contract, whatever the history, every call of
the cached reader returns the same bytes, the same error class (nil / io.EOF / other) and the same LastChunk as
the uncached reader running the same history with every SetCache replaced by SetCache(nil). -/
theorem cached_refines_uncached (o : CacheOps σ) (wf : σ → Prop) (ct : Contract o wf) (cfg : Cfg)
    (hcfg : cfg.noStale) (f : File) (hf : FileOK f) (ops : List (Op σ))
    (ok : ∀ op ∈ ops, OpOK o wf op) (outs : List Out)
    (hr : outputs cfg o f ops = .ok outs) :
    outputs cfg o f (ops.map Op.uncached) = .ok outs := by
  obtain ⟨_, h, rfl⟩ := (outputsOf_sim (Inv.simInv ct hcfg) hf ops ok).of_ok hr
  exact h

/-- … and a cached run stops abnormally (a call that panics or never returns) only when the uncached run of
the same history stops in the same way — or because the recorded choice of Random's victim was rejected,
which is not a behaviour of the code -/
theorem cached_faults_only_as_uncached (o : CacheOps σ) (wf : σ → Prop) (ct : Contract o wf) (cfg : Cfg)
    (hcfg : cfg.noStale) (f : File) (hf : FileOK f) (ops : List (Op σ))
    (ok : ∀ op ∈ ops, OpOK o wf op) (e : Fault)
    (hr : outputs cfg o f ops = .error e) :
    e = .badHint ∨ outputs cfg o f (ops.map Op.uncached) = .error e :=
  ((outputsOf_sim (Inv.simInv ct hcfg) hf ops ok).of_error hr).symm.imp_left And.right

/-- `Cfg.repaired` — the variant the harness's probe histories identify the checked tree with (all of C03-1,
C03-2, C09-2, C03-5 observed as applied; the probe result is printed in the run's histogram and a tree that
probes as anything else is run against that other variant) — is a variant the theorems speak about; so is the
variant with `failAt` alone.  This is a statement about the model's `Cfg`, not about the Go tree: which `Cfg`
the Go tree is, is established by the probe and the correspondence runs only. -/
theorem current_tree_noStale : Cfg.repaired.noStale := Or.inl rfl

example : (⟨false, false, true, false⟩ : Cfg).noStale := Or.inr rfl

theorem lru_setCache_ok (n : Int) (hn : 1 ≤ n) (hints : List Int) :
    OpOK lruOps LCache.WF (.setCache (some (LCache.new n)) hints) := ⟨LCache.wf_new hn, rfl⟩

theorem random_setCache_ok (n : Int) (hn : 1 ≤ n) (hints : List Int) :
    OpOK randomOps RCache.WF (.setCache (some (RCache.new n)) hints) := ⟨RCache.wf_new hn, rfl⟩

/-- LRU caches of any capacity ≥ 1, attached at any points of the history, are transparent -/
theorem lru_transparent (cfg : Cfg) (hcfg : cfg.noStale) (f : File) (hf : FileOK f)
    (ops : List (Op LCache)) (ok : ∀ op ∈ ops, OpOK lruOps LCache.WF op) (outs : List Out)
    (hr : outputs cfg lruOps f ops = .ok outs) : outputs cfg lruOps f (ops.map Op.uncached) = .ok outs :=
  cached_refines_uncached lruOps LCache.WF lru_contract cfg hcfg f hf ops ok outs hr

/-- Random caches, for every sequence of victims the code can choose -/
theorem random_transparent (cfg : Cfg) (hcfg : cfg.noStale) (f : File) (hf : FileOK f)
    (ops : List (Op RCache)) (ok : ∀ op ∈ ops, OpOK randomOps RCache.WF op) (outs : List Out)
    (hr : outputs cfg randomOps f ops = .ok outs) :
    outputs cfg randomOps f (ops.map Op.uncached) = .ok outs :=
  cached_refines_uncached randomOps RCache.WF random_contract cfg hcfg f hf ops ok outs hr

/-- a StatsRecorder around any conforming cache -/
theorem recorder_transparent (o : CacheOps σ) (wf : σ → Prop) (ct : Contract o wf) (cfg : Cfg)
    (hcfg : cfg.noStale) (f : File) (hf : FileOK f) (ops : List (Op (σ × Stats)))
    (ok : ∀ op ∈ ops, OpOK (recorderOps o) (fun s => wf s.1) op) (outs : List Out)
    (hr : outputs cfg (recorderOps o) f ops = .ok outs) :
    outputs cfg (recorderOps o) f (ops.map Op.uncached) = .ok outs :=
  cached_refines_uncached (recorderOps o) _ (recorder_contract ct) cfg hcfg f hf ops ok outs hr

/-! A cache object of kind "LRU or Random or StatsRecorder(LRU) or StatsRecorder(Random)": `SetCache` may attach a
different kind each time, detached objects of any kind may be attached again. -/

abbrev AnyCache := LCache ⊕ (RCache ⊕ ((LCache × Stats) ⊕ (RCache × Stats)))

def anyOps : CacheOps AnyCache :=
  sumOps lruOps (sumOps randomOps (sumOps (recorderOps lruOps) (recorderOps randomOps)))

def anyWF : AnyCache → Prop :=
  sumWF LCache.WF (sumWF RCache.WF (sumWF (fun s => LCache.WF s.1) (fun s => RCache.WF s.1)))

theorem any_contract : Contract anyOps anyWF :=
  sum_contract lru_contract
    (sum_contract random_contract (sum_contract (recorder_contract lru_contract) (recorder_contract random_contract)))

/-- generic: if two kinds of cache are transparent-by-contract, histories that mix them are transparent -/
theorem sum_transparent {σ₁ σ₂ : Type} (o₁ : CacheOps σ₁) (o₂ : CacheOps σ₂) (wf₁ : σ₁ → Prop)
    (wf₂ : σ₂ → Prop) (c₁ : Contract o₁ wf₁) (c₂ : Contract o₂ wf₂) (cfg : Cfg) (hcfg : cfg.noStale)
    (f : File) (hf : FileOK f) (ops : List (Op (σ₁ ⊕ σ₂)))
    (ok : ∀ op ∈ ops, OpOK (sumOps o₁ o₂) (sumWF wf₁ wf₂) op) (outs : List Out)
    (hr : outputs cfg (sumOps o₁ o₂) f ops = .ok outs) :
    outputs cfg (sumOps o₁ o₂) f (ops.map Op.uncached) = .ok outs :=
  cached_refines_uncached _ _ (sum_contract c₁ c₂) cfg hcfg f hf ops ok outs hr

/-- histories that switch between LRU, Random and StatsRecorder-wrapped caches (any capacities ≥ 1, any order, any
number of switches, re-attaching allowed) return what the uncached reader returns -/
theorem mixed_kinds_transparent (cfg : Cfg) (hcfg : cfg.noStale) (f : File) (hf : FileOK f)
    (ops : List (Op AnyCache)) (ok : ∀ op ∈ ops, OpOK anyOps anyWF op) (outs : List Out)
    (hr : outputs cfg anyOps f ops = .ok outs) : outputs cfg anyOps f (ops.map Op.uncached) = .ok outs :=
  cached_refines_uncached anyOps anyWF any_contract cfg hcfg f hf ops ok outs hr

def anyLRU (n : Int) : AnyCache := .inl (LCache.new n)
def anyRandom (n : Int) : AnyCache := .inr (.inl (RCache.new n))
def anyStatsLRU (n : Int) : AnyCache := .inr (.inr (.inl (LCache.new n, {})))
def anyStatsRandom (n : Int) : AnyCache := .inr (.inr (.inr (RCache.new n, {})))

theorem any_setCache_ok (n : Int) (hn : 1 ≤ n) (hints : List Int) :
    OpOK anyOps anyWF (.setCache (some (anyLRU n)) hints) ∧
    OpOK anyOps anyWF (.setCache (some (anyRandom n)) hints) ∧
    OpOK anyOps anyWF (.setCache (some (anyStatsLRU n)) hints) ∧
    OpOK anyOps anyWF (.setCache (some (anyStatsRandom n)) hints) :=
  ⟨⟨LCache.wf_new hn, rfl⟩, ⟨RCache.wf_new hn, rfl⟩, ⟨LCache.wf_new hn, rfl⟩, ⟨RCache.wf_new hn, rfl⟩⟩

/-- members "AAAAAA" (0..35), "BBBBBB" (35..70), "CCCC" (70..106), no EOF marker -/
def file3 : File := [⟨0, 35, [65, 65, 65, 65, 65, 65]⟩, ⟨35, 35, [66, 66, 66, 66, 66, 66]⟩, ⟨70, 36, [67, 67, 67, 67]⟩]

theorem file3_ok : FileOK file3 := by
  intro m hm
  simp [file3] at hm
  rcases hm with h | h | h <;> subst h <;> decide

/-- what a run returns, for comparison by `decide` -/
def bytesOf (x : Except Fault (List Out)) : List (List Nat × ErrClass) :=
  match x with
  | .ok outs => outs.map (fun o => (o.bytes, o.err))
  | .error _ => []

def staleOps : List (Op LCache) :=
  [.setCache (some (LCache.new 1)) [], .seek 35 0, .seek 70 4, .read 1, .seek 0 0, .seek 70 0, .read 3, .read 3, .read 3]

/-- full statement for the unchanged tree (FALSE: defect C03-1, repaired by fixes/C03-1) -/
def lru_transparent_asIs_full : Prop :=
  ∀ (f : File), FileOK f → ∀ (ops : List (Op LCache)), (∀ op ∈ ops, OpOK lruOps LCache.WF op) →
    ∀ outs, outputs Cfg.asIs lruOps f ops = .ok outs → outputs Cfg.asIs lruOps f (ops.map Op.uncached) = .ok outs

/-- on the unchanged tree the block recycled at the failed read past the last member keeps "CCCC", is cached
under the end-of-file offset and is read again: cached "CCC","CCC","CC"+EOF, uncached "CCC","C"+EOF,""+EOF -/
theorem stale_block_witness :
    bytesOf (outputs Cfg.asIs lruOps file3 staleOps) ≠
      bytesOf (outputs Cfg.asIs lruOps file3 (staleOps.map Op.uncached)) := by decide +kernel

theorem lru_transparent_asIs_witness : ¬ lru_transparent_asIs_full := fun h =>
  not_ok_imp_of_ne bytesOf (by decide +kernel) stale_block_witness (h file3 file3_ok staleOps
    (opOK_of_attached (List.forall_mem_singleton.2 (lru_setCache_ok 1 (by decide) []))))

/-- with repair C03-1 the same history is transparent (instance of the theorem, checked by evaluation too) -/
example : bytesOf (outputs Cfg.repaired lruOps file3 staleOps) =
    bytesOf (outputs Cfg.repaired lruOps file3 (staleOps.map Op.uncached)) := by decide +kernel

def fifoOpsHist : List (Op LCache) :=
  [.setCache (some (LCache.new 2)) [], .read 2, .seek 35 0, .read 2, .seek 0 0, .read 6, .seek 70 0, .read 4,
    .seek 0 1, .read 5]

/-- FIFO on the unchanged tree: the last Read returns "CCC"+EOF instead of "AAAAA" -/
theorem fifo_witness :
    bytesOf (outputs Cfg.asIs fifoOps file3 fifoOpsHist) ≠
      bytesOf (outputs Cfg.asIs fifoOps file3 (fifoOpsHist.map Op.uncached)) := by decide +kernel

/-- with repair C03-2 (`cacheSwap` does not recycle a block the cache still Peeks) that history is transparent.
(All histories: `fifo_repaired_transparent` below.) -/
theorem fifo_witness_repaired :
    bytesOf (outputs Cfg.repaired fifoOps file3 fifoOpsHist) =
      bytesOf (outputs Cfg.repaired fifoOps file3 (fifoOpsHist.map Op.uncached)) := by decide +kernel

/-- the full statement for FIFO with the repaired reader (proved below: `fifo_transparent_repaired_full_holds`) -/
def fifo_transparent_repaired_full : Prop :=
  ∀ (f : File), FileOK f → ∀ (ops : List (Op LCache)), (∀ op ∈ ops, OpOK fifoOps LCache.WF op) →
    ∀ outs, outputs Cfg.repaired fifoOps f ops = .ok outs →
      outputs Cfg.repaired fifoOps f (ops.map Op.uncached) = .ok outs

/-! `Op.reattach i` (`SetCache(nil)` … `SetCache(the same cache)`) attaches the `i`-th cache object that was replaced
earlier in the history, with the blocks it holds (`Reader.parked` is the list of those objects).  `cache_inv` covers
them: every detached cache stays intact and shares no block with the attached one, so `cached_refines_uncached` holds
for histories with `reattach` too (`OpOK` puts no condition on it).  For FIFO it fails on a tree without repair C03-5: -/

/-- FIFO(4): Read 8 (b0 and part of b1); Seek b0 (hit: the used block stays in the FIFO); SetCache(nil); Seek b2
(the block is recycled for "CCCC"); SetCache(the same FIFO); Seek b0; Read 2. -/
def reattachHist : List (Op LCache) :=
  [.setCache (some (LCache.new 4)) [], .read 8, .seek 0 0, .setCache none [], .seek 70 0, .reattach 0 [],
    .seek 0 0, .read 2]

/-- without repair C03-5 (variant ⟨…, lentGuard := false⟩) the last Read returns "CC" … -/
theorem fifo_reattach_witness :
    (bytesOf (outputs ⟨true, true, true, false⟩ fifoOps file3 reattachHist)).getLast? = some ([67, 67], .ok) := by
  decide +kernel

/-- … with repair C03-5 it returns "AA", as the uncached reader does -/
theorem fifo_reattach_repaired :
    bytesOf (outputs Cfg.repaired fifoOps file3 reattachHist) =
      bytesOf (outputs Cfg.repaired fifoOps file3 (reattachHist.map Op.uncached)) := by decide +kernel

/-- the same history with an LRU is an instance of `lru_transparent` (hypotheses satisfied, run `ok`) -/
example : (∀ op ∈ reattachHist, OpOK lruOps LCache.WF op) ∧
    (bytesOf (outputs Cfg.repaired lruOps file3 reattachHist)).getLast? = some ([65, 65], .ok) :=
  ⟨opOK_of_attached (List.forall_mem_singleton.2 (lru_setCache_ok 4 (by decide) [])), by decide +kernel⟩

/-! `FIFO.Get` leaves a block that has been read from in its table, so FIFO is outside `Contract` and `cache_inv` is false
for it (the current block can be a cache entry; after `SetCache(nil)` + another cache, two cache objects can reference
one block).  What makes it safe on a tree with repair C03-5 (`lentGuard`; `Cfg.repaired` is one) is the invariant
`Hts.Model.CachedReaderFifo.FInv`: every base ↦ block entry of every cache object (attached or detached) maps to a
block whose content is the member at that base; a current block that some table references is the block on loan
(`bg.lent`) and has been read from; a block referenced by two tables has been read from.  `nextBlockAt` decompresses
only into a new block or a current block that no table references (`FInv.load`, `cacheSwap_spec` there).
Capacities: every `NewFIFO(n)`, `n ≥ 1` (`n < 1` gives the nil cache, i.e. `SetCache(nil)`). -/

section Fifo
open Hts.Model.CachedReaderFifo

theorem fifo_setCache_ok (n : Int) (hn : 1 ≤ n) (hints : List Int) :
    OpOK fifoOps LCache.WF (.setCache (some (LCache.new n)) hints) := ⟨LCache.wf_new hn, rfl⟩

/-- after every history of Seek / Read / ReadByte / Blocked / SetCache(new FIFO of any capacity ≥ 1 |
nil | a FIFO used earlier in the history) the invariant `FInv` holds (code variants: `noStale` and repair C03-5) -/
theorem fifo_inv (cfg : Cfg) (hcfg : cfg.noStale) (hlg : cfg.lentGuard = true) (f : File) (hf : FileOK f)
    (ops : List (Op LCache)) (ok : ∀ op ∈ ops, OpOK fifoOps LCache.WF op) (r0 r : Reader LCache) (outs : List Out)
    (h0 : newReader fifoOps cfg f = .ok (r0, .none)) (hr : run cfg fifoOps f r0 ops = .ok (r, outs)) :
    FInv f r := by
  obtain ⟨_, _, s⟩ := (run_new_sim (FInv.simInv hcfg hlg) hf ops ok h0).of_ok hr
  exact s.rel.inv

/-- … spelled out: no indexed block is ever overwritten — every table entry `(k, id)` of the attached FIFO and of
every detached one refers to an allocated block whose base, data, header size and file offset are those of the member
at `k`; and if the current block is such a block, it is the one remembered in `bg.lent` (never recycled) -/
theorem fifo_indexed_blocks_intact (cfg : Cfg) (hcfg : cfg.noStale) (hlg : cfg.lentGuard = true) (f : File)
    (hf : FileOK f) (ops : List (Op LCache)) (ok : ∀ op ∈ ops, OpOK fifoOps LCache.WF op) (r0 r : Reader LCache)
    (outs : List Out) (h0 : newReader fifoOps cfg f = .ok (r0, .none))
    (hr : run cfg fifoOps f r0 ops = .ok (r, outs)) :
    ∀ c ∈ r.cache.toList ++ r.parked, ∀ e ∈ c.items,
      e.id < r.fresh ∧ Good f e.key (r.heap e.id) ∧ (r.cur = some e.id → r.lent = some e.id) := by
  have inv := fifo_inv cfg hcfg hlg f hf ops ok r0 r outs h0 hr
  intro c hc e he
  obtain ⟨a1, a2⟩ := inv.ents c hc e he
  exact ⟨a1, a2, fun hcur => (inv.loan e.id hcur ⟨c, hc, e, he, rfl⟩).1⟩

/-- with FIFO caches of any capacity ≥ 1 attached, replaced, detached and re-attached
at arbitrary points, every call of the cached reader returns the same bytes, error class (nil / io.EOF / other) and
LastChunk as the uncached reader on the same history — for every file with positive member sizes, every history,
every code variant with `noStale` and repair C03-5 (`Cfg.repaired` in particular) -/
theorem fifo_repaired_transparent (cfg : Cfg) (hcfg : cfg.noStale) (hlg : cfg.lentGuard = true) (f : File)
    (hf : FileOK f) (ops : List (Op LCache)) (ok : ∀ op ∈ ops, OpOK fifoOps LCache.WF op) (outs : List Out)
    (hr : outputs cfg fifoOps f ops = .ok outs) :
    outputs cfg fifoOps f (ops.map Op.uncached) = .ok outs := by
  obtain ⟨_, h, rfl⟩ := (outputsOf_sim (FInv.simInv hcfg hlg) hf ops ok).of_ok hr
  exact h

/-- … and a FIFO-cached run stops abnormally only when the uncached run of the same history stops in the same way
(no `badHint` alternative: FIFO's `Put` ignores the recorded victim and never fails) -/
theorem fifo_repaired_faults_only_as_uncached (cfg : Cfg) (hcfg : cfg.noStale) (hlg : cfg.lentGuard = true)
    (f : File) (hf : FileOK f) (ops : List (Op LCache)) (ok : ∀ op ∈ ops, OpOK fifoOps LCache.WF op) (e : Fault)
    (hr : outputs cfg fifoOps f ops = .error e) :
    outputs cfg fifoOps f (ops.map Op.uncached) = .error e :=
  ((outputsOf_sim (FInv.simInv hcfg hlg) hf ops ok).of_error hr).resolve_right And.left

/-- `fifo_transparent_repaired_full` holds: on the tree with repair C03-5 a FIFO is transparent on every history -/
theorem fifo_transparent_repaired_full_holds : fifo_transparent_repaired_full :=
  fun f hf ops ok outs hr => fifo_repaired_transparent Cfg.repaired current_tree_noStale rfl f hf ops ok outs hr

/-- the variant without repair C03-5 is excluded for a reason: there the statement is false
(`reattachHist` is the history; `fifo_reattach_witness` shows its last answer) -/
theorem fifo_needs_lentGuard :
    ¬ (∀ (f : File), FileOK f → ∀ (ops : List (Op LCache)), (∀ op ∈ ops, OpOK fifoOps LCache.WF op) →
      ∀ outs, outputs ⟨true, true, true, false⟩ fifoOps f ops = .ok outs →
        outputs ⟨true, true, true, false⟩ fifoOps f (ops.map Op.uncached) = .ok outs) := fun h =>
  not_ok_imp_of_ne (fun x => (bytesOf x).getLast?) (by decide +kernel)
    (by rw [fifo_reattach_witness]; decide +kernel) (h file3 file3_ok reattachHist
    (opOK_of_attached (List.forall_mem_singleton.2 (fifo_setCache_ok 4 (by decide) []))))

/-- non-vacuity: the hypotheses of `fifo_repaired_transparent` hold for the two FIFO witness histories (a `Get` that
leaves the used block indexed; `SetCache(nil)`, a decompressing Seek, re-attachment), the cached runs are `ok` with 10
and 8 answers -/
example : (∀ op ∈ fifoOpsHist, OpOK fifoOps LCache.WF op) ∧ (∀ op ∈ reattachHist, OpOK fifoOps LCache.WF op) ∧
    (bytesOf (outputs Cfg.repaired fifoOps file3 fifoOpsHist)).length = 10 ∧
    (bytesOf (outputs Cfg.repaired fifoOps file3 reattachHist)).length = 8 :=
  ⟨opOK_of_attached (List.forall_mem_singleton.2 (fifo_setCache_ok 2 (by decide) [])),
    opOK_of_attached (List.forall_mem_singleton.2 (fifo_setCache_ok 4 (by decide) [])),
    by decide +kernel, by decide +kernel⟩

/-- non-vacuity of the interesting part of `FInv`: after `SetCache(FIFO(4)); Read 8; Seek b0` the current block (id 0)
IS an entry of the FIFO's table (key 0), it is the block on loan and it has been read from — the state `cache_inv`
excludes and `FInv.loan` describes; after `SetCache(nil)` the detached FIFO still references it -/
example : (match newReader fifoOps Cfg.repaired file3 with
    | .ok (r, _) => (match run Cfg.repaired fifoOps file3 r (reattachHist.take 4) with
        | .ok (r', _) => (r'.cur, r'.lent, r'.cache.map (·.items), r'.parked.map (·.items),
            r'.cur.map (fun i => (r'.heap i).used))
        | .error _ => (none, none, none, [], none))
    | .error _ => (none, none, none, [], none)) =
    (some 0, some 0, none, [[⟨35, 1⟩, ⟨0, 0⟩]], some true) := by decide +kernel

end Fifo

/-! `StatsRecorder{Cache: c}` forwards `Get`/`Put`/`Peek` to `c` and updates five counters that no result depends on
(bgzf/cache/cache.go: `StatsRecorder.Get/Put`; `Peek`, `Len`, `Cap`, `Resize`, `Drop` are the embedded cache's own).  So the
reader behaves with `StatsRecorder(c)` exactly as with `c` — no contract, no invariant, no hypothesis on `c`, the code
variant or the file is needed: `Hts.Lemmas.CacheHom` (`Hom`, `run_hom`) shows that every function of the reader model
commutes with forgetting the counters. -/

section Stats

/-- forget the counters of every `StatsRecorder` in a history -/
abbrev unwrapOps {σ : Type} (ops : List (Op (σ × Stats))) : List (Op σ) := ops.map (Op.mapC Prod.fst)

/-- generic form: a cache kind that is another kind plus bookkeeping gives the same outputs and the same faults -/
theorem hom_same_behaviour {σ τ : Type} (o' : CacheOps τ) (o : CacheOps σ) (π : τ → σ) (H : Hom o' o π) (cfg : Cfg)
    (f : File) (ops : List (Op τ)) :
    outputs cfg o' f ops = outputs cfg o f (ops.map (Op.mapC π)) :=
  outputsOf_hom H cfg f ops

/-- for EVERY cache kind `o` (LRU, FIFO, Random, a sum of kinds, another
StatsRecorder …), every code variant, every file and every history, the reader with `StatsRecorder(c)` objects returns
exactly what the reader with the bare `c` objects returns on the same history (same bytes, error classes, LastChunks;
same fault if a call does not return) -/
theorem stats_recorder_same_behaviour {σ : Type} (o : CacheOps σ) (cfg : Cfg) (f : File)
    (ops : List (Op (σ × Stats))) :
    outputs cfg (recorderOps o) f ops = outputs cfg o f (unwrapOps ops) :=
  hom_same_behaviour (recorderOps o) o Prod.fst (recorder_hom o) cfg f ops

/-- … hence transparency of a cache kind (in the form of `cached_refines_uncached` / `fifo_repaired_transparent`, for
whatever condition `ok` on histories it has been proved) carries over to its StatsRecorder -/
theorem stats_recorder_preserves_transparency {σ : Type} (o : CacheOps σ) (cfg : Cfg) (f : File)
    (ops : List (Op (σ × Stats)))
    (inner : ∀ outs, outputs cfg o f (unwrapOps ops) = .ok outs →
      outputs cfg o f ((unwrapOps ops).map Op.uncached) = .ok outs)
    (outs : List Out) (hr : outputs cfg (recorderOps o) f ops = .ok outs) :
    outputs cfg (recorderOps o) f (ops.map Op.uncached) = .ok outs := by
  rw [stats_recorder_same_behaviour] at hr ⊢
  unfold unwrapOps
  rw [uncached_mapC]
  exact inner outs hr

theorem opOK_unwrap {σ : Type} (o : CacheOps σ) (wf : σ → Prop) (ops : List (Op (σ × Stats)))
    (ok : ∀ op ∈ ops, OpOK (recorderOps o) (fun s => wf s.1) op) : ∀ op ∈ unwrapOps ops, OpOK o wf op :=
  opOK_hom (recorder_hom o) (fun _ h => h) ok

/-- `StatsRecorder(FIFO)` caches of any capacity ≥ 1, attached, replaced, detached
and re-attached at arbitrary points: every call returns what the uncached reader returns (code variants as in
`fifo_repaired_transparent`) -/
theorem stats_fifo_repaired_transparent (cfg : Cfg) (hcfg : cfg.noStale) (hlg : cfg.lentGuard = true) (f : File)
    (hf : FileOK f) (ops : List (Op (LCache × Stats)))
    (ok : ∀ op ∈ ops, OpOK (recorderOps fifoOps) (fun s => LCache.WF s.1) op) (outs : List Out)
    (hr : outputs cfg (recorderOps fifoOps) f ops = .ok outs) :
    outputs cfg (recorderOps fifoOps) f (ops.map Op.uncached) = .ok outs :=
  transparent_of_hom (recorder_hom fifoOps) (fun _ h => h) cfg f ops ok
    (fun ops' ok' => fifo_repaired_transparent cfg hcfg hlg f hf ops' ok' outs) hr

/-- … and a `StatsRecorder(FIFO)` run stops abnormally only when the uncached run stops in the same way -/
theorem stats_fifo_repaired_faults_only_as_uncached (cfg : Cfg) (hcfg : cfg.noStale) (hlg : cfg.lentGuard = true)
    (f : File) (hf : FileOK f) (ops : List (Op (LCache × Stats)))
    (ok : ∀ op ∈ ops, OpOK (recorderOps fifoOps) (fun s => LCache.WF s.1) op) (e : Fault)
    (hr : outputs cfg (recorderOps fifoOps) f ops = .error e) :
    outputs cfg (recorderOps fifoOps) f (ops.map Op.uncached) = .error e :=
  transparent_of_hom (recorder_hom fifoOps) (fun _ h => h) cfg f ops ok
    (fun ops' ok' => fifo_repaired_faults_only_as_uncached cfg hcfg hlg f hf ops' ok' e) hr

theorem stats_fifo_setCache_ok (n : Int) (hn : 1 ≤ n) (hints : List Int) :
    OpOK (recorderOps fifoOps) (fun s => LCache.WF s.1) (.setCache (some (LCache.new n, {})) hints) :=
  ⟨LCache.wf_new hn, rfl⟩

/-- `recorder_transparent` (StatsRecorder over a contract cache, by the contract) is also an instance of the general
lemma `transparent_of_hom`: here it is derived for LRU without `recorder_contract` -/
theorem stats_lru_transparent (cfg : Cfg) (hcfg : cfg.noStale) (f : File) (hf : FileOK f)
    (ops : List (Op (LCache × Stats))) (ok : ∀ op ∈ ops, OpOK (recorderOps lruOps) (fun s => LCache.WF s.1) op)
    (outs : List Out) (hr : outputs cfg (recorderOps lruOps) f ops = .ok outs) :
    outputs cfg (recorderOps lruOps) f (ops.map Op.uncached) = .ok outs :=
  transparent_of_hom (recorder_hom lruOps) (fun _ h => h) cfg f ops ok
    (fun ops' ok' => lru_transparent cfg hcfg f hf ops' ok' outs) hr

theorem stats_random_transparent (cfg : Cfg) (hcfg : cfg.noStale) (f : File) (hf : FileOK f)
    (ops : List (Op (RCache × Stats))) (ok : ∀ op ∈ ops, OpOK (recorderOps randomOps) (fun s => RCache.WF s.1) op)
    (outs : List Out) (hr : outputs cfg (recorderOps randomOps) f ops = .ok outs) :
    outputs cfg (recorderOps randomOps) f (ops.map Op.uncached) = .ok outs :=
  transparent_of_hom (recorder_hom randomOps) (fun _ h => h) cfg f ops ok
    (fun ops' ok' => random_transparent cfg hcfg f hf ops' ok' outs) hr

/-- the re-attachment history of `fifo_reattach_witness` with a StatsRecorder around the FIFO -/
def statsReattachHist : List (Op (LCache × Stats)) :=
  [.setCache (some (LCache.new 4, {})) [], .read 8, .seek 0 0, .setCache none [], .seek 70 0, .reattach 0 [],
    .seek 0 0, .read 2]

/-- non-vacuity: the hypotheses of `stats_fifo_repaired_transparent` hold for it, forgetting the counters gives
`reattachHist`, the run is `ok` with 8 answers equal to the uncached ones, and the counters really moved (the detached
recorder saw 2 Gets, 1 miss, 2 Puts, both retained, before it was parked) -/
example : (∀ op ∈ statsReattachHist, OpOK (recorderOps fifoOps) (fun s => LCache.WF s.1) op) ∧
    unwrapOps statsReattachHist = reattachHist ∧
    (bytesOf (outputs Cfg.repaired (recorderOps fifoOps) file3 statsReattachHist)).length = 8 ∧
    bytesOf (outputs Cfg.repaired (recorderOps fifoOps) file3 statsReattachHist) =
      bytesOf (outputs Cfg.repaired (recorderOps fifoOps) file3 (statsReattachHist.map Op.uncached)) :=
  ⟨opOK_of_attached (List.forall_mem_singleton.2 (stats_fifo_setCache_ok 4 (by decide) [])), rfl, by decide +kernel,
    by decide +kernel⟩

example : (match newReader (recorderOps fifoOps) Cfg.repaired file3 with
    | .ok (r, _) => (match run Cfg.repaired (recorderOps fifoOps) file3 r (statsReattachHist.take 4) with
        | .ok (r', _) => r'.parked.map (fun s => (s.2.gets, s.2.misses, s.2.puts, s.2.retains))
        | .error _ => [])
    | .error _ => []) = [(2, 1, 2, 2)] := by decide +kernel

end Stats

/-! `AllCache` = a cache object of any provided kind: FIFO | StatsRecorder(FIFO) | LRU | Random | StatsRecorder(LRU) |
StatsRecorder(Random).  The full statement (`all_kinds_transparent_full`: any sequence of SetCache of new objects of any
of these kinds, nil, or objects used earlier) is FALSE on the repaired tree — `all_kinds_transparent_full_false`, history
`crossDefectHist`, reproduced on the Go code: `bg.lent` remembers only the LAST block on loan; a block
that a detached FIFO still indexes can be `Put` into an LRU, come back from the LRU's `Get` as the reader's own while
`bg.lent` points elsewhere, and be recycled.  What is proved: (1) histories that mix bare FIFOs and StatsRecorder(FIFO)s freely (`fifo_family_transparent`); (2) histories
over `AllCache` whose objects all come from the FIFO family or all from the contract family
(`all_kinds_transparent_partial`). -/

section AllKinds

abbrev FifoFamily := LCache ⊕ (LCache × Stats)
def fifoFamilyOps : CacheOps FifoFamily := sumOps fifoOps (recorderOps fifoOps)
def fifoFamilyWF : FifoFamily → Prop := sumWF LCache.WF (fun s => LCache.WF s.1)

theorem fifoFamily_hom : Hom fifoFamilyOps fifoOps (Sum.elim id Prod.fst) :=
  sum_hom (id_hom fifoOps) (recorder_hom fifoOps)

/-- histories that attach, replace, detach and re-attach bare FIFOs and StatsRecorder(FIFO)s in any order -/
theorem fifo_family_transparent (cfg : Cfg) (hcfg : cfg.noStale) (hlg : cfg.lentGuard = true) (f : File)
    (hf : FileOK f) (ops : List (Op FifoFamily)) (ok : ∀ op ∈ ops, OpOK fifoFamilyOps fifoFamilyWF op)
    (outs : List Out) (hr : outputs cfg fifoFamilyOps f ops = .ok outs) :
    outputs cfg fifoFamilyOps f (ops.map Op.uncached) = .ok outs := by
  refine transparent_of_hom fifoFamily_hom (fun s hs => ?_) cfg f ops ok
    (fun ops' ok' => fifo_repaired_transparent cfg hcfg hlg f hf ops' ok' outs) hr
  cases s with
  | inl a => exact hs
  | inr b => exact hs

abbrev AllCache := FifoFamily ⊕ AnyCache
def allOps : CacheOps AllCache := sumOps fifoFamilyOps anyOps
def allWF : AllCache → Prop := sumWF fifoFamilyWF anyWF

def allFIFO (n : Int) : AllCache := .inl (.inl (LCache.new n))
def allStatsFIFO (n : Int) : AllCache := .inl (.inr (LCache.new n, {}))
def allOther (c : AnyCache) : AllCache := .inr c

theorem all_setCache_ok (n : Int) (hn : 1 ≤ n) (hints : List Int) :
    OpOK allOps allWF (.setCache (some (allFIFO n)) hints) ∧
    OpOK allOps allWF (.setCache (some (allStatsFIFO n)) hints) ∧
    OpOK allOps allWF (.setCache (some (allOther (anyLRU n))) hints) ∧
    OpOK allOps allWF (.setCache (some (allOther (anyRandom n))) hints) ∧
    OpOK allOps allWF (.setCache (some (allOther (anyStatsLRU n))) hints) ∧
    OpOK allOps allWF (.setCache (some (allOther (anyStatsRandom n))) hints) :=
  ⟨⟨LCache.wf_new hn, rfl⟩, ⟨LCache.wf_new hn, rfl⟩, ⟨LCache.wf_new hn, rfl⟩, ⟨RCache.wf_new hn, rfl⟩,
    ⟨LCache.wf_new hn, rfl⟩, ⟨RCache.wf_new hn, rfl⟩⟩

/-- THE FULL STATEMENT (FALSE, see `all_kinds_transparent_full_false`): SetCache may install a new object of any kind, nil, or any object used earlier -/
def all_kinds_transparent_full : Prop :=
  ∀ (f : File), FileOK f → ∀ (ops : List (Op AllCache)), (∀ op ∈ ops, OpOK allOps allWF op) →
    ∀ outs, outputs Cfg.repaired allOps f ops = .ok outs →
      outputs Cfg.repaired allOps f (ops.map Op.uncached) = .ok outs

/-- all objects of the history are of the FIFO family, or all are of the contract family -/
def OneFamily (ops : List (Op AllCache)) : Prop :=
  (∀ c h, Op.setCache (some c) h ∈ ops → ∃ a, c = Sum.inl a) ∨
  (∀ c h, Op.setCache (some c) h ∈ ops → ∃ b, c = Sum.inr b)

/-- the part of the full statement that is proved: histories over `AllCache` that stay within one family (within the
family every mixture, every re-attachment) -/
theorem all_kinds_transparent_partial (cfg : Cfg) (hcfg : cfg.noStale) (hlg : cfg.lentGuard = true) (f : File)
    (hf : FileOK f) (ops : List (Op AllCache)) (ok : ∀ op ∈ ops, OpOK allOps allWF op) (one : OneFamily ops)
    (outs : List Out) (hr : outputs cfg allOps f ops = .ok outs) :
    outputs cfg allOps f (ops.map Op.uncached) = .ok outs := by
  rcases one with hl | hrr
  · exact transparent_of_embedding (ρ := Sum.getLeft?) (inl_hom fifoFamilyOps anyOps) (fun _ => rfl) (fun _ h => h)
      cfg f ops hl ok (fun ops' ok' => fifo_family_transparent cfg hcfg hlg f hf ops' ok' outs) hr
  · exact transparent_of_embedding (ρ := Sum.getRight?) (inr_hom fifoFamilyOps anyOps) (fun _ => rfl) (fun _ h => h)
      cfg f ops hrr ok (fun ops' ok' => mixed_kinds_transparent cfg hcfg f hf ops' ok' outs) hr

/-- FIFO(2) → StatsRecorder(FIFO(1)) → nil → the first FIFO again → the StatsRecorder again -/
def familyHist : List (Op AllCache) :=
  [.setCache (some (allFIFO 2)) [], .read 8, .seek 0 0, .setCache (some (allStatsFIFO 1)) [], .seek 70 0, .read 2,
   .seek 35 1, .setCache none [], .seek 0 2, .reattach 0 [], .seek 70 0, .seek 0 0, .read 6, .reattach 0 [],
   .seek 35 0, .read 3]

/-- non-vacuity of `all_kinds_transparent_partial`: hypotheses hold, the run is `ok` (16 answers), cached = uncached -/
example : (∀ op ∈ familyHist, OpOK allOps allWF op) ∧ OneFamily familyHist ∧
    (bytesOf (outputs Cfg.repaired allOps file3 familyHist)).length = 16 ∧
    bytesOf (outputs Cfg.repaired allOps file3 (familyHist.map Op.uncached)) =
      bytesOf (outputs Cfg.repaired allOps file3 familyHist) := by
  refine ⟨?_, Or.inl ?_, by decide +kernel, by decide +kernel⟩
  · exact opOK_of_attached
      (List.forall_mem_cons.2 ⟨(all_setCache_ok 2 (by decide) []).1, List.forall_mem_cons.2 ⟨(all_setCache_ok 1 (by decide) []).2.1, List.forall_mem_nil _⟩⟩)
  · intro c h hop
    have hc : c ∈ [allFIFO 2, allStatsFIFO 1] := mem_attached hop
    simp only [List.mem_cons, List.mem_nil_iff, or_false] at hc
    rcases hc with rfl | rfl <;> exact ⟨_, rfl⟩

/-- a history OUTSIDE the proved part (FIFO, then LRU, then the FIFO again, with the loaned block in play): evaluated
only — cached = uncached on the model, as the harness observes on the code -/
def crossHist : List (Op AllCache) :=
  [.setCache (some (allFIFO 4)) [], .read 8, .seek 0 0, .setCache (some (allOther (anyLRU 1))) [], .seek 70 0, .read 2,
   .seek 35 0, .reattach 0 [], .seek 0 0, .read 2, .reattach 0 [], .seek 70 0, .read 4]

example : (∀ op ∈ crossHist, OpOK allOps allWF op) ∧ ¬ OneFamily crossHist ∧
    bytesOf (outputs Cfg.repaired allOps file3 (crossHist.map Op.uncached)) =
      bytesOf (outputs Cfg.repaired allOps file3 crossHist) := by
  refine ⟨?_, ?_, by decide +kernel⟩
  · exact opOK_of_attached
      (List.forall_mem_cons.2 ⟨(all_setCache_ok 4 (by decide) []).1, List.forall_mem_cons.2 ⟨(all_setCache_ok 1 (by decide) []).2.2.1, List.forall_mem_nil _⟩⟩)
  · intro h
    rcases h with h | h
    · obtain ⟨a, ha⟩ := h (allOther (anyLRU 1)) [] (by simp [crossHist])
      cases ha
    · obtain ⟨a, ha⟩ := h (allFIFO 4) [] (by simp [crossHist])
      cases ha

/-- FIFO F(4); Read 8; Seek b0 (hit: block X of member 0 stays in F, `lent = X`); SetCache(LRU L(1)); Seek b2 (X is Put into
L: now F and L index X); Read 1; SetCache(F); Seek b1 (hit, `lent` = the block of member 1); SetCache(L); Seek b0 (L's Get
hands X over and forgets it, `lent` is not X, F — detached — still indexes X); SetCache(nil); Seek b2 (X is recycled for
"CCCC"); SetCache(F); Seek b0 (F returns X); Read 2. -/
def crossDefectHist : List (Op AllCache) :=
  [.setCache (some (allFIFO 4)) [], .read 8, .seek 0 0, .setCache (some (allOther (anyLRU 1))) [], .seek 70 0, .read 1,
   .reattach 0 [], .seek 35 0, .reattach 0 [], .seek 0 0, .setCache none [], .seek 70 0, .reattach 0 [], .seek 0 0,
   .read 2]

/-- the defect: on the repaired tree the last Read of `crossDefectHist` returns "CC"; uncached: "AA" -/
theorem cross_kind_witness :
    (bytesOf (outputs Cfg.repaired allOps file3 crossDefectHist)).getLast? = some ([67, 67], .ok) ∧
    (bytesOf (outputs Cfg.repaired allOps file3 (crossDefectHist.map Op.uncached))).getLast? = some ([65, 65], .ok) := by
  decide +kernel

theorem crossDefectHist_ok : ∀ op ∈ crossDefectHist, OpOK allOps allWF op :=
  opOK_of_attached
      (List.forall_mem_cons.2 ⟨(all_setCache_ok 4 (by decide) []).1, List.forall_mem_cons.2 ⟨(all_setCache_ok 1 (by decide) []).2.2.1, List.forall_mem_nil _⟩⟩)

/-- the full statement over all kinds is false for the repaired tree: mixing FIFO and LRU objects is NOT transparent -/
theorem all_kinds_transparent_full_false : ¬ all_kinds_transparent_full := fun h =>
  not_ok_imp_of_ne (fun x => (bytesOf x).getLast?) (by decide +kernel)
    (by rw [cross_kind_witness.1, cross_kind_witness.2]; decide)
    (h file3 file3_ok crossDefectHist crossDefectHist_ok)

end AllKinds

/-! No refinement theorem is claimed for `rd > 1` with a cache: the worker goroutine skips members the cache holds at the
moment it `Peek`s, and nothing keeps them there until the consumer `Get`s them (DESIGN §6 #28).  The two reachable
bad states of the abstraction in Hts.Lemmas.CacheReadAhead: -/

/-- consumer discards cap(working) delivered members that are not the one it wants → `panic("bgzf: unexpected block")` -/
theorem readahead_with_cache_unexpected_block_witness :
    (Hts.Model.ReadAheadCache.run Hts.Model.ReadAheadCache.start
      (Hts.Model.ReadAheadCache.schedule ++ [.consumerTake])).map (·.cpc) = some .panicked :=
  Hts.Model.ReadAheadCache.unexpected_block_witness

/-- consumer waiting on `working`, worker parked on `control`, no step enabled -/
theorem readahead_with_cache_deadlock_witness :
    ((Hts.Model.ReadAheadCache.run { Hts.Model.ReadAheadCache.start with rd := 3, decs := 2 }
        Hts.Model.ReadAheadCache.schedule).map
      (fun s => (s.cpc, s.wnext, s.working, Hts.Model.ReadAheadCache.stuck s))) =
      some (.scanning 2 2, none, [], true) :=
  Hts.Model.ReadAheadCache.deadlock_witness

/-! The right-hand side of every refinement above is this model run with `cache = none`.  It is a different (heap-based)
model from the one C02 proves to refine the flat-file specification (`Hts.Model.Bgzf.Reader`).  The next section
relates the two for every valid history; here their agreement is checked on every history of length 3 over 12 / 11
calls on two files, seeks to the end of the file and to offsets that are no member start included. -/

/-- BOUNDED: on `fileA` (three data members, no EOF marker) and `fileB` (data, empty member, data, EOF marker) the
uncached run of this model and C02's reader model return the same bytes, error class and `LastChunk` for every
history of 3 calls out of Read(1/4/7), ReadByte, Seek(member starts, inside a member, end of file, a
non-member offset), Blocked on/off (1728 + 1331 histories), and neither model faults -/
theorem uncached_baseline_agrees_with_c02_model_bounded :
    Hts.Model.CachedReader.VsC02.agreeOver Hts.Model.CachedReader.VsC02.alphabet
      Hts.Model.CachedReader.VsC02.fileA 3 = true ∧
    Hts.Model.CachedReader.VsC02.agreeOver Hts.Model.CachedReader.VsC02.alphabetB
      Hts.Model.CachedReader.VsC02.fileB 3 = true :=
  ⟨Hts.Model.CachedReader.VsC02.agree_fileA, Hts.Model.CachedReader.VsC02.agree_fileB⟩

/-! General (unbounded) version of the bounded agreement above.  `ofB F` is the C03 file (members with absolute offsets)
of a C02 file `F` (members in order); `flatOp` maps a call to the flat specification's operation (cache calls map to
nothing), `Plain` says a call attaches no cache and seeks to a non-negative offset; `simOuts r0 ops` are the outputs
of C02's reader model and `flatOuts (flatOf F) init ops` the outputs `Hts.Spec.Flat` prescribes, both in this
model's vocabulary (bytes as numbers, error class, LastChunk; `ReadByte` returns no byte together with an error).
Hypotheses as in C02: well-formed file (`WF`: positive member sizes, < 2^16 bytes per member), non-empty (the
constructor succeeds), every Seek goes to a member start plus an offset within that member (`ValidOps`).
Code variants: every `Cfg` with `failReset` (repair C09-2; `Cfg.repaired` is one). -/

section Flat
open Hts.Model.CachedReader.C02

/-- Simulation: for every well-formed file and every valid history that attaches no cache (`Plain`: `SetCache(nil)` is allowed), this model run with no
cache attached returns exactly the bytes, error class and `LastChunk` of C02's reader model `Hts.Model.Bgzf.Reader`
(any number of calls; the two models' different loop bounds are related inside the proof). -/
theorem uncached_baseline_is_c02_reader (cfg : Cfg) (hcfg : cfg.failReset = true) (o : CacheOps σ)
    (F : Hts.Model.Bgzf.File) (hwf : Hts.Model.Bgzf.WF F) (r0 : Hts.Model.Bgzf.Reader)
    (h0 : Hts.Model.Bgzf.Reader.new F = .ok r0) (ops : List (Op σ)) (hp : ∀ op ∈ ops, Plain op)
    (hv : Hts.Spec.Flat.ValidOps (Hts.Model.Bgzf.layoutOf F) (ops.filterMap flatOp)) :
    outputs cfg o (ofB F) ops = .ok (simOuts r0 ops) :=
  outputsOf_followed hcfg o hwf h0 ops hp (followed_of_valid hv)

/-- … hence the uncached baseline returns what the flat-file specification prescribes -/
theorem uncached_baseline_refines_flat (cfg : Cfg) (hcfg : cfg.failReset = true) (o : CacheOps σ)
    (F : Hts.Model.Bgzf.File) (hwf : Hts.Model.Bgzf.WF F) (r0 : Hts.Model.Bgzf.Reader)
    (h0 : Hts.Model.Bgzf.Reader.new F = .ok r0) (ops : List (Op σ)) (hp : ∀ op ∈ ops, Plain op)
    (hv : Hts.Spec.Flat.ValidOps (Hts.Model.Bgzf.layoutOf F) (ops.filterMap flatOp)) :
    outputs cfg o (ofB F) ops = .ok (flatOuts (Hts.Model.Bgzf.flatOf F) Hts.Spec.Flat.init ops) := by
  rw [uncached_baseline_is_c02_reader cfg hcfg o F hwf r0 h0 ops hp hv,
    simOuts_eq_flatOuts hwf ops r0 _ (Hts.Model.Bgzf.sim_new h0) hv]

/-- The cached reader refines the flat-file specification.  For every cache satisfying the contract (LRU, Random,
StatsRecorder, mixtures — see above), attached, detached and re-attached at arbitrary points, every well-formed file and
every valid history: whatever the CACHED reader returns is what `Hts.Spec.Flat` prescribes for the history, a cache call
returning nothing and changing nothing (`flatOuts`) — the bytes of the flat copy at the logical position, `io.EOF` exactly
at the end of the data, `LastChunk` = the virtual offsets around the bytes.  (Composition of `cached_refines_uncached` with
`C02.outputsOf_uncached_flat` of Hts.Lemmas.CachedReaderC02Sim, which joins the lemmas under the two theorems above; it rests
on C02's `Bgzf.sim_step`, step by step.) -/
theorem cached_refines_flat (o : CacheOps σ) (wf : σ → Prop) (ct : Contract o wf) (cfg : Cfg)
    (hcfg : cfg.failReset = true) (F : Hts.Model.Bgzf.File) (hwf : Hts.Model.Bgzf.WF F)
    (r0 : Hts.Model.Bgzf.Reader) (h0 : Hts.Model.Bgzf.Reader.new F = .ok r0) (ops : List (Op σ))
    (ok : ∀ op ∈ ops, OpOK o wf op) (hseek : ∀ f b, Op.seek f b ∈ ops → 0 ≤ f)
    (hv : Hts.Spec.Flat.ValidOps (Hts.Model.Bgzf.layoutOf F) (ops.filterMap flatOp)) (outs : List Out)
    (hr : outputs cfg o (ofB F) ops = .ok outs) :
    outs = flatOuts (Hts.Model.Bgzf.flatOf F) Hts.Spec.Flat.init ops :=
  Except.ok.inj ((cached_refines_uncached o wf ct cfg (Or.inr hcfg) (ofB F) (fileOK_ofB hwf) ops ok outs hr).symm.trans
    (outputsOf_uncached_flat hcfg o hwf h0 ops hseek hv))

/-- … and it never panics or hangs: a cached run that does not return normally can only be one whose recorded
Random victim the model rejects (`badHint`, an artefact of replaying recorded choices, not a behaviour of the code) -/
theorem cached_never_faults (o : CacheOps σ) (wf : σ → Prop) (ct : Contract o wf) (cfg : Cfg)
    (hcfg : cfg.failReset = true) (F : Hts.Model.Bgzf.File) (hwf : Hts.Model.Bgzf.WF F)
    (r0 : Hts.Model.Bgzf.Reader) (h0 : Hts.Model.Bgzf.Reader.new F = .ok r0) (ops : List (Op σ))
    (ok : ∀ op ∈ ops, OpOK o wf op) (hseek : ∀ f b, Op.seek f b ∈ ops → 0 ≤ f)
    (hv : Hts.Spec.Flat.ValidOps (Hts.Model.Bgzf.layoutOf F) (ops.filterMap flatOp)) (e : Fault)
    (hr : outputs cfg o (ofB F) ops = .error e) : e = .badHint := by
  rcases cached_faults_only_as_uncached o wf ct cfg (Or.inr hcfg) (ofB F) (fileOK_ofB hwf) ops ok e hr with h | h
  · exact h
  · cases h.symm.trans (outputsOf_uncached_flat hcfg o hwf h0 ops hseek hv)

/-- FIFO refines the flat-file specification (composition of `fifo_repaired_transparent` with the simulation above):
whatever the reader with FIFO caches returns is what `Hts.Spec.Flat` prescribes for the history, a cache call returning
nothing and changing nothing -/
theorem fifo_refines_flat (cfg : Cfg) (hcfg : cfg.failReset = true) (hlg : cfg.lentGuard = true)
    (F : Hts.Model.Bgzf.File) (hwf : Hts.Model.Bgzf.WF F)
    (r0 : Hts.Model.Bgzf.Reader) (h0 : Hts.Model.Bgzf.Reader.new F = .ok r0) (ops : List (Op LCache))
    (ok : ∀ op ∈ ops, OpOK fifoOps LCache.WF op) (hseek : ∀ f b, Op.seek f b ∈ ops → 0 ≤ f)
    (hv : Hts.Spec.Flat.ValidOps (Hts.Model.Bgzf.layoutOf F) (ops.filterMap flatOp)) (outs : List Out)
    (hr : outputs cfg fifoOps (ofB F) ops = .ok outs) :
    outs = flatOuts (Hts.Model.Bgzf.flatOf F) Hts.Spec.Flat.init ops :=
  Except.ok.inj ((fifo_repaired_transparent cfg (Or.inr hcfg) hlg (ofB F) (fileOK_ofB hwf) ops ok outs hr).symm.trans
    (outputsOf_uncached_flat hcfg fifoOps hwf h0 ops hseek hv))

/-- … and it never panics or hangs on valid histories: every FIFO-cached run returns normally -/
theorem fifo_never_faults (cfg : Cfg) (hcfg : cfg.failReset = true) (hlg : cfg.lentGuard = true)
    (F : Hts.Model.Bgzf.File) (hwf : Hts.Model.Bgzf.WF F)
    (r0 : Hts.Model.Bgzf.Reader) (h0 : Hts.Model.Bgzf.Reader.new F = .ok r0) (ops : List (Op LCache))
    (ok : ∀ op ∈ ops, OpOK fifoOps LCache.WF op) (hseek : ∀ f b, Op.seek f b ∈ ops → 0 ≤ f)
    (hv : Hts.Spec.Flat.ValidOps (Hts.Model.Bgzf.layoutOf F) (ops.filterMap flatOp)) (e : Fault)
    (hr : outputs cfg fifoOps (ofB F) ops = .error e) : False := by
  cases (fifo_repaired_faults_only_as_uncached cfg (Or.inr hcfg) hlg (ofB F) (fileOK_ofB hwf) ops ok e hr).symm.trans
    (outputsOf_uncached_flat hcfg fifoOps hwf h0 ops hseek hv)

/-- `file3` as a C02 file -/
def file3B : Hts.Model.Bgzf.File :=
  [⟨[65, 65, 65, 65, 65, 65], 35⟩, ⟨[66, 66, 66, 66, 66, 66], 35⟩, ⟨[67, 67, 67, 67], 36⟩]

example : ofB file3B = file3 := by decide +kernel

/-- `cached_refines_flat` is not vacuous: its hypotheses hold for `file3` and the LRU(1) history `staleOps` (cache
hits and an eviction), the cached run is `ok`, and what the flat specification prescribes is the literal list -/
example : Hts.Model.Bgzf.WF file3B ∧ (∃ r0, Hts.Model.Bgzf.Reader.new file3B = .ok r0) ∧
    (∀ f b, Op.seek f b ∈ staleOps → 0 ≤ f) ∧
    Hts.Spec.Flat.ValidOps (Hts.Model.Bgzf.layoutOf file3B) (staleOps.filterMap flatOp) ∧
    (flatOuts (Hts.Model.Bgzf.flatOf file3B) Hts.Spec.Flat.init staleOps).map (fun o => (o.bytes, o.err)) =
      [([], .ok), ([], .ok), ([], .ok), ([], .eof), ([], .ok), ([], .ok), ([67, 67, 67], .ok), ([67], .eof),
        ([], .eof)] ∧
    bytesOf (outputs Cfg.repaired lruOps (ofB file3B) staleOps) =
      (flatOuts (Hts.Model.Bgzf.flatOf file3B) Hts.Spec.Flat.init staleOps).map (fun o => (o.bytes, o.err)) := by
  refine ⟨?_, ⟨_, rfl⟩, ?_, ?_, by decide +kernel, by decide +kernel⟩
  · unfold Hts.Model.Bgzf.WF
    decide
  · intro f b h
    have hm : f ∈ staleOps.filterMap (fun op => match op with | .seek f _ => some f | _ => none) :=
      List.mem_filterMap.2 ⟨_, h, rfl⟩
    have : ∀ g ∈ ([35, 70, 0, 70] : List Int), 0 ≤ g := by decide
    exact this f hm
  · have e : staleOps.filterMap flatOp =
        [.seek ⟨35, 0⟩, .seek ⟨70, 4⟩, .read 1, .seek ⟨0, 0⟩, .seek ⟨70, 0⟩, .read 3, .read 3, .read 3] := rfl
    rw [e]
    simp only [Hts.Spec.Flat.ValidOps, and_true]
    decide

end Flat

/-- the hypotheses of `lru_transparent` hold for a history with cache hits and an eviction, and the run is `ok` -/
example : ∃ outs, outputs Cfg.repaired lruOps file3 staleOps = .ok outs ∧ outs.length = 9 := by
  have h9 : (bytesOf (outputs Cfg.repaired lruOps file3 staleOps)).length = 9 := by decide +kernel
  cases h : outputs Cfg.repaired lruOps file3 staleOps with
  | error e => rw [h] at h9; cases h9
  | ok outs => rw [h] at h9; exact ⟨outs, rfl, by simpa [bytesOf] using h9⟩

/-- `random_transparent` is not vacuous: Random(1), victim hint "key 0"; the Put at the second Seek finds the cache
full with the used block of member 0 and evicts it (the hint is consumed), the third Seek is a cache hit.
Hypotheses hold, the run is `ok`, cached = uncached (an instance of the theorem, also checked by evaluation). -/
def randomHist : List (Op RCache) :=
  [.setCache (some (RCache.new 1)) [0], .read 1, .seek 35 0, .read 1, .seek 70 0, .read 4, .seek 35 0, .read 6]

example : (∀ op ∈ randomHist, OpOK randomOps RCache.WF op) ∧
    bytesOf (outputs Cfg.repaired randomOps file3 randomHist) =
      [([], .ok), ([65], .ok), ([], .ok), ([66], .ok), ([], .ok), ([67, 67, 67, 67], .ok), ([], .ok),
        ([66, 66, 66, 66, 66, 66], .ok)] ∧
    bytesOf (outputs Cfg.repaired randomOps file3 (randomHist.map Op.uncached)) =
      bytesOf (outputs Cfg.repaired randomOps file3 randomHist) :=
  ⟨opOK_of_attached (List.forall_mem_singleton.2 (random_setCache_ok 1 (by decide) [])),
    by decide +kernel, by decide +kernel⟩

/-- … the eviction really happened: after the run the hint is used up and the cache holds member 35's block only
after handing it out and getting member 70's back -/
example : (match newReader randomOps Cfg.repaired file3 with
    | .ok (r, _) => (match run Cfg.repaired randomOps file3 r (randomHist.take 5) with
        | .ok (r', _) => (r'.hints, r'.cache.map (fun c => c.items.map (·.key)))
        | .error _ => ([1], none))
    | .error _ => ([2], none)) = ([], some [35]) := by decide +kernel

/-- a history that goes LRU → Random (with an eviction) → StatsRecorder(LRU) → nil → the first LRU again;
hypotheses of `mixed_kinds_transparent` hold, run `ok`, cached = uncached -/
def mixedHist : List (Op AnyCache) :=
  [.setCache (some (anyLRU 1)) [], .read 1, .seek 35 0, .read 1,
   .setCache (some (anyRandom 1)) [35], .seek 70 0, .read 4, .seek 0 0, .read 2,
   .setCache (some (anyStatsLRU 2)) [], .seek 35 0, .read 6, .seek 0 3, .read 3,
   .setCache none [], .seek 70 1, .read 3, .reattach 0 [], .seek 0 0, .read 6]

example : (∀ op ∈ mixedHist, OpOK anyOps anyWF op) ∧
    (bytesOf (outputs Cfg.repaired anyOps file3 mixedHist)).length = 20 ∧
    bytesOf (outputs Cfg.repaired anyOps file3 (mixedHist.map Op.uncached)) =
      bytesOf (outputs Cfg.repaired anyOps file3 mixedHist) :=
  ⟨opOK_of_attached
      (List.forall_mem_cons.2 ⟨(any_setCache_ok 1 (by decide) []).1, List.forall_mem_cons.2
        ⟨(any_setCache_ok 1 (by decide) []).2.1, List.forall_mem_cons.2
          ⟨(any_setCache_ok 2 (by decide) []).2.2.1, List.forall_mem_nil _⟩⟩⟩),
    by decide +kernel, by decide +kernel⟩

end Hts.Props.C03
