/-
C15 — Index serialisation round trip keeps bytes, answers and statistics.

`WF i` = the index is representable in the format (counts fit int32, bin numbers fit uint32 and are
not the pseudo-bin number, offsets fit the signed 64-bit virtual offset, counters fit uint64) and its
`IsSorted` flag is truthful.  Every index built by `Add` from the empty index has the flag false, so
for those `WF` is representability alone (`wf_of_unsorted`); every index returned by a reader is well-formed
(`readBai_wf`, `readTabix_wf`, `readCsi_wf`), and so is the canonical form of a well-formed index (`wf_norm`).
-/
import Hts.Lemmas.IndexIO
import Hts.Lemmas.IndexIOTabix
import Hts.Lemmas.IndexTabixNames
import Hts.Lemmas.IndexIOCsi
import Hts.Lemmas.IndexAddAll
import Hts.Lemmas.IndexRepr
import Hts.Lemmas.IndexIORead
import Hts.Lemmas.IndexIOTabixRead
import Hts.Lemmas.IndexIOCsiRead
import Hts.Lemmas.IndexCsiAny
import Hts.Lemmas.IndexTabixRepr
import Hts.Props.C04
namespace Hts.Props.C15
open Hts.Model Hts.Model.Index Hts.Model.IndexIO

/-- `read_write` (BAI): reading the written bytes succeeds and gives exactly the canonical form of
the index, for EVERY well-formed index — with or without references (the zero-reference special case
of `bam.ReadIndex`, DESIGN §6 #25, was repaired in /repo bb4b88e) -/
theorem bai_read_write_full : ∀ i : Index, WF i → readBai (writeBai i) = .ok (norm i) :=
  fun i h => readBai_writeBai i h

theorem bai_read_write (i : Index) (h : WF i) : readBai (writeBai i) = .ok (norm i) := readBai_writeBai i h

/-- in particular an index of unplaced records only (no reference, a trailer) round-trips -/
theorem bai_read_write_noRefs (n : Nat) (hn : n < 18446744073709551616) :
    readBai (writeBai { unmapped := some n }) = .ok { unmapped := some n, isSorted := true, lastRecord := maxInt } :=
  readBai_writeBai _ (wf_noRefs n hn)

/-- `write_norm`: the canonical form writes to the same bytes -/
theorem bai_write_norm (i : Index) : writeBai (norm i) = writeBai i := writeBai_norm i

/-- hence: write, read, write again gives identical bytes -/
theorem bai_rewrite_identical (i : Index) (h : WF i) :
    ∃ i', readBai (writeBai i) = .ok i' ∧ writeBai i' = writeBai i ∧ WF i' :=
  ⟨norm i, readBai_writeBai i h, writeBai_norm i, wf_norm i h⟩

/-- `chunks_norm`: every `Chunks` query is answered identically by the re-read index (BAI and tabix
share `internal.Index.Chunks`) -/
theorem chunks_norm (i : Index) (rid beg stop : Int) (bins : List Nat) :
    chunks (norm i) rid beg stop bins = chunks i rid beg stop bins := IndexIO.chunks_norm i rid beg stop bins

theorem bai_chunks_norm (s : List Chunk → List Chunk) (i : Index) (rid beg stop : Int) :
    Bai.chunks Coord.overlappingBinsFor s (norm i) rid beg stop =
      Bai.chunks Coord.overlappingBinsFor s i rid beg stop := by
  unfold Bai.chunks; rw [IndexIO.chunks_norm]

/-- the re-read index reports the same reference count, per-reference statistics and unplaced count -/
theorem stats_norm (i : Index) :
    (norm i).refs.length = i.refs.length ∧ (norm i).unmapped = i.unmapped ∧
      ∀ j : Nat, ((norm i).refs[j]?).map (fun r : RefIndex => r.stats) =
        (i.refs[j]?).map (fun r : RefIndex => r.stats) :=
  ⟨norm_refs_length i, rfl, norm_stats i⟩

/-- the canonical form is stable and well-formed: a previously read index can be written and read
again any number of times -/
theorem norm_idempotent (i : Index) : norm (norm i) = norm i := norm_norm i
theorem norm_wf (i : Index) (h : WF i) : WF (norm i) := wf_norm i h

/-- C04's completeness carries over to the index read back from the written bytes: composition of
`C04.bai_chunks_complete_any_end`, `bai_read_write` and `bai_chunks_norm` -/
theorem bai_chunks_complete_after_roundtrip (recs : List Bai.BaiRec)
    (h : SortedInput (recs.map Hts.Props.C04.baiRec)) (hwf : WF (Hts.Props.C04.baiBuilt recs))
    (r : Bai.BaiRec) (hr : r ∈ recs) (hp : (Hts.Props.C04.baiRec r).placed = true) (hne : r.pos < r.stop)
    (beg stop : Int) (hb : 0 ≤ beg) (hq : beg < stop) (hs29 : stop ≤ 536870912)
    (hov1 : r.pos < stop) (hov2 : beg < r.stop) (s : List Chunk → List Chunk) (hs : EncLaw s) :
    ∃ i', readBai (writeBai (Hts.Props.C04.baiBuilt recs)) = .ok i' ∧
      ∃ cs, Bai.chunks Coord.overlappingBinsFor s i' (Hts.Props.C04.baiRec r).rid beg stop = .ok cs ∧
        coveredBy cs r.chunk := by
  refine ⟨norm (Hts.Props.C04.baiBuilt recs), readBai_writeBai _ hwf, ?_⟩
  rw [bai_chunks_norm]
  exact (Hts.Props.C04.bai_chunks_complete_any_end recs h r hr hp hne beg stop hb hq hov1 hov2 id s encLaw_id hs).1

/-- "or previously read" (BAI): WHATEVER byte string `bam.ReadIndex` accepts, the index it returns is
well-formed, so writing it and reading it back gives its canonical form, the same bytes on every
further write, the same answers and the same statistics -/
theorem bai_previously_read (bs : Bytes) (i : Index) (h : readBai bs = .ok i) :
    WF i ∧ readBai (writeBai i) = .ok (norm i) ∧ writeBai (norm i) = writeBai i ∧
      (∀ rid beg stop bins, chunks (norm i) rid beg stop bins = chunks i rid beg stop bins) ∧
      (norm i).unmapped = i.unmapped :=
  ⟨readBai_wf h, readBai_writeBai i (readBai_wf h), writeBai_norm i, IndexIO.chunks_norm i, rfl⟩

/-- every index built by `Add` from a coordinate-sorted input is representable (`WF`), under
hypotheses on the INPUT only: fewer than 2^31 - 1 records, reference ids below 2^31 - 1, bin numbers as
produced by `BinFor`/`Record.Bin` (below the pseudo-bin number), chunk offsets below 2^63 -/
theorem built_wf (recs : List Rec) (h : SortedInput recs) (hlen : recs.length < 2147483647)
    (hrid : ∀ r, r ∈ recs → r.rid < 2147483647)
    (hbin : ∀ r, r ∈ recs → r.placed = true → r.bin < 37450)
    (hoff : ∀ r, r ∈ recs → r.chunk.e < 9223372036854775808) : WF (addAll {} recs).1 :=
  IndexIO.built_wf recs h hlen hrid hbin hoff

/-- BAI end to end, hypotheses on the input only: the index built from any coordinate-sorted sequence
of `sam.Record`s (placed, unplaced or none at all) is written, read back as its canonical form, and
written again to identical bytes -/
theorem bai_roundtrip_built (recs : List Bai.BaiRec) (h : SortedInput (recs.map Hts.Props.C04.baiRec))
    (hlen : recs.length < 2147483647) (hrid : ∀ r, r ∈ recs → r.rid < 2147483647)
    (hoff : ∀ r, r ∈ recs → r.chunk.e < 9223372036854775808) :
    readBai (writeBai (Hts.Props.C04.baiBuilt recs)) = .ok (norm (Hts.Props.C04.baiBuilt recs)) ∧
      writeBai (norm (Hts.Props.C04.baiBuilt recs)) = writeBai (Hts.Props.C04.baiBuilt recs) := by
  have hwf : WF (Hts.Props.C04.baiBuilt recs) := by
    apply IndexIO.built_wf _ h (by rw [List.length_map]; exact hlen)
    · intro x hx
      obtain ⟨r, hr, rfl⟩ := List.mem_map.1 hx
      show (if r.hasRef then r.rid else -1) < _
      have := hrid r hr
      split <;> omega
    · intro x hx hp
      obtain ⟨r, _, rfl⟩ := List.mem_map.1 hx
      exact (h.ok _ hx).binFor_lt hp _
    · intro x hx
      obtain ⟨r, hr, rfl⟩ := List.mem_map.1 hx
      exact hoff r hr
  exact ⟨readBai_writeBai _ hwf, writeBai_norm _⟩

/-- `read_write` (tabix): for every representable tabix index (header fields in their int32/byte
ranges, as many NUL-free names as references — possibly none) -/
theorem tabix_read_write (t : Tabix.TIndex) (h : TWF t) : readTabix (writeTabix t) = .ok (normTabix t) :=
  readTabix_writeTabix t h

theorem tabix_write_norm (t : Tabix.TIndex) : writeTabix (normTabix t) = writeTabix t := writeTabix_norm t

theorem tabix_rewrite_identical (t : Tabix.TIndex) (h : TWF t) :
    ∃ t', readTabix (writeTabix t) = .ok t' ∧ writeTabix t' = writeTabix t ∧
      t'.hdr = t.hdr ∧ t'.names = t.names ∧ t'.idx = norm t.idx :=
  ⟨normTabix t, readTabix_writeTabix t h, writeTabix_norm t, rfl, rfl, rfl⟩

/-- "or previously read" (tabix): whatever byte string `tabix.ReadFrom` accepts, the index it returns is
well-formed, reads back as its canonical form and re-writes to the same bytes -/
theorem tabix_previously_read (bs : Bytes) (t : Tabix.TIndex) (h : readTabix bs = .ok t) :
    TWF t ∧ readTabix (writeTabix t) = .ok (normTabix t) ∧ writeTabix (normTabix t) = writeTabix t :=
  ⟨readTabix_wf h, readTabix_writeTabix t (readTabix_wf h), writeTabix_norm t⟩

/-- queries by name are answered identically when the re-built name map agrees with the one `Add`
maintained (it does for every index built by `Add`: `tabix_names_consistent`) -/
theorem tabix_chunks_norm (adj : List Chunk → List Chunk) (t : Tabix.TIndex) (name : Tabix.Name) (beg stop : Int)
    (hmap : Tabix.mapGet (Tabix.buildMap t.names) name = Tabix.mapGet t.nameMap name) :
    Tabix.chunks Coord.overlappingBinsFor adj (normTabix t) name beg stop =
      Tabix.chunks Coord.overlappingBinsFor adj t name beg stop := by
  unfold Tabix.chunks
  show (match Tabix.mapGet (Tabix.buildMap t.names) name with
    | none => _ | some id => match Index.chunks (norm t.idx) _ _ _ _ with | .error e => _ | .ok cs => _) = _
  rw [hmap]
  cases Tabix.mapGet t.nameMap name with
  | none => rfl
  | some id => simp only [IndexIO.chunks_norm]; rfl

/-- for every tabix index built by `Add` (any input, sorted or not) the name table is consistent:
as many names as references, pairwise distinct, and the map rebuilt by `ReadFrom` resolves every name
as the map maintained by `Add` does -/
theorem tabix_names_consistent (hdr : Tabix.Header) (recs : List Tabix.TRec) :
    (Hts.Props.C04.tbxBuilt hdr recs).names.length = (Hts.Props.C04.tbxBuilt hdr recs).idx.refs.length ∧
    (Hts.Props.C04.tbxBuilt hdr recs).names.Nodup ∧
    ∀ name, Tabix.mapGet (Tabix.buildMap (Hts.Props.C04.tbxBuilt hdr recs).names) name =
      Tabix.mapGet (Hts.Props.C04.tbxBuilt hdr recs).nameMap name :=
  ⟨Tabix.addAll_count Coord.binFor recs _ (Tabix.nameInv_empty hdr) rfl,
   (Tabix.addAll_nameInv Coord.binFor recs _ (Tabix.nameInv_empty hdr)).nodup,
   Tabix.built_map_agrees Coord.binFor hdr recs⟩

/-- hence every query by name is answered identically by the re-read form of a built index -/
theorem tabix_chunks_norm_built (hdr : Tabix.Header) (recs : List Tabix.TRec) (name : Tabix.Name) (beg stop : Int) :
    Tabix.chunks Coord.overlappingBinsFor Local.adjacent (normTabix (Hts.Props.C04.tbxBuilt hdr recs)) name beg stop =
      Tabix.chunks Coord.overlappingBinsFor Local.adjacent (Hts.Props.C04.tbxBuilt hdr recs) name beg stop :=
  tabix_chunks_norm _ _ name beg stop (Tabix.built_map_agrees Coord.binFor hdr recs name)

/-- every tabix index built by `tabix.Index.Add` from a coordinate-sorted input is representable (`TWF`),
under hypotheses on the INPUT only: header fields in their byte/int32 ranges, fewer than 2^31 − 1 records,
chunk offsets below 2^63, NUL-free reference names whose total length (with terminators) is below 2^31.
(A name containing NUL is accepted by `WriteTo` and splits into two names in `ReadFrom`: excluded here.) -/
theorem tabix_built_wf (hdr : Tabix.Header) (hh : HeaderFieldsOK hdr) (recs : List Tabix.TRec)
    (h : SortedInput (Hts.Props.C04.tbxTrace hdr recs)) (hlen : recs.length < 2147483647)
    (hoff : ∀ r, r ∈ recs → r.chunk.e < 9223372036854775808)
    (hnul : ∀ r, r ∈ recs → ∀ b, b ∈ r.name → b ≠ 0)
    (hnames : (nameBlock (recs.map (·.name))).length < 2147483648) :
    TWF (Hts.Props.C04.tbxBuilt hdr recs) :=
  tabix_built_twf hdr hh recs h hlen hoff hnul hnames

/-- tabix end to end, hypotheses on the input only -/
theorem tabix_roundtrip_built (hdr : Tabix.Header) (hh : HeaderFieldsOK hdr) (recs : List Tabix.TRec)
    (h : SortedInput (Hts.Props.C04.tbxTrace hdr recs)) (hlen : recs.length < 2147483647)
    (hoff : ∀ r, r ∈ recs → r.chunk.e < 9223372036854775808)
    (hnul : ∀ r, r ∈ recs → ∀ b, b ∈ r.name → b ≠ 0)
    (hnames : (nameBlock (recs.map (·.name))).length < 2147483648) :
    readTabix (writeTabix (Hts.Props.C04.tbxBuilt hdr recs)) = .ok (normTabix (Hts.Props.C04.tbxBuilt hdr recs)) ∧
      writeTabix (normTabix (Hts.Props.C04.tbxBuilt hdr recs)) = writeTabix (Hts.Props.C04.tbxBuilt hdr recs) :=
  ⟨readTabix_writeTabix _ (tabix_built_wf hdr hh recs h hlen hoff hnul hnames), writeTabix_norm _⟩

/-- a tabix index without references and names (nothing or only unplaced lines added) round-trips -/
theorem tabix_read_write_noRefs (n : Nat) (hn : n < 18446744073709551616) :
    readTabix (writeTabix { idx := { unmapped := some n } }) =
      .ok (normTabix { idx := { unmapped := some n } }) :=
  readTabix_writeTabix _
    { idx := wf_noRefs n hn
      hdr := { format := (by simp), nameCol := (by simp), begCol := (by simp), endCol := (by simp),
               metaChar := (by simp), skip := (by simp), namesLen := (by simp [nameBlock]),
               noNul := (by intro nm hnm; cases hnm) }
      count := rfl }

/-- `read_write` (CSI): for every representable CSI index of version 1 or 2 with `minShift + 3·depth ≤ 62`
(the geometry range `csi.ReadFrom` accepts; the bin limit is the `uint32` value the code computes) -/
theorem csi_read_write (i : Csi.CIndex) (h : CWF i) : readCsi (writeCsi i) = .ok (normCsi i) :=
  readCsi_writeCsi i h

theorem csi_write_norm (i : Csi.CIndex) : writeCsi (normCsi i) = writeCsi i := writeCsi_norm i

theorem csi_rewrite_identical (i : Csi.CIndex) (h : CWF i) :
    ∃ i', readCsi (writeCsi i) = .ok i' ∧ writeCsi i' = writeCsi i ∧ i'.aux = i.aux ∧ i'.version = i.version ∧
      i'.minShift = i.minShift ∧ i'.depth = i.depth ∧ i'.unmapped = i.unmapped :=
  ⟨normCsi i, readCsi_writeCsi i h, writeCsi_norm i, rfl, rfl, rfl, rfl, rfl⟩

theorem csi_chunks_norm (i : Csi.CIndex) (rid beg stop : Int) :
    Csi.chunks Coord.reg2bins Local.adjacent (normCsi i) rid beg stop =
      Csi.chunks Coord.reg2bins Local.adjacent i rid beg stop :=
  IndexIO.csi_chunks_norm _ _ i rid beg stop

/-- every CSI index built by `csi.Index.Add` from a coordinate-sorted input is representable (`CWF`), under
hypotheses on the INPUT only: depth ≤ 10 (the deepest geometry whose bin numbers fit `uint32`; needs fixes/C15-2
for depth exactly 10), minShift + 3·depth ≤ 62, fewer than 2^31 − 1 records, reference ids
below 2^31 − 1, chunk offsets below 2^63; any version 1/2 and any auxiliary bytes.  The bound "bins + pseudo-bin
≤ bin limit + 1" is a pigeonhole argument over the pairwise distinct bin numbers (`CRefRepr.bin_count`,
`reg2bin_lt_binLimit_any`) and is tight: a reference may use every bin (fixes/C15-1) -/
theorem csi_built_wf (ms d : Nat) (hd : d ≤ 10) (hgeom : ms + 3 * d ≤ 62)
    (version : Nat) (hver : version = 1 ∨ version = 2) (aux : List UInt8) (haux : aux.length < 2147483648)
    (recs : List Csi.CRec) (h : Csi.CSortedInput ms d recs) (hlen : recs.length < 2147483647)
    (hrid : ∀ r, r ∈ recs → r.rid < 2147483647)
    (hoff : ∀ r, r ∈ recs → r.chunk.e < 9223372036854775808) :
    CWF (Csi.addAll Coord.reg2bin { aux := aux, version := version, minShift := ms, depth := d } recs).1 :=
  csi_any_cwf _ hd hgeom ⟨rfl, rfl, rfl⟩ hver haux recs hlen hrid fun r hr =>
    chunk_offOK (h.ok r hr).cb (h.ok r hr).ce (hoff r hr)

/-- CSI end to end, hypotheses on the input only: the built index is written, read back as its canonical
form and written again to identical bytes -/
theorem csi_roundtrip_built (ms d : Nat) (hd : d ≤ 10) (hgeom : ms + 3 * d ≤ 62)
    (version : Nat) (hver : version = 1 ∨ version = 2) (aux : List UInt8) (haux : aux.length < 2147483648)
    (recs : List Csi.CRec) (h : Csi.CSortedInput ms d recs) (hlen : recs.length < 2147483647)
    (hrid : ∀ r, r ∈ recs → r.rid < 2147483647)
    (hoff : ∀ r, r ∈ recs → r.chunk.e < 9223372036854775808) :
    let i := (Csi.addAll Coord.reg2bin { aux := aux, version := version, minShift := ms, depth := d } recs).1
    readCsi (writeCsi i) = .ok (normCsi i) ∧ writeCsi (normCsi i) = writeCsi i :=
  ⟨readCsi_writeCsi _ (csi_built_wf ms d hd hgeom version hver aux haux recs h hlen hrid hoff), writeCsi_norm _⟩

/-- "or previously read" (CSI): whatever byte string `csi.ReadFrom` accepts, the index it returns is
well-formed, reads back as its canonical form, re-writes to the same bytes and answers identically -/
theorem csi_previously_read (bs : Bytes) (i : Csi.CIndex) (h : readCsi bs = .ok i) :
    CWF i ∧ readCsi (writeCsi i) = .ok (normCsi i) ∧ writeCsi (normCsi i) = writeCsi i ∧
      ∀ rid beg stop, Csi.chunks Coord.reg2bins Local.adjacent (normCsi i) rid beg stop =
        Csi.chunks Coord.reg2bins Local.adjacent i rid beg stop :=
  ⟨readCsi_wf h, readCsi_writeCsi i (readCsi_wf h), writeCsi_norm i, IndexIO.csi_chunks_norm _ _ i⟩

/-- C04's completeness for CSI carries over to the index read back from the written bytes (input-only
hypotheses; `csiBuilt` is the version-2 index without auxiliary data) -/
theorem csi_chunks_complete_after_roundtrip (ms d : Nat) (hd : d ≤ 10) (hgeom : ms + 3 * d ≤ 62)
    (recs : List Csi.CRec) (h : Csi.CSortedInput ms d recs) (hlen : recs.length < 2147483647)
    (hrid : ∀ r, r ∈ recs → r.rid < 2147483647)
    (hoff : ∀ r, r ∈ recs → r.chunk.e < 9223372036854775808)
    (r : Csi.CRec) (hr : r ∈ recs) (hp : r.placed = true)
    (beg stop : Int) (hb : 0 ≤ beg) (hq : beg < stop) (hs : stop ≤ (2 : Int) ^ (ms + 3 * d))
    (hov1 : r.start < stop) (hov2 : beg < r.stop) :
    ∃ i', readCsi (writeCsi (Hts.Props.C04.csiBuilt ms d recs)) = .ok i' ∧
      coveredBy (Csi.chunks Coord.reg2bins Local.adjacent i' r.rid beg stop) r.chunk := by
  have hwf : CWF (Hts.Props.C04.csiBuilt ms d recs) :=
    csi_built_wf ms d hd hgeom 2 (Or.inr rfl) [] (by simp) recs h hlen hrid hoff
  refine ⟨_, readCsi_writeCsi _ hwf, ?_⟩
  rw [IndexIO.csi_chunks_norm]
  exact (Hts.Props.C04.csi_chunks_complete_any_query ms d hd hgeom recs h r hr hp beg stop hq hov1 hov2 id encLaw_id).1

/-- the bin number `csi.Index.Add` computes for a record whose start position `validIndexPos` accepts — whatever its
end is (before the start, equal to it, `-1`) and including the start `-1` the code admits — is a bin number of the
geometry: below the bin limit `((1 << 3(depth+1)) - 1)/7` that `WriteTo`/`ReadFrom` compute, for every minimum shift
and every depth ≤ 10 -/
theorem csi_reg2bin_lt_binLimit (ms d : Nat) (hd : d ≤ 10) (start stop : Int)
    (hv : Csi.validPos ms d start = true) : Coord.reg2bin start stop ms d < csiBinLimit d :=
  Csi.reg2bin_lt_binLimit_of_validPos ms d hd start stop hv

/-- the bin-count clause of `CWF` (`CRefBounds.nb`: what `csi.readBins` checks since a0b84ad — at most every bin of
the geometry plus the statistics pseudo-bin) is a THEOREM of the model of `Add`, with no hypothesis on the records:
after EVERY sequence of `Add` calls (sorted or not, accepted or rejected, any positions, ids and chunks) on a fresh
index of any minimum shift and depth ≤ 10, the bin numbers of a reference are pairwise distinct and below the bin
limit, hence `len(bins) + [stats present] ≤ binLimit + 1` -/
theorem csi_built_bin_count (ms d : Nat) (hd : d ≤ 10) (version : Nat) (aux : List UInt8) (recs : List Csi.CRec)
    (ref : Csi.CRef)
    (href : ref ∈ (Csi.addAll Coord.reg2bin { aux := aux, version := version, minShift := ms, depth := d } recs).1.refs) :
    (ref.bins.map (·.bin)).Nodup ∧ (∀ b, b ∈ ref.bins → b.bin < csiBinLimit d) ∧
      ref.bins.length + (if ref.stats.isSome then 1 else 0) ≤ csiBinLimit d + 1 :=
  csi_any_bin_count { aux := aux, version := version, minShift := ms, depth := d } hd ⟨rfl, rfl, rfl⟩ recs ref href

/-- `built_wf` for CSI at full strength: the index after EVERY sequence of `Add` calls on a fresh index is
representable (`CWF`) — no sortedness, no `0 ≤ start < end` for placed records (the code does not check either),
calls that `Add` rejects included (a call rejected for position order has already entered its bin).  Hypotheses on
the input sizes only: depth ≤ 10, minShift + 3·depth ≤ 62, fewer than 2^31 − 1 calls, reference ids below 2^31 − 1,
chunk offsets in the int64 range (any order of begin and end) -/
theorem csi_built_wf_any (ms d : Nat) (hd : d ≤ 10) (hgeom : ms + 3 * d ≤ 62)
    (version : Nat) (hver : version = 1 ∨ version = 2) (aux : List UInt8) (haux : aux.length < 2147483648)
    (recs : List Csi.CRec) (hlen : recs.length < 2147483647)
    (hrid : ∀ r, r ∈ recs → r.rid < 2147483647)
    (hoff : ∀ r, r ∈ recs → OffOK r.chunk.b ∧ OffOK r.chunk.e) :
    CWF (Csi.addAll Coord.reg2bin { aux := aux, version := version, minShift := ms, depth := d } recs).1 :=
  csi_any_cwf _ hd hgeom ⟨rfl, rfl, rfl⟩ hver haux recs hlen hrid hoff

/-- `read_write` for a BUILT CSI index without the `CWF` hypothesis: whatever sequence of `Add` calls built the
index, `ReadFrom (WriteTo i)` is its canonical form and writing that again gives identical bytes -/
theorem csi_built_read_write (ms d : Nat) (hd : d ≤ 10) (hgeom : ms + 3 * d ≤ 62)
    (version : Nat) (hver : version = 1 ∨ version = 2) (aux : List UInt8) (haux : aux.length < 2147483648)
    (recs : List Csi.CRec) (hlen : recs.length < 2147483647)
    (hrid : ∀ r, r ∈ recs → r.rid < 2147483647)
    (hoff : ∀ r, r ∈ recs → OffOK r.chunk.b ∧ OffOK r.chunk.e) :
    let i := (Csi.addAll Coord.reg2bin { aux := aux, version := version, minShift := ms, depth := d } recs).1
    readCsi (writeCsi i) = .ok (normCsi i) ∧ writeCsi (normCsi i) = writeCsi i :=
  ⟨readCsi_writeCsi _ (csi_built_wf_any ms d hd hgeom version hver aux haux recs hlen hrid hoff), writeCsi_norm _⟩

/-- the same statement for every geometry `csi.New`, `Add`, `WriteTo` AND `ReadFrom` accept (minShift + 3·depth ≤ 62,
depth up to 20), i.e. without `depth ≤ 10` -/
def csi_built_read_write_full : Prop :=
  ∀ (ms d : Nat), ms + 3 * d ≤ 62 → ∀ (version : Nat), version = 1 ∨ version = 2 →
    ∀ (aux : List UInt8), aux.length < 2147483648 → ∀ (recs : List Csi.CRec), recs.length < 2147483647 →
      (∀ r, r ∈ recs → r.rid < 2147483647) → (∀ r, r ∈ recs → OffOK r.chunk.b ∧ OffOK r.chunk.e) →
      readCsi (writeCsi (Csi.addAll Coord.reg2bin { aux := aux, version := version, minShift := ms, depth := d } recs).1)
        = .ok (normCsi (Csi.addAll Coord.reg2bin { aux := aux, version := version, minShift := ms, depth := d } recs).1)

/-- one record on `csi.New(1, 11)`: `[1227133516, 1227133517)` gets bin 613566756 + 613566758 = 1227133514 (the level
offset is the wrapped `uint32` value), which is the statistics pseudo-bin number of depth 11 -/
def exCsiDeep : List Csi.CRec := [⟨0, 1227133516, 1227133517, ⟨0, 100⟩, true, true⟩]

/-- `depth ≤ 10` cannot be dropped: at depth 11 the `uint32` bin numbers wrap and a real bin gets the number of the
statistics pseudo-bin; the index `Add` and `WriteTo` accept does not read back (the real `ReadFrom` answers
"malformed dummy bin header") -/
theorem csi_built_read_write_witness : ¬ csi_built_read_write_full := by
  intro hfull
  have h := hfull 1 11 (by decide) 2 (Or.inr rfl) [] (by decide) exCsiDeep (by decide) (by decide) (by decide)
  generalize hi : (Csi.addAll Coord.reg2bin { aux := [], version := 2, minShift := 1, depth := 11 } exCsiDeep).1 = i at h
  have wf := readCsi_wf h
  obtain ⟨e1, e2, e3, e4⟩ : i.refs = [⟨[⟨1227133514, 0, 1, [⟨0, 100⟩]⟩], some ⟨⟨0, 100⟩, 1, 0⟩⟩] ∧
      i.isSorted = false ∧ i.version = 2 ∧ i.depth = 11 := by subst hi; decide
  have hm : (⟨[⟨1227133514, 0, 1, [⟨0, 100⟩]⟩], some ⟨⟨0, 100⟩, 1, 0⟩⟩ : Csi.CRef) ∈ (normCsi i).refs := by
    simp [normCsi, Csi.sort, Csi.sortRef, sortChunks, e1, e2, e3]
  have hb := wf.bounds _ hm
  have := (hb.bins ⟨1227133514, 0, 1, [⟨0, 100⟩]⟩ (by simp)).2.1
  have e5 : (normCsi i).depth = 11 := e4
  rw [e5] at this
  exact this (by decide)

/-- `stats_true` (`internal.Index`, hence BAI and tabix): after any coordinate-sorted sequence, for
every reference the statistics are the true ones of the placed records of that reference (first
chunk begin, last chunk end, number of mapped and unmapped records; no statistics iff no record), the
unplaced counter is the number of unplaced records (absent iff nothing was added) and the reference
count is the last placed record's reference id + 1 -/
theorem stats_true (recs : List Rec) (h : SortedInput recs) :
    (∀ (j : Nat) (ref : RefIndex), (addAll {} recs).1.refs[j]? = some ref →
        ref.stats = specStats ((recs.filter (·.placed)).filter (fun a => decide (a.rid = (j : Int))))) ∧
    (recs ≠ [] → (addAll {} recs).1.unmapped = some (recs.countP (fun r => !r.placed))) ∧
    (recs = [] → (addAll {} recs).1.unmapped = none) ∧
    (∀ l, (recs.filter (·.placed)).getLast? = some l → ((addAll {} recs).1.refs.length : Int) = l.rid + 1) ∧
    (recs.filter (·.placed) = [] → (addAll {} recs).1.refs = []) := by
  obtain ⟨h1, h2, h3⟩ := (addAll_sorted recs h).2.refs.ofInput
  exact ⟨fun j ref hj => by rw [(h1 j ref hj).stats, statsOf_spec, List.reverse_reverse]; rfl,
    addAll_unmapped_fresh recs h, fun he => by subst he; rfl, h2, h3⟩

/-- `stats_true` for CSI (every geometry): per-reference statistics, unplaced counter and reference
count of an index built from a coordinate-sorted sequence are the true ones -/
theorem csi_stats_true (ms d : Nat) (_hgeom : ms + 3 * d ≤ 62) (recs : List Csi.CRec) (h : Csi.CSortedInput ms d recs) :
    (∀ (j : Nat) (ref : Csi.CRef), (Hts.Props.C04.csiBuilt ms d recs).refs[j]? = some ref →
        ref.stats = Csi.specStatsC ((recs.filter (·.placed)).filter (fun a => decide (a.rid = (j : Int))))) ∧
    (recs ≠ [] → (Hts.Props.C04.csiBuilt ms d recs).unmapped = some (recs.countP (fun r => !r.placed))) ∧
    (∀ l, (recs.filter (·.placed)).getLast? = some l →
        ((Hts.Props.C04.csiBuilt ms d recs).refs.length : Int) = l.rid + 1) ∧
    (recs.filter (·.placed) = [] → (Hts.Props.C04.csiBuilt ms d recs).refs = []) := by
  obtain ⟨h1, h2, h3⟩ := (Hts.Props.C04.csi_inv ms d recs h).2.2.2.refs.ofInput
  refine ⟨fun j ref hj => by rw [(h1 j ref hj).stats, Csi.statsOfC_spec, List.reverse_reverse]; rfl, fun hne => ?_, h2, h3⟩
  have := Csi.addAll_unmapped Coord.reg2bin ms d recs (Hts.Props.C04.csiNew ms d) rfl rfl
    (fun r hr => ⟨(h.ok r hr).vstart, (h.ok r hr).vstop⟩) hne
  unfold Hts.Props.C04.csiBuilt
  rw [this]; simp [umCount, Hts.Props.C04.csiNew]

/-- a well-formed index with two references, statistics, a sparse tile array and a trailer -/
def exIdx : Index :=
  { refs := [ ⟨[⟨4681, [⟨100, 150⟩]⟩, ⟨585, [⟨150, 200⟩]⟩], some ⟨⟨100, 200⟩, 2, 0⟩, [100, 150]⟩, {} ],
    unmapped := some 1, isSorted := false, lastRecord := 16000 }

example : WF exIdx :=
  wf_of_unsorted _ rfl (by decide)
    (by
      intro r hr
      simp only [exIdx, List.mem_cons, List.mem_nil_iff, or_false] at hr
      rcases hr with rfl | rfl <;>
        exact ⟨by decide, by decide, fun s hs => by cases hs <;> decide, by decide, by decide⟩)
    (by intro n hn; cases hn; decide)

example : exIdx.refs ≠ [] := by decide

/-- `CWF` is inhabited by a non-trivial index: the (4,2) CSI index of `C04.exCsi` (records on two
references, a skipped id, a record over two finest bins, an unplaced record) -/
example : CWF (Hts.Props.C04.csiBuilt 4 2 Hts.Props.C04.exCsi) :=
  csi_built_wf 4 2 (by decide) (by decide) 2 (Or.inr rfl) [] (by simp) Hts.Props.C04.exCsi (by decide) (by decide)
    (by decide) (by decide)

/-- … and so is `TWF`: the tabix index of `C04.exTbx` (two named references, an unplaced line naming a third) -/
example : TWF (Hts.Props.C04.tbxBuilt {} Hts.Props.C04.exTbx) :=
  tabix_built_wf {} headerFieldsOK_default Hts.Props.C04.exTbx
    (by decide) (by decide) (by decide) (by decide) (by decide)

/-- an EMPTY reference name (a lone NUL in the name block) is inside the quantifier of `tabix_read_write` and
`tabix_roundtrip_built`: names `["c", "", "d"]` -/
def exTbxEmptyName : List Tabix.TRec :=
  [ ⟨[99], 100, 200, ⟨0, 150⟩, true, true⟩, ⟨[], 5, 40000, ⟨150, 200⟩, true, true⟩,
    ⟨[100], 7, 9, ⟨200, 250⟩, true, false⟩ ]
example : (Hts.Props.C04.tbxBuilt {} exTbxEmptyName).names = [[99], [], [100]] := by decide
example : readTabix (writeTabix (Hts.Props.C04.tbxBuilt {} exTbxEmptyName)) =
    .ok (normTabix (Hts.Props.C04.tbxBuilt {} exTbxEmptyName)) :=
  (tabix_roundtrip_built {} headerFieldsOK_default exTbxEmptyName
    (by decide) (by decide) (by decide) (by decide) (by decide)).1
/-- the single-name list `[""]` -/
example : readTabix (writeTabix (Hts.Props.C04.tbxBuilt {} [⟨[], 5, 9, ⟨0, 10⟩, true, true⟩])) =
    .ok (normTabix (Hts.Props.C04.tbxBuilt {} [⟨[], 5, 9, ⟨0, 10⟩, true, true⟩])) :=
  (tabix_roundtrip_built {} headerFieldsOK_default _
    (by decide) (by decide) (by decide) (by decide) (by decide)).1

/-- a version-1 CSI index with auxiliary bytes is representable as well -/
example : CWF (Csi.addAll Coord.reg2bin { aux := [1, 2, 3], version := 1, minShift := 4, depth := 2 }
    Hts.Props.C04.exCsi).1 :=
  csi_built_wf 4 2 (by decide) (by decide) 1 (Or.inl rfl) [1, 2, 3] (by decide) Hts.Props.C04.exCsi (by decide)
    (by decide) (by decide) (by decide)

/-- `csi.New(2, 1)` (positions 0 … 30, bins 0 … 8 of width 4): a call sequence that is NOT coordinate sorted and mostly
rejected, and that uses EVERY bin of the geometry — a placed record with start −1 and end 0 (`-1 >> 2 = -1` on both
sides: bin `1 + uint32(-1) = 0`; rejected for position order after its bin was entered, as are the calls in descending
order that follow the last leaf bin), a record with end before start and a chunk with end before begin, an unplaced
record, a record on an earlier reference (rejected for reference order), a reference further on, an out-of-range
end (rejected) -/
def exCsiAny : List Csi.CRec :=
  [ ⟨1, -1, 0, ⟨10, 20⟩, true, true⟩, ⟨1, 28, 30, ⟨20, 30⟩, true, true⟩, ⟨1, 24, 25, ⟨30, 40⟩, true, false⟩,
    ⟨1, 20, 21, ⟨40, 50⟩, true, true⟩, ⟨1, 16, 19, ⟨50, 60⟩, true, true⟩, ⟨1, 12, 13, ⟨60, 70⟩, true, true⟩,
    ⟨1, 8, 9, ⟨70, 80⟩, true, true⟩, ⟨1, 4, 5, ⟨80, 90⟩, true, true⟩, ⟨1, 0, 1, ⟨90, 100⟩, true, true⟩,
    ⟨1, 9, 2, ⟨100, 90⟩, true, true⟩, ⟨-1, -1, -1, ⟨100, 110⟩, false, false⟩, ⟨0, 3, 4, ⟨110, 120⟩, true, true⟩,
    ⟨3, 0, 30, ⟨120, 130⟩, true, true⟩, ⟨3, 28, 31, ⟨130, 140⟩, true, true⟩ ]

def exCsiAnyBuilt : Csi.CIndex × List AddRes :=
  Csi.addAll Coord.reg2bin { aux := [7], version := 2, minShift := 2, depth := 1 } exCsiAny

/-- the sequence is outside `CSortedInput`, several calls are rejected … -/
example : ¬ Csi.CSortedInput 2 1 exCsiAny := by decide
example : exCsiAnyBuilt.2 = [.errPosOrder, .ok, .errPosOrder, .errPosOrder, .errPosOrder, .errPosOrder, .errPosOrder,
    .errPosOrder, .errPosOrder, .errPosOrder, .ok, .errRefOrder, .ok, .errRange] := by decide
set_option maxRecDepth 100000 in
/-- … reference 1 holds all nine bins of the geometry and statistics: the bound of `csi_built_bin_count` is attained
(`nBins = binLimit + 1 = 10`) -/
example : (exCsiAnyBuilt.1.refs.map (fun r => (r.bins.map (·.bin), r.stats.isSome))) =
    [([], false), ([0, 8, 7, 6, 5, 4, 3, 2, 1], true), ([], false), ([0], true)] ∧ csiBinLimit 1 + 1 = 10 := by decide
/-- … and the hypotheses of `csi_built_wf_any`/`csi_built_read_write` hold of it -/
example : CWF exCsiAnyBuilt.1 :=
  csi_built_wf_any 2 1 (by decide) (by decide) 2 (Or.inr rfl) [7] (by decide) exCsiAny (by decide) (by decide)
    (by decide)
example : readCsi (writeCsi exCsiAnyBuilt.1) = .ok (normCsi exCsiAnyBuilt.1) :=
  (csi_built_read_write 2 1 (by decide) (by decide) 2 (Or.inr rfl) [7] (by decide) exCsiAny (by decide) (by decide)
    (by decide)).1
example : ∀ ref, ref ∈ exCsiAnyBuilt.1.refs → ref.bins.length + (if ref.stats.isSome then 1 else 0) ≤ csiBinLimit 1 + 1 :=
  fun ref href => (csi_built_bin_count 2 1 (by decide) 2 [7] exCsiAny ref href).2.2
/-- `csi_reg2bin_lt_binLimit` at the edges: start −1, the last valid position, an end before the start -/
example : Coord.reg2bin (-1) 0 2 1 = 0 ∧ Coord.reg2bin 28 30 2 1 = 8 ∧ Coord.reg2bin 9 2 2 1 = 0 ∧
    Coord.reg2bin (-1) 0 14 5 = 4680 ∧ csiBinLimit 5 = 37449 := by decide
/-- the depth-11 witness record is accepted by `Add` -/
example : (Csi.addAll Coord.reg2bin { aux := [], version := 2, minShift := 1, depth := 11 } exCsiDeep).2 = [.ok] := by
  decide

end Hts.Props.C15
