/-
C18 — bam.Merger output is a loss-free, ordered merge re-linked to the merged header.
The model (Hts.Model.Merger) is the Merger as repaired by fixes/C18-1 … C18-6.

Every statement is for any number of inputs of any lengths, any records, any failure points, any link
table, and any implementation `H` of the heap that satisfies the laws of `Heap`.
Reading of the hypotheses: `hm` — NewMerger succeeded and returned `m`; `hr` — calling Read until it
returns an error gave the records `out` (each with the id of the input it came from) and the error `fin`.

  linksOf linkFn inputs   m.refLinks (none for a single input: the merged header is that input's header)
  srcsOf inputs           the inputs' record streams with their ids 0, 1, …
  lessOf custom inputs    m.less as NewMerger chooses it from the sort order (none = concatenation)
  deliveredBy …           all records the inputs deliver (up to their failure points), in input order,
                          each tagged with its input id and re-linked to the merged header
  tagged links i rs       the records `rs` of input `i` in that form: (i, re-linked record)   (Lemmas/MergerSorted)
  SortedBy lt l           no element of `l` is below an earlier one                            (Lemmas/MergerSorted)
  pairLess less           the heap's order on such pairs: by `less`, ties by input id          (Lemmas/MergerOrder)
-/
import Hts.Lemmas.MergerTop
import Hts.Lemmas.MergerHeaderBridge
namespace Hts.Props.C18
open Hts.Model.Merger

variable (H : Heap) {custom : Option Less} {linkFn : LinkFn} {inputs : List Input} {m : Merger}
  {out : List (Nat × Rec)} {fin : Option Term}

/-- the merged stream ends: size + 1 calls of Read reach the final error -/
theorem merge_terminates (hm : newMerger custom (some linkFn) inputs = .ok m) :
    ∃ out t, m.readAll H = (out, some t) := by
  cases hr : m.readAll H with
  | mk out fin =>
    cases hl : lessOf custom inputs with
    | none => obtain ⟨_, rfl⟩ := readAll_cat H hm hr hl; exact ⟨_, _, rfl⟩
    | some less => obtain ⟨t, rfl, _⟩ := readAll_sorted H hm hr hl; exact ⟨_, _, rfl⟩

/-- when merging by a sort order (whatever the inputs do), or when concatenating inputs that all end
cleanly: the output is a permutation of the records the inputs deliver -/
theorem merge_perm (hm : newMerger custom (some linkFn) inputs = .ok m) (hr : m.readAll H = (out, fin))
    (h : (lessOf custom inputs).isSome ∨ ∀ inp, inp ∈ inputs → inp.src.term = .eof) :
    out.Perm (deliveredBy linkFn inputs) := by
  cases hl : lessOf custom inputs with
  | some less =>
    obtain ⟨t, _, hrun⟩ := readAll_sorted H hm hr hl
    exact hrun.init_perm
  | none =>
    obtain ⟨rfl, _⟩ := readAll_cat H hm hr hl
    rw [hl] at h
    rw [catSpec_clean _ _ ((forall_srcsOf_term inputs _).2 (h.resolve_left (by simp)))]
    exact .refl _

/-- in every mode, also with failing inputs: nothing is returned that no input delivered -/
theorem merge_nothing_else (hm : newMerger custom (some linkFn) inputs = .ok m) (hr : m.readAll H = (out, fin)) :
    ∀ p, p ∈ out → p ∈ deliveredBy linkFn inputs := by
  cases hl : lessOf custom inputs with
  | some less =>
    obtain ⟨t, _, hrun⟩ := readAll_sorted H hm hr hl
    exact fun p hp => hrun.init_perm.subset hp
  | none =>
    obtain ⟨rfl, _⟩ := readAll_cat H hm hr hl
    exact fun p hp => (catSpec_prefix _ _).subset hp

/-- spelled out: a returned record is a record its input delivers IN FRONT OF that input's first error
(`Src.rest`), re-linked; what a reader would deliver after a record-level error (`Src.later`) is never
returned, in any mode -/
theorem merge_returns_only_records_in_front_of_errors (hm : newMerger custom (some linkFn) inputs = .ok m)
    (hr : m.readAll H = (out, fin)) :
    ∀ p, p ∈ out → ∃ inp r, inputs[p.1]? = some inp ∧ r ∈ inp.src.rest ∧
      p.2 = relink (linksOf linkFn inputs) p.1 r := by
  intro p hp
  obtain ⟨i, s, r, hmem, hrm, rfl⟩ := (mem_delivered _ _ p).1 (merge_nothing_else H hm hr p hp)
  obtain ⟨inp, hget, rfl⟩ := (mem_srcsOf inputs i s).1 hmem
  exact ⟨inp, r, hget, hrm, rfl⟩

/-- concatenation mode (sort order unsorted, or unknown with a nil less), all inputs ending cleanly: the output is
the inputs one after the other -/
theorem merge_concatenates (hm : newMerger custom (some linkFn) inputs = .ok m) (hr : m.readAll H = (out, fin))
    (hl : lessOf custom inputs = none) (hc : ∀ inp, inp ∈ inputs → inp.src.term = .eof) :
    out = deliveredBy linkFn inputs ∧ fin = some .eof := by
  obtain ⟨rfl, rfl⟩ := readAll_cat H hm hr hl
  rw [catSpec_clean _ _ ((forall_srcsOf_term inputs _).2 hc)]
  exact ⟨rfl, rfl⟩

/-- with a failing input the output is an initial part of that concatenation -/
theorem merge_concatenation_prefix (hm : newMerger custom (some linkFn) inputs = .ok m) (hr : m.readAll H = (out, fin))
    (hl : lessOf custom inputs = none) : out <+: deliveredBy linkFn inputs := by
  obtain ⟨rfl, _⟩ := readAll_cat H hm hr hl
  exact catSpec_prefix _ _

/-- precisely: concatenation stops at the first failing input — the output is everything of the inputs in
front of it followed by what it delivers, and the error returned is its error -/
theorem merge_concatenation_stops_at_first_error (hm : newMerger custom (some linkFn) inputs = .ok m)
    (hr : m.readAll H = (out, fin)) (hl : lessOf custom inputs = none) (e : Nat) (hf : fin = some (.err e)) :
    ∃ pre p post, srcsOf inputs = pre ++ p :: post ∧ (∀ q, q ∈ pre → q.2.term = .eof) ∧ p.2.term = .err e ∧
      out = delivered (linksOf linkFn inputs) (pre ++ [p]) := by
  obtain ⟨rfl, rfl⟩ := readAll_cat H hm hr hl
  exact catSpec_split _ _ e (Option.some.inj hf)

/-- if `less` is a strict weak order and every input (re-linked) is sorted by it, the output is sorted by
`less` with ties between inputs resolved by input id — the order of the heap -/
theorem merge_sorted_ties {less : Less} (hm : newMerger custom (some linkFn) inputs = .ok m) (hr : m.readAll H = (out, fin))
    (hl : lessOf custom inputs = some less) (sw : StrictWeak less)
    (hs : ∀ i s, (i, s) ∈ srcsOf inputs → SortedBy less (s.rest.map (relink (linksOf linkFn inputs) i))) :
    SortedBy (pairLess less) out := by
  obtain ⟨t, _, hrun⟩ := readAll_sorted H hm hr hl
  exact hrun.init_sorted sw hs

theorem merge_sorted {less : Less} (hm : newMerger custom (some linkFn) inputs = .ok m) (hr : m.readAll H = (out, fin))
    (hl : lessOf custom inputs = some less) (sw : StrictWeak less)
    (hs : ∀ i s, (i, s) ∈ srcsOf inputs → SortedBy less (s.rest.map (relink (linksOf linkFn inputs) i))) :
    SortedBy less (out.map (·.2)) :=
  List.pairwise_map.2 ((merge_sorted_ties H hm hr hl sw hs).imp fun h => ((pairLess_eq_false_iff less _ _).1 h).1)

/-- the relative order of the records of one input is preserved: the records of input `i` in the
output are an initial part of what input `i` delivers, and all of it when merging by a sort order or
when the merged stream ended with io.EOF -/
theorem merge_stable_per_input (hm : newMerger custom (some linkFn) inputs = .ok m) (hr : m.readAll H = (out, fin))
    (i : Nat) (s : Src) (hi : (i, s) ∈ srcsOf inputs) :
    out.filter (fun p => p.1 == i) <+: tagged (linksOf linkFn inputs) i s.rest ∧
    ((lessOf custom inputs).isSome ∨ fin = some .eof →
      out.filter (fun p => p.1 == i) = tagged (linksOf linkFn inputs) i s.rest) := by
  cases hl : lessOf custom inputs with
  | some less =>
    obtain ⟨t, _, hrun⟩ := readAll_sorted H hm hr hl
    have h := hrun.init_filter (srcsOf_nodup inputs) hi
    exact ⟨h ▸ List.prefix_refl _, fun _ => h⟩
  | none =>
    have hfd := filter_delivered (linksOf linkFn inputs) (srcsOf inputs) (srcsOf_nodup inputs) i s hi
    obtain ⟨rfl, rfl⟩ := readAll_cat H hm hr hl
    refine ⟨hfd ▸ (catSpec_prefix _ _).filter _, fun h => ?_⟩
    rw [catSpec_clean _ _ (catSpec_eof _ _ (Option.some.inj (h.resolve_left (by simp))))]
    exact hfd

/-- the error that ends the merged stream, when it is not io.EOF, is the read error of an input -/
theorem merge_error_is_an_inputs (hm : newMerger custom (some linkFn) inputs = .ok m) (hr : m.readAll H = (out, fin))
    (e : Nat) (hf : fin = some (.err e)) : ∃ inp, inp ∈ inputs ∧ inp.src.term = .err e := by
  subst hf
  cases hl : lessOf custom inputs with
  | some less =>
    obtain ⟨_, ⟨⟩, hrun⟩ := readAll_sorted H hm hr hl
    exact exists_srcsOf_term hrun.init_fin_err
  | none =>
    obtain ⟨pre, p, post, hsplit, _, hp, _⟩ :=
      catSpec_split _ _ e (Option.some.inj (readAll_cat H hm hr hl).2).symm
    exact exists_srcsOf_term ⟨p, hsplit ▸ List.mem_append_right _ List.mem_cons_self, hp⟩

/-- io.EOF only after all inputs ended cleanly — and then every record of every input has been returned -/
theorem merge_eof_only_after_all (hm : newMerger custom (some linkFn) inputs = .ok m) (hr : m.readAll H = (out, fin))
    (hf : fin = some .eof) :
    (∀ inp, inp ∈ inputs → inp.src.term = .eof) ∧ out.Perm (deliveredBy linkFn inputs) := by
  subst hf
  rw [← forall_srcsOf_term]
  cases hl : lessOf custom inputs with
  | some less =>
    obtain ⟨_, ⟨⟩, hrun⟩ := readAll_sorted H hm hr hl
    exact ⟨hrun.init_fin_eof, hrun.init_perm⟩
  | none =>
    obtain ⟨rfl, ht⟩ := readAll_cat H hm hr hl
    have hall := catSpec_eof _ _ (Option.some.inj ht).symm
    exact ⟨hall, by rw [catSpec_clean _ _ hall]; exact .refl _⟩

/-- an input's read error is reported, not dropped: if some input fails, the merged stream ends with the
read error of a failing input -/
theorem merge_reports_error (hm : newMerger custom (some linkFn) inputs = .ok m) (hr : m.readAll H = (out, fin))
    (he : ∃ inp, inp ∈ inputs ∧ inp.src.term ≠ .eof) :
    ∃ e, fin = some (.err e) ∧ ∃ inp, inp ∈ inputs ∧ inp.src.term = .err e := by
  obtain ⟨out', t, ht⟩ := merge_terminates H hm
  obtain ⟨_, rfl⟩ := Prod.mk.inj (hr.symm.trans ht)
  cases t with
  | eof =>
    obtain ⟨inp, hi, hne⟩ := he
    exact absurd ((merge_eof_only_after_all H hm hr rfl).1 inp hi) hne
  | err e => exact ⟨e, rfl, merge_error_is_an_inputs H hm hr e rfl⟩

/-- when merging by a sort order, a failing input does not cost the records that could be read: they
are all returned before the error -/
theorem merge_sorted_returns_all_readable (hm : newMerger custom (some linkFn) inputs = .ok m)
    (hr : m.readAll H = (out, fin)) (hl : (lessOf custom inputs).isSome) :
    out.Perm (deliveredBy linkFn inputs) := merge_perm H hm hr (Or.inl hl)

/-- what bam.Reader.Read guarantees: Ref and MateRef of a record are references of its own header -/
def RefsInRange (srcRefs : List (List Name)) (inputs : List Input) : Prop :=
  ∀ (i : Nat) (inp : Input), inputs[i]? = some inp → ∃ names : List Name, srcRefs[i]? = some names ∧
    ∀ r : Rec, r ∈ inp.src.rest →
      (∀ x, r.ref = some x → x < names.length) ∧ (∀ x, r.mate = some x → x < names.length)

/-- reference `o` of an output record is nil if the source record's was, and otherwise a reference of
the merged header whose name is the name of the source record's reference in the source header -/
def OwnedAs (names merged : List Name) (src o : Option Nat) : Prop :=
  match src with
  | none => o = none
  | some x => ∃ y, o = some y ∧ y < merged.length ∧ merged[y]? = names[x]?

/-- references: every returned record's Ref and MateRef belong to the merged header, under the name they had in the
source.  `LinksOK` (Hts.Lemmas.MergerTop) is the law assumed of the link table; `links_law_from_C07` below derives it
from the theorem C07 proves about sam.MergeHeaders. -/
theorem merge_refs_owned (srcRefs : List (List Name)) (merged : List Name)
    (hm : newMerger custom (some linkFn) inputs = .ok m) (hr : m.readAll H = (out, fin))
    (hl : LinksOK srcRefs merged (linksOf linkFn inputs)) (hw : RefsInRange srcRefs inputs) :
    ∀ p, p ∈ out → ∃ inp names r, inputs[p.1]? = some inp ∧ srcRefs[p.1]? = some names ∧ r ∈ inp.src.rest ∧
      p.2.name = r.name ∧ p.2.pos = r.pos ∧ p.2.matePos = r.matePos ∧ p.2.uid = r.uid ∧
      OwnedAs names merged r.ref p.2.ref ∧ OwnedAs names merged r.mate p.2.mate := by
  rintro ⟨i, q⟩ hp
  obtain ⟨inp, r, hget, hrm, (rfl : q = relink _ i r)⟩ := merge_returns_only_records_in_front_of_errors H hm hr _ hp
  obtain ⟨names, hnames, hrange⟩ := hw i inp hget
  obtain ⟨hrr, hrmate⟩ := hrange r hrm
  have hlk := hl i names hnames
  refine ⟨inp, names, r, hget, hnames, hrm, ?_⟩
  have own : ∀ (o : Option Nat) (f : Nat → Nat), (∀ x, o = some x → x < names.length) →
      (∀ x, x < names.length → f x < merged.length ∧ merged[f x]? = names[x]?) → OwnedAs names merged o (o.map f) := by
    intro o f ho hf
    cases o with
    | none => rfl
    | some x => exact ⟨f x, rfl, hf x (ho x rfl)⟩
  cases hlinks : linksOf linkFn inputs with
  | none =>
    -- a single input: `relink none` leaves the record as it is, so its references are `r.ref.map id`
    rw [hlinks] at hlk
    exact ⟨rfl, rfl, rfl, rfl, by simpa [relink] using own r.ref id hrr hlk,
      by simpa [relink] using own r.mate id hrmate hlk⟩
  | some l =>
    rw [hlinks] at hlk
    exact ⟨rfl, rfl, rfl, rfl, own r.ref (l i) hrr hlk, own r.mate (l i) hrmate hlk⟩

/-- the law `LinksOK` is not a free assumption: for two or more sources it follows from what property C07
proves about its model of sam.MergeHeaders (`Hts.Model.Header.mergeHeaders_ok`, C07's `LinksOk` over a heap
of reference objects), with `linkFnOf` = the ID of the reference object a link points to and the reference
names read off the same world (`w.hdrs.length` is the handle of the merged header, the new last header); the sources'
name lists are unchanged by the merge -/
theorem links_law_from_C07 {w w' : Hts.Model.Header.World} (hw : Hts.Model.Header.WInv w) {srcs : List Nat}
    {ls : List (List Nat)} (hs : ∀ s ∈ srcs, s < w.hdrs.length)
    (hmh : Hts.Model.Header.mergeHeaders w srcs = (w', .ok, ls)) :
    LinksOK (srcs.map (refNames w'.refs)) (refNames w'.refs w.hdrs.length) (some (linkFnOf w'.refs ls)) ∧
    ∀ s ∈ srcs, refNames w'.refs s = refNames w.refs s := by
  obtain ⟨hk, hl, hsame⟩ := Hts.Model.Header.mergeHeaders_ok hw hs hmh
  exact ⟨linksOK_of_header_LinksOk hk hl, fun s hs' => by unfold refNames; rw [hsame s hs']⟩

/-- sort order queryname merges by record name, bytewise -/
theorem queryname_uses_name_order (i0 : Input) (tl : List Input) (h : i0.so = .queryname) :
    lessOf custom (i0 :: tl) = some lessByName := by rw [lessOf, h]; rfl

/-- sort order coordinate merges by `lessByCoordinate` on the re-linked records … -/
theorem coordinate_uses_coordinate_order (i0 : Input) (tl : List Input) (h : i0.so = .coordinate) :
    lessOf custom (i0 :: tl) = some lessByCoordinate := by rw [lessOf, h]; rfl

/-- … which is: unplaced records last, then by the index of the reference in the header the records are
linked to — for the heads of the heap and for the output that is the merged header — then by position -/
theorem coordinate_order_spec (a b : Rec) :
    lessByCoordinate a b = true ↔ keyLt (coordKey a) (coordKey b) := lessByCoordinate_iff_key a b

/-- unsorted, and unknown without a less function, concatenate; unknown with a less function uses it -/
theorem unsorted_concatenates (i0 : Input) (tl : List Input) (h : i0.so = .unsorted) :
    lessOf custom (i0 :: tl) = none := by rw [lessOf, h]; rfl

theorem unknown_uses_custom (i0 : Input) (tl : List Input) (h : i0.so = .unknown) :
    lessOf custom (i0 :: tl) = custom := by rw [lessOf, h]; rfl

theorem name_order_strict_weak : StrictWeak lessByName := lessByName_strictWeak

theorem coordinate_order_strict_weak : StrictWeak lessByCoordinate := lessByCoordinate_strictWeak

/-- the order of the heap (less, then input id) is a strict weak order whenever less is: the
hypothesis under which container/heap returns a minimal element -/
theorem heap_order_strict_weak (less : Less) (sw : StrictWeak less) : StrictWeak (heapLess less) :=
  heapLess_strictWeak less sw

/-- sorted by the coordinate key: no record's key is below that of an earlier record -/
def KeySorted (l : List Rec) : Prop := l.Pairwise fun a b => ¬ keyLt (coordKey b) (coordKey a)

/-- coordinate order: if every input, re-linked to the merged header, is sorted by (merged reference
index, position) with unplaced records last, so is the output -/
theorem merge_sorted_coordinate (i0 : Input) (tl : List Input) (hso : i0.so = .coordinate)
    (hm : newMerger custom (some linkFn) (i0 :: tl) = .ok m) (hr : m.readAll H = (out, fin))
    (hs : ∀ i s, (i, s) ∈ srcsOf (i0 :: tl) → KeySorted (s.rest.map (relink (linksOf linkFn (i0 :: tl)) i))) :
    KeySorted (out.map (·.2)) := by
  refine (merge_sorted H hm hr (coordinate_uses_coordinate_order i0 tl hso) lessByCoordinate_strictWeak
    fun i s hi => ?_).imp (lessByCoordinate_eq_false_iff _ _).1
  exact (hs i s hi).imp (lessByCoordinate_eq_false_iff _ _).2

/-- an input sorted by its own header's coordinate order is sorted with respect to the merged header
if its references keep their relative order in the merged header -/
theorem relinked_sorted_of_monotone (l : LinkFn) (i : Nat) (rs : List Rec)
    (hmono : ∀ x y, x < y → l i x < l i y) (hs : KeySorted rs) :
    KeySorted (rs.map (relink (some l) i)) := by
  unfold KeySorted at *
  rw [List.pairwise_map]
  exact hs.imp fun h hk => h (keyLt_of_keyLt_relink hmono hk)

/-- when merging by a strict weak order the output does not depend on the heap implementation: any two
heaps satisfying the `Heap` laws give the same records in the same order and the same final error
(the heap order is total on the heads of distinct inputs, so the minimal head is unique) -/
theorem merge_heap_independent (H1 H2 : Heap) {less : Less} (hm : newMerger custom (some linkFn) inputs = .ok m)
    (hl : lessOf custom inputs = some less) (sw : StrictWeak less) : m.readAll H1 = m.readAll H2 := by
  cases hr₁ : m.readAll H1 with
  | mk out₁ fin₁ =>
    cases hr₂ : m.readAll H2 with
    | mk out₂ fin₂ =>
      obtain ⟨t₁, rfl, hrun₁⟩ := readAll_sorted H1 hm hr₁ hl
      obtain ⟨t₂, rfl, hrun₂⟩ := readAll_sorted H2 hm hr₂ hl
      obtain ⟨rfl, rfl⟩ := hrun₁.unique sw hrun₂ (.refl _) ((initHeads_ids _ _).nodup (srcsOf_nodup inputs))
      rfl

/-- complete characterisation of the sorted modes: a list that is sorted by (less, input id), contains
for every input exactly that input's records in that input's order, and nothing of any other id, IS the
output — `merge_sorted_ties` and `merge_stable_per_input` leave no freedom -/
theorem merge_is_the_stable_merge {less : Less} (hm : newMerger custom (some linkFn) inputs = .ok m)
    (hr : m.readAll H = (out, fin)) (hl : lessOf custom inputs = some less) (sw : StrictWeak less)
    (hs : ∀ i s, (i, s) ∈ srcsOf inputs → SortedBy less (s.rest.map (relink (linksOf linkFn inputs) i)))
    (spec : List (Nat × Rec)) (h1 : SortedBy (pairLess less) spec)
    (h2 : ∀ i s, (i, s) ∈ srcsOf inputs →
      spec.filter (fun p => p.1 == i) = tagged (linksOf linkFn inputs) i s.rest)
    (h3 : ∀ p, p ∈ spec → ∃ s, (p.1, s) ∈ srcsOf inputs) : spec = out := by
  obtain ⟨t, _, hrun⟩ := readAll_sorted H hm hr hl
  refine sorted_stable_unique less spec out h1 (hrun.init_sorted sw hs) fun i => ?_
  by_cases hi : ∃ s, (i, s) ∈ srcsOf inputs
  · obtain ⟨s, hs'⟩ := hi
    rw [h2 i s hs', hrun.init_filter (srcsOf_nodup inputs) hs']
  · -- no input has the id `i`, so neither list holds a record tagged with it
    rw [hrun.init_filter_any (srcsOf_nodup inputs) i, filter_delivered_absent _ _ i fun s h => hi ⟨s, h⟩]
    exact List.filter_eq_nil_iff.2 fun p hp hpi => hi (beq_iff_eq.1 hpi ▸ h3 p hp)

/-- once Read has returned an error it returns the same error, and no record, on every later call -/
theorem read_after_final (m m' : Merger) (t : Term) (h : m.read H = (.fin t, m')) :
    m'.read H = (.fin t, m') := by
  obtain ⟨links, mode⟩ := m
  cases mode with
  | cat rs err =>
    obtain ⟨h1, rfl⟩ := Prod.mk.inj ((read_cat ..).symm.trans h)
    rw [read_cat, catRead_fin_again (Prod.ext h1 rfl)]
  | sorted less heap err =>
    obtain ⟨h1, rfl⟩ := Prod.mk.inj ((read_sorted ..).symm.trans h)
    rw [read_sorted, sortedRead_fin_again (Prod.ext h1 rfl)]

/-- NewMerger fails with io.EOF exactly when there is no input … -/
theorem newMerger_fails_without_input (merged : Option LinkFn) :
    newMerger custom merged inputs = .error .noSource ↔ inputs = [] := by
  cases inputs with
  | nil => exact ⟨fun _ => rfl, fun _ => rfl⟩
  | cons i0 tl =>
    rw [newMerger_cons]
    refine ⟨fun h => ?_, fun h => by cases h⟩
    split at h
    · -- one sort order: success, or the header merge's error (`if tl = [] … else match merged`: four cases)
      cases tl <;> cases merged <;> cases h
    · -- another sort order among the inputs: sortOrderMismatch
      cases h

/-- … with "sort order mismatch" exactly when some input declares another sort order than the first … -/
theorem newMerger_fails_on_mismatch (merged : Option LinkFn) :
    newMerger custom merged inputs = .error .sortOrderMismatch ↔
      ∃ i0 tl, inputs = i0 :: tl ∧ ∃ inp, inp ∈ inputs ∧ inp.so ≠ i0.so := by
  cases inputs with
  | nil => exact ⟨nofun, nofun⟩
  | cons i0 tl =>
    rw [newMerger_cons]
    split
    · -- every input has the sort order of the first: no mismatch is reported
      rename_i hall
      refine ⟨fun h => ?_, fun ⟨_, _, heq, inp, hi, hne⟩ => by cases heq; exact absurd (hall inp hi) hne⟩
      cases tl <;> cases merged <;> cases h
    · -- not every input has it: the mismatch is reported, and some input witnesses it
      rename_i hall
      refine ⟨fun _ => ⟨i0, tl, rfl, ?_⟩, fun _ => rfl⟩
      obtain ⟨inp, h⟩ := Classical.not_forall.1 hall
      exact ⟨inp, Classical.not_imp.1 h⟩

/-- … and with the error of sam.MergeHeaders exactly when that failed (`merged = none`) for two or more
inputs of one sort order; there is no other failure -/
theorem newMerger_fails_on_header_merge (merged : Option LinkFn) :
    newMerger custom merged inputs = .error .headerMerge ↔
      merged = none ∧ 2 ≤ inputs.length ∧ ∃ i0 tl, inputs = i0 :: tl ∧ ∀ inp, inp ∈ inputs → inp.so = i0.so := by
  cases inputs with
  | nil => exact ⟨nofun, nofun⟩
  | cons i0 tl =>
    rw [newMerger_cons]
    split
    · -- one sort order: the header merge decides, and only for two or more inputs
      rename_i hall
      cases tl with
      | nil => exact ⟨nofun, fun ⟨_, h, _⟩ => absurd h (Nat.not_succ_le_self 1)⟩
      | cons i1 tl =>
        cases merged with
        | none => exact ⟨fun _ => ⟨rfl, Nat.le_add_left _ _, i0, _, rfl, hall⟩, fun _ => rfl⟩
        | some l => exact ⟨nofun, nofun⟩
    · -- a mismatch is reported before the header merge is looked at
      rename_i hall
      exact ⟨nofun, fun ⟨_, _, _, _, heq, h⟩ => by cases heq; exact absurd h hall⟩

/-- for a single input the header merge is not consulted (sam.MergeHeaders returns that header and nil links) -/
theorem newMerger_single_ignores_header (merged merged' : Option LinkFn) (i0 : Input) :
    newMerger custom merged [i0] = newMerger custom merged' [i0] := by
  rw [newMerger_cons, newMerger_cons]
  rfl

/-- for a strict weak order, sortedness is the same as "no record is below its predecessor" (which is
what the oracle of the check evaluates on the implementation's output) -/
theorem sorted_iff_neighbours_sorted {α : Type} (lt : α → α → Bool) (sw : StrictWeak lt) (l : List α) :
    AdjSorted lt l ↔ SortedBy lt l := by
  induction l with
  | nil => exact ⟨fun _ => .nil, fun _ => trivial⟩
  | cons a l ih =>
    cases l with
    | nil => exact ⟨fun _ => List.pairwise_singleton _ _, fun _ => trivial⟩
    | cons b rest =>
      unfold SortedBy at ih ⊢
      rw [AdjSorted, ih, List.pairwise_cons (a := a)]
      refine and_congr_left fun hs => ⟨fun hba c hc => ?_, fun h => h b List.mem_cons_self⟩
      cases hc with
      | head => exact hba
      | tail _ hc => exact sw.negTrans _ _ _ ((List.pairwise_cons.1 hs).1 c hc) hba

/-- the heap laws are satisfiable: the executable heap -/
example : Heap := scanHeap

def rA (n : Nat) (ref : Option Nat) (pos : Int) (mate : Option Nat) (uid : Nat) : Rec :=
  { name := [n], ref := ref, pos := pos, mate := mate, matePos := 0, uid := uid }

/-- two coordinate sorted inputs with headers [z, a] and [a, c] (merged [z, a, c]), the second failing
after its second record; mates on other references, an unplaced record -/
def exInputs : List Input :=
  [ { so := .coordinate, src := { rest := [rA 1 (some 0) 5 (some 1) 0, rA 2 (some 1) 5 none 1, rA 3 none (-1) none 2], term := .eof } },
    { so := .coordinate, src := { rest := [rA 4 (some 0) 4 (some 1) 0, rA 5 (some 1) 1 (some 0) 1], term := .err 7 } } ]

def exLink : LinkFn := fun i x => if i = 0 then x else x + 1

example : (match newMerger none (some exLink) exInputs with
    | .ok m => (m.readAll scanHeap).1.map (fun p => (p.1, p.2.uid, p.2.ref, p.2.mate))
    | .error _ => []) =
    [(0, 0, some 0, some 1), (1, 0, some 1, some 2), (0, 1, some 1, none), (1, 1, some 2, some 1), (0, 2, none, none)] := by
  decide +kernel

example : (match newMerger none (some exLink) exInputs with
    | .ok m => (m.readAll scanHeap).2
    | .error _ => none) = some (.err 7) := by decide +kernel

example : LinksOK [[[122], [97]], [[97], [99]]] [[122], [97], [99]] (linksOf exLink exInputs) := by
  intro i names hn x hx
  match i, hn with
  | 0, hn => cases hn; match x, hx with
    | 0, _ => decide
    | 1, _ => decide
  | 1, hn => cases hn; match x, hx with
    | 0, _ => decide
    | 1, _ => decide
  | i + 2, hn => cases hn

example : ∀ i s, (i, s) ∈ srcsOf exInputs → KeySorted (s.rest.map (relink (linksOf exLink exInputs) i)) := by
  intro i s h
  obtain ⟨inp, hget, rfl⟩ := (mem_srcsOf exInputs i s).1 h
  unfold KeySorted keyLt
  match i, hget with
  | 0, hi => cases hi; decide
  | 1, hi => cases hi; decide
  | i + 2, hi => cases hi

example : StrictWeak (fun a b : Rec => decide (a.pos < b.pos)) :=
  .of_key (R := fun a b : Int => a < b) (·.pos) (fun _ _ => decide_eq_true_iff) Int.lt_irrefl Int.lt_trans
    int_lt_negTrans


/-! Non-vacuity with three inputs: every hypothesis-carrying theorem is instantiated.

Scenario A — three coordinate-sorted inputs with headers [z, a], [a, c], [z, c] (merged [z, a, c]) and
interleaved keys, a tie between inputs 0 and 2 on (z, 5), an unplaced record, mates on other references;
input 1 returns a record-level error (not sticky: one more record follows it) after three records. -/

def aSrc1 : Src :=
  { rest := [rA 4 (some 0) 1 (some 1) 0, rA 5 (some 0) 7 none 1, rA 6 (some 1) 0 (some 0) 2], term := .err 7,
    later := [([rA 7 (some 1) 9 none 4], .eof)] }

def aInputs : List Input :=
  [ { so := .coordinate, src := { rest := [rA 1 (some 0) 5 (some 1) 0, rA 2 (some 1) 2 none 1, rA 3 none (-1) (some 0) 2], term := .eof } },
    { so := .coordinate, src := aSrc1 },
    { so := .coordinate, src := { rest := [rA 8 (some 0) 1 none 0, rA 9 (some 0) 5 (some 1) 1, rA 10 (some 1) 3 (some 1) 2], term := .eof } } ]

def aLink : LinkFn := fun i x => if i = 0 then x else if i = 1 then x + 1 else 2 * x

def aM : Merger :=
  match newMerger none (some aLink) aInputs with
  | .ok m => m
  | .error _ => { links := none, mode := .cat [] none }

def aOut : List (Nat × Rec) := (aM.readAll scanHeap).1
def aFin : Option Term := (aM.readAll scanHeap).2

def a_hm : newMerger none (some aLink) aInputs = .ok aM := rfl
def a_hr : aM.readAll scanHeap = (aOut, aFin) := rfl
def a_hl : lessOf none aInputs = some lessByCoordinate := rfl

/-- what comes out: (input, uid, merged Ref, merged MateRef); the record behind the error (uid 4) does not -/
example : aOut.map (fun p => (p.1, p.2.uid, p.2.ref, p.2.mate)) =
    [(2, 0, some 0, none), (0, 0, some 0, some 1), (2, 1, some 0, some 2), (1, 0, some 1, some 2), (0, 1, some 1, none),
     (1, 1, some 1, none), (1, 2, some 2, some 1), (2, 2, some 2, some 2), (0, 2, none, some 0)] := by decide +kernel
example : aFin = some (.err 7) := by decide +kernel

def a_hs : ∀ i s, (i, s) ∈ srcsOf aInputs →
    SortedBy lessByCoordinate (s.rest.map (relink (linksOf aLink aInputs) i)) := by
  intro i s h
  simp [srcsOf, enumFrom, aInputs] at h
  rcases h with ⟨rfl, rfl⟩ | ⟨rfl, rfl⟩ | ⟨rfl, rfl⟩ <;>
    simp [SortedBy, relink, linksOf, aInputs, aSrc1, aLink, rA, lessByCoordinate]

def a_hkey : ∀ i s, (i, s) ∈ srcsOf aInputs → KeySorted (s.rest.map (relink (linksOf aLink aInputs) i)) := by
  intro i s h
  simp [srcsOf, enumFrom, aInputs] at h
  rcases h with ⟨rfl, rfl⟩ | ⟨rfl, rfl⟩ | ⟨rfl, rfl⟩ <;>
    simp [KeySorted, relink, linksOf, aInputs, aSrc1, aLink, rA, keyLt, coordKey]

def aSrcRefs : List (List Name) := [[[122], [97]], [[97], [99]], [[122], [99]]]
def aMerged : List Name := [[122], [97], [99]]

def a_links : LinksOK aSrcRefs aMerged (linksOf aLink aInputs) := by
  intro i names hn x hx
  match i, hn with
  | 0, hn => simp [aSrcRefs] at hn; subst hn; match x, hx with
    | 0, _ => decide
    | 1, _ => decide
  | 1, hn => simp [aSrcRefs] at hn; subst hn; match x, hx with
    | 0, _ => decide
    | 1, _ => decide
  | 2, hn => simp [aSrcRefs] at hn; subst hn; match x, hx with
    | 0, _ => decide
    | 1, _ => decide
  | i + 3, hn => simp [aSrcRefs] at hn

def a_range : RefsInRange aSrcRefs aInputs := by
  intro i inp hi
  match i, hi with
  | 0, hi => simp [aInputs] at hi; subst hi; exact ⟨_, rfl, by simp [rA]⟩
  | 1, hi => simp [aInputs] at hi; subst hi; exact ⟨_, rfl, by simp [rA, aSrc1]⟩
  | 2, hi => simp [aInputs] at hi; subst hi; exact ⟨_, rfl, by simp [rA]⟩
  | i + 3, hi => simp [aInputs] at hi

/-- the theorems applied to scenario A: all their hypotheses hold together -/
example : aOut.Perm (deliveredBy aLink aInputs) := merge_perm scanHeap a_hm a_hr (Or.inl rfl)
example : SortedBy (pairLess lessByCoordinate) aOut :=
  merge_sorted_ties scanHeap a_hm a_hr a_hl lessByCoordinate_strictWeak a_hs
example : SortedBy lessByCoordinate (aOut.map (·.2)) :=
  merge_sorted scanHeap a_hm a_hr a_hl lessByCoordinate_strictWeak a_hs
example : KeySorted (aOut.map (·.2)) := merge_sorted_coordinate scanHeap _ _ rfl a_hm a_hr a_hkey
example : aOut.filter (fun p => p.1 == 1) = tagged (linksOf aLink aInputs) 1 aSrc1.rest :=
  (merge_stable_per_input scanHeap a_hm a_hr 1 aSrc1 ((mem_srcsOf aInputs 1 aSrc1).2 ⟨_, rfl, rfl⟩)).2 (Or.inl rfl)
example : ∃ inp, inp ∈ aInputs ∧ inp.src.term = .err 7 :=
  merge_error_is_an_inputs scanHeap a_hm a_hr 7 (by decide +kernel)
example : ∃ e, aFin = some (.err e) ∧ ∃ inp, inp ∈ aInputs ∧ inp.src.term = .err e :=
  merge_reports_error scanHeap a_hm a_hr ⟨_, List.mem_cons_of_mem _ List.mem_cons_self, by simp [aSrc1]⟩
example : ∀ p, p ∈ aOut → ∃ inp names r, aInputs[p.1]? = some inp ∧ aSrcRefs[p.1]? = some names ∧ r ∈ inp.src.rest ∧
      p.2.name = r.name ∧ p.2.pos = r.pos ∧ p.2.matePos = r.matePos ∧ p.2.uid = r.uid ∧
      OwnedAs names aMerged r.ref p.2.ref ∧ OwnedAs names aMerged r.mate p.2.mate :=
  merge_refs_owned scanHeap aSrcRefs aMerged a_hm a_hr a_links a_range
example : aM.readAll scanHeap = aM.readAll scanHeapR :=
  merge_heap_independent scanHeap scanHeapR a_hm a_hl lessByCoordinate_strictWeak
example (spec : List (Nat × Rec)) (h1 : SortedBy (pairLess lessByCoordinate) spec)
    (h2 : ∀ i s, (i, s) ∈ srcsOf aInputs → spec.filter (fun p => p.1 == i) = tagged (linksOf aLink aInputs) i s.rest)
    (h3 : ∀ p, p ∈ spec → ∃ s, (p.1, s) ∈ srcsOf aInputs) : spec = aOut :=
  merge_is_the_stable_merge scanHeap a_hm a_hr a_hl lessByCoordinate_strictWeak a_hs spec h1 h2 h3
/-- … and the hypotheses of `merge_is_the_stable_merge` about `spec` are satisfiable: by the output itself -/
example : SortedBy (pairLess lessByCoordinate) aOut ∧
    (∀ i s, (i, s) ∈ srcsOf aInputs → aOut.filter (fun p => p.1 == i) = tagged (linksOf aLink aInputs) i s.rest) ∧
    (∀ p, p ∈ aOut → ∃ s, (p.1, s) ∈ srcsOf aInputs) :=
  ⟨merge_sorted_ties scanHeap a_hm a_hr a_hl lessByCoordinate_strictWeak a_hs,
   fun i s hi => (merge_stable_per_input scanHeap a_hm a_hr i s hi).2 (Or.inl rfl),
   fun p hp => by
     obtain ⟨j, s, r, hmem, _, rfl⟩ := (mem_delivered _ _ p).1 (merge_nothing_else scanHeap a_hm a_hr p hp)
     exact ⟨s, hmem⟩⟩
/-- `relinked_sorted_of_monotone`: input 1 (header [a, c]) sorted by its own header, links 0 ↦ 1, 1 ↦ 2 monotone -/
example : KeySorted ([rA 4 (some 0) 1 (some 1) 0, rA 5 (some 0) 7 none 1, rA 6 (some 1) 0 (some 0) 2].map (relink (some aLink) 1)) :=
  relinked_sorted_of_monotone aLink 1 _ (fun _ _ h => Nat.succ_lt_succ h) (by unfold KeySorted keyLt; decide)

/-- positions are integers: a placed record without a position (Pos = -1, SAM POS 0) sorts before every other
position of its reference, in front of the next reference, and an unplaced record (also Pos = -1) after all -/
example : lessByCoordinate (rA 1 (some 0) (-1) none 0) (rA 2 (some 0) 0 none 1) = true ∧
    lessByCoordinate (rA 2 (some 0) 0 none 1) (rA 1 (some 0) (-1) none 0) = false ∧
    lessByCoordinate (rA 2 (some 0) 2147483647 none 1) (rA 1 (some 1) (-1) none 0) = true ∧
    lessByCoordinate (rA 1 (some 1) (-1) none 0) (rA 3 none (-1) none 2) = true ∧
    lessByCoordinate (rA 3 none (-1) none 2) (rA 1 (some 0) (-1) none 0) = false := by decide
example : keyLt (coordKey (rA 1 (some 0) (-1) none 0)) (coordKey (rA 2 (some 0) 0 none 1)) :=
  (coordinate_order_spec _ _).1 (by decide)

/-! Scenario B — three unsorted inputs, concatenated; all end cleanly.
Scenario C — the same with the second input returning a record-level error (not sticky) after its first record. -/

def bInputs : List Input :=
  [ { so := .unsorted, src := { rest := [rA 3 (some 1) 9 none 0, rA 1 (some 0) 2 (some 1) 1], term := .eof } },
    { so := .unsorted, src := { rest := [rA 2 (some 0) 5 none 0, rA 2 none (-1) none 1], term := .eof } },
    { so := .unsorted, src := { rest := [rA 1 (some 1) 1 (some 0) 0], term := .eof } } ]

def cInputs : List Input :=
  [ { so := .unsorted, src := { rest := [rA 3 (some 1) 9 none 0, rA 1 (some 0) 2 (some 1) 1], term := .eof } },
    { so := .unsorted, src := { rest := [rA 2 (some 0) 5 none 0], term := .err 4, later := [([rA 2 none (-1) none 2], .eof)] } },
    { so := .unsorted, src := { rest := [rA 1 (some 1) 1 (some 0) 0], term := .err 9 } } ]

def bM : Merger := match newMerger none (some aLink) bInputs with | .ok m => m | .error _ => { links := none, mode := .cat [] none }
def cM : Merger := match newMerger none (some aLink) cInputs with | .ok m => m | .error _ => { links := none, mode := .cat [] none }
def b_hm : newMerger none (some aLink) bInputs = .ok bM := rfl
def c_hm : newMerger none (some aLink) cInputs = .ok cM := rfl
def b_hr : bM.readAll scanHeap = ((bM.readAll scanHeap).1, (bM.readAll scanHeap).2) := rfl
def c_hr : cM.readAll scanHeap = ((cM.readAll scanHeap).1, (cM.readAll scanHeap).2) := rfl

example : (bM.readAll scanHeap).1.map (fun p => (p.1, p.2.uid)) = [(0, 0), (0, 1), (1, 0), (1, 1), (2, 0)] := by decide +kernel
example : (cM.readAll scanHeap).1.map (fun p => (p.1, p.2.uid)) = [(0, 0), (0, 1), (1, 0)] := by decide +kernel
example : (cM.readAll scanHeap).2 = some (.err 4) := by decide +kernel

example : (bM.readAll scanHeap).1 = deliveredBy aLink bInputs ∧ (bM.readAll scanHeap).2 = some .eof :=
  merge_concatenates scanHeap b_hm b_hr rfl (by simp [bInputs])
example : (∀ inp, inp ∈ bInputs → inp.src.term = .eof) ∧ (bM.readAll scanHeap).1.Perm (deliveredBy aLink bInputs) :=
  merge_eof_only_after_all scanHeap b_hm b_hr (by decide +kernel)
example : (cM.readAll scanHeap).1 <+: deliveredBy aLink cInputs :=
  merge_concatenation_prefix scanHeap c_hm c_hr rfl
example : ∃ pre p post, srcsOf cInputs = pre ++ p :: post ∧ (∀ q, q ∈ pre → q.2.term = .eof) ∧ p.2.term = .err 4 ∧
      (cM.readAll scanHeap).1 = delivered (linksOf aLink cInputs) (pre ++ [p]) :=
  merge_concatenation_stops_at_first_error scanHeap c_hm c_hr rfl 4 (by decide +kernel)
/-- `read_after_final` on scenario C: after the record-level error of input 1 the merger is asked again -/
example : ∀ m1, (cM.advance scanHeap 3).read scanHeap = (.fin (.err 4), m1) → m1.read scanHeap = (.fin (.err 4), m1) :=
  fun m1 h => read_after_final scanHeap _ m1 _ h
example : ∃ m1, (cM.advance scanHeap 3).read scanHeap = (.fin (.err 4), m1) := ⟨_, rfl⟩

end Hts.Props.C18
