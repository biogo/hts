/-
C02 — virtual offsets address the flat stream: property theorems.

Model: `Hts.Model.Bgzf.Reader` (bgzf/reader.go Read/ReadByte/Seek/nextBlock, cache.go block), a file being the list
of its members (payload, compressed size).  Specification: `Hts.Spec.Flat` (a flat byte string, a logical position).
All statements are for every well-formed file (any number of members, payloads of 0..65535 bytes, with or without
trailing empty members/EOF marker), every history (any length) of Read(n)/ReadByte/Seek/Blocked toggles whose seeks
go to a block start plus an offset up to the block's length.
-/
import Hts.Lemmas.ReaderSteps
import Hts.Lemmas.ReaderLTSMain
import Hts.Lemmas.ReaderLTSFile
import Hts.Lemmas.ReaderOverLTSCall
import Hts.Lemmas.Reader64
namespace Hts.Props.C02
open Hts.Model.Bgzf Hts.Spec.Flat

/-- **Refinement.** For every well-formed file and every valid history, what the reader model returns per
operation — the bytes, the error, and `LastChunk()` after the call — is what the flat specification
returns: the bytes of the flat copy at the logical position implied by the history, `io.EOF` exactly when
the data (in Blocked mode: the block) ended, `Begin`/`End` the offsets before/after the bytes. -/
theorem read_refines_flat (F : File) (hwf : WF F) (r0 : Reader) (h0 : Reader.new F = .ok r0)
    (ops : List Op) (hv : ValidOps (layoutOf F) ops) :
    (r0.run ops).map Reader.observe = (run (flatOf F) init ops).map observeFlat :=
  run_refines hwf (sim_new h0) hv

/-- **The repaired `txOffset()` (fixes/C02-1).**  `Model/BgzfReader64.lean` is the reader model with `txOffset()` as
repaired: behind the last byte of a block holding 65536 bytes (where the 16-bit in-block offset has wrapped) it is
`(NextBase, 0)`.  On every well-formed file (payloads below 65536 bytes) the repaired reader is the reader of
`read_refines_flat` for every history, valid or not — output and reader state per operation — so it refines the flat
specification too.  A member of exactly 65536 payload bytes is outside `WF` and outside every theorem of this file;
there `run64` is the executable model the implementation is compared with. -/
theorem repaired_reader_refines_flat (F : File) (hwf : WF F) (r0 : Reader) (h0 : Reader.new F = .ok r0)
    (ops : List Op) (hv : ValidOps (layoutOf F) ops) :
    r0.run64 ops = r0.run ops ∧
    (r0.run64 ops).map Reader.observe = (run (flatOf F) init ops).map observeFlat := by
  have h := run64_eq_run ops r0 (small_new hwf h0)
  exact ⟨h, by rw [h]; exact read_refines_flat F hwf r0 h0 ops hv⟩

/-- The only error a valid history ever sees is `io.EOF`: the model's fuel bounds are never hit, nothing
panics, no seek fails. -/
theorem errors_are_eof_only (F : File) (hwf : WF F) (r0 : Reader) (h0 : Reader.new F = .ok r0)
    (ops : List Op) (hv : ValidOps (layoutOf F) ops) :
    ∀ p ∈ r0.run ops, p.1.err = none ∨ p.1.err = some .eof := by
  intro p hp
  have h := read_refines_flat F hwf r0 h0 ops hv
  have hm : Reader.observe p ∈ (r0.run ops).map Reader.observe := List.mem_map_of_mem hp
  rw [h] at hm
  obtain ⟨o, _, ho⟩ := List.mem_map.mp hm
  have : p.1.err = errOf o.eof := (congrArg (·.2.1) ho).symm
  rw [this]; exact errOf_cases _

/-- In the flat specification a read returns bytes of the flat copy starting at the logical position. -/
theorem flat_read_exact (F : FlatFile) (s : State) (n : Nat) :
    ∃ m, m ≤ n ∧ (Hts.Spec.Flat.read F s n).bytes = (F.bytes.drop s.pos).take m := by
  by_cases hp : total F.layout ≤ s.pos
  · exact ⟨0, Nat.zero_le _, by simp [flat_read_eof F s n hp]⟩
  · exact ⟨_, Nat.min_le_left _ _, by rw [flat_read_data F s n (Nat.not_le.mp hp)]⟩

/-- … it is short or empty only together with `io.EOF` … -/
theorem flat_short_only_with_eof {F : FlatFile} (hF : F.WF) (s : State) (n : Nat)
    (h : (Hts.Spec.Flat.read F s n).bytes.length < n) : (Hts.Spec.Flat.read F s n).eof = true := by
  by_cases hp : total F.layout ≤ s.pos
  · simp [flat_read_eof F s n hp]
  · have hlt : s.pos < total F.layout := Nat.not_le.mp hp
    have ⟨_, hr1⟩ := s.rem_bounds F hlt
    rw [flat_read_data F s n hlt] at h ⊢
    simp only [List.length_take, List.length_drop, hF.length] at h
    simp only [decide_eq_true_eq]
    omega

/-- … and `io.EOF` is reported exactly at the end of the data or when more was requested than the data
(Blocked: the block that holds the position) still holds. -/
theorem flat_eof_iff (F : FlatFile) (s : State) (n : Nat) :
    (Hts.Spec.Flat.read F s n).eof = true ↔
      total F.layout ≤ s.pos ∨
      (if s.blocked then blockRem F.layout s.pos else total F.layout - s.pos) < n := by
  by_cases hp : total F.layout ≤ s.pos
  · simp [flat_read_eof F s n hp, hp]
  · simp [Hts.Spec.Flat.read, hp]

/-- After each successful read `Begin` and `End` translate to the logical positions just before and just
after the bytes returned; `Begin` is a seek target. -/
theorem lastchunk_translates {F : FlatFile} (hF : F.WF) (s : State) (n : Nat)
    (hok : (Hts.Spec.Flat.read F s n).eof = false ∨ (Hts.Spec.Flat.read F s n).bytes ≠ []) :
    seekTarget F.layout (Hts.Spec.Flat.read F s n).st.last.bgn = some s.pos ∧
    toLogical F.layout (Hts.Spec.Flat.read F s n).st.last.fin =
      some (s.pos + (Hts.Spec.Flat.read F s n).bytes.length) ∧
    (Hts.Spec.Flat.read F s n).st.pos = s.pos + (Hts.Spec.Flat.read F s n).bytes.length := by
  have hlt := flat_read_ok_lt F s n hok
  have ⟨hr0, hr1⟩ := s.rem_bounds F hlt
  rw [flat_read_data F s n hlt]
  have hlen : ((F.bytes.drop s.pos).take (min n (s.rem F))).length = min n (s.rem F) := by
    simp [hF.length]; omega
  have hbgn := seekTarget_offBefore hF.layout hlt
  simp only [hlen]
  refine ⟨hbgn, ?_, trivial⟩
  by_cases hn : n = 0
  · simpa [hn] using toLogical_of_seekTarget hbgn
  · rw [if_neg hn]
    by_cases hc : s.rem F < n ∧ (!s.blocked) = true
    · -- the data ended: `End` is `(fileLen, 0)`
      have hrem : s.rem F = total F.layout - s.pos := by
        have hb : s.blocked = false := by simpa using hc.2
        simp [State.rem, hb]
      rw [if_pos hc, toLogical_fileLen hF.layout]; congr 1; omega
    · rw [if_neg hc]
      exact toLogical_of_seekTarget (seekTarget_offAfter hF.layout (by omega) (by omega))

/-- **Replay.** After any valid history, if a `Read(n)` succeeds (no error, or some bytes), then seeking to
the reported `Begin` succeeds and the same `Read(n)` returns the same bytes, the same error and the same
chunk again. -/
theorem seek_begin_replays (F : File) (hwf : WF F) (r0 : Reader) (h0 : Reader.new F = .ok r0)
    (ops : List Op) (hv : ValidOps (layoutOf F) ops) (n : Nat)
    (hok : ((r0.after ops).read n).2.2 = none ∨ ((r0.after ops).read n).2.1 ≠ []) :
    (((r0.after ops).read n).1.seek ((r0.after ops).read n).1.lastChunk.bgn).2 = none ∧
    ((((r0.after ops).read n).1.seek ((r0.after ops).read n).1.lastChunk.bgn).1.read n).2 =
      ((r0.after ops).read n).2 ∧
    ((((r0.after ops).read n).1.seek ((r0.after ops).read n).1.lastChunk.bgn).1.read n).1.lastChunk =
      ((r0.after ops).read n).1.lastChunk := by
  have hsim := sim_after hwf (sim_new h0) hv
  generalize r0.after ops = r at *
  generalize stateAfter (flatOf F) init ops = s at *
  obtain ⟨r1, heq, hs1⟩ := sim_read hwf hsim n
  rw [heq] at hok ⊢
  have hok' := hok.imp_left errOf_eq_none
  have ⟨ht, _, _⟩ := lastchunk_translates (flatOf_wf hwf) s n hok'
  -- the seek goes back to the position of the read, in the same mode: the second read is the first
  simp only [hs1.last]
  obtain ⟨r2, hsk, hs2⟩ := sim_seek hwf hs1 _ _ ht
  obtain ⟨r3, heq3, hs3⟩ := sim_read hwf hs2 n
  rw [flat_read_replay _ s n _ (flat_read_ok_lt _ s n hok')] at heq3 hs3
  rw [hsk, heq3]
  exact ⟨rfl, rfl, hs3.last⟩

/-! ### The read-ahead protocol (rd > 1, no cache)

`Hts.Model.ReadAhead` (Model/ReaderLTS.lean) is the worker/consumer protocol of the cache-free reader at HEAD
as a transition system with an executable step function: the worker loop of `NewReader` (including "wait on
`control` while next < 0"), `nextBlock` with its synchronous fall-back, all paths of `Seek`, `Close`.  Every
member load may fail (`cfg.faults`, chosen by the label), so the statements hold for every pattern of I/O
faults of the underlying reader, and without faults.  They are for **every** configuration with rd ≥ 2 and a
file whose member sizes are positive (`Cfg.OK`), every consumer script (any sequence of nextBlock calls —
i.e. of Read/ReadByte —, Seeks to any offset, valid or not, Close) and every interleaving of the two threads.
The tie to the code is trace inclusion: the harness replays the member loads and API markers observed on the
real reader against `next` (`c02.lts`). -/

open Hts.Model Hts.Model.ReadAhead in
/-- The `panic("bgzf: unexpected block")` branch of `nextBlock` is unreachable. -/
theorem readahead_no_unexpected_block (cfg : Cfg) (hc : cfg.OK) (s : ReadAhead.State) (h : Reachable cfg s) :
    s.cons ≠ .panicked :=
  (inv_reachable hc h).nopanic

open Hts.Model Hts.Model.ReadAhead in
/-- No dead-lock: in every reachable state some thread can step, unless the consumer has run its whole script
(or Close has returned).  With `cfg.faults` this is C09's reader side: no fault pattern makes a call hang. -/
theorem readahead_deadlock_free (cfg : Cfg) (hc : cfg.OK) (s : ReadAhead.State) (h : Reachable cfg s) :
    (∃ l e t, next cfg s l = some (e, t)) ∨ ApiDone s :=
  inv_progress (inv_reachable hc h)

open Hts.Model Hts.Model.ReadAhead in
/-- Every API call returns: while the consumer is inside a call every step of either thread decreases the
measure `mu`, so there is no infinite run inside a call, under any scheduler (no fairness needed); by
`readahead_deadlock_free` the run cannot stop inside a call either. -/
theorem readahead_call_terminates (cfg : Cfg) (hc : cfg.OK) (s t : ReadAhead.State) (l : Label) (e : Option Ev)
    (h : Reachable cfg s) (hs : next cfg s l = some (e, t)) (hin : s.cons ≠ .idle) :
    mu cfg t < mu cfg s :=
  mu_decreases (inv_reachable hc h) hs hin

open Hts.Model Hts.Model.ReadAhead in
/-- Decompressors are neither lost nor duplicated: idle + carrying a block + held by a thread = rd; `working`
never exceeds its capacity (a send on it never blocks for lack of room when the sender holds one). -/
theorem readahead_conservation (cfg : Cfg) (hc : cfg.OK) (s : ReadAhead.State) (h : Reachable cfg s) :
    s.waiting + s.working.length + s.worker.holds + s.cons.holds = cfg.rd ∧ s.working.length ≤ cfg.rd :=
  ⟨(inv_reachable hc h).count, by have := (inv_reachable hc h).count; omega⟩

open Hts.Model Hts.Model.ReadAhead in
/-- In-order delivery: `nextBlock` asks for the base that follows the current block; what a completed
`nextBlock` or `Seek` installs as the current block is the result of a load at exactly the offset asked for —
the member there (`next = chain base`) or a failed load — whichever path delivered it (read-ahead, a block
found in `working`, the synchronous fetch); the call reports success iff the block is a good one. -/
theorem readahead_in_order (cfg : Cfg) (hc : cfg.OK) (s t : ReadAhead.State) (l : Label) (e : Option Ev)
    (h : Reachable cfg s) (hs : next cfg s l = some (e, t)) :
    (∀ b, s.cons = .idle → t.cons = .scan b 0 → s.cur.next = some b) ∧
    (∀ b i ok, s.cons = .scan b i → t.cons = .ret ok →
      t.cur.base = some b ∧ WFBlk cfg.chain t.cur ∧ ok = good t.cur) ∧
    (∀ w ok, s.cons = .send w → t.cons = .ret ok →
      t.cur.base = some w ∧ WFBlk cfg.chain t.cur ∧ ok = good t.cur) := by
  have hi := inv_reachable hc h
  have hwf : WFBlk cfg.chain t.cur := (wf_reachable (Reachable.step h ⟨l, e, hs⟩)).1
  cases l with
  | wk f =>
    -- a step of the worker does not touch the consumer's state
    have hfr := (wkStep_sound hs).frame.1
    refine ⟨fun b h1 h2 => ?_, fun b i ok h1 h2 => ?_, fun w ok h1 h2 => ?_⟩ <;>
    · rw [h1, h2] at hfr; cases hfr
  | api c f =>
    have hst := apiStep_sound hs
    refine ⟨fun b hidle hscan => ?_, fun b i ok hscan hret => ?_, fun w ok hsend hret => ?_⟩
    · rw [hidle] at hst
      cases hst with
      | nextsMore _ he | next _ he => cases hscan; exact he
      | nextsDone | note => exact absurd (hidle.symm.trans hscan) (by simp)
      | _ => cases hscan
    · rw [hscan] at hst
      -- only `scanHit` returns from `scan`; its guard is the base
      cases hst <;> cases hret
      exact ⟨by assumption, hwf, rfl⟩
    · rw [hsend] at hst
      -- only `send` leaves `.send`; it keeps `cur`, whose base `Inv.atSend` gives
      cases hst
      cases hret
      exact ⟨(hi.atSend w hsend).1, hwf, rfl⟩

open Hts.Model Hts.Model.ReadAhead in
/-- Read-ahead refines the sequential reader: without I/O faults, on every path, the block a completed
`nextBlock` installs is `⟨e, chain e⟩` for `e` the base following the previous current block, and the block a
completed (non-trivial) `Seek(off)` installs is `⟨off, chain off⟩` — exactly what the rd = 1 reader loads
synchronously (`Block.load` of `Hts.Model.Bgzf`), whatever the interleaving and however many stale blocks were
in flight. -/
theorem readahead_refines_sequential (cfg : Cfg) (hc : cfg.OK) (hf : cfg.faults = false)
    (s t : ReadAhead.State) (l : Label) (e : Option Ev) (h : Reachable cfg s) (hs : next cfg s l = some (e, t)) :
    (∀ b i ok, s.cons = .scan b i → t.cons = .ret ok → t.cur = ⟨some b, cfg.chain b⟩) ∧
    (∀ w ok, s.cons = .send w → t.cons = .ret ok → t.cur = ⟨some w, cfg.chain w⟩) := by
  have hord := readahead_in_order cfg hc s t l e h hs
  have hex := (exact_reachable hf (Reachable.step h ⟨l, e, hs⟩)).cur
  exact ⟨fun b i ok h1 h2 => blk_eq_of_exact (hord.2.1 b i ok h1 h2).1 hex,
    fun w ok h1 h2 => blk_eq_of_exact (hord.2.2 w ok h1 h2).1 hex⟩

open Hts.Model Hts.Model.ReadAhead in
/-- A path of `n` steps from a reachable state has `n ≤ gmu`: the number of steps any execution of a script of
definite calls (no `nexts`) can take is bounded (counterpart of `C09.writer_path_bounded`). -/
theorem readahead_path_bounded (cfg : Cfg) (hc : cfg.OK) (n : Nat) (s t : ReadAhead.State)
    (hr : Reachable cfg s) (hn : Op.nexts ∉ s.script) (h : StepN cfg n s t) :
    n + gmu cfg t ≤ gmu cfg s := by
  induction h with
  | zero => simp
  | succ hst _ ih =>
    obtain ⟨l, e, hnx⟩ := hst
    have := gmu_decreases (inv_reachable hc hr) hnx hn
    have := ih (Reachable.step hr ⟨l, e, hnx⟩) this.2
    omega

open Hts.Model Hts.Model.ReadAhead in
/-- Every pending call returns: from every reachable state the execution can be continued to a state where the
consumer has returned from the last call of its script (or from Close); maximal paths are finite by
`readahead_path_bounded` and cannot stop elsewhere by `readahead_deadlock_free` (counterpart of
`C09.writer_calls_return`), for every fault pattern. -/
theorem readahead_calls_return (cfg : Cfg) (hc : cfg.OK) (s : ReadAhead.State) (hr : Reachable cfg s)
    (hn : Op.nexts ∉ s.script) : ∃ k u, StepN cfg k s u ∧ ApiDone u :=
  comes_to_done hc (P := fun s => ∃ k u, StepN cfg k s u ∧ ApiDone u)
    (fun s hd => ⟨0, s, .zero, hd⟩)
    (fun _ _ l e hst ⟨k, u, hk, hu⟩ => ⟨k + 1, u, .succ ⟨l, e, hst⟩ hk, hu⟩) hr hn

open Hts.Model Hts.Model.Bgzf Hts.Model.ReadAhead Hts.Spec.Flat in
/-- **Composition (File → Chain).**  For a well-formed file `F`, the protocol over `chainOf F` (defined with the
same `memberAt` as the sequential model) is a covered configuration for every rd ≥ 2, and, without faults, on
every path every completed `nextBlock`/`Seek` installs exactly the protocol view (`blkOf`) of the block the
sequential reader loads at that offset (`Block.load F _ e`: that member with its payload, or the failed block).
`Read`/`ReadByte`/`Seek` compute what they return from the current block only and obtain blocks only through
these two calls, and what the sequential reader returns over the same file is the flat bytes
(first conjunct = `read_refines_flat`): a history with rd > 1 returns the bytes of the flat copy at the logical
position.  (`readahead_bytes_refine_flat` below states this about bytes.  It is proved by a second, independent
argument for "a fault-free call installs `⟨e, chain e⟩`": `call_installs` of Lemmas/ReaderOverLTSCall.lean, from
`Phase` and `exact_reachable`; it uses neither this theorem, nor `readahead_refines_sequential`, nor `Inv`.) -/
theorem readahead_history_returns_flat_bytes (F : File) (hwf : WF F) (r0 : Reader)
    (h0 : Reader.new F = .ok r0) (ops : List Spec.Flat.Op) (hv : ValidOps (layoutOf F) ops)
    (rd : Nat) (hrd : 2 ≤ rd) (script : List ReadAhead.Op) :
    (r0.run ops).map Reader.observe = (run (flatOf F) init ops).map observeFlat ∧
    (Cfg.mk rd (chainOf F) script false).OK ∧
    (∀ (s t : ReadAhead.State) (l : Label) (e : Option Ev),
      Reachable (Cfg.mk rd (chainOf F) script false) s →
      next (Cfg.mk rd (chainOf F) script false) s l = some (e, t) →
      (∀ b i ok b0, s.cons = .scan b i → t.cons = .ret ok → t.cur = blkOf (Block.load F b0 b).1) ∧
      (∀ w ok b0, s.cons = .send w → t.cons = .ret ok → t.cur = blkOf (Block.load F b0 w).1)) := by
  have hok := cfg_ok hwf rd hrd script false
  refine ⟨read_refines_flat F hwf r0 h0 ops hv, hok, fun s t l e hr hs => ?_⟩
  have := readahead_refines_sequential _ hok rfl s t l e hr hs
  exact ⟨fun b i ok b0 h1 h2 => by rw [this.1 b i ok h1 h2, blkOf_load hwf],
    fun w ok b0 h1 h2 => by rw [this.2 w ok h1 h2, blkOf_load hwf]⟩

open Hts.Model Hts.Model.Bgzf Hts.Model.ReadAhead Hts.Spec.Flat in
/-- **rd > 1 returns the flat bytes — as a statement about bytes.**  `Model/ReaderOverLTS.lean` puts the byte-level
code of `Read`/`ReadByte`/`Seek` (the loops of `Model/BgzfReader.lean`, written as a program `gRun r0 ops` that makes
a call where the sequential model loads a block) on top of the protocol: `Over cfg F p s outs t` runs the program
with every `nextBlock()`/`Seek` being the consumer's next script operation followed by ANY path of the LTS (any
interleaving with the worker) up to the consumer's return, the block delivered being the protocol's current block
with the payload of the file at its base.  For every well-formed file, every rd, every script of
nextBlock/Seek/Close operations, every valid history and EVERY such execution without faults from `NewReader`: per
operation the bytes, the error and the reader state (hence `LastChunk()`, `BlockLen()`) are those of the sequential
reader, hence those of the flat specification.  (An execution gets as far as the script agrees with the calls the
history makes; `readahead_bytes_execution_exists` gives the script with which it runs to the end.) -/
theorem readahead_bytes_refine_flat (F : File) (hwf : WF F) (r0 : Reader) (h0 : Reader.new F = .ok r0)
    (ops : List Spec.Flat.Op) (hv : ValidOps (layoutOf F) ops) (rd : Nat) (script : List ReadAhead.Op)
    (hn : ReadAhead.Op.nexts ∉ script) (outs : List (Out × Reader)) (t : ReadAhead.State)
    (h : Over ⟨rd, chainOf F, script, false⟩ F (gRun r0 ops)
      (ReadAhead.init ⟨rd, chainOf F, script, false⟩) outs t) :
    outs = r0.run ops ∧
    outs.map Reader.observe = (run (flatOf F) Spec.Flat.init ops).map observeFlat := by
  obtain ⟨rfl, ht⟩ := over_init_eq_seq hwf h0 hn h
  rw [gRun_seq hwf ops r0 ht]
  exact ⟨rfl, read_refines_flat F hwf r0 h0 ops hv⟩

open Hts.Model Hts.Model.Bgzf Hts.Model.ReadAhead Hts.Spec.Flat in
/-- The same for an ADAPTIVE client (`Client`: each operation chosen from the outputs and reader states seen so far,
as `bam.Reader`, `bam.Iterator` and `index.ChunkReader` do): every execution over the fault-free protocol returns
what the client gets from the sequential reader, and leaves the same reader state. -/
theorem readahead_client_refines_sequential {α : Type} (F : File) (hwf : WF F) (r0 : Reader)
    (h0 : Reader.new F = .ok r0) (c : Client α) (rd : Nat) (script : List ReadAhead.Op)
    (hn : ReadAhead.Op.nexts ∉ script) (res : α × Reader) (t : ReadAhead.State)
    (h : Over ⟨rd, chainOf F, script, false⟩ F (c.prog r0)
      (ReadAhead.init ⟨rd, chainOf F, script, false⟩) res t) :
    res = c.run r0 := by
  obtain ⟨rfl, ht⟩ := over_init_eq_seq hwf h0 hn h
  exact client_seq hwf c r0 ht

open Hts.Model Hts.Model.Bgzf Hts.Model.ReadAhead Hts.Spec.Flat in
/-- **Such executions exist and run to the end.**  For every rd ≥ 2: with the calls the history makes as the
consumer's script (`Prog.calls`; followed by any further operations, e.g. `close`), the history runs over the
protocol to its last operation — every call returns (dead-lock freedom and the global measure; no fairness
assumption) — and by `readahead_bytes_refine_flat` whatever such an execution returns is the sequential
reader's answer. -/
theorem readahead_bytes_execution_exists (F : File) (hwf : WF F) (r0 : Reader) (ops : List Spec.Flat.Op)
    (rd : Nat) (hrd : 2 ≤ rd) (tl : List ReadAhead.Op) (htl : ReadAhead.Op.nexts ∉ tl) :
    ∃ outs t,
      Over ⟨rd, chainOf F, (gRun r0 ops).calls F ⟨some 0, chainOf F 0⟩ ++ tl, false⟩ F (gRun r0 ops)
        (ReadAhead.init ⟨rd, chainOf F, (gRun r0 ops).calls F ⟨some 0, chainOf F 0⟩ ++ tl, false⟩) outs t :=
  over_exists (cfg_ok hwf rd hrd _ false) rfl rfl (gRun r0 ops) _ tl .init rfl rfl htl

open Hts.Model Hts.Model.ReadAhead in
/-- After `Close` has returned the worker goroutine has returned. -/
theorem reader_no_leak (cfg : Cfg) (hc : cfg.OK) (s : ReadAhead.State) (h : Reachable cfg s) (hcl : s.cons = .closed) :
    ∃ held, s.worker = .exited held :=
  (inv_reachable hc h).closed hcl

open Hts.Model Hts.Model.ReadAhead in
/-- Non-vacuity: three members, rd = 2; read ahead, Seek back to the first member while stale blocks are in
flight (synchronous path), nextBlock skips a stale block, Close; the consumer ends in `closed`. -/
example :
    let cfg : Cfg := ⟨2, fun b => if b < 90 ∧ b % 30 = 0 then some (b + 30) else none, [.next, .seek 0, .next, .close], false⟩
    (runLabels cfg (init cfg)
      [.wk false, .wk false, .wk false, .wk false, .wk false, .wk false, .wk false, .wk false,
       .api false false, .api false false, .wk false, .wk false, .wk false, .wk false, .api false false, .api false false,
       .api true false, .api false false, .api false false, .api false false, .wk false, .wk false, .wk false, .wk false,
       .api false false, .api false false, .api false false, .api false false, .api false false, .api false false, .wk false, .wk false,
       .wk false, .wk false, .api false false, .api false false, .api false false, .wk false, .api false false]).map (·.cons) = some .closed := by
  decide

open Hts.Model Hts.Model.ReadAhead in
/-- Non-vacuity with faults: rd = 2, the worker's second load fails (`.wk true`); after `Seek 60` the consumer's
`nextBlock` meets the failed block of another offset and takes the synchronous fall-back (`fetch 90`). -/
example :
    let cfg : Cfg := ⟨2, fun b => if b < 120 ∧ b % 30 = 0 then some (b + 30) else none, [.seek 60, .next, .close], true⟩
    (runLabels cfg (init cfg)
      [.api false false, .api false false, .api false false, .api false false, .wk false, .wk false,
       .api false false, .api false false, .api false false, .wk true, .wk false, .api false false]).map (·.cons) =
      some (.fetch 90) := by
  decide

/-! ### Non-vacuity: the hypotheses are satisfiable by a file with empty members in the middle and at the
end and by a history that seeks, crosses block ends, hits the end of the data and toggles Blocked mode. -/

def exOps : List Op :=
  [.read 2, .read 5, .read 1, .seek ⟨30, 0⟩, .read 1, .setBlocked true, .seek ⟨0, 1⟩, .read 9, .read 9, .readByte]

example : WF exFile := exFile_wf

example : ValidOps (layoutOf exFile) exOps := by
  simp [ValidOps, exOps, layoutOf, exFile, seekTarget]

example : ∃ r0, Reader.new exFile = .ok r0 ∧
    (r0.run exOps).map (fun p => (p.1.bytes, p.1.err)) =
      [([1, 2], none), ([3, 4, 5], some .eof), ([], some .eof), ([], none), ([4], none), ([], none),
       ([], none), ([2, 3], some .eof), ([4, 5], some .eof), ([0], some .eof)] :=
  ⟨_, rfl, by decide⟩

open Hts.Model Hts.Model.ReadAhead in
/-- Non-vacuity of `readahead_bytes_refine_flat`: over `exFile` with rd = 3 the history `exOps` makes these eleven
calls into the protocol; an execution over the protocol with that script (then `close`) exists, and whatever any
such execution returns is the list above. -/
example : ∃ r0, Reader.new exFile = .ok r0 ∧
    (gRun r0 exOps).calls exFile ⟨some 0, chainOf exFile 0⟩ =
      [.next, .next, .next, .next, .seek 30, .next, .seek 0, .next, .next, .next, .next] ∧
    (∃ outs t, Over ⟨3, chainOf exFile, (gRun r0 exOps).calls exFile ⟨some 0, chainOf exFile 0⟩ ++ [.close], false⟩
        exFile (gRun r0 exOps)
        (ReadAhead.init ⟨3, chainOf exFile, (gRun r0 exOps).calls exFile ⟨some 0, chainOf exFile 0⟩ ++ [.close], false⟩)
        outs t) :=
  ⟨_, rfl, by decide, readahead_bytes_execution_exists exFile exFile_wf _ exOps 3 (by decide) [.close] (by simp)⟩

example : (flatOf exFile).WF := flatOf_wf exFile_wf

end Hts.Props.C02
