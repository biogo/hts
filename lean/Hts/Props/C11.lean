/-
C11 — Decoders are total: any bytes give a value or an error, never a panic or a hang; a value that
was returned without error can be passed to the library's accessors without a panic.

What is proved here, for ALL byte strings (no bound on length except where a Go `int32` in the format
itself bounds it — stated explicitly), about the models of Hts.Model.Decoders, which mirror the Go
code with the repairs fixes/C11-*.diff at indexing granularity (every index/slice/make/explicit panic
of the modelled functions is a partial operation of the model):

  D_total   : the decoder model never yields `panic`         (sam.atoi, sam.ParseCigar, sam.ParseAux
              for every behaviour of strconv, bam.parseAux incl. termination of its loop)
  A_safe    : a value the decoder model returned makes no accessor model yield `panic`
              (CIGAR: Consumes/Lengths/End/Len/Bin/IsValid/String; aux: Tag/Type/Kind/Value/String
              and the SAM formatter)

Also D_total for explicit-indexing models of the BAI and tabix readers, the header line parsers,
the BAM record reader, the line handling of `sam.Reader.Read`, BGZF member framing and the CRAM readers
(definition, container, block, slice header, `Block.Value`), and "no panic outcome is reachable" in the
value-level models other properties use for SAM text (C06), the header (C07), the CSI reader (C15) and
FAI (C19).  What is left to the panic-site inventory + search: notes/reports/C11.md.
-/
import Hts.Lemmas.Decoders
import Hts.Lemmas.DecodersIndex
import Hts.Lemmas.DecodersHeader
import Hts.Lemmas.DecodersBam
import Hts.Lemmas.DecodersSam
import Hts.Lemmas.IndexIOCsiRead
import Hts.Lemmas.FaiSane
import Hts.Lemmas.DecodersBgzf
import Hts.Lemmas.CramDec
import Hts.Props.C07
namespace Hts.Props.C11
open Hts.Model.Decoders
open Hts.Model.Decoders.Outcome (ok err)
open Hts.Model.Coord (CigarOp)

/-- `sam.atoi` never panics (`powers[k-i]` stays inside the 13-entry table because longer inputs
are rejected first) -/
theorem atoi_total (b : Bytes) : (atoi b).isPanic = false := (atoi_spec b).isPanic

/-- what `atoi` returns is never negative, which is what keeps `NewCigarOp` from panicking -/
theorem atoi_nonneg (b : Bytes) (n : Int) (h : atoi b = ok n) : 0 ≤ n := (atoi_spec b).of_ok h

/-- `sam.ParseCigar` never panics, for every byte string: not in `atoi`, not in `NewCigarOp` (the
operation-splitting loop is entered with `n ≥ 0` only), and a digit run without an operation is an
error (repair fixes/C11-2) -/
theorem parseCigar_total (b : Bytes) : (parseCigar b).isPanic = false := by
  unfold parseCigar
  split
  · rw [index_of_lt (by omega)]
    dsimp only
    split
    · rfl
    · exact parseOpsFrom_total b b.length 0 [] (by omega)
  · exact parseOpsFrom_total b b.length 0 [] (by omega)

/-- `CigarOpType.Consumes` is total on all 2^32 operation words (repair fixes/C11-1) -/
theorem consumes_total (t : Nat) : (consumesGo t).isPanic = false := by
  rw [consumesGo_eq]; rfl

/-- the two models of `Consumes` (this one with explicit indexing, Hts.Model.Coord's used by C16) agree -/
theorem consumes_models_agree (t : Nat) : consumesGo t = ok v ↔ Hts.Model.Coord.consumes t = some v := by
  rw [consumesGo_eq]
  unfold Hts.Model.Coord.consumes
  constructor
  · intro h; cases h; rfl
  · intro h; cases h; rfl

/-- `CigarOpType.String` indexes `cigarOps` inside its 11 entries for every type -/
theorem opString_total (t : Nat) : (opString t).isPanic = false := by
  obtain ⟨c, h⟩ := Hts.Model.Decoders.opString_total t
  rw [h]; rfl

/-- `Cigar.IsValid`: `c[i-1]` and `c[i+1]` are only evaluated strictly inside the CIGAR -/
theorem isValid_total (c : List CigarOp) (length : Int) : (cigarIsValidGo c length).isPanic = false :=
  (isValidGo_spec c c 0 0 length rfl).isPanic

/-- `Cigar.Lengths` and `Record.End` (hence `Len` and `Bin`, which add no partial operation) written with
`Consumes` as the explicit, bounds-checked table look-up never panic, for EVERY CIGAR including operation
types 10..15, and they compute exactly what the models C16 reasons about compute (whose `Option` results
are therefore always `some`) -/
theorem coord_accessors_total (u : Bool) (pos : Int) (c : List CigarOp) :
    (lengthsGo 0 0 c).isPanic = false ∧ (recordEndGo u pos c).isPanic = false ∧
    Hts.Model.Coord.cigarLengths c = (match lengthsGo 0 0 c with | ok v => some v | _ => none) ∧
    Hts.Model.Coord.recordEnd u pos c = (match recordEndGo u pos c with | ok v => some v | _ => none) := by
  obtain ⟨v, h1, h2⟩ := lengthsGo_spec c 0 0
  obtain ⟨w, e1, e2⟩ := recordEndGo_spec u pos c
  rw [Hts.Model.Coord.cigarLengths, h1, h2, e1, e2]
  exact ⟨rfl, rfl, rfl, rfl⟩

/-- A_safe for `ParseCigar`: whatever it returns can go through every CIGAR accessor -/
theorem parseCigar_accessors_safe (b : Bytes) (c : List CigarOp) (_h : parseCigar b = ok c)
    (u : Bool) (pos length : Int) :
    (cigarIsValidGo c length).isPanic = false ∧ (∀ co ∈ c, (opString co.typ).isPanic = false ∧
      (consumesGo co.typ).isPanic = false) ∧
    (recordEndGo u pos c).isPanic = false ∧ (lengthsGo 0 0 c).isPanic = false :=
  have hc := coord_accessors_total u pos c
  ⟨isValid_total c length, fun co _ => ⟨opString_total co.typ, consumes_total co.typ⟩, hc.2.1, hc.1⟩

/-- `sam.ParseAux` never panics, for every text and every behaviour of `strconv` (the `B` branch as
repaired in /repo by cef38a2: `len(txt) == 0 || (len(txt) > 1 && txt[1] != ',')`) -/
theorem parseAux_total (P : Parsers) (text : Bytes) : (parseAux P text).isPanic = false :=
  (parseAux_spec P text).isPanic

/-- A_safe for `ParseAux`: the field it returns is well formed, so `Tag`, `Type`, `Kind`, `Value`,
`String` and the SAM formatter do not panic on it.  (A text below 2 GiB: beyond that an array could
have 2^31 elements, which `Aux.Value` reads as a negative `int32`.) -/
theorem parseAux_accessors_safe (P : Parsers) (text a : Bytes) (hlen : text.length < 2147483648)
    (h : parseAux P text = ok a) : wfAux a = true ∧ auxSweep a = ok () :=
  have hw := (parseAux_spec P text).of_ok h hlen
  ⟨hw, auxSweep_wf a hw⟩

/-- `bam.parseAux` never panics and its loop terminates, for every aux block (repairs fixes/C11-7,
C11-8, C11-9): every step consumes at least one byte, so `len(aux)+1` iterations always suffice
(running out of fuel is a `panic` of the model) -/
theorem parseAuxBam_total (aux : Bytes) : (parseAuxBam aux).isPanic = false := (parseAuxBam_spec aux).isPanic

/-- A_safe for `bam.parseAux`: every field it hands out is well formed (a BAM record is shorter than
2^31 bytes: `block_size` is an `int32`), so no aux accessor panics on it -/
theorem parseAuxBam_accessors_safe (aux : Bytes) (l : List Bytes) (hlen : aux.length < 2147483648)
    (h : parseAuxBam aux = ok l) : ∀ a ∈ l, wfAux a = true ∧ auxSweep a = ok () := fun a ha =>
  have hw := (parseAuxBam_spec aux).of_ok h hlen a ha
  ⟨hw, auxSweep_wf a hw⟩

/-- `bam.decodeHex` (repair fixes/C05-2, the `H` branch of `bam.parseAux`) never panics on a field of at
least three bytes, which is what `parseAux` hands it (`j ≥ 3` is checked just before the call): `f[3:]`
and `f[:3]` are in range, after the parity check `digits[k]`, `digits[k+1]`, `digits[k:k+2]` are in range
for every even `k < len(digits)`, `3+k/2 < 3+len(digits)/2 = len(a)`, the `make` count is not negative,
and the loop ends. An odd number of digits and a non-digit are errors. -/
theorem decodeHex_total (f : Bytes) (h3 : 3 ≤ f.length) : (decodeHexGo f).isPanic = false :=
  (decodeHexGo_spec f h3).isPanic

/-- a value of `bam.decodeHex` starts with the three tag and type bytes of the stored field, so
`a.Type()` is still `'H'` and the field is well formed for the accessors -/
theorem decodeHex_keeps_head (f a : Bytes) (h3 : 3 ≤ f.length) (h : decodeHexGo f = ok a) :
    a.take 3 = f.take 3 := (decodeHexGo_spec f h3).of_ok h

/-- the accessor sweep is safe on EVERY well-formed field (the link used by both decoders) -/
theorem aux_accessors_safe (a : Bytes) (h : wfAux a = true) : (auxSweep a).isPanic = false := by
  rw [auxSweep_wf a h]; rfl

/-- and well-formedness is necessary in this sense: fields the unrepaired walker could hand out make
the accessors panic (a two-byte field, an array with an unknown element type, an array whose count
exceeds its bytes) -/
theorem aux_accessors_witness :
    (auxSweep [88, 0]).isPanic = true ∧ (auxSweep [88, 89, 66, 120, 0, 0, 0, 0]).isPanic = true ∧
    (auxSweep [88, 89, 66, 115, 2, 0, 0, 0, 1, 2]).isPanic = true := by decide +kernel

/-- `itf8.Decode` and `ltf8.Decode` never index beyond the slice: the `len(b) < n` test dominates
every `b[k]`, `k < n` (the values and round trips are C20's) -/
theorem itf8_decode_total (b : Bytes) : (decodeIdx "itf8.Decode" itf8Width b).isPanic = false :=
  decodeIdx_total _ _ b

theorem ltf8_decode_total (b : Bytes) : (decodeIdx "ltf8.Decode" ltf8Width b).isPanic = false :=
  decodeIdx_total _ _ b

/-- the stream readers of cram (`errorReader.itf8`, `errorReader.ltf8`): `buf[1:n]` and `buf[:n]` stay
inside the 5- resp. 9-byte array because the announced width is at most 5 resp. 9 -/
theorem itf8_stream_total (s : Bytes) : (streamRead "cram.errorReader.itf8" itf8Width 5 s).isPanic = false :=
  streamRead_total _ _ 5 s fun b0 => Hts.Model.Itf8.width_range b0.toBitVec

theorem ltf8_stream_total (s : Bytes) : (streamRead "cram.errorReader.ltf8" ltf8Width 9 s).isPanic = false :=
  streamRead_total _ _ 9 s fun b0 => Hts.Model.Ltf8.width_range b0.toBitVec

/-- `bam.ReadIndex` (with `internal.ReadIndex`, `readIndices`, `readBins`, `readChunks`, `readStats`,
`readIntervals`) never panics, for every byte string: every `make` is dominated by a sign test
(repair fixes/C11-11) and `bins[:len(bins)-1]` is only reached with a non-empty `bins` -/
theorem readBAI_total (s : Bytes) : (readBAI s).isPanic = false :=
  Outcome.Sat.isPanic <| (take?_spec 4 s).bind fun _ _ => .ite_err fun _ =>
    (rdI32_spec _).bind fun _ _ => readIndexBody_spec _ _ _

/-- `tabix.ReadFrom` never panics: the name block is only indexed when its length is positive
(`l_nm < 0` is an error, `l_nm == 0` means no names), and the references are read by the same
`internal.ReadIndex` -/
theorem readTabix_total (s : Bytes) : (readTabix s).isPanic = false :=
  Outcome.Sat.isPanic <| (take?_spec 4 s).bind fun _ _ => .ite_err fun _ =>
    (rdI32_spec _).bind fun _ _ => (skip_spec 24 _).bind fun _ _ => (readNames_spec _).bind fun _ _ =>
      .ite_err fun _ => readIndexBody_spec _ _ _

/-- the field loop of `headerLine`, `referenceLine`, `readGroupLine`, `programLine` (repair fixes/C11-4):
`f[2]`, `f[:2]`, `f[3:]` and `fields[1:]` never panic, whatever the per-field action does short of
panicking itself -/
theorem headerTagLine_total {σ : Type} (minFields : Nat) (hmin : 1 ≤ minFields)
    (act : σ → Bytes → Bytes → Outcome σ) (hact : ∀ st tag val, (act st tag val).isPanic = false)
    (l : Bytes) (st : σ) : (tagLine minFields act l st).isPanic = false := by
  unfold tagLine
  dsimp only
  split
  · rfl
  · rw [sliceFrom_of_le (by omega)]
    exact fieldLoop_total act hact _ st

/-- `commentLine`'s `fields[1]` and the line dispatch of `Header.UnmarshalText` (`l[len(l)-1]`, `l[0]`,
`l[1:3]`) never panic -/
theorem headerDispatch_total (l : Bytes) : (lineTag l).isPanic = false ∧ (commentLineM l).isPanic = false :=
  ⟨((stripCRIdx_spec l).bind fun l' _ => lineTagBody_spec l').isPanic,
    Outcome.Sat.isPanic (Q := fun _ => True) <| .ite_err fun _ => by
      rw [index_of_lt (by omega)]; trivial⟩

/-- the `M5` field of an `@SQ` line: `hex.Decode` into the 16-byte array cannot run past it
(repair fixes/C11-6) -/
theorem headerMD5_total (val : Bytes) : (md5Field val).isPanic = false := by
  unfold md5Field
  split
  · rfl
  · exact hexDecodeInto_total _ _ _ (by omega)

/-- `bh.refs[dupID]` in `referenceLine` and `Header.AddReference`: every id in `seenRefs` indexes `refs`,
and registering a reference keeps it so (the step of the induction over the lines of the header text) -/
theorem headerRefs_invariant (t : RefTable) (hwf : t.wf) (name : Bytes) (same replaceable complete : Bool) :
    (addRef t name same replaceable complete).isPanic = false ∧
      ∀ t', addRef t name same replaceable complete = ok t' → t'.wf :=
  have h := addRef_spec t hwf name same replaceable complete
  ⟨h.isPanic, fun _ => h.of_ok⟩

/-- `bam.(*Reader).Read` with every index, slice and `binary.LittleEndian` call of `bam.buffer`,
`readCigarOps` and the `br.h.Refs()[id]` look-ups explicit computes exactly C05's `decodeBody` (value or
error) — so it never panics, for every `Omit` mode, header size and record buffer.  `liftE` sends every `Fault` to
`err`, `fuel` too: that the aux loop of `decodeBody` terminates is not said here, it is `Props.C05.fuel_unreachable` -/
theorem bamRead_total (om : Hts.Model.Bam.Omit) (nrefs : Nat) (body : List Hts.Model.Bam.Byte) :
    decodeBodyIdx om nrefs body = liftE (Hts.Model.Bam.decodeBody om nrefs body) ∧
      (decodeBodyIdx om nrefs body).isPanic = false :=
  have h := decodeBodyIdx_eq om nrefs body
  ⟨h, h ▸ liftE_total _⟩

/-- `newBuffer`: `make([]byte, size)` and `br.buf[:size]` never panic, for every four size bytes -/
theorem bamNewBuffer_total (x y z w : Hts.Model.Bam.Byte) : (newBufferIdx x y z w).isPanic = false := by
  unfold newBufferIdx
  dsimp only
  split
  · rfl
  split
  · rfl
  -- `make([]byte, size)` only with `size > 4096 ≥ 0`, `br.buf[:size]` only with `0 < size ≤ 4096`
  split
  · rw [makeLen_of_nonneg (by omega)]; rfl
  · rw [sliceTo_of_le (by rw [List.length_replicate]; omega)]; rfl

/-- `Record.UnmarshalSAM`: a record or an error for every line, with or without a header, for every
float-text behaviour — neither `NewCigarOp` nor `Cigar.IsValid`/`Consumes` can panic on the way -/
theorem unmarshalSAM_total (ft : Hts.Model.SamText.FloatText) (h : Option Hts.Model.SamText.Header)
    (b : Hts.Model.SamText.Bytes) : Hts.Model.SamText.parseRecord ft h b ≠ .error .panic :=
  Hts.Model.SamText.parseRecord_ne_panic ft h b

/-- `sam.ParseCigar` and `sam.ParseAux` in C06's value-level model have no panic outcome either (the two
models of each function are not related by a theorem) -/
theorem samText_parsers_total (ft : Hts.Model.SamText.FloatText) (b : Hts.Model.SamText.Bytes) :
    Hts.Model.SamText.parseCigar b ≠ .error .panic ∧ Hts.Model.SamText.parseAux ft b ≠ .error .panic :=
  ⟨Hts.Model.SamText.parseCigar_ne_panic b, Hts.Model.SamText.parseAux_ne_panic ft b⟩

/-- `sam.Reader.Read`, every call over any input after the header, in header mode and in no-header mode
(LF/CRLF, empty lines, a last line without newline): never the panic outcome -/
theorem samReader_total (ft : Hts.Model.SamText.FloatText) (h : Hts.Model.SamText.Header)
    (body : Hts.Model.SamText.Bytes) :
    (∀ r ∈ Hts.Model.SamText.readAll ft h body, r ≠ .error .panic) ∧
    (∀ r ∈ Hts.Model.SamText.readAllNoHeader ft body, r ≠ .error .panic) :=
  ⟨fun r hr => by
      obtain ⟨l, _, rfl⟩ := List.mem_map.mp hr
      exact Hts.Model.SamText.parseRecord_ne_panic ft _ _,
    Hts.Model.SamText.noHeaderLoop_ne_panic ft _ _⟩

/-- the line handling of `sam.Reader.Read` with its explicit `b[:len(b)-1]`, `b[len(b)-1]`: on a
delimiter-terminated line it is C06's `stripCR`, and it never panics; `h` is what `ReadBytes` guarantees (with a
nil error `b` ends with the delimiter), which keeps Go's `b[:len(b)-1]` in range and which the model does not need -/
theorem samReaderLine_total (b : Bytes) (terminated : Bool) (h : terminated = true → b.getLast? = some 10) :
    (readerLineIdx b terminated).isPanic = false ∧
      ∀ line, readerLineIdx (line ++ [10]) true = ok (Hts.Model.SamText.stripCR line) :=
  -- `b[:len(b)-1]` is `b[:0]` on an empty `b` in the model, so totality holds without `h`
  ⟨(fun _ => readerLineIdx_total b terminated) h, readerLineIdx_terminated⟩

/-- `Header.UnmarshalText` of ARBITRARY text on a new header never panics (field loops, `hex.Decode` of
`M5`, `bh.refs[dupID]`, nil maps), for every behaviour of `time`/`net/url` (`Ext`) -/
theorem headerText_total (E : Hts.Model.Header.Ext) (text : Hts.Model.Header.Bytes) :
    (Hts.Model.Header.step E {} (.pa text)).res ≠ .panic :=
  Hts.Props.C07.step_never_panics E {} Hts.Model.Header.winv_empty _

/-- `Header.DecodeBinary` of ARBITRARY bytes on a new header never panics (`lText`, `nRef`, `lName`
handling of `DecodeBinary`/`readRefRecords`, then `AddReference`) -/
theorem headerBinary_total (E : Hts.Model.Header.Ext) (b : Hts.Model.Header.Bytes) :
    (Hts.Model.Header.step E {} (.de b)).res ≠ .panic :=
  Hts.Props.C07.step_never_panics E {} Hts.Model.Header.winv_empty _

/-- `csi.ReadFrom` never panics, for every byte string (negative counts, the bin limit test, the geometry
test `min_shift + 3*depth ≤ 62`) -/
theorem readCSI_total (bs : Hts.Model.IndexIO.Bytes) : Hts.Model.IndexIO.readCsi bs ≠ .error .panic :=
  Hts.Model.IndexIO.readCsi_ne_panic bs

/-- A_safe for `fai.ReadFrom`: whatever text it accepted, every `File.Seq`/`File.SeqRange` handle on the
resulting index can be read with any buffer size from any cursor position over any FASTA bytes without
reaching the division by zero or the negative-slice / zero-progress layout (`Record.isValid`, /repo 38c3f30) -/
theorem fai_accessors_safe (text : Hts.Model.Fai.Bytes) (raws : List Hts.Model.Fai.RawRecord)
    (h : Hts.Model.Fai.readFrom text = .ok raws) (name : Hts.Model.Fai.Bytes) (a b : Int)
    (s : Hts.Model.Fai.Seq)
    (hs : Hts.Model.Fai.seqWhole (raws.map Hts.Model.Fai.recordOf) name = .ok s ∨
          Hts.Model.Fai.seqRange (raws.map Hts.Model.Fai.recordOf) name a b = .ok s)
    (file : Hts.Model.Fai.Bytes) (cur k : Nat) :
    (Hts.Model.Fai.Seq.read file { s with cur := cur } k).err ≠ .badLayout ∧
    (Hts.Model.Fai.Seq.read file { s with cur := cur } k).err ≠ .panicDiv := by
  obtain ⟨hmem, hstop⟩ := Hts.Model.Fai.seq_handle _ name s a b hs
  obtain ⟨raw, hraw, hrec⟩ := List.mem_map.mp hmem
  have hsane : s.rcd.Sane := hrec ▸ Hts.Model.Fai.sane_of_isValid raw (Hts.Model.Fai.readFrom_valid text raws h raw hraw)
  exact Hts.Model.Fai.seqRead_ok file { s with cur := cur } hsane hstop k

/-- `expectedMemberSize`: `h.Extra[i+4]`, `h.Extra[i+5]` are in range after the `i+5 >= len(h.Extra)` test;
the explicit version equals C10's -/
theorem bgzfExpectedMemberSize_total (extra : Bytes) :
    expectedMemberSizeIdx extra = ok (Hts.Model.BgzfBytes.expectedMemberSize (some extra)) := by
  unfold expectedMemberSizeIdx Hts.Model.BgzfBytes.expectedMemberSize
  simp only
  cases hf : Hts.Model.BgzfBytes.findSub Hts.Model.BgzfBytes.bgzfExtraPrefix extra with
  | none => rfl
  | some i =>
    simp only
    split
    · have hd : (extra.drop (i + 4)).length ≤ 1 := by simp only [List.length_drop]; omega
      match hdrop : extra.drop (i + 4) with
      | [] => rfl
      | [_] => rfl
      | a :: b :: t => rw [hdrop] at hd; simp only [List.length_cons] at hd; omega
    · rw [index_of_lt (by omega), index_of_lt (by omega), List.drop_eq_getElem_cons (by omega),
        List.drop_eq_getElem_cons (by omega)]

/-- `buffer.readLimited`: `r.data[:n]` with `n = blockSize - skipped` is inside the `[MaxBlockSize]byte`
array for every block size a BGZF extra field can announce -/
theorem bgzfReadLimited_total (extra : Option Bytes) (blockSize skipped : Nat)
    (h : Hts.Model.BgzfBytes.expectedMemberSize extra = some blockSize) :
    (readLimitedIdx blockSize skipped).isPanic = false :=
  (readLimitedIdx_spec (expectedMemberSize_le extra blockSize h) skipped).isPanic

/-! The CRAM readers (`Hts.Model.CramDec`) are explicit-indexing models WITH values, tied to the code field by field by
the `c11.model` stream (c11.cramdef / c11.cramcont / c11.cramblock / c11.cramvalue).  `hash/crc32` is a parameter: the
theorems hold for every function in its place. -/

open Hts.Model.CramDec in
/-- `errorReader.itf8` and `errorReader.ltf8` with the values they return: for every reader state (bytes
left, sticky error set or not) a value comes back — `buf[1:n]`, `buf[:n]` stay inside the 5- resp. 9-byte
array — and it is an `int32` resp. `int64` -/
theorem cramNum_total (r : St) :
    (∃ r' v, readNum itf8Dec r = ok (r', v) ∧ -2147483648 ≤ v ∧ v < 2147483648) ∧
    (∃ r' v, readNum ltf8Dec r = ok (r', v) ∧ -9223372036854775808 ≤ v ∧ v < 9223372036854775808) :=
  ⟨readNum_spec itf8Dec_good r, readNum_spec ltf8Dec_good r⟩

open Hts.Model.CramDec in
/-- `errorReader.itf8slice` never panics and always returns (an error only sets the sticky flag): a
negative count is refused before `make` (fix C11-14), `s[i]` and `s[:i]` stay inside the `n` elements, and
the loop ends after at most `n` iterations -/
theorem cramItf8slice_total (r : St) : (readSlice32 r).isPanic = false := (readSlice32_sat r).isPanic

open Hts.Model.CramDec in
/-- what bounds `make([]int32, n)` in `itf8slice`: only the type.  When `make` is reached, `0 < n < 2^31`;
nothing relates `n` to the number of bytes present (the second part: five bytes ask for 2^31-1 elements
= 8 GiB; this is the "asks for memory" outcome, which C11 counts separately from panics) -/
theorem cramItf8slice_make_bound (r : St) (r' : St) (n : Nat) (h : sliceCount r = ok (r', some n)) :
    0 < n ∧ n < 2147483648 := by
  obtain ⟨r1, o, h1, hb⟩ := sliceCount_spec r
  rw [h1] at h
  cases h
  exact hb n rfl

open Hts.Model.CramDec in
theorem cramItf8slice_make_unbounded :
    (match sliceCount { src := [0xf7, 0xff, 0xff, 0xff, 0xff] } with | ok (_, o) => o | _ => none) =
      some 2147483647 := by decide +kernel

open Hts.Model.CramDec in
/-- `definition.readFrom` (through `NewReader`): a definition or an error for every byte string -/
theorem cramDefinition_total (s : Bytes) : (readDefinition s).isPanic = false := (readDefinition_spec s).isPanic

open Hts.Model.CramDec in
/-- `Container.readFrom` never panics, for every byte string and every CRC function: the length word, the
seven ITF-8/LTF-8 fields, the landmark array with any count (negative, zero, larger than what follows)
and the CRC32 word -/
theorem cramContainer_total (crc32 : Bytes → Nat) (s : Bytes) : (readContainer crc32 s).isPanic = false :=
  (readContainer_spec crc32 s).isPanic

open Hts.Model.CramDec in
/-- `Block.readFrom` never panics, for every byte string and every CRC function: a negative compressed
size is refused before `make` (fix C11-14); a block that is returned holds exactly `compressedSize`
bytes of data, all of them read from the input -/
theorem cramBlock_total (crc32 : Bytes → Nat) (s : Bytes) :
    (readBlock crc32 s).isPanic = false ∧
    ∀ b rest, readBlock crc32 s = ok (b, rest) → (b.data.length : Int) = b.compressedSize :=
  have h := readBlock_spec crc32 s
  ⟨h.isPanic, fun _ _ e => (h.of_ok e).1⟩

open Hts.Model.CramDec in
/-- what bounds `make([]byte, b.compressedSize)` in `Block.readFrom`: when `make` is reached,
`0 ≤ compressedSize < 2^31` (and `= rawSize` for the raw method); the allocation happens BEFORE the data is
known to be present (second part: a 12-byte input asks for 2^31-1 bytes — "asks for memory") -/
theorem cramBlock_make_bound (s : Bytes) (r : St) (h : BlockHdr) (hh : blockHeader s = ok (r, h)) :
    0 ≤ h.compressedSize ∧ h.compressedSize < 2147483648 ∧ (h.method = 0 → h.compressedSize = h.rawSize) :=
  (blockHeader_spec s).of_ok hh

open Hts.Model.CramDec in
theorem cramBlock_make_unbounded :
    (match blockHeader [4, 4, 0, 0xf7, 0xff, 0xff, 0xff, 0xff, 0, 0, 0, 0] with
      | ok (_, h) => some h.compressedSize | _ => none) = some 2147483647 := by decide +kernel

open Hts.Model.CramDec in
/-- `Slice.readFrom` (called by `Block.Value` on the data of a mapped slice header block) always yields a
slice header value, complete or not (`Block.Value` drops its error) -/
theorem cramSlice_total (s : Bytes) : ∃ h, readSliceHdr s = ok h := readSliceHdr_spec s

open Hts.Model.CramDec in
/-- `Block.Value` (with `expandBlockdata` and `Slice.readFrom`) never panics, for every block and every
behaviour of the decompressors that yields less than 4 GiB: `blockData[:4]`, `Uint32(blockData[:4])` and
`blockData[4 : 4+end]` are in range (fix C11-15: `uint64(end) > uint64(len(blockData)-4)` is an error;
before repair C11-23 `4+end` was computed in `uint32`, which cannot wrap below 2^32 bytes), an unknown method
is an error (fix C11-16).  The two size hypotheses are the condition under which the `uint32` sum could not wrap;
the model has repair C11-23 and the proof does not use them (`cramBlockValue_total_all` is the statement without). -/
theorem cramBlockValue_total (X : Expanders) (b : Block)
    (hX : ∀ m d e, X.expand m d = some e → e.length < 4294967296) (hb : b.data.length < 4294967296) :
    (blockValue X b).isPanic = false :=
  (fun _ _ => blockValue_total X b) hX hb

open Hts.Model.CramDec in
/-- `Block.Value` never panics for EVERY block and EVERY behaviour of the decompressors, also when the data
expands to 4 GiB or more: with repair C11-23 the end of the header text is `4+uint64(end)` and cannot wrap
(before it `blockData[4 : 4+end]` panicked "slice bounds out of range [4:0]" on a file header block expanding
to `fc ff ff ff` followed by 2^32 bytes) -/
theorem cramBlockValue_total_all (X : Expanders) (b : Block) : (blockValue X b).isPanic = false :=
  blockValue_total X b

open Hts.Model.CramDec in
/-- every block `Block.readFrom` returns satisfies the size hypothesis of `cramBlockValue_total` -/
theorem cramBlock_value_ready (crc32 : Bytes → Nat) (s : Bytes) (b : Block) (rest : Bytes)
    (h : readBlock crc32 s = ok (b, rest)) : b.data.length < 4294967296 := by
  have : (b.data.length : Int) = b.compressedSize ∧ b.compressedSize < 2147483648 :=
    (readBlock_spec crc32 s).of_ok h
  omega

def digitsOnly : Parsers :=
  { atoi := fun b => if b.all isDigit && !b.isEmpty then some (b.foldl (fun n c => n * 10 + (c.toNat - 48 : Nat)) (0 : Int)) else none
    parseInt := fun _ b => if b.all isDigit && !b.isEmpty then some (b.foldl (fun n c => n * 10 + (c.toNat - 48 : Nat)) (0 : Int)) else none
    parseUint := fun _ b => if b.all isDigit && !b.isEmpty then some (b.foldl (fun n c => n * 10 + (c.toNat - 48 : Nat)) (0 : Int)) else none
    parseFloat32 := fun _ => none }

-- "XY:i:300" ↦ XY S 0x012c
example : parseAux digitsOnly [88, 89, 58, 105, 58, 51, 48, 48] = ok [88, 89, 83, 44, 1] := by decide +kernel
-- "XY:B:s,1,2" ↦ XY B s 2 0 0 0 | 1 0 | 2 0
example : parseAux digitsOnly [88, 89, 58, 66, 58, 115, 44, 49, 44, 50] = ok [88, 89, 66, 115, 2, 0, 0, 0, 1, 0, 2, 0] := by decide +kernel
-- "XY:B:c" (the library's own rendering of an empty array) is the empty array, "XY:B:" and "XY:B:cx" are errors
example : parseAux digitsOnly [88, 89, 58, 66, 58, 99] = ok [88, 89, 66, 99, 0, 0, 0, 0] := by decide +kernel
example : parseAux digitsOnly [88, 89, 58, 66, 58] = err := by decide +kernel
example : parseAux digitsOnly [88, 89, 58, 66, 58, 99, 120] = err := by decide +kernel
-- "XY:Z:" is the empty string value
example : parseAux digitsOnly [88, 89, 58, 90, 58] = ok [88, 89, 90] := by decide +kernel
example : wfAux [88, 89, 66, 115, 2, 0, 0, 0, 1, 0, 2, 0] = true := by decide +kernel
-- an aux block: XYC\x01  ZZZab\0  BBBc\x02\0\0\0\x07\x08
example : parseAuxBam [88, 89, 67, 1, 90, 90, 90, 97, 98, 0, 66, 66, 66, 99, 2, 0, 0, 0, 7, 8] =
    ok [[88, 89, 67, 1], [90, 90, 90, 97, 98], [66, 66, 66, 99, 2, 0, 0, 0, 7, 8]] := by decide +kernel
-- XHH1AE3\0 : the stored digits "1AE3" are decoded to the bytes 0x1a 0xe3; "XHH\0" is the empty value
example : parseAuxBam [88, 72, 72, 49, 65, 69, 51, 0] = ok [[88, 72, 72, 0x1a, 0xe3]] := by decide +kernel
example : parseAuxBam [88, 72, 72, 49, 97, 101, 51, 0, 88, 89, 67, 1] = ok [[88, 72, 72, 0x1a, 0xe3], [88, 89, 67, 1]] := by decide +kernel
example : parseAuxBam [88, 72, 72, 0] = ok [[88, 72, 72]] := by decide +kernel
-- an odd number of digits, a non-digit, no terminator: errors
example : parseAuxBam [88, 72, 72, 49, 65, 69, 0] = err := by decide +kernel
example : parseAuxBam [88, 72, 72, 49, 71, 0] = err := by decide +kernel
example : parseAuxBam [88, 72, 72, 49, 65] = err := by decide +kernel
-- the guard `j < 3` before the call is what keeps `f[3:]` in range
example : decodeHexGo [88, 72] = .panic "bam.decodeHex:f[3:]" := by decide +kernel
-- truncated fixed-width value, array header, unknown array type, zero inside the tag: errors
example : parseAuxBam [88, 89, 105, 1] = err := by decide +kernel
example : parseAuxBam [88, 89, 66] = err := by decide +kernel
example : parseAuxBam [88, 89] = ok [] := by decide +kernel
example : parseAuxBam [88, 89, 66, 99, 1] = err := by decide +kernel
example : parseAuxBam [88, 89, 66, 90, 8, 0, 0, 0] = err := by decide +kernel
example : parseAuxBam [88, 0, 90, 1, 0] = err := by decide +kernel
-- CIGAR operation types 11..15 (storable in BAM) go through End/Bin/IsValid
example : recordEndGo false 100 [⟨0, 10⟩, ⟨13, 7⟩, ⟨2, 5⟩] = ok 115 := by decide +kernel
-- "12": digits without an operation are an error (the scan reaches the end of the text)
example : parseCigar [49, 50] = err := by decide +kernel
example : parseCigar [42] = ok [] := by decide +kernel
example : cigarIsValidGo [⟨5, 1⟩, ⟨4, 2⟩, ⟨0, 3⟩, ⟨4, 1⟩, ⟨5, 2⟩] 6 = ok true := by decide +kernel

example : decodeIdx "itf8.Decode" itf8Width [0xff, 1, 2, 3, 4] = ok true := by decide +kernel
example : decodeIdx "itf8.Decode" itf8Width [0xff, 1, 2, 3] = ok false := by decide +kernel
example : streamRead "x" itf8Width 5 [0xe0, 1, 2, 3] = ok true := by decide +kernel

-- "BAI\1", one reference, one bin (4681) with one chunk, one interval, no trailing count: 8+4+8+16+4+8 = 48 bytes
example : readBAI ([66, 65, 73, 1, 1, 0, 0, 0, 1, 0, 0, 0, 0x49, 0x12, 0, 0, 1, 0, 0, 0] ++ List.replicate 16 0 ++
    [1, 0, 0, 0] ++ List.replicate 8 0) = ok (some (1, 48)) := by decide +kernel
example : readBAI [66, 65, 73, 1, 0xff, 0xff, 0xff, 0xff] = err := by decide +kernel

example : (⟨0, []⟩ : RefTable).wf := by intro p hp; cases hp
example : (addRef ⟨1, [([97], 0)]⟩ [97] false true true).isPanic = false := by decide +kernel
-- "@HD\tV" : a field shorter than three bytes is an error of the field loop
example : tagLine 2 (fun (st : Unit) _ _ => ok st) [64, 72, 68, 9, 86] () = err := by decide +kernel
example : md5Field (List.replicate 34 48) = err := by decide +kernel

-- CRAM: "CRAM" 3 0 + 20 id bytes + 1 byte left over; wrong magic and a short definition are errors
example : Hts.Model.CramDec.readDefinition ([67, 82, 65, 77, 3, 0] ++ List.replicate 20 7 ++ [9]) =
    ok (⟨[67, 82, 65, 77], [3, 0], List.replicate 20 7⟩, [9]) := by decide +kernel
example : Hts.Model.CramDec.readDefinition ([67, 82, 65, 78, 3, 0] ++ List.replicate 20 7) = err := by decide +kernel
example : Hts.Model.CramDec.readDefinition (List.replicate 25 67) = err := by decide +kernel
-- a block: method 0, type 5, content id 6, sizes 2/2, data "hi", CRC (here the constant function 0x01020304)
example : Hts.Model.CramDec.readBlock (fun _ => 0x01020304) [0, 5, 6, 2, 2, 104, 105, 4, 3, 2, 1, 77] =
    ok ({ method := 0, typ := 5, contentID := 6, compressedSize := 2, rawSize := 2, data := [104, 105], crc32 := 0x01020304 }, [77]) := by decide +kernel
-- compressed size -1 (ff ff ff ff 0f): an error, not a makeslice panic; raw method with sizes 2/3: error
example : Hts.Model.CramDec.readBlock (fun _ => 0) [1, 5, 6, 0xff, 0xff, 0xff, 0xff, 0x0f, 2, 0, 0, 0, 0] = err := by decide +kernel
example : Hts.Model.CramDec.readBlock (fun _ => 0) [0, 5, 6, 2, 3, 104, 105, 0, 0, 0, 0] = err := by decide +kernel
-- a container header: length 7, refID -1 (ff ff ff ff 0f), 0 0 0 | 0 0 | 1 block | landmarks [5, 300] | CRC
example : Hts.Model.CramDec.readContainer (fun _ => 0) [7, 0, 0, 0, 0xff, 0xff, 0xff, 0xff, 0x0f, 0, 0, 0, 0, 0, 1, 2, 5, 0x81, 0x2c, 0, 0, 0, 0, 42] =
    ok ({ blockLen := 7, refID := -1, start := 0, span := 0, nRec := 0, recCount := 0, bases := 0, blocks := 1,
          landmarks := [5, 300], crc32 := 0 }, [42]) := by decide +kernel
-- landmark count -1: error; count 3 with two numbers present: error (the stream ends)
example : Hts.Model.CramDec.readContainer (fun _ => 0) [7, 0, 0, 0, 0, 0, 0, 0, 0, 0, 1, 0xff, 0xff, 0xff, 0xff, 0x0f, 0, 0, 0, 0] = err := by decide +kernel
example : Hts.Model.CramDec.readContainer (fun _ => 0) [7, 0, 0, 0, 0, 0, 0, 0, 0, 0, 1, 3, 5, 6] = err := by decide +kernel
-- file header block: l_text 2 + "@C" is handed to UnmarshalText; l_text -1 (fix C11-15) and 3 bytes are errors
example : Hts.Model.CramDec.blockValue ⟨fun _ _ => none⟩
    { method := 0, typ := 0, contentID := 0, compressedSize := 6, rawSize := 6, data := [2, 0, 0, 0, 64, 67], crc32 := 0 } =
    ok (.headerText [64, 67]) := by decide +kernel
example : Hts.Model.CramDec.blockValue ⟨fun _ _ => none⟩
    { method := 0, typ := 0, contentID := 0, compressedSize := 6, rawSize := 6, data := [0xff, 0xff, 0xff, 0xff, 64, 67], crc32 := 0 } = err := by decide +kernel
example : Hts.Model.CramDec.blockValue ⟨fun _ _ => none⟩
    { method := 9, typ := 0, contentID := 0, compressedSize := 0, rawSize := 0, data := [], crc32 := 0 } = err := by decide +kernel

end Hts.Props.C11
