/-
C08 — BGZF output is spec-conformant, gzip-compatible, deterministic and EOF-marked.
Every statement quantifies over all codecs satisfying the laws, all header settings, all payloads and all
write scripts.

`Member.writeBlock` mirrors compressor.writeBlock WITH the repair fixes/C08-1-bsize-search.diff
(search for "BC\2\0" from the extra field on); on the unrepaired tree the conformance theorem is false
(`orig_search_witness` is the counterexample the check also finds on the implementation).
Determinism across wc: the sequential model has no wc; `output_independent_of_wc_and_schedule` composes it
with the writer LTS of C12/C09 (every wc, every interleaving) through the script abstraction
`Hts.Model.WriterCompose.absScript`; the correspondence check also compares the outputs under several wc byte for byte.
-/
import Hts.Lemmas.BgzfWriter
import Hts.Lemmas.BgzfStream
import Hts.Lemmas.BgzfToyCodec
import Hts.Lemmas.WriterCompose
namespace Hts.Props.C08
open Hts.Model Hts.Model.Member Hts.Spec
open Hts.Model.BgzfWriter (BlockSize MaxBlockSize Op hasClose accepted)
open Hts.Model.BgzfWriter (after)

/-- For every header setting and payload for which `writeBlock` succeeds (payload at most BlockSize,
user Extra a well-formed sub-field sequence): the bytes, followed by anything, parse under the RFC 1952
grammar as one member that carries the payload, occupies exactly those bytes and satisfies the BGZF
constraints (BC sub-field = size - 1, size ≤ 64 KiB, payload ≤ 65280).  No hypothesis on ModTime/OS. -/
theorem member_conformant (c : Codec) (h : Header) (p m rest : List Byte)
    (hw : writeBlock c.toCodecFns h p = .ok m) (hx : WFExtra h) (hp : p.length ≤ BlockSize) :
    ∃ M, Rfc1952.parseMember (ext c.toCodecFns) (m ++ rest) = some (M, rest) ∧ Rfc1952.IsBgzf M ∧
      M.data = p ∧ M.size = m.length ∧ M.mtime = h.mtime % 2 ^ 32 ∧ M.os = h.os.toNat := by
  obtain ⟨hf, rfl⟩ := writeBlock_eq_ok hw
  exact ⟨_, parseMember_member c h p _ rest hf.1, isBgzf_specMember c.toCodecFns h p hx hf.2 hp, rfl,
    (memberBytes_length _ h p _).symm, rfl, rfl⟩

/-- Without Name and Comment the member has exactly the header the SAM specification tabulates (FLG = 4). -/
theorem member_strict (c : Codec) (h : Header) (p m rest : List Byte)
    (hw : writeBlock c.toCodecFns h p = .ok m) (hx : WFExtra h) (hp : p.length ≤ BlockSize)
    (hn : h.name = []) (hc : h.comment = []) :
    ∃ M, Rfc1952.parseMember (ext c.toCodecFns) (m ++ rest) = some (M, rest) ∧ Rfc1952.IsStrictBgzf M := by
  obtain ⟨hf, rfl⟩ := writeBlock_eq_ok hw
  exact ⟨_, parseMember_member c h p _ rest hf.1,
    isBgzf_specMember c.toCodecFns h p hx hf.2 hp, specMember_strict _ _ _ _ hn hc⟩

/-- `writeBlock` succeeds exactly when gzip accepts the header and the member is at most 64 KiB; it
reports ErrBlockOverflow exactly when gzip accepts the header and the member would be longer, a gzip
error exactly when gzip refuses the header, and never "no BC sub-field". -/
theorem overflow_refused (c : CodecFns) (h : Header) (p : List Byte) :
    ((∃ m, writeBlock c h p = .ok m) ↔ (HdrOK h ∧ memberLen c h p ≤ MaxBlockSize)) ∧
    (writeBlock c h p = .error .overflow ↔ (HdrOK h ∧ MaxBlockSize < memberLen c h p)) ∧
    (writeBlock c h p = .error .gzip ↔ ¬ HdrOK h) ∧
    writeBlock c h p ≠ .error .noBC := by
  rcases writeBlock_cases c h p with ⟨hk, hl, hw⟩ | ⟨hk, hl, hw⟩ | ⟨hk, hw⟩
  · simp [hw, hk, hl]
  · simp [hw, hk, hl]
  · simp [hw, hk]

/-- The written member is exactly as long as `memberLen` says, so the 64 KiB test of `writeBlock` is a test
on header length + DEFLATE length + 8. -/
theorem member_length (c : CodecFns) (h : Header) (p m : List Byte) (hw : writeBlock c h p = .ok m) :
    m.length = 18 + h.extra.length + (zbytes h.name).length + (zbytes h.comment).length + (c.deflate p).length + 8 ∧
    m.length ≤ MaxBlockSize := by
  obtain ⟨hf, rfl⟩ := writeBlock_eq_ok hw
  rw [mb, memberBytes_length]
  exact ⟨rfl, hf.2⟩

/-- Every byte stream the writer produces for a script that closes it — whether Close returned nil or
not — is a series of gzip members under the RFC 1952 grammar, each satisfying the BGZF constraints
(the EOF marker included), and their payloads are the written blocks in order. -/
theorem stream_conformant (c : Codec) (h : Header) (hx : WFExtra h) (wops : List (Op Byte)) (hclose : hasClose wops = true) :
    ∃ Ms, Rfc1952.parseMembers (ext c.toCodecFns) (output c.toCodecFns h wops).1 = some Ms ∧
      (∀ M ∈ Ms, Rfc1952.IsBgzf M) ∧
      Ms.map (·.data) = writtenBlocks c.toCodecFns h wops ++ (if (output c.toCodecFns h wops).2 = none then [[]] else []) := by
  rw [output_eq]
  exact rendered_conformant c h hx _ (fun p hp => ⟨written_fits c.toCodecFns h (after wops).emitted p hp,
    BgzfWriter.after_blocks_le wops p (writtenBlocks_sub c.toCodecFns h wops p hp)⟩) _

/-- A standard multi-member gzip decoder expands the output to the written blocks; when Close returned
nil that is exactly the concatenation of the accepted payloads. -/
theorem stream_gunzips (c : Codec) (h : Header) (wops : List (Op Byte)) (hclose : hasClose wops = true) :
    Rfc1952.gunzip (ext c.toCodecFns) (output c.toCodecFns h wops).1 = some (writtenBlocks c.toCodecFns h wops).flatten ∧
    ((output c.toCodecFns h wops).2 = none →
      Rfc1952.gunzip (ext c.toCodecFns) (output c.toCodecFns h wops).1 = some (accepted wops)) := by
  have hg : Rfc1952.gunzip (ext c.toCodecFns) (output c.toCodecFns h wops).1 = some (writtenBlocks c.toCodecFns h wops).flatten := by
    rw [Rfc1952.gunzip, parseMembers_output, Option.map_some, rendered_data, List.flatten_append]
    by_cases hn : (output c.toCodecFns h wops).2 = none <;> simp [hn]
  refine ⟨hg, fun hok => ?_⟩
  -- `output c h wops` unfolds to `closeOutput c h (after wops).emitted`, the spelling of `closeOutput_ok`
  obtain ⟨hw, -, -, hflat⟩ := closeOutput_ok c.toCodecFns h wops hclose hok
  rw [hg, writtenBlocks, hw, hflat]

/-- The output ends with the 28-byte EOF marker if and only if Close returned nil, and `HasEOF` reports
exactly that.  (No codec law is needed: a stream cut short by an error ends with the ISIZE field of a
non-empty block, or is empty, because the only possibly empty block is the last one Close queues.) -/
theorem eof_iff_clean_close (c : CodecFns) (h : Header) (wops : List (Op Byte)) (hclose : hasClose wops = true) :
    ((output c h wops).2 = none ↔ hasEOF (output c h wops).1 = true) ∧
    ((output c h wops).2 = none ↔ ∃ front, (output c h wops).1 = front ++ magicBlock) := by
  have key : (output c h wops).2 ≠ none → hasEOF (output c h wops).1 = false := fun hne => by
    rw [output_eq, if_neg hne, List.append_nil]
    exact hasEOF_writtenBlocks c h wops fun _ => hne
  constructor
  · constructor
    · intro hn; rw [output_eq, if_pos hn]; exact hasEOF_append_marker _
    · intro ht
      exact Decidable.of_not_not fun hne => by rw [key hne] at ht; cases ht
  · constructor
    · intro hn; exact ⟨_, by rw [output_eq, if_pos hn]⟩
    · rintro ⟨front, hf⟩
      exact Decidable.of_not_not fun hne => by have := key hne; rw [hf, hasEOF_append_marker] at this; cases this

/-- what the emitter has handed to the underlying writer once it is at rest, for a script without Close: the
members of the queued blocks up to the first refused one (the active block is still held by the writer) -/
def openOutput (c : CodecFns) (h : Header) (wops : List (Op Byte)) : List Byte :=
  (render c h (after wops).emitted).1

/-- A writer that is never closed: for every script without a Close, what has reached the underlying writer
is a series of RFC 1952 members, each satisfying the BGZF constraints, whose payloads are the written blocks
(each of 1..BlockSize bytes, a prefix of the accepted data); there is NO EOF marker: `HasEOF` is false and the
stream does not end with the 28 marker bytes. -/
theorem open_stream (c : Codec) (h : Header) (hx : WFExtra h) (wops : List (Op Byte)) (hopen : hasClose wops = false) :
    (∃ Ms, Rfc1952.parseMembers (ext c.toCodecFns) (openOutput c.toCodecFns h wops) = some Ms ∧
      (∀ M ∈ Ms, Rfc1952.IsBgzf M) ∧ Ms.map (·.data) = writtenBlocks c.toCodecFns h wops ∧
      (∀ p ∈ writtenBlocks c.toCodecFns h wops, 1 ≤ p.length ∧ p.length ≤ BlockSize) ∧
      ∃ rest, (writtenBlocks c.toCodecFns h wops).flatten ++ rest = accepted wops) ∧
    hasEOF (openOutput c.toCodecFns h wops) = false ∧
    ¬ ∃ front, openOutput c.toCodecFns h wops = front ++ magicBlock := by
  have hno : hasClose wops = true → (output c.toCodecFns h wops).2 ≠ none := fun hc => Bool.noConfusion (hopen.symm.trans hc)
  have hfits := written_fits c.toCodecFns h (after wops).emitted
  have hwb := writtenBlocks_data c.toCodecFns h wops hno
  have hout : openOutput c.toCodecFns h wops = ((writtenBlocks c.toCodecFns h wops).map (mb c.toCodecFns h)).flatten := by
    simp only [openOutput, render_fst, writtenBlocks]
  have heof := hasEOF_writtenBlocks c.toCodecFns h wops hno
  rw [hout]
  refine ⟨?_, heof, ?_⟩
  · obtain ⟨Ms, hpm, hb, hd⟩ := rendered_conformant c h hx _ (fun p hp => ⟨hfits p hp, (hwb p hp).2⟩) False
    rw [if_neg not_false, List.append_nil] at hpm hd
    refine ⟨Ms, hpm, hb, hd, hwb, ?_⟩
    obtain ⟨r, hr⟩ := written_prefix c.toCodecFns h (after wops).emitted
    have hheld := BgzfWriter.after_held wops
    -- the queue is the written blocks followed by `r` (`written_prefix`), and the queue's bytes followed by the active
    -- block are what was accepted (`after_held`)
    refine ⟨r.flatten ++ (after wops).active, ?_⟩
    rw [← hheld]
    conv => rhs; rw [← hr]
    simp [writtenBlocks]
  · rintro ⟨front, hf⟩
    rw [hf, hasEOF_append_marker] at heof
    cases heof

/-- With the writer's default header and a codec within zlib's deflateBound, Close returns nil for every
script: no block is ever refused (the role of `compressBound(BlockSize) ≤ MaxBlockSize`, bgzf.go:36-44). -/
theorem default_header_clean_close (c : CodecFns) (hb : Bounded c) (wops : List (Op Byte)) (hclose : hasClose wops = true) :
    (output c {} wops).2 = none :=
  default_output_ok c hb wops hclose

open Hts.Model.WriterCompose in
/-- For every concrete write script that closes the writer, every header and codec, EVERY writer concurrency
`wc ≥ 0` and EVERY interleaving of the API goroutine, the emitter and the compressor goroutines (the writer LTS
of C12/C09, repaired protocol, no I/O faults, compression of a block failing exactly when `writeBlock` refuses
it): once everything has come to rest, the bytes the underlying writer has received — the delivered blocks in
delivery order, then the EOF marker if written — are exactly the sequential model's `output` (`closeOutput` of
the queued blocks: the members of the blocks before the first refused one, and the marker iff none was refused).
The abstract script handed to the LTS is `absScript wops`: each `Write` completes as many blocks as it does in the
sequential writer, each `Flush` finds the active block non-empty iff it is so there
(`WriterCompose.absScript_blocks`). -/
theorem output_independent_of_wc_and_schedule (wc : Nat) (c : CodecFns) (h : Header) (wops : List (Op Byte))
    (hclose : hasClose wops = true) (s : WriterLTS.State)
    (hreach : WriterLTS.Reachable (cfgOf wc c h wops) s) (hidle : WriterLTS.AllIdle s) :
    deliveredBytes c h (after wops).emitted s = (output c h wops).1 :=
  -- stated there with `closeOutput c h (after wops).emitted`, to which `output c h wops` unfolds
  compose_output_closed wc c h wops hclose s hreach hidle

open Hts.Model.WriterCompose in
/-- Hence any two runs of the same script — different `wc`, different schedules — deliver byte-identical output. -/
theorem output_same_for_any_two_runs (wc₁ wc₂ : Nat) (c : CodecFns) (h : Header) (wops : List (Op Byte))
    (hclose : hasClose wops = true) (s₁ s₂ : WriterLTS.State)
    (h₁ : WriterLTS.Reachable (cfgOf wc₁ c h wops) s₁) (i₁ : WriterLTS.AllIdle s₁)
    (h₂ : WriterLTS.Reachable (cfgOf wc₂ c h wops) s₂) (i₂ : WriterLTS.AllIdle s₂) :
    deliveredBytes c h (after wops).emitted s₁ = deliveredBytes c h (after wops).emitted s₂ := by
  rw [output_independent_of_wc_and_schedule wc₁ c h wops hclose s₁ h₁ i₁,
    output_independent_of_wc_and_schedule wc₂ c h wops hclose s₂ h₂ i₂]

open Hts.Model.WriterCompose in
/-- A writer that is never closed: at rest, the bytes delivered are the members of the queued blocks (up to the
first refused one), in order, without marker — for every `wc` and schedule. -/
theorem unclosed_output_independent_of_wc_and_schedule (wc : Nat) (c : CodecFns) (h : Header) (wops : List (Op Byte))
    (hclose : hasClose wops = false) (s : WriterLTS.State)
    (hreach : WriterLTS.Reachable (cfgOf wc c h wops) s) (hidle : WriterLTS.AllIdle s) :
    deliveredBytes c h (after wops).emitted s = (render c h (after wops).emitted).1 := by
  rw [compose_output wc c h wops s hreach hidle]
  simp [hclose]

/-- a toy codec for witnesses: every payload "compresses" to the two bytes 03 00 -/
def toyCodec : CodecFns :=
  { deflate := fun _ => [3, 0], inflate := fun s => match s with | 3 :: 0 :: _ => some ([], 2) | _ => none,
    crc32 := fun _ => 0, xfl := 0 }

/-- On the unrepaired tree (`bytes.Index` over the whole member) the header setting
ModTime = Unix(0x00024342) makes `writeBlock` succeed with a member whose BC sub-field still holds
BSIZE = 0: the back-patch went into XFL/OS.  The reader model rejects it, and the same input through the
repaired `writeBlock` is read back. -/
theorem orig_search_witness :
    ∃ m, writeBlockOrig toyCodec { mtime := 0x00024342 } [] = .ok m ∧
      m.take 18 = [0x1f, 0x8b, 8, 4, 0x42, 0x43, 2, 0, 27, 0, 6, 0, 0x42, 0x43, 2, 0, 0, 0] ∧
      readMember toyCodec m = none ∧
      ∃ m', writeBlock toyCodec { mtime := 0x00024342 } [] = .ok m' ∧ readMember toyCodec m' = some ([], []) := by
  refine ⟨_, rfl, by decide, by decide, _, rfl, by decide⟩

example : writeBlock toyCodec {} [] = .ok magicBlock := by rfl
example : HdrOK { name := [0x66, 0xe9], extra := [88, 89, 1, 0, 7], mtime := 0x00024342, os := 3 } := by decide
example : WFExtra { extra := [88, 89, 1, 0, 7, 66, 67, 2, 0, 1, 2] } :=
  Option.isSome_iff_exists.2 ⟨_, subfields_cons 88 89 1 0 [7] _ _ rfl (subfields_cons 66 67 2 0 [1, 2] [] _ rfl subfields_nil)⟩
example : hasEOF magicBlock = true := by decide
example : (closeOutput toyCodec {} [[1], []]).2 = none := by rfl

/-- the codec laws (with the size bound) are satisfiable -/
example : ∃ c : Codec, Bounded c.toCodecFns := ⟨Toy.codec, Toy.bounded⟩
example := stream_conformant Toy.codec { name := [0x66], extra := [88, 89, 1, 0, 7], mtime := 0x00024342 }
  (Option.isSome_iff_exists.2 ⟨_, subfields_cons 88 89 1 0 [7] [] _ rfl subfields_nil⟩)
  [Op.write [1, 2, 3], Op.flush, Op.write [4], Op.close] rfl

example := open_stream Toy.codec {} (Option.isSome_iff_exists.2 ⟨_, subfields_nil⟩)
  [Op.write [1, 2, 3], Op.flush, Op.write [4]] rfl

end Hts.Props.C08
