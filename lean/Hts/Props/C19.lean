/-
C19 — FAI index and File return exactly the requested subsequence.

Model: Hts/Model/Fai.lean (package fai with the repairs fixes/C19-1..4), specification of well-formed FASTA
files: Hts/Spec/Fasta.lean.  All theorems quantify over
EVERY well-formed file (any number of records, any width ≥ 1, LF or CRLF per record, descriptions, blank
lines before the first and after any record, last record with or without final newline, empty sequences), every range and every
list of buffer sizes.  No bound on any size except where Go's `int` itself is the bound (text round trip).
-/
import Hts.Lemmas.FaiFileText
import Hts.Lemmas.FaiLayout
import Hts.Lemmas.FaiSane
import Hts.Lemmas.FaiSample
import Hts.Lemmas.FaiScanner
namespace Hts.Props.C19
open Hts.Model.Fai
open Hts.Spec.Fasta (File Rec Entry)
open Hts.Lemmas.Fai (ofEntry expectedCalls IndexOK NameOK Small sampleFile)

/-- `index_true`: for every well-formed file, `NewIndex` succeeds and returns, in file order, exactly one
record per sequence whose Name, Length, Start, BasesPerLine and BytesPerLine are the true ones
(`Spec.Fasta.Rec.entry`: number of bases, offset of the first base, bases and bytes of the first line). -/
theorem index_true (f : File) (h : f.WF) :
    newIndex f.render = .ok (f.entries.map ofEntry) :=
  Hts.Lemmas.Fai.newIndex_render f h

/-- Looking a sequence up by name in that index finds its own true entry. -/
theorem index_lookup (f : File) (h : f.WF) (idx : Index) (hidx : newIndex f.render = .ok idx)
    (r : Rec) (hr : r ∈ f.recs) :
    ∃ pre post, f.recs = pre ++ r :: post ∧
      idx.lookup r.name =
        some (ofEntry (r.entry (f.leading.length + (pre.map Rec.render).flatten.length))) := by
  obtain ⟨R, h1, _, pre, post, h4, h5⟩ := Hts.Lemmas.Fai.record_in_file f h idx hidx r hr
  exact ⟨pre, post, h4, h5 ▸ h1⟩

/-- `position_correct`: for every sequence of a well-formed file and every base index `p` below its length,
`Record.Position p` does not panic and the byte of the file at that offset is base `p`. -/
theorem position_correct (f : File) (h : f.WF) (idx : Index) (hidx : newIndex f.render = .ok idx)
    (r : Rec) (hr : r ∈ f.recs) (p : Nat) (hp : p < r.bases.length) :
    ∃ R, idx.lookup r.name = some R ∧ R.Position p = .ok (R.position p) ∧
      f.render[R.position p]? = r.bases[p]? := by
  obtain ⟨R, h1, g, _⟩ := Hts.Lemmas.Fai.record_in_file f h idx hidx r hr
  refine ⟨R, h1, ?_, ?_⟩
  · have hin : ¬ ((p : Int) < 0 ∨ (R.length : Int) ≤ (p : Int)) := by rw [g.len]; omega
    rw [Record.Position, if_neg hin, Int.toNat_natCast]
  · exact g.getElem?_position hp

/-- `read_call`: one `Read` call with a buffer of `k` bytes, at any cursor of any valid range of any
sequence, stores exactly the next `min k (stop - cur)` bases and returns `nil` if the buffer was filled,
`io.EOF` otherwise. -/
theorem read_call (f : File) (h : f.WF) (idx : Index) (hidx : newIndex f.render = .ok idx)
    (r : Rec) (hr : r ∈ f.recs) (R : Record) (hR : idx.lookup r.name = some R)
    (cur start stop : Nat) (hc : cur ≤ stop) (hs : stop ≤ r.bases.length) (k : Nat) :
    Seq.read f.render ⟨R, cur, start, stop⟩ k =
      ⟨(r.bases.drop cur).take (min k (stop - cur)), if k ≤ stop - cur then .nil else .eof,
       cur + min k (stop - cur)⟩ := by
  obtain ⟨R', h1, g, _⟩ := Hts.Lemmas.Fai.record_in_file f h idx hidx r hr
  have e : R' = R := Option.some.inj (h1.symm.trans hR)
  subst e
  exact Hts.Lemmas.Fai.read_spec ⟨R', cur, start, stop⟩ g hc hs k

/-- `read_exact`: for all `0 ≤ s ≤ e ≤ length` and EVERY list of buffer sizes, `SeqRange(name, s, e)`
succeeds and the successive `Read` calls return `bases[s, e)`:
 (1) call by call they are `expectedCalls` — each call takes the next `k` bases while `k` remain, the first
     call that cannot be filled returns the remainder with io.EOF and the run stops;
 (2) the concatenation of everything read is `bases[s, min e (s + Σ sizes))`;
 (3) if the sizes add up to more than `e - s`, the run is `nil`-calls followed by exactly one `io.EOF`,
     and by (2) the bytes read are exactly `bases[s, e)`;
 (4) otherwise no call reports an error. -/
theorem read_exact (f : File) (h : f.WF) (idx : Index) (hidx : newIndex f.render = .ok idx)
    (r : Rec) (hr : r ∈ f.recs) (s e : Nat) (hse : s ≤ e) (he : e ≤ r.bases.length) (ks : List Nat) :
    ∃ sq, seqRange idx r.name s e = .ok sq ∧ sq.cur = s ∧ sq.start = s ∧ sq.stop = e ∧
      readCalls f.render sq ks = expectedCalls r.bases e s ks ∧
      ((readCalls f.render sq ks).map (·.1)).flatten = (r.bases.drop s).take (min (e - s) ks.sum) ∧
      (e - s < ks.sum → ∃ pre d, readCalls f.render sq ks = pre ++ [(d, .eof)] ∧ ∀ x ∈ pre, x.2 = .nil) ∧
      (ks.sum ≤ e - s → ∀ x ∈ readCalls f.render sq ks, x.2 = .nil) := by
  obtain ⟨R, h1, g, _⟩ := Hts.Lemmas.Fai.record_in_file f h idx hidx r hr
  have run := Hts.Lemmas.Fai.readCalls_run g s he ks s hse
  refine ⟨⟨R, s, s, e⟩, g.seqRange_nat h1 hse he, rfl, rfl, rfl, run.eq_expected,
    run.data, run.eof, ?_⟩
  rw [run.eq_expected]
  exact Hts.Lemmas.Fai.expectedCalls_nil r.bases e ks s

/-- `read_exact_any_readerat`: the same over ANY `io.ReaderAt` of the file.  `read_call`/`read_exact` fix the
reader's behaviour to that of `bytes.Reader`/`os.File` (io.EOF only with a short read).  The contract also lets a
reader report io.EOF together with a complete read that ends exactly at the end of the input; `eager` is an
arbitrary choice of the reads where it does so (`Model.Fai.readLoopE`).  For every such reader, every range and
every list of buffer sizes (`hks` asks for positive ones; the proof does not read it, a size 0 is covered): the bytes read are `bases[s, min e (s+Σk))`; every error is nil or io.EOF;
if `Σk > e-s` the run is nil-calls followed by exactly one io.EOF (so the bytes are exactly `bases[s,e)`) — an
io.EOF, early or not, is only ever returned once the segment is complete.  With `eager = fun _ _ => false` the
run is literally `readCalls` (`readCallsE_false`). -/
theorem read_exact_any_readerat (eager : Nat → Nat → Bool) (f : File) (h : f.WF) (idx : Index)
    (hidx : newIndex f.render = .ok idx) (r : Rec) (hr : r ∈ f.recs) (s e : Nat) (hse : s ≤ e)
    (he : e ≤ r.bases.length) (ks : List Nat) (hks : ∀ k ∈ ks, 1 ≤ k) :
    ∃ sq, seqRange idx r.name s e = .ok sq ∧
      ((readCallsE eager f.render sq ks).map (·.1)).flatten = (r.bases.drop s).take (min (e - s) ks.sum) ∧
      (e - s < ks.sum →
        ∃ pre d, readCallsE eager f.render sq ks = pre ++ [(d, .eof)] ∧ ∀ x ∈ pre, x.2 = .nil) ∧
      (∀ x ∈ readCallsE eager f.render sq ks, x.2 = .nil ∨ x.2 = .eof) ∧
      readCallsE (fun _ _ => false) f.render sq ks = readCalls f.render sq ks := by
  obtain ⟨R, hl, g, _⟩ := Hts.Lemmas.Fai.record_in_file f h idx hidx r hr
  have run := Hts.Lemmas.Fai.readCallsE_run (strict := False) eager nofun g s he ks s hse
  exact ⟨_, g.seqRange_nat hl hse he, run.data, run.eof, run.errs,
    Hts.Lemmas.Fai.readCallsE_false _ _ _⟩

/-- `read_whole`: `File.Seq(name)` is the range `[0, length)`: reading it returns all bases, then io.EOF. -/
theorem read_whole (f : File) (h : f.WF) (idx : Index) (hidx : newIndex f.render = .ok idx)
    (r : Rec) (hr : r ∈ f.recs) (ks : List Nat) :
    ∃ sq, seqWhole idx r.name = .ok sq ∧
      readCalls f.render sq ks = expectedCalls r.bases r.bases.length 0 ks ∧
      (r.bases.length < ks.sum → ((readCalls f.render sq ks).map (·.1)).flatten = r.bases) := by
  obtain ⟨R, h1, g, _⟩ := Hts.Lemmas.Fai.record_in_file f h idx hidx r hr
  have run := Hts.Lemmas.Fai.readCalls_run g 0 (Nat.le_refl _) ks 0 (Nat.zero_le _)
  refine ⟨⟨R, 0, 0, R.length⟩, by simp [seqWhole, h1], ?_, ?_⟩
  · rw [g.len]; exact run.eq_expected
  · intro hlt
    rw [g.len, run.data]
    simp only [Nat.sub_zero, List.drop_zero]
    rw [Nat.min_eq_left (by omega)]
    exact List.take_length

/-- `Reset` after any amount of reading puts the handle back to the state `SeqRange` returned, so every
statement of `read_exact` holds again after a `Reset`. -/
theorem reset_restores (idx : Index) (name : Bytes) (s e : Int) (sq : Seq)
    (h : seqRange idx name s e = .ok sq) (cur : Nat) : ({ sq with cur := cur } : Seq).reset = sq := by
  obtain ⟨r, _, _, _, _, rfl⟩ := Hts.Lemmas.Fai.seqRange_ok idx name s e sq h
  rfl

/-- Ranges outside `0 ≤ start ≤ end ≤ length` are refused (no `Seq` is handed out), for any index. -/
theorem seqRange_refuses (idx : Index) (name : Bytes) (s e : Int) (R : Record)
    (hR : idx.lookup name = some R) (hbad : s < 0 ∨ e < s ∨ (R.length : Int) < e) :
    seqRange idx name s e = .error .outOfRange := by
  unfold seqRange
  by_cases h0 : s < 0 ∨ e < 0 ∨ e < s
  · simp [h0]
  · have h2 : (R.length : Int) < s ∨ (R.length : Int) < e := by omega
    simp [h0, hR, h2]

/-! Three of the code's error branches in `NewIndex`, each after any well-formed prefix whose lines are all
terminated (`hfin`). -/

/-- a line that is `>` alone, possibly surrounded by white space: "fai: missing sequence name" -/
theorem newIndex_rejects_nameless_header (f : File) (h : f.WF) (hfin : ∀ r ∈ f.recs, r.finalNewline = true)
    (line rest : Bytes) (hl : Hts.Lemmas.Fai.Term line) (hb : trimSpace line = [GT]) :
    newIndex (f.render ++ (line ++ rest)) = .error .missingName := by
  obtain ⟨st', h1, _⟩ := Hts.Lemmas.Fai.scan_file_then f h hfin (line ++ rest)
  rw [newIndex, h1, Hts.Lemmas.Fai.scan_term st' line rest hl, Hts.Lemmas.Fai.step_case_nameless st' hb]

/-- a header repeating the name of an earlier record: "fai: duplicate sequence identifier" -/
theorem newIndex_rejects_duplicate (f : File) (h : f.WF) (hfin : ∀ r ∈ f.recs, r.finalNewline = true)
    (r : Rec) (hr : r ∈ f.recs) (d t rest : Bytes) (hd : Hts.Lemmas.Fai.DescTail d)
    (ht : ∀ b ∈ t, isSpace b = true) (hl : Hts.Lemmas.Fai.Term (GT :: (r.name ++ d) ++ t)) :
    newIndex (f.render ++ ((GT :: (r.name ++ d) ++ t) ++ rest)) = .error .duplicate := by
  obtain ⟨st', h1, h2⟩ := Hts.Lemmas.Fai.scan_file_then f h hfin ((GT :: (r.name ++ d) ++ t) ++ rest)
  obtain ⟨last, hok⟩ := Hts.Lemmas.Fai.recOK_of_mem h hr
  rw [newIndex, h1, Hts.Lemmas.Fai.scan_term st' _ rest hl,
    Hts.Lemmas.Fai.step_header st' r.name d t hok.name_ne hok.name_g hd ht, h2,
    Hts.Lemmas.Fai.entries_contains f r hr, if_pos rfl]

/-- a sequence line after a blank line — a blank line inside a record, or between the header and the sequence —
is rejected ("fai: unexpected short line", fixes/C19-4): such a file has no FAI description, and before the
repair it was indexed silently and read back with line terminators in place of bases. `line` is any line
that is neither blank nor a header. -/
theorem newIndex_rejects_blank_inside_record (f : File) (h : f.WF) (hfin : ∀ r ∈ f.recs, r.finalNewline = true)
    (bl : List Bytes) (hbl : bl ≠ []) (hb : ∀ l ∈ bl, ∀ b ∈ l, Hts.Spec.Fasta.isBlankByte b = true)
    (line rest : Bytes) (hl : Hts.Lemmas.Fai.Term line) (h1 : trimSpace line ≠ [])
    (h2 : (trimSpace line).head? ≠ some GT) :
    newIndex (f.render ++ ((Hts.Spec.Fasta.blankLines bl).flatten ++ (line ++ rest))) = .error .shortLine := by
  obtain ⟨st', hs, _⟩ :=
    Hts.Lemmas.Fai.scan_file_then f h hfin ((Hts.Spec.Fasta.blankLines bl).flatten ++ (line ++ rest))
  -- after the blank lines the scanner accepts only a description line
  rw [newIndex, hs, Hts.Lemmas.Fai.scans_blanks (c := true) bl st' hb _ (.inl rfl), if_neg hbl,
    Hts.Lemmas.Fai.scan_term _ line rest hl, Hts.Lemmas.Fai.step_case_seq _ h1 h2, if_pos rfl]

/-- Whatever bytes `NewIndex` is given, every record of an index it returns has `BasesPerLine > 0` unless its
`Length` is 0. -/
theorem newIndex_records_sane (fasta : Bytes) (idx : Index) (h : newIndex fasta = .ok idx) :
    ∀ R ∈ idx, R.basesPerLine = 0 → R.length = 0 := by
  unfold newIndex at h
  split at h
  · cases h
  · rename_i st hst
    cases h
    exact (Hts.Lemmas.Fai.flush_sane st (Hts.Lemmas.Fai.scan_sane fasta {} st ⟨fun _ => rfl, nofun⟩ hst)).2

/-- Whatever text `ReadFrom` is given, every record it accepts passed `Record.isValid`; in particular it has no
negative field, `BytesPerLine ≥ BasesPerLine`, and `BasesPerLine > 0` unless `Length` is 0. -/
theorem readFrom_records_valid (text : Bytes) (out : List RawRecord) (h : readFrom text = .ok out) :
    ∀ r ∈ out, r.isValid = true ∧ 0 ≤ r.length ∧ 0 ≤ r.start ∧ 0 ≤ r.basesPerLine ∧
      r.basesPerLine ≤ r.bytesPerLine ∧ (r.basesPerLine = 0 → r.length = 0) := by
  intro r hr
  have hv := readFrom_valid text out h r hr
  exact ⟨hv, Hts.Lemmas.Fai.valid_sane r hv⟩

/-- `read_never_divides_by_zero`: for an index `NewIndex` built from ANY input, any handle `SeqRange` or `Seq`
returns (any name and range it accepts), any cursor position (any earlier calls or `Reset`) and any buffer
size, `Read` does not hit the integer division by zero of `endOfLineOffset`/`position`: the model's `panicDiv`
outcome is unreachable through the package API.  (For an index accepted by `ReadFrom` the same is
`Hts.Props.C11.fai_accessors_safe`.) -/
theorem read_never_divides_by_zero (fasta file : Bytes) (idx : Index) (h : newIndex fasta = .ok idx)
    (name : Bytes) (s e : Int) (sq : Seq) (hsq : seqRange idx name s e = .ok sq ∨ seqWhole idx name = .ok sq)
    (cur k : Nat) : (Seq.read file { sq with cur := cur } k).err ≠ .panicDiv := by
  obtain ⟨hmem, hstop⟩ := seq_handle idx name sq s e hsq.symm
  exact Hts.Lemmas.Fai.read_no_div file { sq with cur := cur } (newIndex_records_sane fasta idx h sq.rcd hmem) hstop k

/-- own decimal formatting / parsing round trip (`%d` and `strconv.ParseInt` on Go's `int` range) -/
theorem decimal_roundtrip (n : Nat) (h : n < 2 ^ 63) : readInt (showNat n) = some (n : Int) :=
  Hts.Lemmas.Fai.readInt_showNat n h

/-- `fai_roundtrip`: any index with pairwise distinct names (a Go map), names without tab, line feed and
double quote, fields in Go's `int` range and records that pass `Record.isValid` is read back unchanged from the text `WriteTo` produces: the
same records (in ascending start order, the order of the text; a permutation of the map's records). -/
theorem fai_roundtrip (idx : Index) (h : IndexOK idx) :
    readFrom (writeTo idx) = .ok ((sortByStart idx).map Record.toRaw) ∧ (sortByStart idx).Perm idx :=
  ⟨Hts.Lemmas.Fai.readFrom_writeTo idx h, Hts.Lemmas.Fai.sortByStart_perm idx⟩

/-- `index_records_valid`: every record `NewIndex` builds from a well-formed file (smaller than 2^62 bytes)
passes the validation `ReadFrom` applies to the records it reads (`Record.isValid`: no negative field,
`BytesPerLine ≥ BasesPerLine`, `BasesPerLine = 0` only for an empty sequence, last line offset within int64),
so `ReadFrom` never rejects an index this package wrote for such a file because of that check. -/
theorem index_records_valid (f : File) (h : f.WF) (hsz : 2 * f.render.length + 2 < 2 ^ 63) (idx : Index)
    (hidx : newIndex f.render = .ok idx) : ∀ R ∈ idx, R.toRaw.isValid = true := by
  rw [index_true f h] at hidx
  cases hidx
  exact fun R hR => ((Hts.Lemmas.Fai.file_entries_valid f h hsz).2 R hR).2

/-- a record `ReadFrom` must reject (38c3f30): `a 10 0 0 0` has bases but no bases per line -/
example : (RawRecord.mk [97] 10 0 0 0).isValid = false := by decide

/-- The full-strength statement for files: the index of every well-formed file survives WriteTo/ReadFrom. -/
def fai_roundtrip_full : Prop :=
  ∀ (f : File), f.WF → 2 * f.render.length + 2 < 2 ^ 63 → ∀ idx, newIndex f.render = .ok idx →
    readFrom (writeTo idx) = .ok (idx.map Record.toRaw)

/-- `fai_roundtrip_partial`: it holds for every well-formed file none of whose names contains a double
quote (the .fai text is read through encoding/csv, which gives `"` a meaning) — the excluded case is a
recorded finding, see `fai_roundtrip_witness`.  The records come back in the order of the index itself
(file order = start order). -/
theorem fai_roundtrip_partial (f : File) (h : f.WF) (hq : ∀ r ∈ f.recs, DQ ∉ r.name)
    (hsz : 2 * f.render.length + 2 < 2 ^ 63) (idx : Index) (hidx : newIndex f.render = .ok idx) :
    readFrom (writeTo idx) = .ok (idx.map Record.toRaw) := by
  rw [index_true f h] at hidx
  cases hidx
  obtain ⟨hok, hsorted⟩ := Hts.Lemmas.Fai.file_indexOK f h hq hsz
  have := Hts.Lemmas.Fai.readFrom_writeTo _ hok
  rw [hsorted] at this
  exact this

/-- The file `>a"b\nA\n` of the finding. -/
def quoteFile : File :=
  { recs := [{ name := [97, 34, 98], desc := none, bases := [65], width := 1, eol := .lf, finalNewline := true,
               blanksAfter := [] }] }

/-- `fai_roundtrip_witness`: the full statement is false on the code as it is: the well-formed file
`>a"b\nA\n` is indexed as `a"b 1 5 1 2`, WriteTo prints the name verbatim, and ReadFrom rejects the line
(csv.ErrBareQuote). -/
theorem fai_roundtrip_witness : ¬ fai_roundtrip_full := by
  intro hfull
  have hwf : quoteFile.WF := by decide
  have hidx : newIndex quoteFile.render = .ok [⟨[97, 34, 98], 1, 5, 1, 2⟩] := index_true quoteFile hwf
  have hlen : 2 * quoteFile.render.length + 2 < 2 ^ 63 := by
    have : quoteFile.render = [62, 97, 34, 98, 10, 65, 10] := by
      simp [quoteFile, File.render, File.leading, Rec.render, Rec.fileLines, Rec.lines, Rec.headerLine,
        Hts.Lemmas.Fai.seqLines_single, Hts.Spec.Fasta.terminate, Hts.Spec.Fasta.blankLines,
        Hts.Spec.Fasta.Eol.bytes, Hts.Spec.Fasta.GT, Hts.Spec.Fasta.LF]
    rw [this]; decide
  have := hfull quoteFile hwf hlen _ hidx
  have hw : writeTo [⟨[97, 34, 98], 1, 5, 1, 2⟩] = [97, 34, 98, 9, 49, 9, 53, 9, 49, 9, 50, 10] := by
    simp [writeTo, sortByStart, insertByStart, writeRec, Hts.Lemmas.Fai.showNat_lt, digit, TAB, LF]
  rw [hw] at this
  have hr : readFrom [97, 34, 98, 9, 49, 9, 53, 9, 49, 9, 50, 10] = .error .bareQuote := by rfl
  rw [hr] at this
  cases this

example : sampleFile.WF := Hts.Lemmas.Fai.sampleFile_wf

/-! Instances of the theorems on `sampleFile` (a leading blank line; record `s1`: CRLF, description, 8 bases on
lines of 4, two blank lines after it; record `s2`: LF, 3 bases on lines of 2, short last line without final
newline): every hypothesis is discharged, so none of the statements is vacuous. -/

example : newIndex sampleFile.render = .ok [⟨[115, 49], 8, 11, 4, 6⟩, ⟨[115, 50], 3, 32, 2, 3⟩] := by
  rw [index_true sampleFile Hts.Lemmas.Fai.sampleFile_wf, Hts.Lemmas.Fai.sampleFile_entries]
  rfl

example := position_correct sampleFile Hts.Lemmas.Fai.sampleFile_wf _ (index_true sampleFile Hts.Lemmas.Fai.sampleFile_wf)
  Hts.Lemmas.Fai.sampleRec1 Hts.Lemmas.Fai.sampleRec1_mem 5 (by decide)

/-- the range [1,3) of `s2` (it crosses the line end and reaches the unterminated last line), buffers 1 then 7 -/
example := read_exact sampleFile Hts.Lemmas.Fai.sampleFile_wf _ (index_true sampleFile Hts.Lemmas.Fai.sampleFile_wf)
  Hts.Lemmas.Fai.sampleRec2 Hts.Lemmas.Fai.sampleRec2_mem 1 3 (by decide) (by decide) [1, 7]

/-- the range [2,8) of the CRLF record `s1`, buffers 3, 3, 3 -/
example := read_exact sampleFile Hts.Lemmas.Fai.sampleFile_wf _ (index_true sampleFile Hts.Lemmas.Fai.sampleFile_wf)
  Hts.Lemmas.Fai.sampleRec1 Hts.Lemmas.Fai.sampleRec1_mem 2 8 (by decide) (by decide) [3, 3, 3]

/-- the last range of the last record (no final newline) over a reader that reports io.EOF with the last bytes -/
example := read_exact_any_readerat (fun _ _ => true) sampleFile Hts.Lemmas.Fai.sampleFile_wf _ (index_true sampleFile Hts.Lemmas.Fai.sampleFile_wf)
  Hts.Lemmas.Fai.sampleRec2 Hts.Lemmas.Fai.sampleRec2_mem 1 3 (by decide) (by decide) [2, 5] (by decide)

example := read_whole sampleFile Hts.Lemmas.Fai.sampleFile_wf _ (index_true sampleFile Hts.Lemmas.Fai.sampleFile_wf)
  Hts.Lemmas.Fai.sampleRec1 Hts.Lemmas.Fai.sampleRec1_mem [64]

example := read_call sampleFile Hts.Lemmas.Fai.sampleFile_wf _ (index_true sampleFile Hts.Lemmas.Fai.sampleFile_wf)
  Hts.Lemmas.Fai.sampleRec2 Hts.Lemmas.Fai.sampleRec2_mem _
  (index_lookup sampleFile Hts.Lemmas.Fai.sampleFile_wf _ (index_true sampleFile Hts.Lemmas.Fai.sampleFile_wf)
    Hts.Lemmas.Fai.sampleRec2 Hts.Lemmas.Fai.sampleRec2_mem).choose_spec.choose_spec.2 1 0 3 (by decide) (by decide) 4096

example := index_records_valid sampleFile Hts.Lemmas.Fai.sampleFile_wf Hts.Lemmas.Fai.sampleFile_size _
  (index_true sampleFile Hts.Lemmas.Fai.sampleFile_wf)

example := fai_roundtrip_partial sampleFile Hts.Lemmas.Fai.sampleFile_wf (by decide) Hts.Lemmas.Fai.sampleFile_size _
  (index_true sampleFile Hts.Lemmas.Fai.sampleFile_wf)

/-- rejection theorems on `sampleFile`'s first record alone (all lines terminated): `>s1 d e\r\nACGT\r\nACGT\r\n`
followed by a blank line and `AC\n` (blank line inside a record), by `>\n`, and by a second `>s1` header -/
example := newIndex_rejects_blank_inside_record Hts.Lemmas.Fai.sampleFile1 Hts.Lemmas.Fai.sampleFile1_wf (by decide)
  [[]] (by decide) (by decide) [65, 67, 10] [] ⟨[65, 67], by decide, rfl⟩ (by decide) (by decide)

example := newIndex_rejects_nameless_header Hts.Lemmas.Fai.sampleFile1 Hts.Lemmas.Fai.sampleFile1_wf (by decide)
  [62, 10] [65, 10] ⟨[62], by decide, rfl⟩ (by decide)

example := newIndex_rejects_duplicate Hts.Lemmas.Fai.sampleFile1 Hts.Lemmas.Fai.sampleFile1_wf (by decide)
  Hts.Lemmas.Fai.sampleRec1b (by simp [Hts.Lemmas.Fai.sampleFile1]) [32, 120] [10] [65, 10]
  (Or.inr ⟨32, [120], rfl, by decide, by decide⟩) (by decide) ⟨[62, 115, 49, 32, 120], by decide, rfl⟩

/-- an index built from arbitrary bytes (`ACGT` before any header: not a well-formed file) still cannot make
`Read` divide by zero -/
example (idx : Index) (h : newIndex [65, 67, 71, 84, 10, 62, 97, 10] = .ok idx) (sq : Seq)
    (hsq : seqWhole idx [97] = .ok sq) :=
  read_never_divides_by_zero _ [] idx h [97] 0 0 sq (Or.inr hsq) 0 1

/-- an empty sequence followed by another record is well formed too -/
example : ({ recs := [{ name := [97], desc := none, bases := [], width := 1, eol := .lf, finalNewline := true,
                        blanksAfter := [[]] },
                      { name := [98], desc := some [9], bases := [65], width := 60, eol := .lf,
                        finalNewline := true, blanksAfter := [] }] } : File).WF := by decide

/-- the hypotheses of the rejection theorems are satisfiable: the line `>\n`, and the header `>s1 x\n` -/
example : Hts.Lemmas.Fai.Term [62, 10] ∧ trimSpace [62, 10] = [GT] :=
  ⟨⟨[62], by decide, rfl⟩, by decide⟩

example : Hts.Lemmas.Fai.DescTail [32, 120] ∧ Hts.Lemmas.Fai.Term (GT :: ([115, 49] ++ [32, 120]) ++ [10]) :=
  ⟨Or.inr ⟨32, [120], rfl, by decide, by decide⟩, ⟨[62, 115, 49, 32, 120], by decide, rfl⟩⟩

/-- the hypotheses of `fai_roundtrip` are satisfiable by a two-record index -/
example : IndexOK [⟨[97], 6, 3, 4, 5⟩, ⟨[98], 6, 15, 4, 5⟩] :=
  ⟨by decide, by unfold NameOK; decide, by unfold Small; decide, by decide⟩

/-! ### the scanner — tokens do not depend on how the source delivers its bytes

`Model/FaiScan.lean`: `split` (the Split function of `NewIndex`), `scanTokens sp eofWithLast chunks` (bufio.Scanner's
loop over a source whose successive `Read`s return `chunks`, `io.EOF` arriving with the last chunk or on a separate
empty read; empty chunks = empty reads without EOF are allowed), `lines` (the specification). -/

/-- `lines` is a cut of the data: nothing lost, nothing reordered. -/
theorem lines_flatten (data : Bytes) : (lines data).flatten = data := by
  induction data with
  | nil => rfl
  | cons b bs ih =>
    simp only [lines]
    split
    · cases h : lines bs with
      | nil => rw [h] at ih; simp at ih; simp [← ih]
      | cons l ls => rw [h] at ih; simp at ih; simp [← ih]
    · simp [ih]

/-- `lines`, first clause: an LF-free piece followed by an LF is the first line, terminator included. -/
theorem lines_terminated (l : Bytes) (rest : Bytes) (hl : ∀ x ∈ l, x ≠ LF) :
    lines (l ++ LF :: rest) = (l ++ [LF]) :: lines rest :=
  Hts.Lemmas.FaiScanner.lines_terminated l LF rest (fun x hx => Hts.Lemmas.FaiScanner.notLF_of_ne (hl x hx))
    (by decide)

/-- `lines`, last clause: a non-empty LF-free rest is the one final, unterminated line (and `lines [] = []`). -/
theorem lines_unterminated (l : Bytes) (hne : l ≠ []) (hl : ∀ x ∈ l, x ≠ LF) : lines l = [l] ∧ lines [] = [] :=
  ⟨Hts.Lemmas.FaiScanner.lines_unterminated l hne (fun x hx => Hts.Lemmas.FaiScanner.notLF_of_ne (hl x hx)), rfl⟩

/-- `split` never stalls and never advances too far: a token always comes with `0 < advance ≤ len(data)`
(so the model's "outside the model" branch of `drainF` is dead for it). -/
theorem split_advance_ok (data : Bytes) (atEOF : Bool) (adv : Nat) (tok : Bytes)
    (h : split data atEOF = (adv, some tok)) : 0 < adv ∧ adv ≤ data.length := by
  rcases Hts.Lemmas.FaiScanner.lf_cases data with hn | ⟨l, nl, rest, rfl, hl, hnl⟩
  · cases atEOF
    · rw [Hts.Lemmas.FaiScanner.split_noLF_false data hn] at h
      cases h
    · by_cases hd : data = []
      · subst hd
        cases h
      · rw [Hts.Lemmas.FaiScanner.split_noLF_true data hd hn] at h
        cases h
        exact ⟨List.length_pos_iff.mpr hd, Nat.le_refl _⟩
  · rw [(Hts.Lemmas.FaiScanner.split_line l nl rest atEOF hl hnl).1] at h
    cases h
    rw [List.length_append, List.length_cons]
    omega

/-- For every byte string, every way of cutting it into reads (empty reads included) and both ways of
delivering `io.EOF`, the scanner's token sequence is `lines` of the concatenated data. -/
theorem newIndex_tokens_eq_lines (eofWithLast : Bool) (chunks : List Bytes) :
    scanTokens split eofWithLast chunks = lines chunks.flatten := by
  exact Hts.Lemmas.FaiScanner.scanFrom_split eofWithLast chunks []

/-- Two deliveries of the same bytes give the same tokens. -/
theorem newIndex_tokens_independent_of_delivery (e₁ e₂ : Bool) (chunks₁ chunks₂ : List Bytes)
    (h : chunks₁.flatten = chunks₂.flatten) :
    scanTokens split e₁ chunks₁ = scanTokens split e₂ chunks₂ := by
  rw [newIndex_tokens_eq_lines, newIndex_tokens_eq_lines, h]

/-- The whole-string model `newIndex` (used by every theorem above) cuts its input into exactly `lines`. -/
theorem newIndex_is_stepAll_over_lines (fasta : Bytes) : newIndex fasta = newIndexTokens (lines fasta) := by
  rw [newIndex, newIndexTokens, Hts.Lemmas.FaiScanner.scan_eq_stepAll]
  cases stepAll {} (lines fasta) <;> rfl

/-- Composition: `NewIndex` over ANY delivery of `fasta` equals the whole-string model — so every theorem about
`newIndex fasta` holds for every delivery. -/
theorem newIndex_every_delivery (eofWithLast : Bool) (chunks : List Bytes) :
    newIndexStream eofWithLast chunks = newIndex chunks.flatten := by
  rw [newIndex_is_stepAll_over_lines, newIndexStream, newIndex_tokens_eq_lines]

/-- `index_true` for every delivery: whatever the chunking / EOF style, a well-formed file gets its true index. -/
theorem index_true_every_delivery (f : File) (h : f.WF) (eofWithLast : Bool) (chunks : List Bytes)
    (hc : chunks.flatten = f.render) :
    newIndexStream eofWithLast chunks = .ok (f.entries.map ofEntry) := by
  rw [newIndex_every_delivery, hc]; exact index_true f h

/-- A split function that at EOF returns everything left as one token (`splitEager`) is told apart: on `"a\nb\n"` delivered in one
read together with `io.EOF` its tokens are `["a\nb\n"]`, not `lines = ["a\n","b\n"]`; over a source that reports EOF
separately the same bytes come out right — which is why a `bytes.Reader`-only test cannot see it. The resulting
index differs too (`>a\nAC\nGT\n`: one record named `a\nAC\nGT` of length 0 instead of `a 4 3 2 3`). -/
theorem newIndex_tokens_witness :
    scanTokens splitEager true [[97, 10, 98, 10]] = [[97, 10, 98, 10]] ∧
    lines [97, 10, 98, 10] = [[97, 10], [98, 10]] ∧
    scanTokens splitEager false [[97, 10, 98, 10]] = lines [97, 10, 98, 10] ∧
    scanTokens split true [[97, 10, 98, 10]] = lines [97, 10, 98, 10] ∧
    newIndexTokens (scanTokens splitEager true [[62, 97, 10, 65, 67, 10, 71, 84, 10]]) =
      .ok [⟨[97, 10, 65, 67, 10, 71, 84], 0, 9, 0, 0⟩] ∧
    newIndexStream true [[62, 97, 10, 65, 67, 10, 71, 84, 10]] = .ok [⟨[97], 4, 3, 2, 3⟩] :=
  ⟨by decide, by decide, by decide, by decide, rfl, rfl⟩

/-! non-vacuity of the scanner statements: concrete deliveries (byte by byte, with empty reads, EOF both ways) -/
example : scanTokens split false [[97], [], [10, 98], [], [10], [99]] = [[97, 10], [98, 10], [99]] := by decide
example : scanTokens split true [[97], [], [10, 98], [], [10], [99]] = [[97, 10], [98, 10], [99]] := by decide
example : scanTokens split true [] = [] ∧ scanTokens split false [[], []] = [] := by decide
example : lines [10, 10, 97] = [[10], [10], [97]] := by decide
example := newIndex_tokens_independent_of_delivery true false [[97, 10, 98], [10]] [[97], [10, 98, 10], []] (by decide)
example := index_true_every_delivery sampleFile Hts.Lemmas.Fai.sampleFile_wf true [sampleFile.render] (by simp)
example := index_true_every_delivery sampleFile Hts.Lemmas.Fai.sampleFile_wf false
  [sampleFile.render.take 7, [], sampleFile.render.drop 7] (by simp)
example : split [97, 10, 98] true = (2, some [97, 10]) ∧ split [97] false = (0, none) ∧
    split [97] true = (1, some [97]) ∧ split [] true = (0, none) := by decide

end Hts.Props.C19
