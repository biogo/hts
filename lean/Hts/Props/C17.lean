/-
C17 — Chunk merge strategies never lose coverage.
All statements are for every list of chunks (any length, any offsets, including
empty, nested, touching, duplicate, zero-length and inverted chunks) and every threshold (incl. negative); the `*_sorted`,
`*_covers` and `adjacent_covers_exactly` theorems are for lists sorted by begin (`SortedB`), as the strategies' callers sort
them, and those that take the hypothesis need it: `adjacent [10:0-20:0, 0:0-5:0] = [10:0-20:0]` loses position 0.
-/
import Hts.Lemmas.MergeEnc
namespace Hts.Props.C17
open Hts.Model.Merge

theorem adjacent_sorted (cs : List Chunk) (h : SortedB cs) : SortedB (adjacent cs) :=
  mergeAll_sorted adjClose cs h

theorem compressor_sorted (near : Int) (cs : List Chunk) (h : SortedB cs) : SortedB (compressor near cs) :=
  mergeAll_sorted (nearClose near) cs h

theorem squash_sorted (cs : List Chunk) : SortedB (squash cs) := by
  cases cs <;> trivial

theorem identity_sorted (cs : List Chunk) (h : SortedB cs) : SortedB (identity cs) := h

theorem adjacent_covers (cs : List Chunk) (p : Int) (h : SortedB cs) (hc : covers cs p) :
    covers (adjacent cs) p :=
  enclosed_covers adjacent cs (adjacent_enc cs h) p hc

theorem compressor_covers (near : Int) (cs : List Chunk) (p : Int) (h : SortedB cs) (hc : covers cs p) :
    covers (compressor near cs) p :=
  enclosed_covers (compressor near) cs (compressor_enc near cs h) p hc

theorem squash_covers (cs : List Chunk) (p : Int) (h : SortedB cs) (hc : covers cs p) :
    covers (squash cs) p :=
  enclosed_covers squash cs (squash_enc cs h) p hc

theorem identity_covers (cs : List Chunk) (p : Int) (hc : covers cs p) : covers (identity cs) p := hc

theorem adjacent_covers_exactly (cs : List Chunk) (p : Int) (h : SortedB cs) :
    covers (adjacent cs) p ↔ covers cs p := by
  constructor
  · intro hc
    cases cs with
    | nil => exact hc
    | cons c cs => exact mergeLoop_adj_covers_only c cs p hc
  · exact adjacent_covers cs p h   -- only this direction needs `h`

/-- neighbours of the result are strictly separated: `left.End < right.Begin` -/
theorem adjacent_separated (cs : List Chunk) : NoClose adjClose (adjacent cs) :=
  mergeAll_noClose adjClose adjClose_closeB cs

/-- Squash returns a single chunk, from the first begin to the largest of the input's ends (one of them, not a wider
bound): on a list sorted by begin, the enclosing chunk -/
theorem squash_enclosing (c : Chunk) (cs : List Chunk) :
    ∃ e, squash (c :: cs) = [{ b := c.b, e := e }] ∧
      (∀ x, x ∈ c :: cs → vOff x.e ≤ vOff e) ∧ (∃ x, x ∈ c :: cs ∧ e = x.e) := by
  refine ⟨maxEnd c.e cs, rfl, ?_, ?_⟩
  · exact List.forall_mem_cons.2 (maxEnd_ge c.e cs)
  · rcases maxEnd_mem c.e cs with h | ⟨x, hx, hxe⟩
    · exact ⟨c, List.mem_cons_self, h⟩
    · exact ⟨x, List.mem_cons_of_mem _ hx, hxe⟩

theorem squash_empty : squash [] = [] := rfl

/-- a Compressor leaves no two neighbours within its threshold of each other, in the code's own comparison (Go's
wrapping `int64` difference of the file offsets) -/
theorem compressor_gap (near : Int) (cs : List Chunk) : NoClose (nearClose near) (compressor near cs) :=
  mergeAll_noClose (nearClose near) (nearClose_closeB near) cs

/-- the same in the documentation's own terms (exact integers, no wrap-around), for EVERY threshold: when
the file offsets of the input are valid (`0 ≤ File < 2^63`), no two neighbours of the result have block
starts within `near` of each other -/
theorem compressor_gap_exact (near : Int) (cs : List Chunk)
    (hb : ∀ c, c ∈ cs → 0 ≤ c.b.file ∧ c.b.file < 2 ^ 63 ∧ 0 ≤ c.e.file ∧ c.e.file < 2 ^ 63) :
    NoClose (nearCloseExact near) (compressor near cs) := by
  cases cs with
  | nil => trivial
  | cons c cs =>
    refine noClose_congr (nearClose near) (nearCloseExact near)
      (fun a => (0 ≤ a.b.file ∧ a.b.file < 2 ^ 63) ∧ 0 ≤ a.e.file ∧ a.e.file < 2 ^ 63) ?_ _
      (mergeLoop_offsets (fun o => 0 ≤ o.file ∧ o.file < 2 ^ 63) _ c cs fun y hy => and_assoc.2 (hb y hy))
      (compressor_gap near (c :: cs))
    intro a b ha hb'
    have e : wrap64 (b.b.file - a.e.file) = b.b.file - a.e.file := wrap64_id _ (by omega) (by omega)
    simp only [nearClose, nearCloseExact, e]
    congr 1; apply propext; omega

/-- also at the largest threshold: everything merges (before repair fd67b69 the sum `End.File+near`
wrapped negative and nothing merged) -/
theorem compressor_max_threshold_witness :
    compressor (2 ^ 63 - 1) [⟨⟨0, 0⟩, ⟨1, 0⟩⟩, ⟨⟨1, 0⟩, ⟨2, 0⟩⟩] = [⟨⟨0, 0⟩, ⟨2, 0⟩⟩] := by decide

theorem adjacent_idempotent (cs : List Chunk) : adjacent (adjacent cs) = adjacent cs :=
  mergeAll_idem adjClose adjClose_closeB cs

theorem compressor_idempotent (near : Int) (cs : List Chunk) :
    compressor near (compressor near cs) = compressor near cs :=
  mergeAll_idem (nearClose near) (nearClose_closeB near) cs

theorem squash_idempotent (cs : List Chunk) : squash (squash cs) = squash cs := by
  cases cs with
  | nil => rfl
  | cons c cs => rfl

theorem identity_idempotent (cs : List Chunk) : identity (identity cs) = identity cs := rfl

/-! Non-vacuity: a sorted list with nested, touching, duplicate and zero-length chunks. -/
def ex : List Chunk :=
  [⟨⟨0, 0⟩, ⟨10, 5⟩⟩, ⟨⟨2, 0⟩, ⟨3, 0⟩⟩, ⟨⟨10, 5⟩, ⟨12, 0⟩⟩, ⟨⟨10, 5⟩, ⟨12, 0⟩⟩, ⟨⟨20, 0⟩, ⟨20, 0⟩⟩, ⟨⟨30, 7⟩, ⟨31, 0⟩⟩]
example : SortedB ex := by simp [SortedB, ex, vOff]
example : adjacent ex = [⟨⟨0, 0⟩, ⟨12, 0⟩⟩, ⟨⟨20, 0⟩, ⟨20, 0⟩⟩, ⟨⟨30, 7⟩, ⟨31, 0⟩⟩] := by decide
example : covers ex (11 * 65536) := ⟨⟨⟨10, 5⟩, ⟨12, 0⟩⟩, by decide, by simp [covers1, vOff]⟩
example : compressor 9 ex = [⟨⟨0, 0⟩, ⟨20, 0⟩⟩, ⟨⟨30, 7⟩, ⟨31, 0⟩⟩] := by decide

end Hts.Props.C17
