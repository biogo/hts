/-
C16 — Coordinate arithmetic (End, Len, Bin, CIGAR lengths, bin lists) matches the specification.
Every statement is for all positions, all CIGARs (any number of operations, any lengths), all
overlapping interval pairs and all CSI geometries with depth ≤ 10 (deeper schemes have bin numbers
that do not fit the `uint32` the format stores).
-/
import Hts.Lemmas.Coord
import Hts.Lemmas.Cigar
namespace Hts.Props.C16
open Hts.Model.Coord
open Hts.Spec.Coord (refLen queryLen maxReach posAfter)

/-- only the nine standard operations M I D N S H P = X (types 0..8) -/
def Standard (c : List CigarOp) : Prop := ∀ co, co ∈ c → co.typ ≤ 8
/-- the standard operations and the `B` extension (type 9) -/
def StandardB (c : List CigarOp) : Prop := ∀ co, co ∈ c → co.typ ≤ 9

theorem standard_standardB {c} (h : Standard c) : StandardB c := fun co hc => Nat.le_succ_of_le (h co hc)

/-- `Cigar.Lengths` = (Σ reference-consuming lengths, Σ query-consuming lengths), never a panic -/
theorem lengths_spec (c : List CigarOp) (h : StandardB c) :
    cigarLengths c = some (refLen c, queryLen c) := by
  rw [cigarLengths, lengthsLoop_spec c 0 0, Int.zero_add, Int.zero_add]

/-- a mapped read with a CIGAR over the standard operations ends at `pos + reference length` -/
theorem end_spec (pos : Int) (c : List CigarOp) (hne : c ≠ []) (h : Standard c) :
    recordEnd false pos c = some (pos + refLen c) := by
  rw [recordEnd_mapped pos c hne, maxReach_noB c pos h]

/-- with the `B` extension: the highest coordinate reached by any prefix of the CIGAR -/
theorem end_spec_B (pos : Int) (c : List CigarOp) (hne : c ≠ []) (h : StandardB c) :
    recordEnd false pos c = some (maxReach pos c) ∧
      (∀ k, posAfter pos (c.take k) ≤ maxReach pos c) ∧ (∃ k, maxReach pos c = posAfter pos (c.take k)) :=
  ⟨recordEnd_mapped pos c hne, maxReach_is_max c pos⟩

/-- unmapped reads and reads without a CIGAR are one base long (SAM §4.2.1) -/
theorem end_unmapped (pos : Int) (c : List CigarOp) : recordEnd true pos c = some (pos + 1) := rfl

theorem end_no_cigar (u : Bool) (pos : Int) : recordEnd u pos [] = some (pos + 1) := by
  cases u <;> rfl

theorem len_spec (pos : Int) (c : List CigarOp) (hne : c ≠ []) (h : Standard c) :
    recordLen false pos c = some (refLen c) := by
  unfold recordLen
  rw [end_spec pos c hne h]
  simp only [Option.map_some]
  congr 1; omega

/-- `Cigar.IsValid(n)` never panics on standard operations and is true exactly when the query-consuming
lengths sum to `n`, every `H` is first or last, and every `S` is first, last or next to an `H`. -/
theorem isvalid_spec (c : List CigarOp) (n : Int) (h : Standard c) :
    ∃ b, cigarIsValid c n = some b ∧
      (b = true ↔ (∀ j, HCond c j ∧ SCond c j) ∧ queryLen c = n) := by
  obtain ⟨b, hb, hiff⟩ := isValidLoop_spec c h c [] 0 n rfl (Int.le_refl _)
  refine ⟨b, hb, ?_⟩
  rw [hiff, eq_comm]
  exact and_congr_left fun _ => forall_congr' fun j => imp_iff_right (Nat.zero_le j)

/-! On the indexable range the Go-shaped bin functions are the specification's. -/

theorem binFor_is_spec (beg end_ : Nat) (h1 : beg < end_) (h2 : end_ ≤ 2 ^ 29) :
    binFor beg end_ = Hts.Spec.Coord.reg2bin beg end_ 14 5 := binFor_spec beg end_ h1 h2

theorem overlappingBinsFor_is_spec (beg end_ : Nat) (h1 : beg < end_) (h2 : end_ ≤ 2 ^ 29) :
    overlappingBinsFor beg end_ = Hts.Spec.Coord.reg2bins beg end_ 14 5 :=
  overlappingBinsFor_spec beg end_ h1 h2

/-- for depth ≤ 10 the running `uint32` level offset of csi.reg2bin is (8^level - 1)/7 at every level (`levelOffset_pred_u32`), so
the loop is the specification's recursion -/
theorem csi_reg2bin_is_spec (beg end_ ms d : Nat) (hd : d ≤ 10) (h1 : beg < end_)
    (h2 : end_ ≤ 2 ^ (ms + 3 * d)) : reg2bin beg end_ ms d = Hts.Spec.Coord.reg2bin beg end_ ms d :=
  reg2bin_spec beg end_ ms d hd h1 h2

theorem csi_reg2bins_is_spec (beg end_ ms d : Nat) (hd : d ≤ 10) (h1 : beg < end_)
    (h2 : end_ ≤ 2 ^ (ms + 3 * d)) : reg2bins beg end_ ms d = Hts.Spec.Coord.reg2bins beg end_ ms d :=
  reg2bins_spec beg end_ ms d hd h1 h2

/-- the record's bin is the specification's bin of [pos, end), an alignment length of 0 wrapped to 1
(SAM v1 §4.2.1): for every placed record on the indexable range, whatever its End is -/
theorem bin_spec (u mu : Bool) (pos : Nat) (c : List CigarOp) (e : Nat)
    (hend : recordEnd u pos c = some (e : Int)) (h1 : pos ≤ e) (h2 : e ≤ 2 ^ 29) (h3 : pos < 2 ^ 29) :
    recordBin u mu pos c = some (Hts.Spec.Coord.reg2bin pos (if e = pos then pos + 1 else e) 14 5) := by
  rw [recordBin, hend, Option.map_some]
  by_cases he : e = pos
  · subst he
    rw [if_pos rfl, if_pos rfl]
    exact congrArg some (binFor_spec e (e + 1) (by omega) (by omega))
  · rw [if_neg (by omega), if_neg he, binFor_spec pos e (by omega) h2]

/-- a mapped read over the standard operations: the bin of [pos, pos + max(1, reference length)) -/
theorem bin_spec_mapped (mu : Bool) (pos : Nat) (c : List CigarOp) (hne : c ≠ []) (h : Standard c)
    (h2 : (pos : Int) + refLen c ≤ 2 ^ 29) (h3 : pos < 2 ^ 29) :
    recordBin false mu pos c =
      some (Hts.Spec.Coord.reg2bin pos (if refLen c = 0 then pos + 1 else pos + (refLen c).toNat) 14 5) := by
  have hend := end_spec pos c hne h
  have hnn := refLen_nonneg c
  have hcast : ((pos : Int) + refLen c) = ((pos + (refLen c).toNat : Nat) : Int) := by omega
  rw [hcast] at hend
  have := bin_spec false mu pos c (pos + (refLen c).toNat) hend (by omega) (by omega) h3
  rw [this]
  by_cases h0 : refLen c = 0
  · rw [if_pos h0, if_pos (by omega)]
  · rw [if_neg h0, if_neg (by omega)]

/-- an unplaced read (no position: 0-based -1), unmapped or without CIGAR, has bin 4680 = reg2bin(-1, 0) -/
theorem bin_unplaced (u mu : Bool) (c : List CigarOp) (h : u = true ∨ c = []) :
    recordBin u mu (-1) c = some 4680 := by
  have he : recordEnd u (-1) c = some (-1 + 1) := by
    rcases h with rfl | rfl
    · exact end_unmapped _ _
    · exact end_no_cigar _ _
  rw [recordBin, he]
  decide

/-- the bin of an interval is listed for every overlapping interval, for every scheme (specification level) -/
theorem spec_bin_in_bins (beg1 end1 beg2 end2 ms d : Nat) (h1 : beg1 < end1) (h2 : beg2 < end2)
    (hov1 : beg1 < end2) (hov2 : beg2 < end1) (hr : beg2 < 2 ^ (ms + 3 * d)) :
    Hts.Spec.Coord.reg2bin beg1 end1 ms d ∈ Hts.Spec.Coord.reg2bins beg2 end2 ms d :=
  Hts.Spec.Coord.bin_in_bins beg1 end1 beg2 end2 ms d h1 h2 hov1 hov2 hr

/-- BAI: `BinFor` of one interval is in `OverlappingBinsFor` of every overlapping one -/
theorem bai_bin_in_bins (beg1 end1 beg2 end2 : Nat) (h1 : beg1 < end1) (h2 : beg2 < end2)
    (hov1 : beg1 < end2) (hov2 : beg2 < end1) (hr1 : end1 ≤ 2 ^ 29) (hr2 : end2 ≤ 2 ^ 29) :
    binFor beg1 end1 ∈ overlappingBinsFor beg2 end2 := by
  rw [binFor_spec beg1 end1 h1 hr1, overlappingBinsFor_spec beg2 end2 h2 hr2]
  exact Hts.Spec.Coord.bin_in_bins beg1 end1 beg2 end2 14 5 h1 h2 hov1 hov2 (by omega)

/-- CSI: `reg2bin` of one interval is in `reg2bins` of every overlapping one, for every geometry -/
theorem csi_bin_in_bins (beg1 end1 beg2 end2 ms d : Nat) (hd : d ≤ 10) (h1 : beg1 < end1) (h2 : beg2 < end2)
    (hov1 : beg1 < end2) (hov2 : beg2 < end1) (hr1 : end1 ≤ 2 ^ (ms + 3 * d)) (hr2 : end2 ≤ 2 ^ (ms + 3 * d)) :
    reg2bin beg1 end1 ms d ∈ reg2bins beg2 end2 ms d := by
  rw [reg2bin_spec beg1 end1 ms d hd h1 hr1, reg2bins_spec beg2 end2 ms d hd h2 hr2]
  exact Hts.Spec.Coord.bin_in_bins beg1 end1 beg2 end2 ms d h1 h2 hov1 hov2 (by omega)

/-- BAI: a query end beyond the indexable range is cut at 2^29 -/
theorem bai_bins_beyond_range (beg end_ : Int) (h : 536870912 < end_) :
    overlappingBinsFor beg end_ = overlappingBinsFor beg 536870912 := overlappingBinsFor_clamp beg end_ h

/-- BAI: `BinFor` of an interval in range is in `OverlappingBinsFor` of every overlapping query, whatever the
query's end (up to any `int`) -/
theorem bai_bin_in_bins_any_end (beg1 end1 beg2 : Nat) (end2 : Int) (h1 : beg1 < end1) (hr1 : end1 ≤ 2 ^ 29)
    (h2 : (beg2 : Int) < end2) (hov1 : (beg1 : Int) < end2) (hov2 : beg2 < end1) :
    binFor beg1 end1 ∈ overlappingBinsFor beg2 end2 :=
  binFor_mem_overlappingBinsFor beg1 end1 beg2 end2 (by omega) (by omega) (by omega) (by omega) h2 hov1 (by omega)

/-- CSI: **`reg2bins` returns for every query** — no `uint32` loop of the repaired function runs for ever -/
theorem csi_reg2bins_returns (beg end_ : Int) (ms d : Nat) (hd : d ≤ 10) (hs : ms + 3 * d ≤ 62) :
    reg2binsGo beg end_ ms d = some (reg2bins beg end_ ms d) := by
  unfold reg2binsGo reg2bins
  simp only
  split
  · rfl
  · rename_i h
    obtain ⟨b, e, hb, he, hlt, hle⟩ := csiClamp_nat beg end_ ms d hs h
    rw [hb, he, reg2binsCore_spec b e ms d hd hlt hle]
    exact reg2binsCoreGo_spec b e ms d hd hlt hle

/-- CSI: for every query `reg2bins` is the specification's list for the query cut to `[0, 2^(minShift+3·depth))` -/
theorem csi_reg2bins_any_query (beg end_ : Int) (ms d : Nat) (hd : d ≤ 10) (hs : ms + 3 * d ≤ 62) :
    reg2bins beg end_ ms d =
      if csiClampBeg beg ≥ csiClampEnd end_ (ms + d * 3) then []
      else Hts.Spec.Coord.reg2bins (csiClampBeg beg).toNat (csiClampEnd end_ (ms + d * 3)).toNat ms d :=
  reg2bins_any_query beg end_ ms d hd hs

/-- CSI: `reg2bin` of an interval in range is in `reg2bins` of every overlapping query `[beg2, end2)` over all
of `int64` (negative begin, end beyond the range) -/
theorem csi_bin_in_bins_any_query (beg1 end1 : Nat) (beg2 end2 : Int) (ms d : Nat) (hd : d ≤ 10)
    (hs : ms + 3 * d ≤ 62) (h1 : beg1 < end1) (hr1 : end1 ≤ 2 ^ (ms + 3 * d)) (h2 : beg2 < end2)
    (hov1 : (beg1 : Int) < end2) (hov2 : beg2 < end1) :
    reg2bin beg1 end1 ms d ∈ reg2bins beg2 end2 ms d :=
  reg2bin_mem_reg2bins beg1 end1 beg2 end2 ms d hd hs (by omega) (by omega) (by rw [← two_pow_cast]; omega) h2 hov1 hov2

/-- the unrepaired `csi.reg2bins` on the empty query at the origin: the level-0 loop has the upper bound
`uint32(-1 >> 29) = 2^32-1` and never exits (`csi.Index.Chunks(rid, 0, 0)` did not return) -/
theorem unrepaired_csi_reg2bins_empty_query_diverges_witness : reg2binsCoreGo 0 0 14 5 = none := by decide

/-- the unrepaired `internal.OverlappingBinsFor` on a query reaching to the largest `int`: every level above 0
is lost (`uint32` wrap), so the bin 4681 of a record at [100, 200) is not listed -/
theorem unrepaired_bai_bins_huge_end_witness :
    overlappingBinsForCore 0 9223372036854775807 = [0] ∧ binFor 100 200 = 4681 ∧
    4681 ∈ overlappingBinsFor 0 9223372036854775807 := by
  refine ⟨by decide, by decide, ?_⟩
  exact bai_bin_in_bins_any_end 100 200 0 9223372036854775807 (by decide) (by decide) (by decide) (by decide)
    (by decide)

example : reg2bins 0 0 14 5 = [] ∧ reg2bins (-5) 0 14 5 = [] ∧ reg2bins 7 3 14 5 = [] := by decide
example : reg2bins (-3) 2 1 1 = [0, 1] ∧ reg2bins 0 9223372036854775807 1 1 = [0, 1, 2, 3, 4, 5, 6, 7, 8] := by decide
example : Standard [⟨0, 10⟩, ⟨2, 5⟩, ⟨1, 3⟩] := by
  intro co h
  simp at h
  rcases h with rfl | rfl | rfl <;> decide
example : recordEnd false 100 [⟨0, 10⟩, ⟨2, 5⟩, ⟨1, 3⟩] = some 115 := by decide
example : recordEnd false 100 [⟨0, 10⟩, ⟨9, 3⟩, ⟨0, 11⟩] = some 118 := by decide
example : cigarIsValid [⟨5, 1⟩, ⟨4, 2⟩, ⟨0, 8⟩, ⟨5, 3⟩] 10 = some true := by decide
example : cigarIsValid [⟨0, 4⟩, ⟨4, 2⟩, ⟨0, 4⟩] 10 = some false := by decide
example : binFor 16000 16500 = 585 ∧ 585 ∈ overlappingBinsFor 16400 16401 := by decide
example : reg2bin 0 2 0 2 = 1 ∧ 1 ∈ reg2bins 1 2 0 2 := by decide
-- an insertion-only read on a tile boundary: End = Pos, bin of [16384, 16385) = 4682 (not reg2bin(16384,16384) = 585)
example : recordEnd false 16384 [⟨1, 5⟩] = some 16384 ∧ recordBin false false 16384 [⟨1, 5⟩] = some 4682 := by decide
example : Hts.Spec.Coord.reg2bin 16384 16385 14 5 = 4682 := by decide

end Hts.Props.C16
