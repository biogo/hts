/-
C01 — BGZF write → read round trip is lossless for every write pattern and setting.
Every statement quantifies over all scripts, payloads, block contents and read sizes; nothing here is
bounded or sampled.

Models: Hts.Model.BgzfWriter (block splitting of Write/Flush/Wait/Close), Hts.Model.Member (member
framing, `Codec` = DEFLATE/CRC-32 with the laws assumed), Hts.Model.BgzfSeqRead (Read/ReadByte over
decoded blocks); `roundtrip_bytes` reads the bytes with C10's model Hts.Model.BgzfBytes.  Compression level is inside `Codec`; writer/reader concurrency (wc, rd) does not
occur in these sequential models; `roundtrip_every_wc` composes the round trip with the writer LTS of C12/C09
(every wc, every interleaving) through the namespace `Hts.Model.WriterCompose` (Model/WriterAbs.lean,
Lemmas/WriterCompose.lean); the reader's rd is owned by C02
(`readahead_refines_sequential`, not composed here) and is checked here by correspondence.
-/
import Hts.Lemmas.BgzfBytesMember
import Hts.Lemmas.BgzfWriter
import Hts.Lemmas.BgzfSeqRead
import Hts.Lemmas.BgzfStream
import Hts.Lemmas.BgzfToyCodec
import Hts.Lemmas.WriterCompose
import Hts.Lemmas.WriterLTSLive
namespace Hts.Props.C01
open Hts.Model Hts.Model.BgzfWriter

/-- Whatever the script, the queued blocks followed by the active block are exactly the accepted
payloads, concatenated in call order (nothing lost, duplicated or reordered). -/
theorem writer_flatten {α : Type} (ops : List (Op α)) :
    (after ops).emitted.flatten ++ (after ops).active = accepted ops :=
  after_held ops

/-- Whatever the script: the active block is never full; until Close every queued block has between 1
and BlockSize bytes; after Close the queue is such data blocks followed by the one block Close queued
(shorter than BlockSize, possibly empty) and the active block is empty. -/
theorem writer_blocks {α : Type} (ops : List (Op α)) :
    (after ops).active.length < BlockSize ∧
    ((after ops).closed = false → ∀ blk ∈ (after ops).emitted, 1 ≤ blk.length ∧ blk.length ≤ BlockSize) ∧
    ((after ops).closed = true → (after ops).active = [] ∧ ∃ pre last, (after ops).emitted = pre ++ [last] ∧
        (∀ blk ∈ pre, 1 ≤ blk.length ∧ blk.length ≤ BlockSize) ∧ last.length < BlockSize) := by
  have h := after_inv ops
  exact ⟨h.active_lt, h.open_blocks, h.closed_blocks⟩

/-- The writer is closed exactly when the script contains a Close. -/
theorem writer_closed_iff {α : Type} (ops : List (Op α)) : (after ops).closed = hasClose ops :=
  after_closed ops

/-- A Write on an open writer accepts every byte. -/
theorem write_accepts_all {α : Type} (s : State α) (b : List α) (h : s.closed = false) :
    (write BlockSize blockSize_pos s b).2 = .ok b.length := by
  simp [write, h]

/-- A payload that fits into the room left in the active block is appended to it (and the block is
queued exactly when that fills it): it is not split. -/
theorem write_fits_not_split {α : Type} (s : State α) (b : List α) (hc : s.closed = false) (hb : b ≠ [])
    (hfit : s.active.length + b.length ≤ BlockSize) :
    (write BlockSize blockSize_pos s b).1 =
      if s.active.length + b.length = BlockSize then { s with active := [], emitted := s.emitted ++ [s.active ++ b] }
      else { s with active := s.active ++ b } := by
  rw [write_open _ _ s b hc, writeLoop_fits BlockSize blockSize_pos b s.active s.emitted hb hfit]
  split <;> rfl

/-- A payload of at most one block that does not fit into the room left makes the writer queue the
active block and start a new one with the payload: it is not split either. -/
theorem write_nofit_own_block {α : Type} (s : State α) (b : List α) (hc : s.closed = false)
    (ha : s.active ≠ []) (hal : s.active.length ≤ BlockSize)
    (hnofit : BlockSize < s.active.length + b.length) (hb : b.length ≤ BlockSize) :
    (write BlockSize blockSize_pos s b).1 =
      if b.length = BlockSize then { s with active := [], emitted := s.emitted ++ [s.active] ++ [b] }
      else { s with active := b, emitted := s.emitted ++ [s.active] } := by
  rw [write_open _ _ s b hc, writeLoop_nofit BlockSize blockSize_pos b s.active s.emitted hal hnofit hb]
  split <;> rfl

/-- Hence in every reachable open state a non-empty payload of at most BlockSize bytes lands inside a
single block (queued or active). -/
theorem write_lands_in_one_block {α : Type} (ops : List (Op α)) (b : List α) (hc : (after ops).closed = false)
    (hb : b ≠ []) (hlen : b.length ≤ BlockSize) :
    let s' := (write BlockSize blockSize_pos (after ops) b).1
    ∃ blk ∈ s'.emitted ++ [s'.active], b <:+: blk := by
  have hlt := (writer_blocks ops).1
  by_cases hfit : (after ops).active.length + b.length ≤ BlockSize
  · simp only [write_fits_not_split _ b hc hb hfit]
    split <;> exact ⟨(after ops).active ++ b, by simp, ⟨(after ops).active, [], by simp⟩⟩
  · have ha : (after ops).active ≠ [] := by
      intro h; rw [h] at hfit; simp at hfit; omega
    simp only [write_nofit_own_block _ b hc ha (Nat.le_of_lt hlt) (by omega) hlen]
    split <;> exact ⟨b, by simp, List.infix_refl b⟩

open BgzfSeqRead in
/-- In every history of Read/ReadByte calls on a file with decoded blocks `blocks` (any sizes, empty
blocks anywhere), the next call returns exactly the next `min want remaining` bytes of the flat data, and
reports io.EOF exactly when fewer bytes than asked for were left or nothing was left. -/
theorem reader_flat {α : Type} (blocks : List (List α)) (s0 : BgzfSeqRead.State α) (hinit : init blocks = some s0)
    (pre : List BgzfSeqRead.Op) (op : BgzfSeqRead.Op) :
    let pos := (pre.map Op.want).sum
    let r := step (BgzfSeqRead.run s0 pre).1 op
    r.2.1 = (blocks.flatten.drop pos).take op.want ∧
    (r.2.2 = true ↔ ((blocks.flatten.drop pos).length < op.want ∨ blocks.flatten.drop pos = [])) := by
  obtain ⟨_, h2, h3⟩ := run_init blocks s0 hinit pre
  obtain ⟨s1, _, s3, _⟩ := step_spec (BgzfSeqRead.run s0 pre).1 op h3
  rw [h2] at s1 s3
  exact ⟨s1, s3⟩

open BgzfSeqRead in
/-- The bytes returned by any history are, concatenated, a prefix of the flat data: its first
`Σ want` bytes. -/
theorem reader_prefix {α : Type} (blocks : List (List α)) (s0 : BgzfSeqRead.State α) (hinit : init blocks = some s0)
    (ops : List BgzfSeqRead.Op) :
    delivered (BgzfSeqRead.run s0 ops).2 = blocks.flatten.take (ops.map Op.want).sum :=
  (run_init blocks s0 hinit ops).1

open BgzfSeqRead in
/-- A short or empty result only happens together with io.EOF, and once a call has returned io.EOF
everything returned so far is the whole flat data. -/
theorem reader_eof_complete {α : Type} (blocks : List (List α)) (s0 : BgzfSeqRead.State α) (hinit : init blocks = some s0)
    (pre : List BgzfSeqRead.Op) (op : BgzfSeqRead.Op) :
    let r := step (BgzfSeqRead.run s0 pre).1 op
    (r.2.1.length < op.want → r.2.2 = true) ∧
    (r.2.2 = true → delivered (BgzfSeqRead.run s0 pre).2 ++ r.2.1 = blocks.flatten) := by
  obtain ⟨h1, h2⟩ := reader_flat blocks s0 hinit pre op
  have hp := reader_prefix blocks s0 hinit pre
  simp only at h1 h2 ⊢
  refine ⟨fun hshort => ?_, fun heof => ?_⟩
  · rw [h2]; rw [h1, List.length_take] at hshort; left; omega
  · rw [hp, h1]
    have hle : (blocks.flatten.drop (pre.map Op.want).sum).length ≤ op.want := by
      rcases h2.mp heof with h | h
      · omega
      · simp [h]
    rw [List.take_of_length_le hle, List.take_append_drop]

open Member in
/-- For every codec satisfying the laws, every header setting the gzip reader can take, every write
script that closes the writer and whose Close returned nil: the reader meets blocks whose concatenation
is exactly the accepted payloads, so (by `reader_flat`/`reader_eof_complete`) every mix of Read sizes and
ReadByte returns those bytes in order and then io.EOF. -/
theorem roundtrip (c : Codec) (h : Header) (hr : ReaderOK h) (wops : List (Op Byte)) (hclose : hasClose wops = true)
    (hok : (closeOutput c.toCodecFns h (after wops).emitted).2 = none) :
    ∃ blocks r0, readStream c.toCodecFns (closeOutput c.toCodecFns h (after wops).emitted).1 = some blocks ∧
      BgzfSeqRead.init blocks = some r0 ∧ blocks.flatten = accepted wops ∧
      ∀ rops : List BgzfSeqRead.Op,
        BgzfSeqRead.delivered (BgzfSeqRead.run r0 rops).2 = (accepted wops).take (rops.map BgzfSeqRead.Op.want).sum := by
  obtain ⟨hrs, hflat⟩ := readStream_closeOutput c h hr wops hclose hok
  obtain ⟨r0, hr0⟩ := BgzfSeqRead.init_concat (after wops).emitted []
  exact ⟨_, r0, hrs, hr0, hflat, fun rops => by rw [reader_prefix _ r0 hr0 rops, hflat]⟩

open Member in
/-- The stream the writer produces — under ANY header setting gzip.Writer and gzip.Reader accept (Name, Comment,
user Extra, ModTime, OS), for any script with a Close that returned nil — is a stream of well-framed members in the
sense of C10's lemma library (`Hts.Lemmas.BgzfBytes`: each header is `HeaderOk`, i.e. read completely by
`readHeader`, announcing the member size, every proper prefix a short read), whose payloads concatenate to the
accepted bytes.  Hence C10's theorems about such streams (truncation at every cut: `Hts.Props.C10.prefix_reads_prefix`,
…) apply to the writer's output for every header, not only the default 18-byte one. -/
theorem produced_stream_wellframed (c : Codec) (h : Header) (hr : ReaderOK h) (wops : List (Op Byte))
    (hclose : hasClose wops = true) (hok : (closeOutput c.toCodecFns h (after wops).emitted).2 = none) :
    ∃ ms : List Hts.Lemmas.BgzfBytes.Member,
      (closeOutput c.toCodecFns h (after wops).emitted).1 = Hts.Lemmas.BgzfBytes.stream ms ∧
      (∀ m ∈ ms, m.WellFramed (toBytesCodec c.toCodecFns)) ∧
      Hts.Lemmas.BgzfBytes.data ms = accepted wops := by
  obtain ⟨-, hout, hfits, hflat⟩ := closeOutput_ok c.toCodecFns h wops hclose hok
  exact ⟨closedM c.toCodecFns h (after wops).emitted, by rw [hout, stream_closedM],
    closedM_wf c h hr _ hfits, by rw [data_closedM, hflat]⟩

open Member in
/-- The reader half on the byte-level reader model of C10 (`Hts.Model.BgzfBytes`, which is driven against
bgzf.Reader on arbitrary byte strings): for every lawful codec, every header gzip.Reader accepts, every script
with a Close that returned nil, `NewReader` + `Read`… over the produced BYTES deliver exactly the accepted
payloads and then the clean io.EOF (no other terminal error), for the repaired and the unrepaired reader alike. -/
theorem roundtrip_bytes (q : BgzfBytes.Quirks) (c : Codec) (h : Header) (hr : ReaderOK h) (wops : List (Op Byte))
    (hclose : hasClose wops = true) (hok : (closeOutput c.toCodecFns h (after wops).emitted).2 = none) :
    BgzfBytes.readAll q (toBytesCodec c.toCodecFns) (closeOutput c.toCodecFns h (after wops).emitted).1 =
      (accepted wops, .eof) := by
  obtain ⟨ms, hs, hwf, hd⟩ := produced_stream_wellframed c h hr wops hclose hok
  rw [hs, Hts.Lemmas.BgzfBytes.readAll_stream q _ hwf, hd]

open Member in
/-- default header, codec within the bound: every script with a Close, read by C10's byte-level model -/
theorem roundtrip_bytes_default (q : BgzfBytes.Quirks) (c : Codec) (hb : Bounded c.toCodecFns) (wops : List (Op Byte))
    (hclose : hasClose wops = true) :
    BgzfBytes.readAll q (toBytesCodec c.toCodecFns) (closeOutput c.toCodecFns {} (after wops).emitted).1 =
      (accepted wops, .eof) :=
  roundtrip_bytes q c {} readerOK_default wops hclose (default_output_ok c.toCodecFns hb wops hclose)

open Member BgzfSeqRead in
/-- The io.EOF clause of the round trip, for every read history: on the blocks the reader meets in the produced
stream, a short or empty result comes only with io.EOF; a call that returns io.EOF has completed the accepted
payloads; and once everything has been asked for, the next call returns no byte and io.EOF. -/
theorem roundtrip_eof (c : Codec) (h : Header) (hr : ReaderOK h) (wops : List (Op Byte)) (hclose : hasClose wops = true)
    (hok : (closeOutput c.toCodecFns h (after wops).emitted).2 = none)
    (blocks : List (List Byte)) (r0 : BgzfSeqRead.State Byte)
    (hrs : readStream c.toCodecFns (closeOutput c.toCodecFns h (after wops).emitted).1 = some blocks)
    (hinit : BgzfSeqRead.init blocks = some r0) (pre : List BgzfSeqRead.Op) (op : BgzfSeqRead.Op) :
    let r := BgzfSeqRead.step (BgzfSeqRead.run r0 pre).1 op
    (r.2.1.length < op.want → r.2.2 = true) ∧
    (r.2.2 = true → delivered (BgzfSeqRead.run r0 pre).2 ++ r.2.1 = accepted wops) ∧
    ((accepted wops).length ≤ (pre.map Op.want).sum → r.2 = ([], true)) := by
  obtain ⟨hrs', hflat⟩ := readStream_closeOutput c h hr wops hclose hok
  rw [hrs] at hrs'
  cases hrs'
  obtain ⟨e1, e2⟩ := reader_eof_complete _ r0 hinit pre op
  simp only at e1 e2 ⊢
  rw [hflat] at e2
  refine ⟨e1, e2, fun hle => ?_⟩
  obtain ⟨-, hrem, hinv⟩ := run_init _ r0 hinit pre
  exact step_exhausted _ op hinv (by rw [hrem, hflat, List.drop_eq_nil_of_le hle])

open Member in
/-- With the writer's default header and a codec within zlib's deflateBound (what `compressBound`
relies on), no block of at most BlockSize bytes is ever refused. -/
theorem default_header_fits (c : CodecFns) (hb : Bounded c) (p : List Byte) (hp : p.length ≤ BlockSize) :
    Fits c {} p :=
  default_fits c hb p hp

open Member in
/-- Hence, with the default header (what C01 quantifies over: levels, wc, rd, scripts) and a lawful codec
within the bound, EVERY script that closes the writer round-trips: Close returns nil and the reader
delivers exactly the accepted payloads for every read script. -/
theorem roundtrip_default (c : Codec) (hb : Bounded c.toCodecFns) (wops : List (Op Byte)) (hclose : hasClose wops = true) :
    (closeOutput c.toCodecFns {} (after wops).emitted).2 = none ∧
    ∃ blocks r0, readStream c.toCodecFns (closeOutput c.toCodecFns {} (after wops).emitted).1 = some blocks ∧
      BgzfSeqRead.init blocks = some r0 ∧ blocks.flatten = accepted wops ∧
      ∀ rops : List BgzfSeqRead.Op,
        BgzfSeqRead.delivered (BgzfSeqRead.run r0 rops).2 = (accepted wops).take (rops.map BgzfSeqRead.Op.want).sum := by
  have hok := default_output_ok c.toCodecFns hb wops hclose
  exact ⟨hok, roundtrip c {} readerOK_default wops hclose hok⟩

open Member Hts.Model.WriterCompose in
/-- The bytes produced under ANY writer concurrency `wc ≥ 0` and ANY interleaving of the writer's goroutines
(writer LTS, no I/O faults), for any script that closes the writer and whose blocks are all accepted
(`Close` = nil in the sequential model), read back by the sequential reader give exactly the accepted payloads,
for every mix of read sizes, then io.EOF (`reader_eof_complete`). -/
theorem roundtrip_every_wc (wc : Nat) (c : Codec) (h : Header) (hr : ReaderOK h) (wops : List (Op Byte))
    (hclose : hasClose wops = true) (hok : (closeOutput c.toCodecFns h (after wops).emitted).2 = none)
    (s : WriterLTS.State) (hreach : WriterLTS.Reachable (cfgOf wc c.toCodecFns h wops) s) (hidle : WriterLTS.AllIdle s) :
    ∃ blocks r0, readStream c.toCodecFns (deliveredBytes c.toCodecFns h (after wops).emitted s) = some blocks ∧
      BgzfSeqRead.init blocks = some r0 ∧ blocks.flatten = accepted wops ∧
      ∀ rops : List BgzfSeqRead.Op,
        BgzfSeqRead.delivered (BgzfSeqRead.run r0 rops).2 = (accepted wops).take (rops.map BgzfSeqRead.Op.want).sum := by
  rw [compose_output_closed wc c.toCodecFns h wops hclose s hreach hidle]
  exact roundtrip c h hr wops hclose hok

open Member Hts.Model.WriterCompose in
/-- With the default header and a lawful codec within zlib's bound: EVERY script that closes the writer
round-trips under every `wc` and every schedule. -/
theorem roundtrip_every_wc_default (wc : Nat) (c : Codec) (hb : Bounded c.toCodecFns) (wops : List (Op Byte))
    (hclose : hasClose wops = true) (s : WriterLTS.State)
    (hreach : WriterLTS.Reachable (cfgOf wc c.toCodecFns {} wops) s) (hidle : WriterLTS.AllIdle s) :
    ∃ blocks r0, readStream c.toCodecFns (deliveredBytes c.toCodecFns {} (after wops).emitted s) = some blocks ∧
      BgzfSeqRead.init blocks = some r0 ∧ blocks.flatten = accepted wops ∧
      ∀ rops : List BgzfSeqRead.Op,
        BgzfSeqRead.delivered (BgzfSeqRead.run r0 rops).2 = (accepted wops).take (rops.map BgzfSeqRead.Op.want).sum :=
  roundtrip_every_wc wc c {} readerOK_default wops hclose (default_output_ok c.toCodecFns hb wops hclose) s hreach hidle

/-- such states exist for every script and every `wc`: every execution of the writer LTS can be continued to rest
(`WriterLTS.comes_to_rest` with a constant predicate, the lemma `Hts.Props.C09.writer_calls_return` starts from), so the
statement above is about something. -/
theorem every_wc_run_comes_to_rest (wc : Nat) (c : Member.CodecFns) (h : Member.Header) (wops : List (Op Member.Byte)) :
    ∃ s, WriterLTS.Reachable (WriterCompose.cfgOf wc c h wops) s ∧ WriterLTS.AllIdle s :=
  WriterLTS.comes_to_rest (cfg := WriterCompose.cfgOf wc c h wops) rfl (P := fun _ => ∃ s, _ ∧ WriterLTS.AllIdle s)
    (fun s hs hidle => ⟨s, hs, hidle⟩) (fun _ _ _ ih => ih) .init

/-- a 3-op script with a payload of BlockSize + 1 bytes: one full block, then one byte, then Close's block -/
example : ((run BlockSize blockSize_pos State.init
      [Op.write (List.replicate (BlockSize + 1) ()), Op.flush, Op.close]).1.emitted.map List.length)
    = [BlockSize, 1, 0] := demo_split BlockSize (by decide)
example : hasClose [Op.write [1, 2, 3], Op.flush, (Op.close : Op Nat)] = true := rfl
example : BgzfSeqRead.init [[1, 2], [], [3]] = some ⟨[1, 2], [[], [3]], false⟩ := rfl
/-- reading across an empty block, then past the end -/
example : (BgzfSeqRead.run ⟨[1, 2], [[], [3]], false⟩ [.read 1, .readByte, .read 5, .read 1]).2
    = [([1], false), ([2], false), ([3], true), ([], true)] := by
  simp [BgzfSeqRead.run, BgzfSeqRead.step, BgzfSeqRead.read, BgzfSeqRead.readByte, BgzfSeqRead.skipEmpty,
    BgzfSeqRead.readLoop]

/-- the codec laws (with the size bound) are satisfiable, and so are the header hypotheses -/
example : ∃ c : Member.Codec, Member.Bounded c.toCodecFns := ⟨Member.Toy.codec, Member.Toy.bounded⟩
example : Member.ReaderOK { name := [0x66, 0xe9], comment := [1] } := ⟨by decide, by decide⟩
example := roundtrip_default Member.Toy.codec Member.Toy.bounded
  [Op.write [1, 2, 3], Op.flush, Op.write [], Op.write [4], Op.wait, Op.close] rfl

example := roundtrip_bytes_default .repaired Member.Toy.codec Member.Toy.bounded
  [Op.write [1, 2, 3], Op.flush, Op.write [4], Op.close] rfl

/-- an instance of `produced_stream_wellframed` with a header that has a Name, a Comment and a user Extra sub-field -/
example : ∃ ms : List Hts.Lemmas.BgzfBytes.Member,
    (Member.closeOutput Member.Toy.codec.toCodecFns
        { name := [0x66, 0xe9], comment := [0x63], extra := [88, 89, 1, 0, 7], mtime := 0x00024342, os := 3 }
        (after [Op.write [1, 2, 3], Op.flush, Op.write [4], Op.close]).emitted).1 = Hts.Lemmas.BgzfBytes.stream ms ∧
    (∀ m ∈ ms, m.WellFramed (Member.toBytesCodec Member.Toy.codec.toCodecFns)) ∧
    Hts.Lemmas.BgzfBytes.data ms = accepted [Op.write [1, 2, 3], Op.flush, Op.write [4], Op.close] :=
  produced_stream_wellframed Member.Toy.codec _ ⟨by decide, by decide⟩ _ rfl (by decide +kernel)

end Hts.Props.C01
