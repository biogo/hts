/-
C12 — the BGZF writer emits whole blocks in write order; Flush+Wait (and Close) make written data durable.

Every statement is about the labelled transition system `Hts.Model.WriterLTS` of the (repaired, fixes/C09-1)
writer protocol and holds for EVERY writer concurrency `cfg.wc` (the code's `wc++; if wc < 2 { wc = 2 }`
normalisation included, so wc = 0 and wc = 1 give the same two compressors), EVERY script of API calls, EVERY
interleaving of the API goroutine, the emitter and the compressor goroutines (= every completion order) and
EVERY fault oracle of the underlying writer, except where a statement excludes I/O faults (`hnf`; `cfgOf` has
none).  `out` is the list of blocks whose underlying `Write` returned success; a block is its submission number.
Traces are newest-event-first.
-/
import Hts.Lemmas.WriterLTSAcc
import Hts.Lemmas.WriterLTSLive
import Hts.Lemmas.WriterLTSComp
import Hts.Lemmas.WriterCompose
namespace Hts.Props.C12
open Hts.Model.WriterLTS

variable {cfg : Cfg} {s : State}

/-- Whenever the underlying writer has returned from a write (indeed in every reachable state), the blocks
    delivered so far are complete blocks forming a prefix, in submission order, of the blocks submitted so far. -/
theorem out_is_prefix (hr : cfg.repaired = true) (h : Reachable cfg s) :
    s.out = (List.range s.submitted).take s.out.length := by
  have hi := reachable_inv hr h
  have := List.take_range (i := s.out.length) (n := s.submitted)
  rw [this, Nat.min_eq_left hi.le]
  exact hi.pref

/-- Once `Flush` and then `Wait` have returned nil, every block submitted before the `Flush` returned
    (`m` of them — the `Flush` has submitted the partial block) has been delivered, in order. -/
theorem flush_wait_durable (hr : cfg.repaired = true) {tr post pre : List Ev} {b : Bool} {m m' : Nat}
    (h : Run cfg tr s)
    (htr : tr.filter isApiEv = post ++ .ret .wait .ok m' :: .call .wait :: .ret (.flush b) .ok m :: pre) :
    s.out.take m = List.range m := by
  exact wait_durable hr h (mid := [.call .wait]) htr

/-- `Wait` returning nil makes everything submitted before it durable, whatever call preceded it. -/
theorem wait_durable_all (hr : cfg.repaired = true) {tr : List Ev} {m : Nat} (h : Run cfg tr s)
    (hmem : .ret .wait .ok m ∈ tr) : s.out.take m = List.range m :=
  out_take_of_wait_ok hr h hmem

/-- Once `Close` has returned nil, everything ever submitted has been delivered, followed by the EOF marker,
    and nothing is submitted afterwards. -/
theorem close_durable (hr : cfg.repaired = true) {tr : List Ev} {m : Nat} (h : Run cfg tr s)
    (hmem : .ret .close .ok m ∈ tr) :
    s.out = List.range m ∧ s.eof = true ∧ s.submitted = m := by
  obtain ⟨hi, hR⟩ := run_inv hr h
  obtain ⟨h1, h2⟩ := hR.closeOK m hmem
  obtain ⟨-, -, h3⟩ := hR.closeRet .ok m hmem
  have hle := hi.le
  have : s.out.length = m := by omega
  exact ⟨this ▸ hi.pref, h2, h3.symm⟩

/-- Without faults, when everything has come to rest the delivered output is the sequential writer's:
    independent of the schedule, of the completion order of the compressors and of `wc`. -/
theorem lts_output_deterministic (hr : cfg.repaired = true) (hnf : ∀ i, cfg.fault i = false)
    (hcf : ∀ b, cfg.cfault b = false) (h : Reachable cfg s) (hidle : AllIdle s) :
    (s.out, s.eof) = sequentialWriter cfg.script := by
  obtain ⟨h1, h2⟩ := output_of_idle_cf hr hnf h hidle
  rw [firstFail_eq_self _ _ fun b _ => hcf b] at h1 h2
  simp [sequentialWriter, h1, h2]

/-- `bam.NewWriter` = `Write(header)` (completing `k` blocks), `Flush`, `Wait`: if that `Wait` — the third call to
    return — returns nil, the header's `k+1` blocks are exactly what has been submitted and all of them have been
    delivered to the underlying writer, in order, whatever follows. -/
theorem bam_header_durable (hr : cfg.repaired = true) {k : Nat} {rest : List Op}
    (hs : cfg.script = .write k :: .flush true :: .wait :: rest) {tr post mid : List Ev} {m : Nat}
    (h : Run cfg tr s) (htr : tr = post ++ .ret .wait .ok m :: mid) (hmid : nrets mid = 2) :
    m = k + 1 ∧ s.out.take (k + 1) = List.range (k + 1) := by
  have hm : m = k + 1 := by
    have := ret_ok_count h htr hmid (by simp [hs, hasClose])
    simpa [hs, seqBlocks] using this
  refine ⟨hm, ?_⟩
  rw [← hm]
  exact wait_durable_all hr h (by rw [htr]; simp)

/-- The same with compression failures (`cfg.cfault b`: `writeBlock` of block `b` sets `c.err`), still without
    I/O faults: at rest the delivered blocks are exactly the blocks before the first one whose compression fails
    (all of them if none fails), and the EOF marker is written iff the script closes the writer and none fails —
    independent of the schedule, of the completion order and of `wc`. -/
theorem lts_output_with_compression_failures (hr : cfg.repaired = true) (hnf : ∀ i, cfg.fault i = false)
    (h : Reachable cfg s) (hidle : AllIdle s) :
    s.out = List.range (firstFail cfg.cfault (seqBlocks cfg.script false)) ∧
    s.eof = (hasClose cfg.script &&
      decide (firstFail cfg.cfault (seqBlocks cfg.script false) = seqBlocks cfg.script false)) :=
  output_of_idle_cf hr hnf h hidle

/-- Every compressor — its 64 KiB block buffer and its gzip output buffer — has at most one holder among the API
    goroutine (active compressor), the `waiting` channel, the `queue` channel (whose `writeBlock` goroutine fills
    it) and the emitter, in every reachable state of either protocol variant: a block being compressed or written
    is never overwritten by a later `Write`. -/
theorem compressor_exclusive (h : Reachable cfg s) (c : Nat) : holders c s ≤ 1 :=
  h.induct (init_holders cfg c) fun _ ih ht => Nat.le_trans (trans_holders c ht) ih

/-! ### durability in data and in bytes (composition with the sequential byte-level writer model)

`Hts.Model.WriterCompose.cfgOf wc c h wops` (Lemmas/WriterCompose.lean) is the LTS configuration of the CONCRETE script `wops` (payloads):
abstract script `absScript wops` (each `Write` completes as many blocks as in `Hts.Model.BgzfWriter`, each `Flush`
finds the active block non-empty iff it is so there), `wc` compressors requested, no I/O faults, compression of
block `i` failing iff `Member.writeBlock` refuses `(after wops).emitted[i]`, repaired protocol.  Block `i`'s
payload is `(after wops).emitted[i]`, its bytes `blockBytes c h … i`. -/

open Hts.Model Hts.Model.Member Hts.Model.WriterCompose in
/-- If the `(j+1)`-th call to return is a `Wait` returning nil (no `Close` among the first `j+1` calls) then, from
    then on, the first `m` delivered blocks are exactly the blocks the sequential writer has queued after those
    calls — as payloads and as bytes (`render` of that prefix: the file starts with exactly the sequential
    writer's output for the calls made so far) — for every `wc`, every interleaving. -/
theorem wait_durable_bytes (wc : Nat) (c : CodecFns) (h : Header) (wops : List (BgzfWriter.Op Byte)) (j : Nat)
    (hnc : BgzfWriter.hasClose (wops.take (j + 1)) = false) {tr post mid : List Ev} {m : Nat}
    (hrun : Run (cfgOf wc c h wops) tr s) (htr : tr = post ++ .ret .wait .ok m :: mid) (hmid : nrets mid = j) :
    m = (BgzfWriter.after (wops.take (j + 1))).emitted.length ∧ s.out.take m = List.range m ∧
    (s.out.take m).map (fun i => (BgzfWriter.after wops).emitted.getD i []) = (BgzfWriter.after (wops.take (j + 1))).emitted ∧
    ((s.out.take m).map (blockBytes c h (BgzfWriter.after wops).emitted)).flatten =
      (render c h (BgzfWriter.after (wops.take (j + 1))).emitted).1 :=
  WriterCompose.wait_durable_bytes wc c h wops j hnc hrun htr hmid

open Hts.Model Hts.Model.Member Hts.Model.WriterCompose in
/-- `Flush` then `Wait` returning nil: the payloads of the delivered blocks recorded by that `Wait` are, concatenated,
    exactly the data accepted by the calls before the `Flush` — everything written before the Flush is in the file,
    whatever the block boundaries, `wc` and schedule. -/
theorem flush_wait_durable_data (wc : Nat) (c : CodecFns) (h : Header) (pre rest : List (BgzfWriter.Op Byte))
    (hnc : BgzfWriter.hasClose pre = false) {tr post mid : List Ev} {m : Nat}
    (hrun : Run (cfgOf wc c h (pre ++ .flush :: .wait :: rest)) tr s)
    (htr : tr = post ++ .ret .wait .ok m :: mid) (hmid : nrets mid = pre.length + 1) :
    ((s.out.take m).map (fun i => (BgzfWriter.after (pre ++ .flush :: .wait :: rest)).emitted.getD i [])).flatten =
      BgzfWriter.accepted pre := by
  have htk : (pre ++ .flush :: .wait :: rest).take (pre.length + 1 + 1) = pre ++ [.flush, .wait] := by
    rw [Nat.add_assoc, List.take_length_add_append]; rfl
  have hnc' : BgzfWriter.hasClose ((pre ++ .flush :: .wait :: rest).take (pre.length + 1 + 1)) = false := by
    rw [htk, BgzfWriter.hasClose_append, hnc]; rfl
  obtain ⟨-, -, h3⟩ := wait_durable_blocks (cfg := cfgOf wc c h _) rfl _ rfl (pre.length + 1) hnc' hrun htr hmid
  rw [h3, htk, BgzfWriter.after_flush_wait_flatten pre hnc]

open Hts.Model Hts.Model.Member Hts.Model.WriterCompose in
/-- `bam.NewWriter` = `Write(header)`, `Flush`, `Wait`, for a header of ANY length (also an exact multiple of the
    block size, where the `Flush` finds nothing to do): if that `Wait` — the third call to return — returns nil,
    the delivered blocks it records carry exactly the header bytes. -/
theorem newwriter_header_durable_data (wc : Nat) (c : CodecFns) (h : Header) (hdr : List Byte)
    (rest : List (BgzfWriter.Op Byte)) {tr post mid : List Ev} {m : Nat}
    (hrun : Run (cfgOf wc c h (.write hdr :: .flush :: .wait :: rest)) tr s)
    (htr : tr = post ++ .ret .wait .ok m :: mid) (hmid : nrets mid = 2) :
    ((s.out.take m).map (fun i => (BgzfWriter.after (.write hdr :: .flush :: .wait :: rest)).emitted.getD i [])).flatten = hdr := by
  have := flush_wait_durable_data wc c h [.write hdr] rest rfl (tr := tr) (post := post) (mid := mid) (m := m)
    (by simpa using hrun) htr (by simpa using hmid)
  simpa [BgzfWriter.accepted] using this

/-- non-vacuity: a concrete run with four compressors in which two blocks are in flight at once -/
def exCfg : Cfg := { wc := 3, script := [.write 2, .flush true, .wait, .close], fault := fun _ => false, repaired := true }

def exSchedule : List Label :=
  [.api, .api, .api, .api, .api, .api, .api, .api,        -- Write: blocks 0 and 1 queued, returns
   .finQ 1,                                               -- block 1 finishes compressing FIRST
   .api, .api, .api, .api,                                -- Flush: block 2 queued, returns
   .api, .api,                                            -- Wait: called, blocks
   .em, .finE, .em, .em, .em,                             -- emitter: block 0
   .em, .em, .em, .em,                                    -- emitter: block 1
   .em, .finE, .em, .em, .em,                             -- emitter: block 2
   .api]                                                  -- Wait returns nil

example : ∃ tr s, runTrace exCfg [] (init exCfg) exSchedule = some (tr, s) ∧
    tr.filter isApiEv = [.ret .wait .ok 3, .call .wait, .ret (.flush true) .ok 3, .call (.flush true),
      .ret (.write 2) .ok 2, .call (.write 2)] ∧ s.out = [0, 1, 2] := by
  refine ⟨_, _, rfl, ?_, ?_⟩ <;> decide

example : (∀ i, exCfg.fault i = false) ∧ exCfg.repaired = true := ⟨fun _ => rfl, rfl⟩

example : sequentialWriter exCfg.script = ([0, 1, 2, 3], true) := by decide

end Hts.Props.C12
