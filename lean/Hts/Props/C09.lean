/-
C09 — I/O faults never hang the BGZF writer or reader and are never swallowed.

Writer part: statements about the labelled transition system `Hts.Model.WriterLTS` of the writer protocol
REPAIRED by fixes/C09-1 (`cfg.repaired = true`): for every writer concurrency, every script, every
interleaving and EVERY fault oracle: of the underlying writer (`cfg.fault i` = the i-th underlying Write fails)
and of compression (`cfg.cfault b` = `compressor.writeBlock` of block b fails, e.g. ErrBlockOverflow with a huge
gzip header; the `c.err` branch of `writeOK`).
The unchanged protocol (`cfg.repaired = false`) is kept in the same model and its dead state is exhibited by
`writer_deadlock_witness`.  Traces are newest-event-first.
Reader part, three sections: what reading to the end returns over a source that fails at a byte offset
(`Hts.Model.ReaderFaults`); histories of Read/ReadByte/Seek with a fault oracle per load (`Hts.Model.Bgzf.FReader`);
the same histories over the read-ahead protocol, rd ≥ 2 (Model/ReaderOverLTS.lean).
-/
import Hts.Lemmas.WriterLTSLive
import Hts.Lemmas.WriterLTSComp
import Hts.Lemmas.ReaderFaults
import Hts.Lemmas.FaultOps
import Hts.Lemmas.FaultNoFault
import Hts.Lemmas.ReaderOverLTSCall
namespace Hts.Props.C09
open Hts.Model.WriterLTS

variable {cfg : Cfg} {s t : State}

/-- In every reachable state either everything is at rest (script finished, nothing queued, the emitter parked
    on an empty queue or finished) or some thread can take a step — for every number of compressors and every
    fault point. -/
theorem writer_deadlock_free (hr : cfg.repaired = true) (h : Reachable cfg s) :
    AllIdle s ∨ ∃ t, Step cfg s t := by
  exact deadlock_free_of_inv hr (reachable_inv hr h)

/-- Every step (of any thread, in either variant of the protocol) strictly decreases `measure` = work left in
    the script, in the queued blocks and in the emitter.  Hence every path is finite; with
    `writer_deadlock_free` every maximal path ends with all calls returned. -/
theorem writer_call_terminates (h : Step cfg s t) : measure t < measure s := by
  exact step_measure h

/-- there is no infinite execution -/
theorem writer_no_infinite_run (f : Nat → State) : ¬ ∀ i, Step cfg (f i) (f (i + 1)) := by
  intro h
  have key : ∀ i, measure (f i) + i ≤ measure (f 0) := by
    intro i
    induction i with
    | zero => simp
    | succ i ih => have := writer_call_terminates (h i); omega
  have := key (measure (f 0) + 1)
  omega

inductive StepN (cfg : Cfg) : Nat → State → State → Prop
  | zero {a : State} : StepN cfg 0 a a
  | succ {n : Nat} {a b c : State} : Step cfg a b → StepN cfg n b c → StepN cfg (n + 1) a c

/-- a path of `n` steps from `s` has `n ≤ measure s`: the number of steps any call can wait for is bounded -/
theorem writer_path_bounded {n : Nat} (h : StepN cfg n s t) : n + measure t ≤ measure s := by
  induction h with
  | zero => simp
  | succ hst _ ih => have := writer_call_terminates hst; omega

/-- Every pending call returns: however far an execution has got, it is either at rest with the API goroutine
    returned from its last call, or it can be continued, and every continuation reaches such a state within
    `measure` steps (maximal paths are finite by `writer_path_bounded` and cannot stop elsewhere). -/
theorem writer_calls_return (hr : cfg.repaired = true) (h : Reachable cfg s) :
    ∃ k u, StepN cfg k s u ∧ AllIdle u ∧ ApiDone u :=
  comes_to_rest hr (P := fun s => ∃ k u, StepN cfg k s u ∧ AllIdle u ∧ ApiDone u)
    (fun s _ hidle => ⟨0, s, .zero, hidle, hidle.1⟩)
    (fun _ _ hst ⟨k, u, hk, hu⟩ => ⟨k + 1, u, .succ hst hk, hu⟩) h

/-- After `Close` has returned (with or without an error) the emitter goroutine has finished, no compressor
    goroutine is running and nothing is pending. -/
theorem writer_no_leak (hr : cfg.repaired = true) {tr : List Ev} {r : Res} {m : Nat} (h : Run cfg tr s)
    (hmem : .ret .close r m ∈ tr) : NoLibraryThread s := by
  obtain ⟨hi, hR⟩ := run_inv hr h
  obtain ⟨hc, ha, -⟩ := hR.closeRet r m hmem
  have hd := hi.atPc.joined hc ha
  have hq := (hi.emDone hd).2
  exact ⟨hd, hq, by simp [hi.pend, hq, hd, emPend]⟩

/-- A `Close` that returns after an underlying write has failed returns an error. -/
theorem writer_error_latched (hr : cfg.repaired = true) {tr post mid : List Ev} {r : Res} {m : Nat}
    {b : Option Nat} (h : Run cfg tr s) (htr : tr = post ++ .ret .close r m :: mid) (hf : .uw b false ∈ mid) :
    r = .err := by
  obtain ⟨s0, t0, hrun, hst⟩ := run_split h htr
  obtain ⟨hi, hR⟩ := run_inv hr hrun
  obtain ⟨-, -, rfl, -, hd, -⟩ := close_ret_step hi hst
  -- at Close's return the emitter has finished, so the failure is latched
  have hw := hR.failed b hf
  simp only [wedged, hd, emFailed, Bool.or_false] at hw
  rw [hw]; rfl

/-- Once the latch is visible (`s.err`), every call that returns — `Write`, `Flush`, `Wait`, `Close` — returns
    an error. -/
theorem writer_error_visible (hr : cfg.repaired = true) (h : Reachable cfg s) (he : s.err = true)
    {l : Label} {op : Op} {r : Res} {m : Nat} (hn : next cfg s l = some (some (.ret op r m), t)) : r ≠ .ok := by
  intro hok
  have := (ret_res (next_trans hn)).2 hok
  simp [he] at this

/-- Once any call has reported the error, no later call returns nil. -/
theorem writer_error_sticky (hr : cfg.repaired = true) {tr post mid : List Ev} {op : Op} {m : Nat}
    (h : Run cfg tr s) (htr : tr = post ++ .ret op .err m :: mid) :
    ∀ op' r' m', .ret op' r' m' ∈ post → r' ≠ .ok := by
  intro op' r' m' hmem hok
  obtain ⟨tr0, s0, t0, hrun, hin, hst⟩ := run_split_after h htr hmem
  have := (ret_res hst).2 hok
  simp [run_err_of_ret hrun hin] at this

/-- After a failed underlying write nothing more is written to the underlying writer (neither a later block nor
    the EOF marker), so the delivered bytes stay a sequence of whole blocks. -/
theorem writer_no_write_after_failure (hr : cfg.repaired = true) {tr post mid : List Ev} {b : Option Nat}
    (h : Run cfg tr s) (htr : tr = post ++ .uw b false :: mid) : ∀ b' ok, .uw b' ok ∉ post := by
  intro b' ok hmem
  obtain ⟨tr0, s0, t0, hrun, hin, hst⟩ := run_split_after h htr hmem
  obtain ⟨hi, hR⟩ := run_inv hr hrun
  have := (uw_step hr hi hst).1
  simp [hR.failed b hin] at this

/-- A `Close` that returns after the compression of any block submitted before it has failed returns an error
    (`m` = blocks submitted when Close returned). -/
theorem writer_compress_error_latched (hr : cfg.repaired = true) {tr : List Ev} {r : Res} {m b : Nat}
    (h : Run cfg tr s) (hmem : .ret .close r m ∈ tr) (hb : b < m) (hc : cfg.cfault b = true) : r = .err := by
  obtain ⟨post, mid, rfl⟩ := List.append_of_mem hmem
  obtain ⟨s0, t0, hrun, hst⟩ := run_split h rfl
  have hi := (run_inv hr hrun).1
  obtain ⟨-, rfl, rfl, -, -, hlen⟩ := close_ret_step hi hst
  cases he : s0.err with
  | true => rfl
  | false =>
    -- with a clear latch everything submitted has been delivered, block `b` included
    have := out_ok_of_lt hi (run_reachable hrun) (b := b) (by have := (hlen he).1; omega)
    simp [hc] at this

/-- A block whose compression failed is never delivered to the underlying writer (either protocol variant). -/
theorem writer_failed_block_not_delivered (h : Reachable cfg s) : ∀ b ∈ s.out, cfg.cfault b = false :=
  reachable_out_ok h

/-- wc = 1 (two compressors), `Write` of two blocks then `Close`; the first underlying write fails -/
def witnessCfg : Cfg := { wc := 1, script := [.write 2, .close], fault := fun _ => true, repaired := false }

def witnessSchedule : List Label :=
  [.api, .api, .api, .api, .api, .api,   -- Write: blocks 0 and 1 queued (compressors c0, c1), waits for a compressor
   .em, .finE, .em,                      -- emitter: block 0 is compressed, its underlying Write fails
   .em, .em, .em,                        -- qwg.Done, setErr, c0 back to `waiting`; the emitter leaves its loop
   .api, .api,                           -- Write takes c0, sees the error, returns it
   .api, .api,                           -- Close is called and queues c0
   .finQ 0]                              -- block 1 finishes compressing; nobody will ever take it from the queue

/-- The unchanged protocol dead-locks (DESIGN §6 #22): it reaches a state in which `Close` is parked on
    `<-bg.waiting` (program counter `cTake`), both compressors sit in `queue`, the emitter has exited, and NO thread
    can step. -/
theorem writer_deadlock_witness :
    ∃ s, Reachable witnessCfg s ∧ s.api = .cTake ∧ s.em = .done ∧ ¬ AllIdle s ∧ ¬ ∃ t, Step witnessCfg s t :=
  ⟨_, runLabels_reachable (ls := witnessSchedule) rfl .init, by decide, by decide, by decide,
    no_step_of_succs_nil (by decide)⟩

/-- `Flush; Flush; Wait` on the unchanged protocol with four compressors: `Wait` parks for ever -/
def witnessWaitCfg : Cfg := { wc := 3, script := [.flush true, .flush true, .wait], fault := fun _ => true, repaired := false }

def witnessWaitSchedule : List Label :=
  [.api, .api, .api, .api,  .api, .api, .api, .api,   -- two Flushes: blocks 0 and 1 queued
   .api, .api,                                        -- Wait: latch still clear, blocks on qwg
   .em, .finE, .em, .em, .em, .em,                    -- emitter: block 0 fails; Done, setErr, break
   .finQ 0]

theorem writer_wait_deadlock_witness :
    ∃ s, Reachable witnessWaitCfg s ∧ s.api = .wtBlock ∧ ¬ AllIdle s ∧ ¬ ∃ t, Step witnessWaitCfg s t :=
  ⟨_, runLabels_reachable (ls := witnessWaitSchedule) rfl .init, by decide, by decide,
    no_step_of_succs_nil (by decide)⟩

/-- On the unchanged protocol `qwg.Done()` ran before `setErr`: `Flush; Wait` can both return nil although the
    flushed block's write failed (so `flush_wait_durable` is false there). -/
def witnessNilCfg : Cfg := { wc := 1, script := [.flush true, .wait], fault := fun _ => true, repaired := false }

def witnessNilSchedule : List Label :=
  [.api, .api, .api, .api,       -- Flush: block 0 queued, returns nil
   .api, .api,                   -- Wait called, latch clear, blocks on qwg
   .em, .finE, .em, .em,         -- emitter: underlying Write of block 0 fails; qwg.Done()  (setErr not yet)
   .api]                         -- Wait wakes up, reads a clear latch, returns nil

theorem writer_wait_nil_after_failure_witness :
    ∃ tr s, Run witnessNilCfg tr s ∧
      tr = [.ret .wait .ok 1, .uw (some 0) false, .call .wait, .ret (.flush true) .ok 1, .call (.flush true)] ∧
      s.out = [] :=
  ⟨_, _, runTrace_run (ls := witnessNilSchedule) rfl .init, by decide, by decide⟩

/-- On the unchanged protocol a compression failure (`c.err != nil`) returns from `writeOK` without `qwg.Done()`:
    `Flush; Wait` with the flushed block's compression failing parks `Wait` for ever. -/
def witnessCompCfg : Cfg :=
  { wc := 1, script := [.flush true, .wait], fault := fun _ => false, repaired := false, cfault := fun _ => true }

def witnessCompSchedule : List Label :=
  [.api, .api, .api, .api,       -- Flush: block 0 queued, returns nil
   .api, .api,                   -- Wait called, latch clear, blocks on qwg
   .em, .finE, .em, .em, .em]    -- emitter: c.err != nil → setErr, compressor back to `waiting`, leaves its loop

theorem writer_compress_wait_deadlock_witness :
    ∃ s, Reachable witnessCompCfg s ∧ s.api = .wtBlock ∧ s.pending = 1 ∧ ¬ AllIdle s ∧ ¬ ∃ t, Step witnessCompCfg s t :=
  ⟨_, runLabels_reachable (ls := witnessCompSchedule) rfl .init, by decide, by decide, by decide,
    no_step_of_succs_nil (by decide)⟩

/-- the same script and fault as `writer_deadlock_witness`, on the repaired protocol: `Close` returns an error
    and every library thread has finished -/
def repairedCfg : Cfg := { witnessCfg with repaired := true }

def repairedSchedule : List Label :=
  [.api, .api, .api, .api, .api, .api,
   .em, .finE, .em,                      -- block 0: underlying Write fails
   .em, .em, .em,                        -- setErr, qwg.Done, c0 back to `waiting`; the emitter KEEPS going
   .api, .api,                           -- Write returns the error
   .api, .api,                           -- Close queues c0
   .finQ 0, .em, .em, .em, .em,          -- block 1 is drained without being written; c1 goes to `waiting`
   .api, .api,                           -- Close takes c1, compresses its own block, closes the queue
   .em, .em, .em, .em, .em,              -- Close's block is drained, the emitter finishes
   .api, .api, .api]                     -- wg.Wait returns; no EOF marker; Close returns the error

example : ∃ tr s, runTrace repairedCfg [] (init repairedCfg) repairedSchedule = some (tr, s) ∧
    tr = [.ret .close .err 3, .call .close, .ret (.write 2) .err 2, .uw (some 0) false, .call (.write 2)] ∧
    AllIdle s ∧ NoLibraryThread s ∧ s.out = [] ∧ s.eof = false := by
  refine ⟨_, _, rfl, ?_, ?_, ?_, ?_, ?_⟩ <;> decide

section Reader
open Hts.Model.ReaderFaults

/-- Whatever the fault (an error or a premature end of input, at any byte offset), the bytes returned are a
    prefix of the file's data. -/
theorem reader_prefix_under_faults (cut : Option Nat) (kind : FaultKind) (ms : List Member) :
    ∃ rest, flat ms = (readAll cut kind 0 ms).1 ++ rest :=
  readAll_prefix cut kind 0 ms

/-- A clean end of data is reported only after all of the data, or — for a source that itself reports a
    premature end — when that end falls exactly on a member boundary. -/
theorem reader_clean_eof_only_at_end (cut : Option Nat) (kind : FaultKind) (ms : List Member)
    (h : (readAll cut kind 0 ms).2 = .eof) :
    (readAll cut kind 0 ms).1 = flat ms ∨ (kind = .eof ∧ ∃ p, cut = some p ∧ p ∈ boundaries 0 ms) :=
  readAll_eof cut kind 0 ms h

/-- An error of the underlying reader anywhere up to the end of the file is reported, never turned into a clean
    end of data. -/
theorem reader_error_not_swallowed (p : Nat) (ms : List Member) (h : p ≤ fileEnd 0 ms) :
    (readAll (some p) .err 0 ms).2 = .err :=
  readAll_err_reported p 0 ms h

/-- non-vacuity: three members of 40, 28 (empty) and 50 bytes; error 10 bytes into the third -/
example : readAll (some 78) .err 0 [⟨40, [1, 2]⟩, ⟨28, []⟩, ⟨50, [3]⟩] = ([1, 2], .err) := by decide
example : readAll (some 68) .eof 0 [⟨40, [1, 2]⟩, ⟨28, []⟩, ⟨50, [3]⟩] = ([1, 2], .eof) := by decide
example : readAll none .err 0 [⟨40, [1, 2]⟩, ⟨28, []⟩, ⟨50, [3]⟩] = ([1, 2, 3], .eof) := by decide

end Reader

/-! ### reader, operational: histories of Read/ReadByte/Seek over a failing source

`Hts.Model.Bgzf.FReader` (Model/BgzfReaderFaults.lean) is the sequential reader model of C02
(Model/BgzfReader.lean: `Read`'s skip and copy loops, `ReadByte`, `Seek` with its `hasData` test, `nextBlock`,
the sticky `bg.err`, the `failAt` block of a failed load) with every load going through a fault oracle: the
list of outcomes (`ok` / `err` = any failure of an underlying `Read` or `Seek` of that load, incl. an error
after partial data or a truncation inside the member / `eof` = the source reports a clean end of input exactly
where the member would start) imposed on the coming load attempts.  The statements are for every well-formed
file, every oracle and every history whose seeks go to a block start plus an offset up to the block's length.
The concurrent side (rd > 1: read-ahead cannot change which block a call installs, cannot hang and cannot
panic, under the same faults) is `Hts.Props.C02.readahead_in_order` / `readahead_deadlock_free` /
`readahead_no_unexpected_block`. -/

section ReaderOperational
open Hts Hts.Model.Bgzf Hts.Spec.Flat

/-- Every history, every fault pattern.  Tracking the logical position through the bytes returned and the
*successful* seeks (`nextPos`), every operation is `FaultStepOK`: a Read/ReadByte returns bytes of the flat copy at
that position (never other bytes), at most as many as asked for; a returned error is latched and every later
Read/ReadByte returns nothing and the same error until a Seek succeeds (sticky, as `bg.err`); a Seek either
succeeds or latches the error it returns; `io.EOF` from a Read outside Blocked mode means the position is the
end of the data unless the source itself reported a clean end of input at a member start. -/
theorem reader_history_correct_under_faults (F : File) (hwf : WF F) (r0 : Reader)
    (h0 : Reader.new F = .ok r0) (oracle : List LoadFault) (ops : List Spec.Flat.Op)
    (hv : ValidOps (layoutOf F) ops) :
    RunOK F ⟨r0, oracle⟩ 0 ops :=
  frun_ok hwf ops ⟨r0, oracle⟩ 0 (finv_new h0 oracle) hv

/-- The invariant behind it holds after any valid history, so the two statements below apply to every
operation of every history. -/
theorem reader_invariant_along_history (F : File) (hwf : WF F) (x : FReader) (pos : Nat)
    (hi : FInv F x pos) (op : Spec.Flat.Op) (hv : OpValid (layoutOf F) op) :
    FInv F (x.step op).1 (nextPos (layoutOf F) pos op (x.step op).2) :=
  (fstep_ok hwf hi op hv).2

/-- Never other bytes than the correct ones for their position: whatever an operation returns as data is the
flat copy at the tracked position. -/
theorem reader_never_wrong_bytes (F : File) (hwf : WF F) (x : FReader) (pos : Nat) (hi : FInv F x pos)
    (op : Spec.Flat.Op) (hv : OpValid (layoutOf F) op) :
    (x.step op).2.bytes = ((flatBytes F).drop pos).take (x.step op).2.bytes.length :=
  (fstep_ok hwf hi op hv).1.bytes_ok

/-- Never a clean end before the true end: if a Read/ReadByte issued with no error latched, outside Blocked
mode, returns `io.EOF`, and the source never reported a clean end of input at a member start (`NoEof`: its
faults are errors, errors after partial data, or truncations inside a member), then all of the data up to its
end has been passed: the tracked position after the call is the length of the data. -/
theorem reader_clean_eof_only_at_true_end (F : File) (hwf : WF F) (x : FReader) (pos : Nat)
    (hi : FInv F x pos) (op : Spec.Flat.Op) (hop : (∃ n, op = .read n) ∨ op = .readByte)
    (halive : x.r.err = none) (hunb : x.r.blocked = false) (hno : NoEof x.oracle)
    (heof : (x.step op).2.err = some .eof) :
    pos + (x.step op).2.bytes.length = flatLen F := by
  rcases hop with ⟨n, rfl⟩ | rfl
  · exact ((fstep_ok hwf hi (.read n) trivial).1.2 halive).eofEnd heof hunb hno
  · exact ((fstep_ok hwf hi .readByte trivial).1.2 halive).eofEnd heof hunb hno

/-- A latched error is returned again by every Read/ReadByte, with no data, and the state does not change. -/
theorem reader_error_sticky (F : File) (hwf : WF F) (x : FReader) (pos : Nat) (hi : FInv F x pos)
    (e : Err) (he : x.r.err = some e) (op : Spec.Flat.Op) (hop : (∃ n, op = .read n) ∨ op = .readByte) :
    (x.step op).2.bytes = [] ∧ (x.step op).2.err = some e ∧ (x.step op).1 = x := by
  rcases hop with ⟨n, rfl⟩ | rfl
  · exact (fstep_ok hwf hi (.read n) trivial).1.1 e he
  · exact (fstep_ok hwf hi .readByte trivial).1.1 e he

/-- Close does not swallow the error.  After any operation of any history that returned an error other than
`io.EOF` — a Read/ReadByte that met a fault or found the error latched, or a Seek that failed — `Close` returns
that error.  (`reader_close_nil_iff` below: `Close` returns nil exactly when nothing or `io.EOF` is latched.) -/
theorem reader_close_reports_error (F : File) (hwf : WF F) (x : FReader) (pos : Nat) (hi : FInv F x pos)
    (op : Spec.Flat.Op) (hv : OpValid (layoutOf F) op) (e : Err) (he : (x.step op).2.err = some e)
    (hne : e ≠ .eof) :
    (x.step op).1.close = some e := by
  unfold FReader.close
  rw [(fstep_ok hwf hi op hv).1.err_latched he hne]
  cases e <;> first | rfl | exact absurd rfl hne

theorem reader_close_nil_iff (x : FReader) :
    x.close = none ↔ (x.r.err = none ∨ x.r.err = some .eof) := by
  unfold FReader.close
  cases h : x.r.err with
  | none => simp
  | some e => cases e <;> simp

/-- The faulty model is the reader model of C02 with the loads going through the oracle: with an empty oracle
`Read` and `Seek` are literally those of `Hts.Model.Bgzf.Reader` (whose refinement of the flat specification is
`Hts.Props.C02.read_refines_flat`). -/
theorem faulty_model_extends_fault_free (r : Reader) :
    (∀ n, (FReader.mk r []).read n = (⟨(r.read n).1, []⟩, (r.read n).2.1, (r.read n).2.2)) ∧
    (∀ o, (FReader.mk r []).seek o = (⟨(r.seek o).1, []⟩, (r.seek o).2)) :=
  ⟨FReader.read_nofault r, FReader.seek_nofault r⟩

/-- Non-vacuity: `exFile` (`[1,2,3] | [] | [4,5] | []`); the second load attempt fails.  Read 2; Read 5 crosses
into the failing load (returns the one byte it had, latches the error); ReadByte: sticky; Seek back to (0,1)
succeeds (third attempt is fine); ReadByte, Read: correct bytes again; the last Read ends the data cleanly. -/
example : ∃ r0, Reader.new exFile = .ok r0 ∧
    ((FReader.mk r0 [.ok, .err]).run
        [.read 2, .read 5, .readByte, .seek ⟨0, 1⟩, .readByte, .read 9]).map (fun p => (p.1.bytes, p.1.err)) =
      [([1, 2], none), ([3], some .other), ([], some .other), ([], none), ([2], none),
       ([3, 4, 5], some .eof)] :=
  ⟨_, rfl, by decide⟩

end ReaderOperational

/-! ### rd > 1 under faults: the operational theorems carried over the read-ahead protocol

`Model/ReaderOverLTS.lean`: the byte-level code of Read/ReadByte/Seek as a program (`gRunF r0 ops`) whose block
fetches are calls into the read-ahead LTS of C02; `Over cfg F p s outs t` runs it along ANY path of the LTS (any
interleaving with the worker), here with `faults := true` (every load of either thread may fail). -/

section ReaderOverProtocol
open Hts Hts.Model Hts.Model.Bgzf Hts.Model.ReadAhead Hts.Spec.Flat

/-- Every execution with rd ≥ 2 is an execution of the fault model.  For every well-formed file, rd ≥ 2,
script of nextBlock/Seek/Close operations, history, path of the protocol and fault pattern: what the history
returns per operation (bytes, error, reader state) is what `FReader` (the operational model the theorems above
are about) returns for SOME fault oracle — read-ahead, its failures and the scheduler change which loads fail
and how many are made, never what a call can return. -/
theorem reader_rd_is_fault_model (F : File) (hwf : WF F) (r0 : Reader) (h0 : Reader.new F = .ok r0)
    (ops : List Spec.Flat.Op) (rd : Nat) (hrd : 2 ≤ rd) (script : List ReadAhead.Op)
    (hn : ReadAhead.Op.nexts ∉ script) (outs : List (Out × Reader)) (t : ReadAhead.State)
    (h : Over ⟨rd, chainOf F, script, true⟩ F (gRunF r0 ops)
      (ReadAhead.init ⟨rd, chainOf F, script, true⟩) outs t) :
    ∃ oracle, outs = ((FReader.mk r0 oracle).run ops).map fun p => (p.1, p.2.r) :=
  over_history_is_fault_model hwf h0 ops rd hrd script hn outs t h

/-- Never wrong bytes, sticky errors, for rd ≥ 2.  Hence every such execution of a valid history satisfies
`RunOK` (`reader_history_correct_under_faults`): each Read/ReadByte returns bytes of the flat copy at the
position tracked through the successful seeks and nothing else, a returned error is latched and returned again
until a Seek succeeds, `io.EOF` only at the end of the data unless the source reported a clean end at a member
start. -/
theorem reader_never_wrong_bytes_rd (F : File) (hwf : WF F) (r0 : Reader) (h0 : Reader.new F = .ok r0)
    (ops : List Spec.Flat.Op) (hv : ValidOps (layoutOf F) ops) (rd : Nat) (hrd : 2 ≤ rd)
    (script : List ReadAhead.Op) (hn : ReadAhead.Op.nexts ∉ script) (outs : List (Out × Reader))
    (t : ReadAhead.State)
    (h : Over ⟨rd, chainOf F, script, true⟩ F (gRunF r0 ops)
      (ReadAhead.init ⟨rd, chainOf F, script, true⟩) outs t) :
    ∃ oracle, outs = ((FReader.mk r0 oracle).run ops).map (fun p => (p.1, p.2.r)) ∧
      RunOK F ⟨r0, oracle⟩ 0 ops := by
  obtain ⟨oracle, ho⟩ := over_history_is_fault_model hwf h0 ops rd hrd script hn outs t h
  exact ⟨oracle, ho, reader_history_correct_under_faults F hwf r0 h0 oracle ops hv⟩

end ReaderOverProtocol

end Hts.Props.C09
