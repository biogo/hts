/-
C05 — BAM encoding round trip: Writer → Reader reproduces the header and every record field; the bytes written are
those of the specification's layout; the Omit modes return the same records minus exactly the omitted parts.
Every statement quantifies over ALL records / record lists (no bound on any size); `WF nrefs r` is "the BAM format can
represent r under a header with nrefs references" (Hts.Lemmas.BamWF).
-/
import Hts.Lemmas.BamStream
import Hts.Lemmas.BamSpec
import Hts.Lemmas.BamReadSpec
import Hts.Lemmas.BamOverBgzf
import Hts.Lemmas.BgzfToyCodec
import Hts.Lemmas.BamCoord
import Hts.Lemmas.BamHeaderC07
import Hts.Props.C16
namespace Hts.Props.C05
open Hts.Model.Bam

/-- The writer accepts every representable record, and reading the bytes it wrote (from the front of any stream)
returns the record equal in every field — name, reference and mate reference (index in the header), positions,
MAPQ, flags, CIGAR, packed bases, qualities, every aux field byte for byte — `norm` only replacing absent qualities
by the run of 0xff the reader represents them by. -/
theorem decode_encode {n : Nat} {r : Record} (h : WF n r) :
    ∃ bs, encodeRecord r = .ok bs ∧ ∀ rest, readRecord .none n (bs ++ rest) = .record (norm r) rest :=
  readRecord_written .none h

/-- the same on the record buffer after the length prefix (what `Reader.Read` parses) -/
theorem decode_encode_body {n : Nat} {r : Record} (h : WF n r) :
    ∃ bs, encodeRecord r = .ok bs ∧ decodeBody .none n (bs.drop 4) = .ok (norm r) := by
  refine ⟨_, encodeRecord_ok h, ?_⟩
  rw [List.drop_left' (putI32_length _)]
  exact decodeBody_bodyOf .none n r _ h

/-- `norm` changes nothing but absent qualities -/
theorem norm_of_qual_present (r : Record) (q : List Byte) (h : r.qual = some q) : norm r = r := by
  cases r; simp_all [norm, qualBytes]

theorem norm_qual_absent (r : Record) (h : r.qual = none) :
    norm r = { r with qual := some (List.replicate r.seqLen 0xff#8) } := by
  cases r; simp_all [norm, qualBytes]

/-- a CIGAR operation length always fits the 28 bits of the format (`CigarOp` is a uint32) -/
theorem cigar_len_lt (c : BitVec 32) : cigarLen c < 2 ^ 28 := by
  have := c.isLt
  simp only [cigarLen]; omega

/-- `Omit(AuxTags)`: the same record minus exactly the aux fields -/
theorem omit_aux {n : Nat} {r : Record} (h : WF n r) :
    ∃ bs, encodeRecord r = .ok bs ∧ ∀ rest, readRecord .aux n (bs ++ rest) = .record (omitAux (norm r)) rest :=
  readRecord_written .aux h

/-- `Omit(AllVariableLengthData)`: the same record minus exactly sequence, qualities and aux fields -/
theorem omit_all {n : Nat} {r : Record} (h : WF n r) :
    ∃ bs, encodeRecord r = .ok bs ∧ ∀ rest, readRecord .all n (bs ++ rest) = .record (omitAll (norm r)) rest :=
  readRecord_written .all h

/-- The bytes written are `Spec.layout` (SAMv1 §4.2, written independently) of the record's semantic reading `view`
(CIGAR as (length, op), one 4-bit code per base, typed aux values), the bin field being the value the writer computed
(its agreement with reg2bin is C16). `padOK`: the unused nibble of an odd-length sequence is zero, as `sam.NewSeq` makes it. -/
theorem encode_is_spec {n : Nat} {r : Record} (h : WF n r) (hp : padOK r.seqLen r.seq = true) :
    ∃ bin a, recordBin r = bin ∧ view bin r = some a ∧ encodeRecord r = .ok (Hts.Spec.Bam.layout a) := by
  obtain ⟨a, ha, hbody⟩ := view_body h hp (recordBin r)
  refine ⟨_, a, rfl, ha, ?_⟩
  rw [encodeRecord_ok h, layout_eq, hbody]

/-- "ignoring only the bin field": for ANY value `b` of the bin field, the written bytes agree with the
specification's layout of the reading with that bin everywhere except at offsets 14 and 15 -/
theorem encode_is_spec_except_bin {n : Nat} {r : Record} (h : WF n r) (hp : padOK r.seqLen r.seq = true) (b : Nat) :
    ∃ bs a pre post x y, encodeRecord r = .ok bs ∧ view b r = some a ∧ pre.length = 14 ∧
      bs = pre ++ [x, y] ++ post ∧ Hts.Spec.Bam.layout a = pre ++ Hts.Spec.Bam.le 2 b ++ post := by
  obtain ⟨bin, a, _, ha, he⟩ := encode_is_spec h hp
  obtain ⟨pre, post, x, y, hl, h1, h2⟩ := layout_except_bin a b
  exact ⟨_, _, pre, post, x, y, he, view_bin ha b, hl, h1, h2⟩

/-- `sam.NewSeq` (contract) packs the letters as the specification says, and its result satisfies the sequence
clauses of `WF` and `padOK` -/
theorem newSeq_is_spec (s : List Byte) :
    contract s = Hts.Spec.Bam.packSeq (s.map n16) ∧ (contract s).length = (s.length + 1) / 2 ∧
      padOK s.length (contract s) = true :=
  ⟨contract_eq_packSeq s, contract_length s, contract_padOK s⟩

/-- READER vs SPECIFICATION (independent of the writer): for every alignment the format can represent, reading
`Spec.layout` of it — whoever produced those bytes, whatever its bin field holds — returns the record that stands for
the alignment (`ofAlignment`: packed bases, CIGAR words, raw aux fields), under every Omit mode. -/
theorem reader_accepts_spec (om : Omit) {n : Nat} {a : Hts.Spec.Bam.Alignment} (h : a.Valid n) (rest : List Byte) :
    readRecord om n (Hts.Spec.Bam.layout a ++ rest) = .record (expected om (ofAlignment a)) rest := by
  rw [layout_eq, body_ofAlignment h]
  exact readRecord_bodyOf om (wf_ofAlignment h) a.bin rest

/-- ... and that record is one the writer accepts (`WF`), so the two directions compose -/
theorem ofAlignment_wf {n : Nat} {a : Hts.Spec.Bam.Alignment} (h : a.Valid n) : WF n (ofAlignment a) :=
  wf_ofAlignment h

/-- For every list of representable records, every `Write` succeeds and reading the concatenation of what was
written returns the records in order, then io.EOF (`none`) — by induction over the list with the length-prefix
lemma. Stated for all three Omit modes (`expected .none = norm`). -/
theorem stream_roundtrip (om : Omit) {n : Nat} (rs : List Record) (h : ∀ r ∈ rs, WF n r) :
    ∃ s, encodeAll rs = .ok s ∧ readAll om n s = (rs.map (expected om), none) :=
  readAll_encodeAll om rs h

theorem stream_roundtrip_none {n : Nat} (rs : List Record) (h : ∀ r ∈ rs, WF n r) :
    ∃ s, encodeAll rs = .ok s ∧ readAll .none n s = (rs.map norm, none) :=
  readAll_encodeAll .none rs h

/-- The whole file under the BGZF layer's contents. The binary header (C07) is NOT modelled here; what is assumed of it
is the hypothesis `HeaderFramed decode hdrBytes hd` about the ONE header at hand: on its bytes followed by any data
the header decoder returns `hd` and leaves exactly the data (this is not a law for all headers — C07's
`binary_roundtrip_witness` shows the decoded header can differ from the encoded one for non-canonical URIs; for
API-built headers with canonical URIs it is `headerFramed_api_header` below).  Under
it: the header is returned, then the records in order, then io.EOF, in every Omit mode. -/
theorem file_roundtrip {H : Type} (decode : List Byte → Option (H × List Byte)) (nrefs : H → Nat)
    (hdrBytes : List Byte) (hd : H) (hf : HeaderFramed decode hdrBytes hd) (om : Omit) (rs : List Record)
    (h : ∀ r ∈ rs, WF (nrefs hd) r) :
    ∃ bytes, writeFile hdrBytes rs = .ok bytes ∧
      readFile decode nrefs om bytes = some (hd, rs.map (expected om), none) := by
  obtain ⟨s, hs, hr⟩ := readAll_encodeAll om rs h
  exact ⟨hdrBytes ++ s, by simp [writeFile, hs], by rw [readFile_framed hf, hr]⟩

open Hts.Model Hts.Model.BgzfWriter Hts.Model.Member in
/-- BAM over BGZF with C01's models instantiated (no law parameter for BGZF): the operations `bam.NewWriter`, `Write`
per record and `Close` perform on the BGZF writer (`Write(header)`, `Flush`, one `Write` per frame, `Close`:
`bamScript`) are run through C01's writer/member/reader models. For every lawful DEFLATE/CRC-32 codec within zlib's
bound (C01's `Codec`, the only assumption), every header section and every list of representable records: `Close`
returns nil, the BGZF reader decodes the file into blocks whose concatenation is the header section followed by the
record frames, and after the header section `Read` returns the records in order, then io.EOF, in every Omit mode.
Write/read CONCURRENCY (`wc`, `rd`) does not occur in these sequential models: for C05 it is correspondence-only
(files written with wc 0..3 and read with rd 0..3); its irrelevance is C12's and C02's subject. -/
theorem file_roundtrip_bgzf (c : Codec) (hb : Bounded c.toCodecFns) (hdrBytes : List Hts.Model.Bam.Byte) (om : Omit) {n : Nat}
    (rs : List Record) (h : ∀ r ∈ rs, WF n r) :
    ∃ fs s, frames rs = .ok fs ∧ encodeAll rs = .ok s ∧
      (closeOutput c.toCodecFns {} (after (bamScript hdrBytes fs)).emitted).2 = none ∧
      ∃ blocks, readStream c.toCodecFns (closeOutput c.toCodecFns {} (after (bamScript hdrBytes fs)).emitted).1
          = some blocks ∧
        blocks.flatten.map ofU8 = hdrBytes ++ s ∧
        readAll om n ((blocks.flatten.map ofU8).drop hdrBytes.length) = (rs.map (expected om), none) :=
  bam_over_bgzf c hb hdrBytes om rs h

open Hts.Model.Header in
/-- `HeaderFramed` DISCHARGED from C07's model: for every header `h` of a consistent C07 world `w` that is API-built
with canonical URIs (C07's `ApiBuilt`, `UriCanon`), whose sizes fit the int32 fields and whose marshalled form consists
of bytes (C07 models bytes as unbounded naturals, so `< 256` is an explicit condition), the bytes `MarshalBinary(h)` and
the decoder built from C07's `decodeBinaryR` (`hdrDecoder`) satisfy `HeaderFramed`, the header returned being the
VALUES the header exposes (`view w h`) -/
theorem headerFramed_api_header (E : Ext) (w : World) (hw : WInv w) (h : Nat) (hh : h < w.hdrs.length)
    (api : ApiBuilt E (view w h)) (uc : UriCanon E (view w h))
    (hs1 : ((marshalText w h).length : Int) < 2147483648) (hs2 : ((view w h).refs.length : Int) < 2147483648)
    (hs3 : ∀ r ∈ (view w h).refs, (r.2.1.length : Int) + 1 < 2147483648)
    (hbytes : ∀ b ∈ marshalBinary w h, b < 256) :
    HeaderFramed (hdrDecoder E w) (ofNats (marshalBinary w h)) (view w h) :=
  hdrDecoder_framed hbytes (decodeBinaryR_frame E w hw h hh api uc hs1 hs2 hs3)

open Hts.Model.Header in
/-- the whole file with a header of C07's model and NO header hypothesis other than C07's: writing `MarshalBinary(h)`
and the records, then `NewReader` (C07's `decodeBinaryR`) and `Read` until it fails, returns the values the header
exposes, the records in order (references index into the decoded reference list) and io.EOF, in every Omit mode -/
theorem file_roundtrip_api_header (E : Ext) (w : World) (hw : WInv w) (h : Nat) (hh : h < w.hdrs.length)
    (api : ApiBuilt E (view w h)) (uc : UriCanon E (view w h))
    (hs1 : ((marshalText w h).length : Int) < 2147483648) (hs2 : ((view w h).refs.length : Int) < 2147483648)
    (hs3 : ∀ r ∈ (view w h).refs, (r.2.1.length : Int) + 1 < 2147483648)
    (hbytes : ∀ b ∈ marshalBinary w h, b < 256)
    (om : Omit) (rs : List Record) (hwf : ∀ r ∈ rs, WF (viewRefs (view w h)) r) :
    ∃ bytes, writeFile (ofNats (marshalBinary w h)) rs = .ok bytes ∧
      readFile (hdrDecoder E w) viewRefs om bytes = some (view w h, rs.map (expected om), none) :=
  file_roundtrip (hdrDecoder E w) viewRefs _ _ (headerFramed_api_header E w hw h hh api uc hs1 hs2 hs3 hbytes) om rs hwf

open Hts.Model Hts.Model.BgzfWriter Hts.Model.Member Hts.Model.Header in
/-- ... and under BGZF with C01's models: header from C07's model, record codec from this property's, BGZF from C01's —
the only assumptions left are C01's codec laws (DEFLATE/CRC-32) and C07's conditions on the header -/
theorem file_roundtrip_bgzf_api_header (c : Codec) (hb : Bounded c.toCodecFns)
    (E : Ext) (w : World) (hw : WInv w) (h : Nat) (hh : h < w.hdrs.length)
    (api : ApiBuilt E (view w h)) (uc : UriCanon E (view w h))
    (hs1 : ((marshalText w h).length : Int) < 2147483648) (hs2 : ((view w h).refs.length : Int) < 2147483648)
    (hs3 : ∀ r ∈ (view w h).refs, (r.2.1.length : Int) + 1 < 2147483648)
    (hbytes : ∀ b ∈ marshalBinary w h, b < 256)
    (om : Omit) (rs : List Record) (hwf : ∀ r ∈ rs, WF (viewRefs (view w h)) r) :
    ∃ fs, frames rs = .ok fs ∧
      (closeOutput c.toCodecFns {} (after (bamScript (ofNats (marshalBinary w h)) fs)).emitted).2 = none ∧
      ∃ blocks, readStream c.toCodecFns
          (closeOutput c.toCodecFns {} (after (bamScript (ofNats (marshalBinary w h)) fs)).emitted).1 = some blocks ∧
        readFile (hdrDecoder E w) viewRefs om (blocks.flatten.map ofU8)
          = some (view w h, rs.map (expected om), none) := by
  obtain ⟨fs, s, hfs, _, hok, blocks, hrd, hbytes', hr⟩ :=
    bam_over_bgzf c hb (ofNats (marshalBinary w h)) om rs hwf
  -- `bam_over_bgzf` states its last conjunct on the bytes after `drop` (the shape of `file_roundtrip_bgzf`): back to `s`
  rw [hbytes', List.drop_left] at hr
  exact ⟨fs, hfs, hok, blocks, hrd, by
    rw [hbytes', readFile_framed (headerFramed_api_header E w hw h hh api uc hs1 hs2 hs3 hbytes), hr]⟩

/-- no two representable records that differ in anything but "absent vs all-0xff qualities" are written as the same
bytes -/
theorem encode_injective {n : Nat} {r₁ r₂ : Record} (h₁ : WF n r₁) (h₂ : WF n r₂)
    (he : encodeRecord r₁ = encodeRecord r₂) : norm r₁ = norm r₂ := by
  obtain ⟨b₁, e₁, d₁⟩ := decode_encode h₁
  obtain ⟨b₂, e₂, d₂⟩ := decode_encode h₂
  rw [e₁, e₂] at he
  cases he
  exact (ReadResult.record.inj ((d₁ []).symm.trans (d₂ []))).1

theorem write_rejects_name (r : Record) (h : r.name.length = 0 ∨ 254 < r.name.length) :
    encodeRecord r = .error .errNameLen := by
  unfold encodeRecord
  have : (r.name.length == 0 || decide (r.name.length > 254)) = true := by
    rcases h with h | h <;> simp [h]
  simp [this]

/-- the loops of the model never run out of fuel: `Fault.fuel` is not an outcome of any read -/
theorem fuel_unreachable (om : Omit) (n : Nat) (s : List Byte) :
    (readAll om n s).2 ≠ some .fuel ∧ readRecord om n s ≠ .fault .fuel ∧ parseAux s ≠ .error .fuel :=
  ⟨fun h => (readAll_error h).1 rfl, fun h => (readRecord_error h).1 rfl, fun h => (parseAux_error h).1 rfl⟩

/-- BY CONSTRUCTION of the reader model — `decodeBody`, `parseAux`, `readRecord` have no panic outcome at all (the only
panic in `Fault` is the writer's `panicAuxType`) — no read ends in that outcome.  This says nothing about the Go code
by itself: that `bam.Reader.Read` never panics on arbitrary bytes is C11's claim (`bamRead_total`, its panic-site inventory and sweep);
here it is only what makes "every read ends in a record, io.EOF or a Go error" a well-formed summary of the model,
whose agreement with the code on malformed streams is checked by the `c05.dec` correspondence. -/
theorem reader_model_has_no_panic_outcome (om : Omit) (n : Nat) (s : List Byte) :
    (readAll om n s).2 ≠ some .panicAuxType ∧ readRecord om n s ≠ .fault .panicAuxType ∧
      parseAux s ≠ .error .panicAuxType :=
  ⟨fun h => (readAll_error h).2 rfl, fun h => (readRecord_error h).2 rfl, fun h => (parseAux_error h).2 rfl⟩

/-- the bin the writer model computes is C16's `recordBin` of the record's flags, position and CIGAR (so C16's
theorems about `Coord.recordBin` are about the two bytes `encode_is_spec` takes as given) -/
theorem bin_agrees_with_C16 (r : Record) :
    Hts.Model.Coord.recordBin (unmapped r) (mateUnmapped r) r.pos (r.cigar.map coordOp) = some (recordBin r) := by
  unfold Hts.Model.Coord.recordBin recordBin
  rw [recordEnd_agree, Option.map_some, binFor_agree]

/-- hence, by C16's `bin_spec`: for a record at position `p` (`0 ≤ p < 2^29`) whose alignment ends at `e` with
`p ≤ e ≤ 2^29`, the bin bytes hold the specification's `reg2bin(p, e)` — of one base when the alignment consumes no
reference (`e = p`) -/
theorem bin_is_reg2bin (r : Record) (p e : Nat) (hp : r.pos = (p : Int)) (he : recordEnd r = (e : Int))
    (h1 : p ≤ e) (h2 : e ≤ 2 ^ 29) (h3 : p < 2 ^ 29) :
    recordBin r = Hts.Spec.Coord.reg2bin p (if e = p then p + 1 else e) 14 5 := by
  have ha := bin_agrees_with_C16 r
  have hend := recordEnd_agree r
  rw [hp] at ha hend
  rw [he] at hend
  have := Hts.Props.C16.bin_spec (unmapped r) (mateUnmapped r) p (r.cigar.map coordOp) e hend h1 h2 h3
  rw [this] at ha
  exact (Option.some.inj ha).symm

/-- Non-vacuity: a non-trivial record that is well-formed (`sample_wf`), for the examples of what the theorems say.
Name "r1", on reference 0 at 100, mate on reference 1, 3M1I, 5 bases (odd), qualities absent, aux fields
`XA:Z:hi`, `NM:C:5`, `XB:B:s,1,-2,3`, `XE:B:f` (empty array), `XH:H:1AE300` (in memory: the three bytes 1a e3 00) -/
def sample : Record :=
  { name := [114#8, 49#8], ref := some 0, pos := 100, mapq := 30#8, cigar := [0x30#32, 0x11#32], flags := 0x63#16,
    mateRef := some 1, matePos := 250, tempLen := -154, seqLen := 5, seq := [0x12#8, 0x48#8, 0xf0#8], qual := none,
    aux := [[88#8, 65#8, 90#8, 104#8, 105#8], [78#8, 77#8, 67#8, 5#8],
            [88#8, 66#8, 66#8, 115#8, 3#8, 0#8, 0#8, 0#8, 1#8, 0#8, 0xfe#8, 0xff#8, 3#8, 0#8],
            [88#8, 69#8, 66#8, 102#8, 0#8, 0#8, 0#8, 0#8],
            [88#8, 72#8, 72#8, 0x1a#8, 0xe3#8, 0x00#8]] }

theorem sample_wf : WF 2 sample :=
  { nrefs_ok := by decide, name_len := by decide, name_nonul := by decide, ref_ok := by simp [sample],
    mate_ok := by simp [sample], pos_ok := by decide, matePos_ok := by decide, tempLen_ok := by decide,
    cigar_count := by decide, seq_len := by decide,
    qual_len := by simp [sample],
    aux_ok := by
      simp only [sample, List.mem_cons, List.not_mem_nil, or_false, forall_eq_or_imp, forall_eq]
      refine ⟨?_, ?_, ?_, ?_, ?_⟩ <;> rfl,
    size_ok := by decide +kernel }
example : padOK sample.seqLen sample.seq = true := by rfl
example : (encodeRecord sample).toOption.map List.length = some 97 := by rfl
example : (match encodeRecord sample with | .ok bs => readAll .none 2 (bs ++ bs) | .error _ => ([], none))
    = ([norm sample, norm sample], none) := by decide +kernel
example : (norm sample).qual = some [0xff#8, 0xff#8, 0xff#8, 0xff#8, 0xff#8] := by rfl

/-- `Writer.Write` checks only the name length and the quality length. A position (likewise mate position, template
length) outside int32 is NOT rejected: it is truncated to its low 32 bits, silently, and the file reads back as a
different record. Witness: position 2^40 + 5 comes back as 5. (More than 65535 CIGAR operations: `n_cigar_op` holds
the count modulo 65536 while all operations are written, so the record is misparsed; a NUL inside a name or a `Z`
value is written as is. The model mirrors all of these and the harness compares them with the code.) -/
theorem write_outside_wf_witness :
    ∃ (r : Record) (bs : List Byte), ¬ WF 2 r ∧ encodeRecord r = .ok bs ∧
      ∃ r', readAll .none 2 bs = ([r'], none) ∧ r.pos = 1099511627781 ∧ r'.pos = 5 := by
  refine ⟨{ sample with pos := 1099511627781 }, _, ?_, rfl, ?_⟩
  · intro h
    have := h.pos_ok.2
    revert this; decide
  · exact ⟨norm { sample with pos := 5 }, by decide +kernel, rfl, rfl⟩

/-- the hypotheses of the two file theorems are satisfiable: a (toy) header decoder that is framed on a 4-byte header
section, and C01's toy codec (lawful and within the bound) for the BGZF layer -/
example : HeaderFramed (fun bs : List Byte => some ((), bs.drop 4)) [66#8, 65#8, 77#8, 1#8] () := by
  intro rest; rfl
example := file_roundtrip (fun bs : List Byte => some ((), bs.drop 4)) (fun _ => 2) [66#8, 65#8, 77#8, 1#8] ()
  (by intro rest; rfl) .aux [sample, sample] (by simp [sample_wf])
example := file_roundtrip_bgzf Hts.Model.Member.Toy.codec Hts.Model.Member.Toy.bounded [66#8, 65#8, 77#8, 1#8] .none
  (n := 2) [sample, sample] (by simp [sample_wf])

open Hts.Model.Header in
set_option maxRecDepth 100000 in
/-- non-vacuity of the C07-header theorems: C07's multi-item world `wM` (references a, c, d after an add/remove history,
read groups, programs; version 1.6, SO, GO) satisfies every header condition, and `sample` is representable under its
three references -/
example := file_roundtrip_bgzf_api_header Hts.Model.Member.Toy.codec Hts.Model.Member.Toy.bounded
  goExt wM wM_inv 0 wM_sizes.1 wM_api.1 wM_api.2 wM_sizes.2.1 wM_sizes.2.2.1 wM_sizes.2.2.2
  (by decide +kernel) .none [sample, sample]
  (by
    have h3 : viewRefs (view wM 0) = 3 := by rw [wM_view]; rfl
    rw [h3]
    intro r hr
    simp only [List.mem_cons, List.not_mem_nil, or_false, or_self] at hr
    subst hr
    exact sample_wf.mono (by decide) (by decide))

/-- a non-trivial alignment the format can represent: 3M1I, bases "ACGTN", aux `NM:C:5`, `XA:Z:hi`, `XB:B:s,1,-2`,
`XH:H:1AE300` (the digit text) -/
def sampleAln : Hts.Spec.Bam.Alignment :=
  { refID := 0, pos := 100, mapq := 30, bin := 4681, flag := 99, nextRefID := 1, nextPos := 250, tlen := -154,
    readName := [114#8, 49#8], cigar := [(3, 0), (1, 1)], seq := [1, 2, 4, 8, 15], qual := none,
    aux := [((78#8, 77#8), .num .C 5), ((88#8, 65#8), .str [104#8, 105#8]), ((88#8, 66#8), .arr .s [1, -2]),
            ((88#8, 72#8), .hex [49#8, 65#8, 69#8, 51#8, 48#8, 48#8])] }

example : sampleAln.Valid 2 :=
  { nrefs_lt := by decide, refID := by decide, nextRefID := by decide, pos := by decide, nextPos := by decide,
    tlen := by decide, mapq := by decide, flag := by decide, name := by decide,
    cigar := by simp [sampleAln], seq := by simp [sampleAln], qual := by simp [sampleAln],
    aux := by
      simp only [sampleAln, List.mem_cons, List.not_mem_nil, or_false, forall_eq_or_imp, forall_eq]
      refine ⟨⟨?_, by decide, by decide⟩, ⟨?_, by decide, by decide⟩, ⟨?_, by decide, by decide⟩,
        ⟨?_, by decide, by decide⟩⟩
      · simp [Hts.Spec.Bam.AuxValue.Valid, Hts.Spec.Bam.Elem.inRange, Hts.Spec.Bam.Elem.signed, Hts.Spec.Bam.Elem.width]
      · simp [Hts.Spec.Bam.AuxValue.Valid]
      · simp [Hts.Spec.Bam.AuxValue.Valid, Hts.Spec.Bam.Elem.inRange, Hts.Spec.Bam.Elem.signed, Hts.Spec.Bam.Elem.width]
      · simp [Hts.Spec.Bam.AuxValue.Valid, Hts.Spec.Bam.isHexDigit],
    size := by decide +kernel }

/-- an `H` value: in memory the bytes 1a e3, in the file the digits "1AE3" and a NUL (SAMv1 §4.2.4), and back;
an odd number of digits or a non-digit is an error -/
example : encAux [88#8, 72#8, 72#8, 0x1a#8, 0xe3#8] = [88#8, 72#8, 72#8, 49#8, 65#8, 69#8, 51#8, 0#8] := by rfl
example : parseAux [88#8, 72#8, 72#8, 49#8, 97#8, 69#8, 51#8, 0#8] = .ok [[88#8, 72#8, 72#8, 0x1a#8, 0xe3#8]] := by rfl
example : parseAux [88#8, 72#8, 72#8, 49#8, 65#8, 69#8, 0#8] = .error .errAuxHexOdd := by rfl
example : parseAux [88#8, 72#8, 72#8, 49#8, 71#8, 0#8] = .error .errAuxHexDigit := by rfl

/-- what the model says the code (as repaired) does on inputs outside the specification, each checked against the
implementation by the harness: CIGAR op code 11 is written and read back like any other; a `B` array with an
unknown element type, a `B` header cut short, a fixed-width value cut short and a NUL inside a tag are errors;
a record body shorter than its fields is `io.ErrUnexpectedEOF`. -/
example : (encodeRecord { sample with cigar := [0x3b#32] }).toOption.map
    (fun bs => readAll .none 2 bs) = some ([norm { sample with cigar := [0x3b#32] }], none) := by decide +kernel
example : parseAux [88#8, 89#8, 66#8, 90#8, 8#8, 0#8, 0#8, 0#8] = .error .errAuxArrayElem := by rfl
example : parseAux [88#8, 89#8, 66#8] = .error .errAuxArrayHdr := by rfl
example : parseAux [88#8, 89#8, 105#8, 1#8, 2#8] = .error .errAuxTruncated := by rfl
example : parseAux [88#8, 0#8, 90#8, 65#8, 0#8] = .error .errAuxZeroInTag := by rfl
example : decodeBody .none 2 (List.replicate 20 1#8) = .error .errUnexpectedEOF := by rfl

end Hts.Props.C05
