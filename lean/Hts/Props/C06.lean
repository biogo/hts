/-
C06 — SAM text round trip; SAM and BAM views of a record agree; the SAM reader returns every line.
Every statement is for all records / lines / inputs (no bound on lengths).

Model: Hts.Model.SamText (MarshalSAM, UnmarshalSAM, ParseAux, ParseCigar, strconv integer parsing, the
line handling of sam.Reader), with the repairs fixes/C06-1..6 applied; for the two theorems about BAM also
Hts.Model.SamBam (the memory form of a record) and C05's codec model Hts.Model.Bam.  Specification: Hts.Spec.SamLine.
The predicates of the statements (`Expressible`, `HeaderOK`, `FloatLaws`), `canonRecord`, `toSpec` and `listRel` are in
Hts.Model.SamTextSpec.
Float text is the parameter `ft : FloatText` with the assumed laws `L : FloatLaws ft`.
-/
import Hts.Lemmas.SamRecord
import Hts.Lemmas.SamReader
import Hts.Lemmas.SamNoHeader
import Hts.Lemmas.SamSpec
import Hts.Lemmas.SamBam
import Hts.Lemmas.BamStream
namespace Hts.Props.C06
open Hts.Model.SamText Hts.Model.SamBam
open Hts.Model.Coord (CigarOp)

/-- `Atoi(%d of i) = i` for every Go int -/
theorem int_roundtrip (i : Int) (hlo : -9223372036854775808 ≤ i) (hhi : i < 9223372036854775808) :
    atoi (showInt i) = some i := atoi_showInt i hlo hhi

/-- FLAG in decimal and in `0x` hexadecimal reads back (strconv.ParseUint with base 0, 16 bits) -/
theorem flags_roundtrip (fl : UInt16) (f : FlagFmt) (hf : f = .dec ∨ f = .hex) :
    (parseUintGo (formatFlags fl f) 0 16).map UInt16.ofNat = some fl := by
  rw [parseUintGo_formatFlags fl f hf, Option.map_some, UInt16.ofNat_toNat]

/-- CIGAR: `ParseCigar(c.String()) = c` for the operations M I D N S H P = X B with 28-bit lengths -/
theorem cigar_roundtrip (c : List CigarOp) (h : ∀ co ∈ c, co.typ ≤ 9 ∧ co.len < 268435456) :
    parseCigar (formatCigar c) = .ok c := parseCigar_formatCigar c h

/-- SEQ: every sequence of base codes, the empty one included -/
theorem seq_roundtrip (s : List (Fin 16)) : parseSeq (formatSeq s) = s := parseSeq_formatSeq s

/-- QUAL: absent or Phred 0..93 (not the single quality 9, whose text is `*`) -/
theorem qual_roundtrip {ft : FloatText} (L : FloatLaws ft) (r : Record) (h : QualOK r) :
    parseQual (formatQual r.qual) r.seq.length = canonQual r ∧ qualView (canonRecord L r) = qualView r :=
  ⟨parseQual_formatQual r h, (qualView_canon r (canonRecord L r) rfl rfl h).symm⟩

/-- aux fields of every type (A, integers of the six sizes, f, Z incl. empty, H incl. empty, arrays
incl. empty): ParseAux of the printed field is the field with integers narrowed, prints the same, and
is equal as a value -/
theorem aux_roundtrip {ft : FloatText} (L : FloatLaws ft) (a : Aux) (h : AuxRep a) :
    parseAux ft (formatAux ft a) = .ok (canonAux L a) ∧ formatAux ft (canonAux L a) = formatAux ft a ∧
      auxEq a (canonAux L a) :=
  ⟨parseAux_formatAux L a h, formatAux_canonAux L a, auxEq_canonAux L a⟩

/-- UnmarshalSAM of the line MarshalSAM writes is the canonical form of the record: every field
identical, absent qualities as the 0xff run, numeric aux types narrowed -/
theorem format_parse_canon {ft : FloatText} (L : FloatLaws ft) (h : Header) (hh : HeaderOK h) (f : FlagFmt)
    (hf : f = .dec ∨ f = .hex) (r : Record) (he : Expressible h r) :
    ∃ line, formatRecord ft f r = .ok line ∧ parseRecord ft (some h) line = .ok (canonRecord L r) :=
  ⟨_, formatRecord_ok f r he.qual, parseRecord_format L h hh f hf r he⟩

/-- **round trip**: for every expressible record, with decimal or hexadecimal flags, the line parses
back (against the same header) to a record that formats to the identical line and has equal fields -/
theorem format_parse_format {ft : FloatText} (L : FloatLaws ft) (h : Header) (hh : HeaderOK h) (f : FlagFmt)
    (hf : f = .dec ∨ f = .hex) (r : Record) (he : Expressible h r) :
    ∃ line r', formatRecord ft f r = .ok line ∧ parseRecord ft (some h) line = .ok r' ∧
      formatRecord ft f r' = .ok line ∧ fieldsEq r r' :=
  ⟨_, canonRecord L r, formatRecord_ok f r he.qual, parseRecord_format L h hh f hf r he,
    formatRecord_canon L f r he.qual, fieldsEq_canon L r he.qual⟩

/-- the parsed-back record is itself expressible and is a fixed point: formatting and parsing it again
returns exactly the same record (a second round trip changes nothing) -/
theorem roundtrip_stable {ft : FloatText} (L : FloatLaws ft) (h : Header) (hh : HeaderOK h) (f : FlagFmt)
    (hf : f = .dec ∨ f = .hex) (r : Record) (he : Expressible h r) :
    Expressible h (canonRecord L r) ∧
      parseRecord ft (some h) (joinWith 9 (recordFields ft f (canonRecord L r))) = .ok (canonRecord L r) := by
  -- the canonical form prints the line of `r`, which reads back as the canonical form
  rw [recordFields_canon]
  exact ⟨expressible_canon L h r he, parseRecord_format L h hh f hf r he⟩

/-- parsing the line without a header (`UnmarshalSAM(nil, …)`, `UnmarshalText`) gives the same record
with made-up references carrying the names (id -1, length 0), and that record formats to the same line -/
theorem format_parse_nil_header {ft : FloatText} (L : FloatLaws ft) (h : Header) (hh : HeaderOK h) (f : FlagFmt)
    (hf : f = .dec ∨ f = .hex) (r : Record) (he : Expressible h r) :
    ∃ line, formatRecord ft f r = .ok line ∧ parseRecord ft none line = .ok (fakeRefs (canonRecord L r)) ∧
      formatRecord ft f (fakeRefs (canonRecord L r)) = .ok line := by
  refine ⟨_, formatRecord_ok f r he.qual, parseRecord_format_nil L h hh f hf r he, ?_⟩
  rw [formatRecord_ok f _ (qualOK_canon r (fakeRefs (canonRecord L r)) rfl rfl he.qual),
    recordFields_fakeRefs h hh f (canonRecord L r) he.ref he.mateRef, recordFields_canon]

/-- the line is the one the specification's formatter produces for the record's abstraction -/
theorem format_is_spec (ft : FloatText) (h : Header) (r : Record) (he : Expressible h r) :
    formatRecord ft .dec r = .ok (Hts.Spec.SamLine.samLine ft.fmt (toSpec r)) := by
  rw [formatRecord_ok .dec r he.qual]
  unfold Hts.Spec.SamLine.samLine
  rw [tabJoin_eq_joinWith, fields_eq ft r he.ints (fun co hco => (he.cigar.1 co hco).1)
    fun a ha => auxRep_of_auxOK a (he.aux a ha)]

/-- with hexadecimal flags only the FLAG field differs: `0x` and the lower-case hex digits of the value -/
theorem format_hex_fields (ft : FloatText) (r : Record) :
    recordFields ft .hex r = (recordFields ft .dec r).set 1 (48 :: 120 :: showHex r.flags.toNat) := rfl

/-- SAM and BAM views agree: a record as bam.Reader returns it (absent qualities = a run of 0xff)
formats to the same line, in every flag format -/
theorem bam_then_sam (ft : FloatText) (f : FlagFmt) (r : Record) :
    formatRecord ft f (norm r) = formatRecord ft f r := by
  cases hq : r.qual with
  | some q =>
    -- with qualities `norm` is the identity, also where `formatRecord` fails on a length mismatch: no `QualOK` is asked
    have : norm r = r := by cases r; cases hq; rfl
    rw [this]
  | none =>
    have hf : recordFields ft f (norm r) = recordFields ft f r := by
      simp only [recordFields, norm, hq, formatQual_replicate]; rfl
    unfold formatRecord
    rw [hf, hq]
    exact if_neg fun h => h (by rw [hq]; exact List.length_replicate ..)

theorem repOK_of_expressible (h : Header) (r : Record) (he : Expressible h r) (hb : BamRange h r) : RepOK r :=
  ⟨fun co hco => ⟨Nat.lt_of_le_of_lt (he.cigar.1 co hco).1 (by decide), (he.cigar.1 co hco).2⟩,
   fun a ha => ⟨auxRep_of_auxOK a (he.aux a ha), hb.2.2.2.2.2.1 a ha⟩⟩

/-- **SAM and BAM views agree** (formal bridge between C05's and C06's record models).  For every expressible
record within the ranges of the BAM format (`H` values may hold any bytes, zero included: the writer stores them
as hex digits, repair bfe0bfe): the BAM writer accepts its memory form `toBam r`; reading the written bytes back
(C05's `decode_encode`) gives a memory form that `ofBam` decodes to a record, namely `norm r`, and that record formats
to the SAM line of `r`, in every flag format. -/
theorem bam_roundtrip_then_sam (ft : FloatText) (f : FlagFmt) (h : Header) (r : Record) (he : Expressible h r)
    (hb : BamRange h r) :
    ∃ bs, Hts.Model.Bam.encodeRecord (toBam r) = .ok bs ∧
      ∀ rest, ∃ b', Hts.Model.Bam.readRecord .none h.refs.length (bs ++ rest) = .record b' rest ∧
        ofBam h b' = some (norm r) ∧ formatRecord ft f (norm r) = formatRecord ft f r := by
  -- `readRecord_written .none` is the lemma C05.decode_encode states (`Bam.expected .none` is `Bam.norm`, by reduction)
  obtain ⟨bs, henc, hdec⟩ := Hts.Model.Bam.readRecord_written .none (wf_toBam h r he hb)
  exact ⟨bs, henc, fun rest => ⟨_, hdec rest,
    ofBam_norm_toBam h r he.ref he.mateRef (repOK_of_expressible h r he hb), bam_then_sam ft f r⟩⟩

/-- a reader over an input with header returns exactly the lines of the input as records: LF or CRLF
per line, with or without a final newline -/
theorem reader_lines (ft : FloatText) (h : Header) (ls : List (Bytes × Bool)) (final : Bool)
    (hl : ∀ p ∈ ls, (∀ c ∈ p.1, c ≠ 10) ∧ p.1.getLast? ≠ some 13)
    (hlast : final = false → ∀ p, ls.getLast? = some p → p.1 ≠ []) :
    readAll ft h (joinLines ls final) = ls.map fun p => parseRecord ft (some h) p.1 := by
  unfold readAll
  rw [reader_lines_strip ls final hl hlast, List.map_map]
  rfl

/-- **for every input**: the lines the reader parses are the lines of the text as the specification's
splitter `Spec.SamLine.textLines` (written independently: LF ends a line, one CR before it belongs to the
line end, a non-empty unterminated rest is a line) finds them -/
theorem reader_lines_spec (ft : FloatText) (h : Header) (body : Bytes) :
    readAll ft h body = (Hts.Spec.SamLine.textLines body).map (parseRecord ft (some h)) := by
  unfold readAll
  rw [readerLines_textLines]

/-- without header lines, for every input: the per-line step of the no-header mode (`noHeaderLoop`: parse with
a nil header, then give each reference name the id of its first appearance) runs over exactly the
specification's lines of the text.  What the step returns for the lines of expressible records is
`reader_noheader_records`. -/
theorem reader_lines_noheader (ft : FloatText) (body : Bytes) :
    readAllNoHeader ft body = noHeaderLoop ft (Hts.Spec.SamLine.textLines body) [] := by
  unfold readAllNoHeader
  rw [readerLines_textLines]

/-- no-header mode at record level: for a text made of the lines of expressible records (any line ends, final
newline or not), every `Read` succeeds, and the i-th record returned prints the i-th line again, equals the
canonical form of the i-th record in every field except the references, and its references carry the
names of the original ones -/
theorem reader_noheader_records {ft : FloatText} (L : FloatLaws ft) (h : Header) (hh : HeaderOK h) (f : FlagFmt)
    (hf : f = .dec ∨ f = .hex) (rs : List Record) (he : ∀ r ∈ rs, Expressible h r) (body : Bytes)
    (hbody : Hts.Spec.SamLine.textLines body = rs.map fun r => joinWith 9 (recordFields ft f r)) :
    ∃ outs, readAllNoHeader ft body = outs.map .ok ∧
      listRel (fun r out => formatRecord ft f out = formatRecord ft f r ∧
        eraseRefs out = eraseRefs (canonRecord L r) ∧ refName out.ref = refName r.ref ∧
        refName out.mateRef = refName r.mateRef) rs outs := by
  rw [reader_lines_noheader, hbody]
  exact noHeaderLoop_records L h hh f hf rs he [] List.nodup_nil

/-- writing expressible records as lines and reading them returns every record (in canonical form),
whatever the line ends and whether or not the last line is terminated -/
theorem write_then_read {ft : FloatText} (L : FloatLaws ft) (h : Header) (hh : HeaderOK h) (f : FlagFmt)
    (hf : f = .dec ∨ f = .hex) (rs : List (Record × Bool)) (final : Bool) (he : ∀ p ∈ rs, Expressible h p.1) :
    readAll ft h (joinLines (rs.map fun p => (joinWith 9 (recordFields ft f p.1), p.2)) final) =
      rs.map fun p => .ok (canonRecord L p.1) := by
  have hline := fun p hp => recordLine_ok L h hh f hf p.1 (he p hp)
  rw [reader_lines]
  · simp only [List.map_map]
    exact List.map_congr_left fun p hp => parseRecord_format L h hh f hf p.1 (he p hp)
  · exact List.forall_mem_map.mpr fun q hq =>
      ⟨fun c hc => ((hline q hq).1 c hc).1, fun hlast => ((hline q hq).1 13 (List.mem_of_getLast? hlast)).2 rfl⟩
  · intro _ p hp
    obtain ⟨q, hq, rfl⟩ := List.mem_map.mp (List.mem_of_getLast? hp)
    exact (hline q hq).2

/-- the whole reader on a text with header lines: NewReader hands exactly the header lines (each starting
with `@`, newline-terminated) to the header parser `ph` (`Header.UnmarshalText`, C07: a parameter here), and
the records are parsed against the header `ph` returns for that text, one per line of the rest — for every
rest that does not start with `@` -/
theorem reader_header_then_lines (ft : FloatText) (ph : Bytes → Option Header) (hls : List Bytes) (body : Bytes)
    (hne : hls ≠ [])
    (hh : ∀ l ∈ hls, (∃ rest, l = 64 :: rest) ∧ ∀ c ∈ l, c ≠ 10)
    (hb : ∀ c rest, body = c :: rest → c ≠ 64) :
    readFile ft ph (headerText hls ++ body) =
      (ph (headerText hls)).map fun h => (Hts.Spec.SamLine.textLines body).map (parseRecord ft (some h)) := by
  rw [readFile_header ft ph hls body hne hh hb]
  exact congrArg (Option.map · _) (funext fun h => reader_lines_spec ft h body)

/-- … and without header lines (a text that does not start with `@`): the no-header mode over the whole text -/
theorem reader_no_header_lines (ft : FloatText) (ph : Bytes → Option Header) (c : UInt8) (rest : Bytes) (hc : c ≠ 64) :
    readFile ft ph (c :: rest) = some (noHeaderLoop ft (Hts.Spec.SamLine.textLines (c :: rest)) []) := by
  unfold readFile
  simp only [List.length_cons, splitHeader, ne_eq, hc, not_false_eq_true, if_true, List.isEmpty_nil]
  rw [reader_lines_noheader]

/-- the hypotheses can be met: a header and a record with every kind of field, a placed, paired read with CIGAR,
qualities and aux fields of the types A, c, I, f, Z (empty), H (empty), B:s and B:f (empty) -/
def exHeader : Header := ⟨[([99, 104, 114, 49], 1000), ([99, 104, 114, 50], 500)]⟩
def exRecord : Record :=
  { name := [114, 48, 48, 49], flags := 99, ref := some ⟨0, [99, 104, 114, 49], 1000⟩, pos := 6, mapq := 30,
    cigar := [⟨4, 1⟩, ⟨0, 2⟩, ⟨2, 268435455⟩, ⟨0, 1⟩], mateRef := some ⟨1, [99, 104, 114, 50], 500⟩, matePos := 36,
    tempLen := -2147483648, seq := [1, 2, 4, 8], qual := some [0, 93, 9, 40],
    aux := [⟨88, 65, .char 33⟩, ⟨88, 66, .int .c (-128)⟩, ⟨88, 67, .int .I 4294967295⟩, ⟨88, 68, .float 2139095040⟩,
            ⟨88, 69, .text []⟩, ⟨88, 70, .hex []⟩, ⟨88, 71, .ints .s [-32768, 32767]⟩, ⟨88, 72, .floats []⟩] }

example : HeaderOK exHeader := by decide
example : Expressible exHeader exRecord := by decide
/-- the single quality 9 is the one value the text cannot carry: it prints as `*` -/
example : formatQual (some [9]) = formatQual none := by decide

example : BamRange exHeader exRecord := by
  refine ⟨by decide, by decide, by decide, by decide, by decide, ?_, by decide⟩
  intro a ha
  simp only [exRecord, List.mem_cons, List.not_mem_nil, or_false] at ha
  rcases ha with rfl | rfl | rfl | rfl | rfl | rfl | rfl | rfl <;> simp [AuxCountOK]

/-- a record with the aux field `XH:H:9F0068` (an `H` value holding a zero byte) -/
def hexRecord : Record :=
  { name := [114], flags := 4, ref := none, pos := -1, mapq := 0, cigar := [], mateRef := none, matePos := -1,
    tempLen := 0, seq := [], qual := none, aux := [⟨88, 72, .hex [159, 0, 104]⟩] }

/-- an `H` value holding a zero byte goes through BAM unchanged (evaluated on the codec model: the bytes written
hold the digits `9F0068`, and what is read back decodes to the record written; `2` is the number of references of
`exHeader`, the `b'` read back is `Bam.norm (toBam hexRecord)`, as in `bam_roundtrip_then_sam`) -/
theorem bam_hex_nul_roundtrip :
    Expressible exHeader hexRecord ∧ BamRange exHeader hexRecord ∧
    ∃ bs b', Hts.Model.Bam.encodeRecord (toBam hexRecord) = .ok bs ∧
      Hts.Model.Bam.readRecord .none 2 bs = .record b' [] ∧ ofBam exHeader b' = some (norm hexRecord) ∧
      bs.drop (bs.length - 10) = [88#8, 72#8, 72#8, 57#8, 70#8, 48#8, 48#8, 54#8, 56#8, 0#8] := by
  refine ⟨by decide, ⟨by decide, by decide, by decide, by decide, by decide, ?_, by decide⟩, ?_⟩
  · intro a ha; simp [hexRecord] at ha; subst ha; trivial
  · exact ⟨_, Hts.Model.Bam.norm (toBam hexRecord), rfl, by decide +kernel, by decide +kernel, by decide +kernel⟩

/-- the float laws are satisfiable (a toy float text: the bit pattern in decimal) -/
def exFloatText : FloatText where
  fmt := fun b => showNat b.toNat
  parse := fun s => (parseUintGo s 10 32).map UInt32.ofNat

def exFloatLaws : FloatLaws exFloatText where
  canon := id
  parse_fmt := fun b => by
    show (parseUintGo (showNat b.toNat) 10 32).map UInt32.ofNat = some b
    rw [parseUintGo_showNat_10 b.toNat 32 b.toNat_lt]; simp
  fmt_canon := fun _ => rfl
  canon_eq := fun _ => Or.inl rfl
  no_sep := fun b c hc => showNat_no_sep b.toNat c hc

end Hts.Props.C06
