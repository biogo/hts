/-
C13 — record chunks are replayable: property theorems.

Model: `Hts.Model.Bgzf.BamReader` / `Iterator` (bam/reader.go newBuffer, Read's limit test, SetChunk, Iterator) and
`Hts.Model.Bgzf.ChunkReader` (bgzf/index/index.go) over the bgzf reader model of C02.  A BAM file is any
well-formed BGZF file (any block layout: records may end on, before or after block ends and span blocks; empty
blocks anywhere) whose flat stream is a header followed by length-prefixed records.  The bgzf reader is the
sequential one (rd = 1, no cache).  For rd > 1 the section of that name carries `sequential_pass` and `chunk_replay`
over the read-ahead protocol; for the rest there is C02's `readahead_history_returns_flat_bytes`.
Records are opaque bodies (decoding is C05/C11).
-/
import Hts.Lemmas.BamFile
import Hts.Lemmas.CRStep
import Hts.Lemmas.BamOverLTS
import Hts.Props.C02
namespace Hts.Props.C13
open Hts.Model.Bgzf Hts.Spec.Flat

/-- `F` is a BAM file: the header decoder's reads `hs` are in order, and from the end of the header on the
flat stream is exactly the records `bs` (bodies of 1..2^31-1 bytes, each preceded by its `block_size`). -/
structure BamFile (F : File) (hs : List Nat) (bs : List (List UInt8)) : Prop where
  wf : WF F
  hdr : HdrOk (flatLen F) 0 hs
  le : sumNat hs ≤ flatLen F
  recs : RecAt F (sumNat hs) bs

/-- The chunks noted by a sequential pass over the whole file. -/
def seqChunks (br0 : BamReader) (n : Nat) : List Chunk := (br0.readN (n + 1)).2.1.map (·.2)

/-- Reading sequentially returns every record, then `io.EOF`; the chunk noted after record `i` runs from the
offset before its size field to the offset after its last byte. -/
theorem sequential_pass {F : File} {hs : List Nat} {bs : List (List UInt8)} (hB : BamFile F hs bs)
    (br0 : BamReader) (h0 : BamReader.new F hs = .ok br0) :
    (br0.readN (bs.length + 1)).2 = (bs.zip (recChunks (layoutOf F) (sumNat hs) bs), some .eof) := by
  -- the state is taken apart so that `rfl` can put `sumNat hs` for its position
  obtain ⟨hc, ⟨_, _, _⟩, hs0, rfl⟩ := bam_new hB.wf hs br0 h0 hB.hdr
  exact (readN_sequential hB.wf hs0 hc hB.recs hB.le).1

theorem seqChunks_eq {F : File} {hs : List Nat} {bs : List (List UInt8)} (hB : BamFile F hs bs)
    (br0 : BamReader) (h0 : BamReader.new F hs = .ok br0) :
    seqChunks br0 bs.length = recChunks (layoutOf F) (sumNat hs) bs := by
  simp only [seqChunks, sequential_pass hB br0 h0]
  rw [List.map_snd_zip]
  rw [recChunks_length]; exact Nat.le_refl _

/-- **Monotone.** The chunks reported by the sequential pass are ordered by `vOffset`: `Begin < End` for each
record, and `End_i ≤ Begin_{i+1}` — also when `End_i` is `(base, len)` and `Begin_{i+1}` is `(next base, 0)`. -/
theorem record_chunks_monotone {F : File} {hs : List Nat} {bs : List (List UInt8)} (hB : BamFile F hs bs)
    (br0 : BamReader) (h0 : BamReader.new F hs = .ok br0) :
    ChunksMonotone (seqChunks br0 bs.length) := by
  rw [seqChunks_eq hB br0 h0]
  apply recChunks_monotone (lwf_of_wf hB.wf)
  rw [total_layoutOf]
  exact Nat.le_of_eq (hB.recs.total hB.le)

/-- **Replay.** Let the records be `A ++ M ++ B` with `M` non-empty (records `i..j`).  From *any* state of a
`bam.Reader` over the file, `SetChunk` to `[Begin of the first record of M, End of its last record]` (as noted
by the sequential pass) succeeds, and reading then yields exactly the records `M`, each with the chunk the
sequential pass noted for it, and then `io.EOF`. -/
theorem chunk_replay {F : File} {hs : List Nat} {bs : List (List UInt8)} (hB : BamFile F hs bs)
    (br0 : BamReader) (h0 : BamReader.new F hs = .ok br0)
    (A M B : List (List UInt8)) (hbs : bs = A ++ M ++ B) (hM : M ≠ [])
    (br : BamReader) (s : State) (hbr : BSim F br s) :
    let cM := ((seqChunks br0 bs.length).drop A.length).take M.length
    (br.setChunk (some (spanChunk cM))).2 = none ∧
    ((br.setChunk (some (spanChunk cM))).1.readN (M.length + 1)).2 = (M.zip cM, some .eof) := by
  intro cM
  obtain ⟨hv, hspan, hcM⟩ := RecSpan.of_split hB.recs hB.le hbs hM
  rw [← seqChunks_eq hB br0 h0] at hspan hcM
  obtain ⟨br1, hsc, h1⟩ := inchunk_setChunk hB.wf hbr _ hv
  simp only [cM]
  rw [hspan, hsc]
  exact ⟨rfl, by rw [readN_inchunk hB.wf h1, hcM]⟩

/-- A request for the records `M` out of `bs = A ++ M ++ B`. -/
structure Request (bs : List (List UInt8)) where
  A : List (List UInt8)
  M : List (List UInt8)
  B : List (List UInt8)
  split : bs = A ++ M ++ B
  nonempty : M ≠ []

/-- The chunk of a request, from the chunks noted by the sequential pass. -/
def Request.chunk {bs : List (List UInt8)} (seq : List Chunk) (q : Request bs) : Chunk :=
  spanChunk ((seq.drop q.A.length).take q.M.length)

def requested {bs : List (List UInt8)} : List (Request bs) → List (List UInt8)
  | [] => []
  | q :: qs => q.M ++ requested qs

/-- **Iterator.** For any non-empty list of such chunks in any order (overlapping, repeated, backwards), from
any reader state: `NewIterator` succeeds, the `Next` loop sees exactly the records of the first chunk, then of
the second, … in the order the chunks are listed, then `Next` returns false and `Error()` is nil. -/
theorem iterator_replay {F : File} {hs : List Nat} {bs : List (List UInt8)} (hB : BamFile F hs bs)
    (br0 : BamReader) (h0 : BamReader.new F hs = .ok br0)
    (q : Request bs) (qs : List (Request bs))
    (br : BamReader) (s : State) (hbr : BSim F br s) (fuel : Nat) (hf : (requested (q :: qs)).length < fuel) :
    ∃ it, Iterator.new br ((q :: qs).map (Request.chunk (seqChunks br0 bs.length))) = .ok it ∧
      (it.collect fuel).2 = requested (q :: qs) ∧ (it.collect fuel).1.error = none := by
  let span : Request bs → RecSpan := fun q => ⟨sumNat hs + recSize q.A, q.M, q.B⟩
  have hsp := fun q : Request bs => RecSpan.of_split hB.recs hB.le q.split q.nonempty
  have hchunk : Request.chunk (seqChunks br0 bs.length) = fun q => (span q).chunk (layoutOf F) := by
    funext q
    simp only [Request.chunk, seqChunks_eq hB br0 h0, (hsp q).2.1, span]
  have hreq : ∀ l : List (Request bs), (l.map span).flatMap (·.M) = requested l := by
    intro l
    induction l with
    | nil => rfl
    | cons x l ih => simp [requested, ← ih, span]
  have := iterator_spans hB.wf hbr (span q) (qs.map span)
    (by intro x hx; simp at hx; rcases hx with rfl | ⟨y, _, rfl⟩ <;> exact (hsp _).1)
    fuel (by rw [← List.map_cons, hreq]; exact hf)
  rw [← List.map_cons, hreq, List.map_map] at this
  rw [hchunk]
  exact this

/-- With no chunks left the `Next` loop is the plain `Read` loop. -/
theorem collect_nil_eq_readN (fuel : Nat) (br : BamReader) :
    ((Iterator.mk br [] none).collect fuel).2 = (br.readN fuel).2.1.map (·.1) := by
  induction fuel generalizing br with
  | zero => rfl
  | succ k ih =>
    simp only [Iterator.collect, Iterator.next, Iterator.nextAux, BamReader.readN]
    cases h : br.read with
    | mk br' res =>
      cases res with
      | ok rec => simp only [List.map_cons, ih br']
      | error e => rfl

/-- **Iterator over the empty list** (`NewIterator(r, nil)`: `return &Iterator{r: r}, nil`): no `SetChunk`, so the
iterator is the reader as it stands — it yields what `Read` yields from the reader's current position under the
reader's current chunk limit, not the empty list of records.  `iterator_replay` therefore needs `q :: qs`. -/
theorem iterator_empty_is_reader (br : BamReader) (fuel : Nat) :
    Iterator.new br [] = .ok ⟨br, [], none⟩ ∧
    ((Iterator.mk br [] none).collect fuel).2 = (br.readN fuel).2.1.map (·.1) :=
  ⟨rfl, collect_nil_eq_readN fuel br⟩

/-- Witness that `iterator_replay` is false for the empty request list: over `exBam`, from the fresh reader, the
iterator over no chunks yields both records. -/
theorem iterator_replay_empty_witness :
    ∃ br0, BamReader.new exBam [4] = .ok br0 ∧ ∃ it, Iterator.new br0 [] = .ok it ∧
      (it.collect 3).2 = [[9], [7, 8]] ∧ (it.collect 3).2 ≠ requested (bs := [[9], [7, 8]]) [] :=
  ⟨_, rfl, _, rfl, by decide, by decide⟩

/-- `newBuffer` reports `io.EOF` only at a record boundary: the stream ended before the first byte of a size
field, or the size field is 0.  A stream that ends after a size field (even with no byte of the body) is
`io.ErrUnexpectedEOF` (bam/reader.go: `if err == io.EOF { err = io.ErrUnexpectedEOF }`), so `Iterator.Next`
stops there instead of moving on to the next chunk. -/
theorem newBuffer_eof_only_at_record_boundary (br : BamReader) (h : br.newBuffer.2 = .error .eof) :
    (readFull br.r 4).2.2 = some .eof ∨
    ((readFull br.r 4).2.2 = none ∧ leInt32 (readFull br.r 4).2.1 = 0) := by
  unfold BamReader.newBuffer at h
  rcases h4 : readFull br.r 4 with ⟨r1, szb, e1⟩
  rw [h4] at h
  cases e1 with
  | some e => simp only at h; left; simp at h; simp [h]
  | none =>
    simp only at h
    by_cases hz : leInt32 szb = 0
    · right; exact ⟨rfl, hz⟩
    · simp only [hz, if_false] at h
      by_cases hn : leInt32 szb < 0
      · simp [hn] at h
      · simp only [hn, if_false] at h
        rcases hb : readFull r1 (leInt32 szb).toNat with ⟨r2, body, e2⟩
        rw [hb] at h
        cases e2 with
        | none => simp at h
        | some e => 
          simp only at h
          by_cases he : e = .eof
          · simp [he] at h
          · simp [he] at h

/-- Every state a `bam.Reader` can be driven into by `Read`, `SetChunk` (to a chunk whose `Begin` is a seek
target) and `SetChunk(nil)` is one of the states `chunk_replay` and `iterator_replay` quantify over. -/
theorem reader_states_closed {F : File} (hwf : WF F) (br : BamReader) (s : State) (h : BSim F br s) :
    (∃ s', BSim F br.read.1 s') ∧
    (∀ c, (∀ c', c = some c' → (seekTarget (layoutOf F) c'.bgn).isSome) → ∃ s', BSim F (br.setChunk c).1 s') := by
  refine ⟨bsim_read hwf h, fun c hv => ?_⟩
  cases c with
  | none => exact ⟨s, ⟨h.sim, h.unblocked⟩⟩  -- `BSim` looks at `br.r` only, but is indexed by `br`: not `h` itself
  | some c' =>
    obtain ⟨p, hp⟩ := Option.isSome_iff_exists.mp (hv c' rfl)
    obtain ⟨r', hsc, hbs⟩ := bsim_setChunk hwf h c' p hp
    rw [hsc]; exact ⟨_, hbs⟩

/-- **ChunkReader.** For every well-formed file, from any state of the underlying `bgzf.Reader`, and for every
list of chunks that is ordered and non-overlapping (each `Begin` a seek target, each `End` any offset that
names a position — any representation, including `(next base, 0)`, an empty block's `(base, 0)` or
`(fileLen, 0)` — chunks may touch or be empty): `NewChunkReader` succeeds, and for **any** sequence of buffer
sizes the bytes the client loop sees are a prefix of the flat bytes between each `Begin` and `End`,
concatenated; the only error is `io.EOF`; when it is reported exactly those bytes have been delivered; and
with non-empty buffers it is reported after at most `readBound` calls.
(About the repaired `Read`, fixes/C13-1-chunkreader-empty-chunk.diff.) -/
theorem chunkreader_exact {F : File} (hwf : WF F) (r0 : Reader) (s : State) (hsim : Sim F r0 s)
    (xs : List CSpec) (hv : ∀ x ∈ xs, x.Valid F) (ho : Ordered xs) :
    ∃ cr, ChunkReader.new r0 (xs.map (·.c)) = .ok cr ∧ ∀ ns : List Nat,
      (∃ rest, expected F xs = (cr.readAll ns).1 ++ rest) ∧
      ((cr.readAll ns).2 = none ∨ (cr.readAll ns).2 = some .eof) ∧
      ((cr.readAll ns).2 = some .eof → (cr.readAll ns).1 = expected F xs) ∧
      ((∀ n ∈ ns, 0 < n) → readBound F xs < ns.length → (cr.readAll ns).2 = some .eof) := by
  cases xs with
  | nil =>
    refine ⟨⟨r0.setBlocked true, []⟩, rfl, fun ns => ?_⟩
    cases ns with
    | nil => exact ⟨⟨[], rfl⟩, Or.inl rfl, fun hc => (by cases hc), fun _ hlt => by simp at hlt⟩
    | cons n ns =>
      have : (ChunkReader.mk (r0.setBlocked true) []).readAll (n :: ns) = ([], some .eof) := by
        simp [ChunkReader.readAll, ChunkReader.read, ChunkReader.advance]
      rw [this]
      exact ⟨⟨[], rfl⟩, Or.inr rfl, fun _ => rfl, fun _ _ => rfl⟩
  | cons x rest =>
    obtain ⟨r1, rem1, hsk, hinv⟩ := CRInv.of_seek hwf (sim_setBlocked hsim true) rfl hv ho
    refine ⟨⟨r1, (x :: rest).map (·.c)⟩, by simp [ChunkReader.new, hsk], fun ns => ?_⟩
    have ⟨i1, i2, i3, i4⟩ := readAll_spec hwf (ns := ns) (cr := ⟨r1, (x :: rest).map (·.c)⟩) rfl hinv
    -- `todo F (x :: rest) x.p` is `expected F (x :: rest)` (`todo_head`, by unfolding)
    refine ⟨i1, i2, i3, fun hpos hlt => i4 hpos (Nat.lt_of_le_of_lt ?_ hlt)⟩
    have := hinv.rem_lt
    simp only [mu, readBound, todo_head]
    omega

/-! ### rd > 1

`Model/BamOverLTS.lean` writes `bam.NewReader`'s header reads, `Read` (`newBuffer` with its two `io.ReadFull`s and
the limit test), `SetChunk` and the read loop as CLIENTS of the bgzf reader (`Client`: a computation that uses the
reader only through Read/Seek and what they return; `cReadN_run` etc.: over the sequential reader they are the
functions of `Model/BamChunks.lean`).  `C02.readahead_client_refines_sequential` then carries the two main statements
over the read-ahead protocol: every rd, every script of the consumer (without `nexts`), every path of the LTS
(every interleaving with the worker), no faults. -/

section OverProtocol
open Hts.Model Hts.Model.ReadAhead

/-- **Sequential pass with rd > 1.**  Opening the file and reading `|bs| + 1` times over the read-ahead protocol
returns, in every execution, every record with the chunk `sequential_pass` states, then `io.EOF`. -/
theorem sequential_pass_rd {F : File} {hs : List Nat} {bs : List (List UInt8)} (hB : BamFile F hs bs)
    (r0 : Reader) (h0r : Reader.new F = .ok r0) (br0 : BamReader) (h0 : BamReader.new F hs = .ok br0)
    (rd : Nat) (script : List ReadAhead.Op) (hn : ReadAhead.Op.nexts ∉ script)
    (res : Option (List (List UInt8 × Chunk) × Option Err) × Reader) (t : ReadAhead.State)
    (h : Over ⟨rd, chainOf F, script, false⟩ F ((cSeqPass hs (bs.length + 1) r0).prog r0)
      (ReadAhead.init ⟨rd, chainOf F, script, false⟩) res t) :
    res.1 = some (bs.zip (recChunks (layoutOf F) (sumNat hs) bs), some .eof) := by
  rw [Hts.Props.C02.readahead_client_refines_sequential F hB.wf r0 h0r _ rd script hn res t h,
    cSeqPass_run h0r hs _ br0 h0, sequential_pass hB br0 h0]

/-- **Replay with rd > 1.**  Opening the file, `SetChunk` to the span of the records `M` (chunks as noted by the
sequential pass) and reading over the read-ahead protocol: in every execution `SetChunk` succeeds and exactly the
records `M` come back, each with its chunk, then `io.EOF`. -/
theorem chunk_replay_rd {F : File} {hs : List Nat} {bs : List (List UInt8)} (hB : BamFile F hs bs)
    (r0 : Reader) (h0r : Reader.new F = .ok r0) (br0 : BamReader) (h0 : BamReader.new F hs = .ok br0)
    (A M B : List (List UInt8)) (hbs : bs = A ++ M ++ B) (hM : M ≠ [])
    (rd : Nat) (script : List ReadAhead.Op) (hn : ReadAhead.Op.nexts ∉ script)
    (res : Option (Option Err × List (List UInt8 × Chunk) × Option Err) × Reader) (t : ReadAhead.State)
    (h : Over ⟨rd, chainOf F, script, false⟩ F
      ((cReplay hs (spanChunk (((seqChunks br0 bs.length).drop A.length).take M.length)) (M.length + 1) r0).prog r0)
      (ReadAhead.init ⟨rd, chainOf F, script, false⟩) res t) :
    res.1 = some (none, M.zip (((seqChunks br0 bs.length).drop A.length).take M.length), some .eof) := by
  obtain ⟨_, s, hs0, _⟩ := bam_new hB.wf hs br0 h0 hB.hdr
  have hr := chunk_replay hB br0 h0 A M B hbs hM br0 s hs0
  simp only at hr
  rw [Hts.Props.C02.readahead_client_refines_sequential F hB.wf r0 h0r _ rd script hn res t h,
    cReplay_run h0r hs _ _ br0 h0, hr.1, hr.2]

end OverProtocol

/-! Non-vacuity: `exBam` is a `BamFile`, and `exChunks` over `exFile` meets the hypotheses of `chunkreader_exact`. -/

example : BamFile exBam [4] [[9], [7, 8]] :=
  ⟨exBam_wf, by simp [HdrOk, exBam, flatLen], by simp [sumNat, exBam, flatLen],
   ⟨by decide, by decide⟩⟩

example : ∃ br0, BamReader.new exBam [4] = .ok br0 ∧
    (br0.readN 3).2 = ([([9], ⟨⟨0, 4⟩, ⟨0, 9⟩⟩), ([7, 8], ⟨⟨68, 0⟩, ⟨101, 3⟩⟩)], some .eof) :=
  ⟨_, rfl, by decide⟩

/-- Two chunks over `exFile` (`[1,2,3] | [] | [4,5] | []`): `[1, 3)` ending at a block end given as the empty
block's `(30, 0)`, and `[3, 5)` ending at `(fileLen, 0)`. -/
def exChunks : List CSpec := [⟨⟨⟨0, 1⟩, ⟨30, 0⟩⟩, 1, 3⟩, ⟨⟨⟨58, 0⟩, ⟨117, 0⟩⟩, 3, 5⟩]

example : (∀ x ∈ exChunks, x.Valid exFile) ∧ Ordered exChunks := by
  refine ⟨?_, by simp [exChunks, Ordered]⟩
  intro x hx
  simp [exChunks] at hx
  rcases hx with rfl | rfl
  · -- `End` is a seek target: the empty block's `(30, 0)`
    exact ⟨by simp [exFile, layoutOf, seekTarget], toLogical_of_seekTarget (by decide), by simp⟩
  · -- `End` is `(fileLen, 0)`
    exact ⟨by simp [exFile, layoutOf, seekTarget], toLogical_fileLen (lwf_of_wf exFile_wf), by simp⟩

example : expected exFile exChunks = [2, 3, 4, 5] := by decide

end Hts.Props.C13
