/-
Tie for C14: the lock shape `lock_linearizable` assumes — every operation is ONE bracket
`Lock|RLock; body; Unlock|RUnlock`, the body acquires nothing — is checked against the Go source.

`Hts.Gen.CacheLocks.fns` is regenerated from the AST of bgzf/cache/cache.go on every check
(go/cmd/extract/locks.go): per function the mutex events, the calls that could take a mutex and the
returns, in source order.  The theorems below are closed computations over that list; they stop checking
if a method gains a second bracket, an early return ahead of a non-deferred `Unlock`, a call to a locking
method under the lock (that is defect C14-1: `drop` calling `c.Len()`), a call into another `Cache`
under an LRU/FIFO/Random lock, or if a method the model treats as read-only takes the write lock (or the
reverse).

What this does NOT give: that the body between the brackets computes the model's function (that is the
differential harness), nor termination of the loops in the bodies.  "Resize/Drop/Free always return" is
therefore: statically, no method can block on its own mutex (this tie; it is what defect C14-1 violated);
dynamically, a watchdog observation of the harness (every history runs under one), not a theorem.
-/
import Hts.Gen.CacheLocks
import Hts.Lemmas.CacheLinInst
namespace Hts.Tie.C14
open Hts.Gen.CacheLocks

def find (recv name : String) : Option Fn := fns.find? (fun f => f.recv == recv && f.name == name)

/-- may a call of `recv.name` acquire a mutex?  Unknown functions and calls through the `Cache`
interface count as "yes"; `fuel` bounds the call depth (exhausted = "yes"). -/
def acquires : Nat → String → String → Bool
  | 0, _, _ => true
  | fuel + 1, recv, name =>
    match find recv name with
    | none => true
    | some f => f.evs.any (fun e => match e with
        | .lock | .rlock | .unlock | .runlock | .deferUnlock | .deferRUnlock => true
        | .call r n => r == "Cache" || r == "mu" || acquires fuel r n
        | .ret => false)

inductive Mode | write | read
deriving DecidableEq, Repr

/-- `Unlock` as the last mutex event, followed by returns only -/
def endsWith (u : Ev) (rest : List Ev) : Option (List Ev) :=
  match (rest.reverse.dropWhile (· == .ret)) with
  | e :: b => if e == u then some b.reverse else none
  | [] => none

/-- the one bracket of a function and the events inside it: either `Lock; defer Unlock; body` or
`Lock; body; Unlock` with no `return` inside the body (it would leave the mutex held) -/
def bracket (f : Fn) : Option (Mode × List Ev) :=
  match f.evs with
  | .lock :: .deferUnlock :: body => some (.write, body)
  | .rlock :: .deferRUnlock :: body => some (.read, body)
  | .lock :: rest => (endsWith .unlock rest).bind (fun b => if b.all (· != .ret) then some (.write, b) else none)
  | .rlock :: rest => (endsWith .runlock rest).bind (fun b => if b.all (· != .ret) then some (.read, b) else none)
  | _ => none

/-- nothing inside the bracket touches a mutex: only returns and calls of functions that acquire nothing -/
def quiet (body : List Ev) : Bool :=
  body.all (fun e => match e with
    | .ret => true
    | .call r n => !(r == "Cache" || r == "mu") && !acquires 4 r n
    | _ => false)

def oneBracket (recv name : String) (m : Mode) : Bool :=
  match (find recv name).bind bracket with
  | some (m', body) => m' == m && quiet body
  | none => false

/-- the lock mode the linearizability instances give each method (`Call.isRead`) -/
def modeOf (c : Hts.Spec.Lin.Call) : Mode := if c.isRead then .read else .write

def goName : Hts.Spec.Lin.Call → String
  | .put _ => "Put" | .get _ => "Get" | .peek _ => "Peek" | .len => "Len" | .cap => "Cap"
  | .drop _ => "Drop" | .resize _ => "Resize"

def methodModes : List (String × Mode) :=
  [("Put", .write), ("Get", .write), ("Peek", .read), ("Len", .read), ("Cap", .read), ("Drop", .write),
   ("Resize", .write)]

theorem methodModes_covers (c : Hts.Spec.Lin.Call) : (goName c, modeOf c) ∈ methodModes := by
  cases c with
  | put _ => exact .head _
  | get _ => exact .tail _ (.head _)
  | peek _ => exact .tail _ (.tail _ (.head _))
  | len => exact .tail _ (.tail _ (.tail _ (.head _)))
  | cap => exact .tail _ (.tail _ (.tail _ (.tail _ (.head _))))
  | drop _ => exact .tail _ (.tail _ (.tail _ (.tail _ (.tail _ (.head _)))))
  | resize _ => exact .tail _ (.tail _ (.tail _ (.tail _ (.tail _ (.tail _ (.head _))))))

theorem methods_one_bracket_list :
    ∀ p ∈ methodModes, oneBracket "LRU" p.1 p.2 = true ∧ oneBracket "FIFO" p.1 p.2 = true ∧
      oneBracket "Random" p.1 p.2 = true := by
  decide +kernel

/-- Every method of LRU, FIFO and Random is one lock bracket of the mode `lObj`/`rObj` assume
(`Peek`/`Len`/`Cap` under `RLock`, the others under `Lock`), with no mutex operation, no call that can
acquire a mutex and no call into another cache inside the bracket. -/
theorem cache_methods_one_bracket (c : Hts.Spec.Lin.Call) :
    oneBracket "LRU" (goName c) (modeOf c) = true ∧
    oneBracket "FIFO" (goName c) (modeOf c) = true ∧
    oneBracket "Random" (goName c) (modeOf c) = true := by
  -- as a term against the expected type, the unifier evaluates `oneBracket` on the way
  have h := methods_one_bracket_list _ (methodModes_covers c)
  exact h

/-- the unexported helpers called under the lock take no lock themselves -/
theorem cache_helpers_acquire_nothing :
    acquires 4 "LRU" "drop" = false ∧ acquires 4 "FIFO" "drop" = false ∧ acquires 4 "Random" "drop" = false ∧
    acquires 4 "" "remove" = false ∧ acquires 4 "" "insertAfter" = false := by
  decide +kernel

/-- StatsRecorder: `Stats`/`Reset` are one quiet bracket; `Get`/`Put` are one bracket of the recorder's
mutex whose body is exactly one call into the wrapped cache (a different mutex, always taken in the order
recorder → inner; the small steps of that body are the ones `recObj` uses). -/
theorem recorder_methods_one_bracket :
    oneBracket "StatsRecorder" "Stats" .read = true ∧ oneBracket "StatsRecorder" "Reset" .write = true ∧
    (find "StatsRecorder" "Get").bind bracket = some (.write, [.call "Cache" "Get"]) ∧
    (find "StatsRecorder" "Put").bind bracket = some (.write, [.call "Cache" "Put"]) ∧
    find "StatsRecorder" "Peek" = none := by
  decide +kernel

/-- `cache.Free` holds no lock of its own and is five separate acquisitions of the cache's mutex
(`Cap`, `Len`, then `Drop`, `Cap`, `Len`): it is NOT an atomic operation and is not an operation of the
linearizability instances. -/
theorem free_is_not_atomic :
    (find "" "Free").bind bracket = none ∧
    (find "" "Free").map (fun f => f.evs.filter (· != .ret)) =
      some [.call "Cache" "Cap", .call "Cache" "Len", .call "Cache" "Drop", .call "Cache" "Cap", .call "Cache" "Len"] := by
  decide +kernel

end Hts.Tie.C14
