/-
Tie for C17: `vOffset` of bgzf/index (regenerated from the Go AST as a BitVec function) is the
arithmetic `file * 65536 + block` of the model for every non-negative file offset below 2^47
(BGZF files of up to 128 TiB), so the model's integer order on `vOff` is the code's int64 order.
-/
import Hts.Model.Merge
import Hts.Gen.Index
namespace Hts.Tie.C17
open Hts.Model.Merge

theorem tie_vOffset (f : BitVec 64) (b : BitVec 16) (hf : f.toNat < 2 ^ 47) :
    (Hts.Gen.Index.idxVOffset f b).toInt = vOff ⟨f.toNat, b.toNat⟩ := by
  have hb := b.isLt
  have h1 : (f <<< 16 ||| BitVec.setWidth 64 b).toNat = f.toNat * 65536 + b.toNat := by
    -- the first `mod` goes by `hf` (`f <<< 16` stays inside 64 bits); below the shift the OR is a sum, as in `Lemmas.or_shl`
    rw [BitVec.toNat_or, BitVec.toNat_shiftLeft, BitVec.toNat_setWidth, Nat.shiftLeft_eq,
      Nat.mod_eq_of_lt (by omega), Nat.mod_eq_of_lt (by omega), ← Nat.shiftLeft_eq, ← Nat.shiftLeft_add_eq_or_of_lt hb,
      Nat.shiftLeft_eq]
  unfold Hts.Gen.Index.idxVOffset vOff
  rw [BitVec.toInt_eq_toNat_of_lt (by rw [h1]; omega), h1]
  simp

end Hts.Tie.C17
