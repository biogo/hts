/-
Tie for C04/C15: constants and straight-line kernels regenerated from the Go AST (Hts.Gen.Index) equal
the ones the index models use.  A changed TileWidth, pseudo-bin number or validity bound breaks these.
-/
import Hts.Model.Index
import Hts.Model.Csi
import Hts.Gen.Index
import Hts.Tie.C16
namespace Hts.Tie.C04
open Hts.Model.Index

theorem tie_tileWidth : Hts.Gen.Index.tileWidth = (tileWidth : Int) := by decide

theorem tie_statsDummyBin : Hts.Gen.Index.statsDummyBin = (statsDummyBin : Int) := by decide

/-- `internal.IsValidIndexPos` -/
theorem tie_validPos (i : Int) : Hts.Gen.Index.isValidIndexPos i = validPos i := rfl

/-- `csi.validIndexPos` for geometries with `minShift + 3·depth ≤ 63`.  (Beyond that Go's 64-bit `int` shift
wraps — every position is invalid, see `Csi.posBound` — while the translator's `Int` is unbounded: the
regenerated kernel is only meaningful in this range.) -/
theorem tie_csiValidPos (i : Int) (ms d : Nat) (h : ms + 3 * d ≤ 63) :
    Hts.Gen.Index.csiValidIndexPos i (BitVec.ofNat 32 ms) (BitVec.ofNat 32 d) = Hts.Model.Csi.validPos ms d i := by
  rw [Hts.Tie.C16.tie_csiValidIndexPos i ms d (by omega) (by omega), Hts.Model.Coord.csiValidIndexPos,
    Hts.Model.Csi.validPos, Hts.Model.Csi.posBound_of_le h, Nat.mul_comm d 3,
    show (2 : Int) ^ (ms + 3 * d) - 1 - 1 = (2 : Int) ^ (ms + 3 * d) - 2 by omega]

/-- the CSI defaults used by `csi.New(0, 0)` -/
theorem tie_csiDefaults : Hts.Gen.Index.csiDefaultShift = 14 ∧ Hts.Gen.Index.csiDefaultDepth = 5 := by decide

end Hts.Tie.C04
