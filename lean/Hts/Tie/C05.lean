/-
Tie for C05: the tables regenerated from the Go source on every run (Hts.Gen.Sam: `jumps`, `n16Table`, `n16TableRev`,
`consume`; Hts.Gen.Index: `binFor`) equal the ones the model is written with.  If the Go tables change, these stop
checking.
-/
import Hts.Lemmas.BamBytes
import Hts.Gen.Sam
import Hts.Gen.Index
namespace Hts.Tie.C05
open Hts.Model.Bam

/-- `bam.jumps` (256 entries) is the model's `jumps` -/
theorem tie_jumps : ∀ t : BitVec 8, jumps t = Hts.Gen.Sam.jumps.getD t.toNat 0 := fun t => by
  have h : Hts.Gen.Sam.jumps = (List.range 256).map (fun i => jumps (BitVec.ofNat 8 i)) := by decide +kernel
  simp [h, t.isLt]

theorem tie_jumps_length : Hts.Gen.Sam.jumps.length = 256 := by decide +kernel

/-- `sam.n16Table` (256 entries) is the model's `n16` -/
theorem tie_n16Table : ∀ b : BitVec 8, (n16 b : Int) = Hts.Gen.Sam.n16Table.getD b.toNat 0 := fun b => by
  have h : Hts.Gen.Sam.n16Table = (n16Table ++ List.replicate 128 15).map Int.ofNat := by decide +kernel
  rw [h, getD_map_pad _ _ _ _ b.isLt]
  rfl

theorem tie_n16Table_length : Hts.Gen.Sam.n16Table.length = 256 := by decide +kernel

/-- `sam.n16TableRev` -/
theorem tie_n16TableRev : n16TableRev.map (fun b => (b.toNat : Int)) = Hts.Gen.Sam.n16TableRev := by decide +kernel

/-- the Reference column of `sam.consume` (11 entries; `Consumes` returns the zero value for op codes 11..15) -/
theorem tie_consume : Hts.Gen.Sam.consume.map (fun p => p.getD 1 0) = consumeRef := by decide +kernel

/-- `internal.BinFor` -/
theorem tie_binFor (beg end_ : Int) : Hts.Gen.Index.binFor beg end_ = binFor beg end_ := rfl

end Hts.Tie.C05
