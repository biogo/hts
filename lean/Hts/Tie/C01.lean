/-
Tie for C01/C08: the constants and the `compressBound` kernel regenerated from bgzf/bgzf.go
(Hts.Gen.Bgzf) equal the ones the models and theorems use.  If the Go source changes, these stop
checking.
-/
import Hts.Model.BgzfWriter
import Hts.Model.Member
import Hts.Gen.Bgzf
namespace Hts.Tie.C01
open Hts.Model

theorem tie_blockSize : Hts.Gen.Bgzf.blockSize = (BgzfWriter.BlockSize : Int) := by decide
theorem tie_maxBlockSize : Hts.Gen.Bgzf.maxBlockSize = (BgzfWriter.MaxBlockSize : Int) := by decide
theorem tie_bgzfExtra : Hts.Gen.Bgzf.bgzfExtra = Member.bgzfExtra.map UInt8.toNat := by decide
theorem tie_bgzfExtraPrefix : Hts.Gen.Bgzf.bgzfExtra.take 4 = Member.bgzfExtraPrefix.map UInt8.toNat := by decide
theorem tie_magicBlock : Hts.Gen.Bgzf.magicBlock = Member.magicBlock.map UInt8.toNat := by decide
theorem tie_minFrame : Hts.Gen.Bgzf.minFrame = (Member.minFrame : Int) := by decide

/-- `bgzf.compressBound` (Go `int` arithmetic with `>>`) equals the model's bound for every non-negative
length. -/
theorem tie_compressBound (n : Nat) : Hts.Gen.Bgzf.compressBound (n : Int) = (Member.compressBound n : Int) := by
  simp only [Hts.Gen.Bgzf.compressBound, Member.compressBound, Member.minFrame, Member.bgzfExtra]
  simp only [Int.shiftRight_eq_div_pow]
  norm_cast

/-- the init() check of bgzf.go: a full block always fits into a 64 KiB member -/
theorem tie_compressBound_blockSize :
    Hts.Gen.Bgzf.compressBound Hts.Gen.Bgzf.blockSize ≤ Hts.Gen.Bgzf.maxBlockSize := by decide

/-- the model's bound written out: deflateBound (the formula of `Member.Bounded`) plus 26 bytes of framing -/
theorem compressBound_model (n : Nat) :
    Member.compressBound n = n + n / 4096 + n / 16384 + n / 33554432 + 13 + 26 := by
  simp [Member.compressBound, Member.minFrame, Member.bgzfExtra]

end Hts.Tie.C01
