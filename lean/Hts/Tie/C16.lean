/-
Tie for C16: kernels and tables regenerated from the Go AST equal the hand-written model.
-/
import Hts.Model.Coord
import Hts.Gen.Index
import Hts.Gen.Sam
import Hts.Lemmas.BamCoord
namespace Hts.Tie.C16
open Hts.Model.Coord

/-- `sam.consume` (Query, Reference rows) -/
theorem tie_consume : Hts.Gen.Sam.consume = consumeTab.map (fun p => [p.1, p.2]) := by decide

/-- `sam.cigarOps` = "MIDNSHP=XB?" -/
theorem tie_cigarOps : Hts.Gen.Sam.cigarOps = [77, 73, 68, 78, 83, 72, 80, 61, 88, 66, 63] := by decide

theorem tie_consts :
    Hts.Gen.Index.tileWidth = 16384 ∧ Hts.Gen.Index.levels = 6 ∧ Hts.Gen.Index.indexWordBits = 29 ∧
    Hts.Gen.Index.nextBinShift = 3 ∧ Hts.Gen.Index.binLimit = 37449 ∧ Hts.Gen.Index.statsDummyBin = 37450 ∧
    Hts.Gen.Index.csiNextBinShift = 3 ∧ Hts.Gen.Index.csiDefaultShift = 14 ∧ Hts.Gen.Index.csiDefaultDepth = 5 ∧
    [Hts.Gen.Index.level0, Hts.Gen.Index.level1, Hts.Gen.Index.level2, Hts.Gen.Index.level3,
      Hts.Gen.Index.level4, Hts.Gen.Index.level5] = [0, 1, 9, 73, 585, 4681] ∧
    [Hts.Gen.Index.level0Shift, Hts.Gen.Index.level1Shift, Hts.Gen.Index.level2Shift, Hts.Gen.Index.level3Shift,
      Hts.Gen.Index.level4Shift, Hts.Gen.Index.level5Shift] = [29, 26, 23, 20, 17, 14] := by decide

theorem ofInt_add_toNat (k : Nat) (x : Int) (hk : k < 4294967296) :
    (BitVec.ofNat 32 k + BitVec.ofInt 32 x).toNat = u32 (k + x) :=
  Hts.Model.Bam.toNat_add_ofInt k x

/-- `internal.BinFor` for every pair of Go ints -/
theorem tie_binFor (beg end_ : Int) : (Hts.Gen.Index.binFor beg end_).toNat = binFor beg end_ :=
  (Hts.Model.Bam.binFor_agree beg end_).symm

theorem tie_isValidIndexPos (i : Int) : Hts.Gen.Index.isValidIndexPos i = isValidIndexPos i := rfl

/-- `csi.validIndexPos` for every minShift/depth that fit a uint32 -/
theorem tie_csiValidIndexPos (i : Int) (ms d : Nat) (h : ms + d * 3 < 4294967296) (hd : d * 3 < 4294967296) :
    Hts.Gen.Index.csiValidIndexPos i (BitVec.ofNat 32 ms) (BitVec.ofNat 32 d) = csiValidIndexPos i ms d := by
  unfold Hts.Gen.Index.csiValidIndexPos csiValidIndexPos
  rw [← BitVec.ofNat_mul, ← BitVec.ofNat_add, BitVec.toNat_ofNat, Nat.mod_eq_of_lt h]
  simp

/-- a `CigarOp` word decomposes as the model's (typ, len): `Type() = co % 16`, `Len() = co / 16` -/
theorem tie_cigarOp (co : BitVec 32) :
    (Hts.Gen.Index.cigarOpType co).toNat = co.toNat % 16 ∧ Hts.Gen.Index.cigarOpLen co = co.toNat / 16 := by
  unfold Hts.Gen.Index.cigarOpType Hts.Gen.Index.cigarOpLen
  constructor
  · rw [BitVec.toNat_setWidth, BitVec.toNat_and]
    have : (15#32).toNat = 2 ^ 4 - 1 := by decide
    rw [this, Nat.and_two_pow_sub_one_eq_mod]
    omega
  · rw [BitVec.toNat_ushiftRight, Nat.shiftRight_eq_div_pow]
    rfl

end Hts.Tie.C16
