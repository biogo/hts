/-
Tie for C20: the definitions regenerated from the Go AST (Hts.Gen.Itf8 / Hts.Gen.Ltf8) equal the
hand-written models the property theorems are about.  If the Go code changes, these stop checking.
-/
import Hts.Model.Itf8
import Hts.Model.Ltf8
import Hts.Gen.Itf8
import Hts.Gen.Ltf8
import Hts.Lemmas.Itf8
open Hts.GoPrim Hts.Lemmas
namespace Hts.Tie.C20

theorem itf8_width_clz_fin : ∀ n : Fin 256,
    clz8 (~~~(BitVec.ofFin n &&& 0xf0#8)) + 1 = Hts.Model.Itf8.width (BitVec.ofFin n) := by
  decide +kernel
theorem itf8_width_clz (b0 : BitVec 8) : clz8 (~~~(b0 &&& 0xf0#8)) + 1 = Hts.Model.Itf8.width b0 := by
  simpa using itf8_width_clz_fin b0.toFin

theorem ltf8_width_clz_fin : ∀ n : Fin 256,
    clz8 (~~~(BitVec.ofFin n)) + 1 = Hts.Model.Ltf8.width (BitVec.ofFin n) := by
  decide +kernel
theorem ltf8_width_clz (b0 : BitVec 8) : clz8 (~~~b0) + 1 = Hts.Model.Ltf8.width b0 := by
  simpa using ltf8_width_clz_fin b0.toFin

theorem tie_itf8_len (v : BitVec 32) : Hts.Gen.Itf8.len v = Hts.Model.Itf8.len v := by
  unfold Hts.Gen.Itf8.len Hts.Model.Itf8.len; rfl

theorem tie_itf8_decode (b : List (BitVec 8)) : Hts.Gen.Itf8.decode b = Hts.Model.Itf8.decode b := by
  -- with `==` and `decide` turned into propositions the two texts differ in the spelling of `0#8` only
  simp only [Hts.Gen.Itf8.decode, Hts.Model.Itf8.decode, itf8_width_clz, Hts.Model.Itf8.z, beq_iff_eq,
    decide_eq_true_eq, Int.ofNat_eq_natCast, Int.natCast_eq_zero]
  rfl

/-- `Encode` writes exactly the model's bytes into the front of `b`, leaves the rest alone and returns
their number — whenever the buffer holds the encoding (`Len(v) ≤ len(b)`).  On a shorter buffer Go panics with an
index error before it stores anything (`_ = b[n-1]`), where the generated total function stores the bytes that fit.
That site is not in C11's inventory, which takes only `Decode` from these packages (`panicOnly` in
go/cmd/extract/panics.go). -/
theorem tie_itf8_encode (b : List (BitVec 8)) (v : BitVec 32) (h : Hts.Model.Itf8.len v ≤ (b.length : Int)) :
    (Hts.Gen.Itf8.encode b v).2 = Hts.Model.Itf8.len v ∧
    (Hts.Gen.Itf8.encode b v).1 = Hts.Model.Itf8.encode v ++ b.drop (Hts.Model.Itf8.encode v).length := by
  have hl := Hts.Model.Itf8.encode_length v
  refine ⟨by simp only [Hts.Gen.Itf8.encode, Hts.Model.Itf8.len, apply_ite Prod.snd], ?_⟩
  -- in every branch the generated code stores the model's bytes one by one
  rw [← storeAt_zero _ _ (by omega)]
  simp only [Hts.Gen.Itf8.encode, Hts.Model.Itf8.encode, apply_ite Prod.fst, apply_ite (storeAt b 0)]
  rfl

theorem tie_ltf8_len (v : BitVec 64) : Hts.Gen.Ltf8.len v = Hts.Model.Ltf8.len v := by
  unfold Hts.Gen.Ltf8.len Hts.Model.Ltf8.len; rfl

theorem tie_ltf8_decode (b : List (BitVec 8)) : Hts.Gen.Ltf8.decode b = Hts.Model.Ltf8.decode b := by
  simp only [Hts.Gen.Ltf8.decode, Hts.Model.Ltf8.decode, ltf8_width_clz, Hts.Model.Ltf8.z, beq_iff_eq,
    decide_eq_true_eq, Int.ofNat_eq_natCast, Int.natCast_eq_zero]
  rfl

theorem tie_ltf8_encode (b : List (BitVec 8)) (v : BitVec 64) (h : Hts.Model.Ltf8.len v ≤ (b.length : Int)) :
    (Hts.Gen.Ltf8.encode b v).2 = Hts.Model.Ltf8.len v ∧
    (Hts.Gen.Ltf8.encode b v).1 = Hts.Model.Ltf8.encode v ++ b.drop (Hts.Model.Ltf8.encode v).length := by
  have hl := Hts.Model.Ltf8.encode_length v
  refine ⟨by simp only [Hts.Gen.Ltf8.encode, Hts.Model.Ltf8.len, apply_ite Prod.snd], ?_⟩
  rw [← storeAt_zero _ _ (by omega)]
  simp only [Hts.Gen.Ltf8.encode, Hts.Model.Ltf8.encode, apply_ite Prod.fst, apply_ite (storeAt b 0)]
  rfl

end Hts.Tie.C20
