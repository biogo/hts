/-
Instances of `lock_linearizable` for the caches of bgzf/cache:

* LRU, FIFO: every method is `c.mu.Lock()/RLock(); body; Unlock()`; the sequential specification is the
  model's operation (`LCache.call`), the body is taken as one step;
* Random: same, the specification is the relation "for some choice of victims the model allows";
* StatsRecorder: `Get`/`Put`/`Stats`/`Reset` under the recorder's own mutex, with the bodies split into their
  real small steps (`Gets++`; inner `Get`; `Misses++`): the counters and the inner cache change at different
  moments, atomicity comes from the lock.  `StatsRecorder.Peek` goes straight to the inner cache without the
  recorder's mutex and is not part of this instance.

`cache.Free(n, c)` is a sequence of five separate lock acquisitions (`Cap`, `Len`, `Drop`, `Cap`, `Len`) and is
not an atomic operation of the cache; it is not an operation of these objects.

Names: the definitions C14's statements mention live in the namespace `Hts.Spec.Lin` but in the files Hts.Lemmas.CacheLin
(`Obj`, `Reach`, `Linearizable`, `visible`) and this one (`Call`, `lObj`, `rObj`, `recObj`); `LCache.call` here is
`Hts.Spec.Lin.LCache.call`, so `c.call …` on `c : Hts.Model.Cache.LCache` does not resolve; the instances with a heap per
call, `lObjH`/`rObjH` of Hts.Lemmas.CachePost, are `Hts.Model.Cache.*`.
-/
import Hts.Lemmas.CacheLin
import Hts.Spec.CacheContract
namespace Hts.Spec.Lin
open Hts.Model.Cache Hts.Spec.CacheContract

/-- the methods of `cache.Cache` -/
inductive Call
  | put (id : Nat)
  | get (k : Int)
  | peek (k : Int)
  | len
  | cap
  | drop (n : Int)
  | resize (n : Int)
deriving DecidableEq, Repr

inductive CRet
  | put (r : PutRes)
  | get (r : Option Nat)
  | peek (b : Bool) (n : Int)
  | int (n : Int)
  | unit
  | stats (s : Stats)
deriving DecidableEq, Repr

def Call.isRead : Call → Bool
  | .peek _ => true
  | .len => true
  | .cap => true
  | _ => false

def LCache.call (kind : Kind) (h : Heap) (c : LCache) : Call → LCache × CRet
  | .put id => let (c', r) := c.put h id; (c', .put r)
  | .get k => let (c', r) := c.get kind h k; (c', .get r)
  | .peek k => let (b, n) := c.peek h k; (c, .peek b n)
  | .len => (c, .int c.len)
  | .cap => (c, .int c.cap)
  | .drop n => (c.drop n, .unit)
  | .resize n => (c.resize n, .unit)

def lObj (kind : Kind) (h : Heap) : Obj where
  σ := LCache
  Op := Call
  Ret := CRet
  Loc := Unit
  spec s op r s' := LCache.call kind h s op = (s', r)
  isRead := Call.isRead
  init _ := ()
  more _ _ _ _ _ := False
  done op _ s r s' := LCache.call kind h s op = (s', r)

theorem LCache.call_read {kind : Kind} {h : Heap} {c c' : LCache} {op : Call} {r : CRet}
    (hr : op.isRead = true) (d : LCache.call kind h c op = (c', r)) : c' = c := by
  cases op with
  | peek _ | len | cap => exact (Prod.mk.inj d).1.symm
  | _ => cases hr

theorem lObj_laws (kind : Kind) (h : Heap) : Laws (lObj kind h) :=
  Laws.of_atomic _ (fun _ _ _ _ _ m => m) (fun _ _ _ _ _ d => d)
    (fun _ _ _ _ _ hr d => LCache.call_read hr d)

theorem lcache_linearizable (kind : Kind) (h : Heap) (n : Int) {g : G (lObj kind h)}
    {w : List (Ev (lObj kind h))} (r : Reach (lObj kind h) (LCache.new n) g w) :
    Linearizable (lObj kind h) (LCache.new n) (visible (lObj kind h) w) :=
  lock_linearizable (lObj kind h) (lObj_laws kind h) (LCache.new n) r

/-- `choice` = the victims the implementation picked -/
def RCache.call (h : Heap) (c : RCache) (choice : List Nat) : Call → Option (RCache × CRet)
  | .put id => (c.put h id choice.head?).map (fun (c', r) => (c', .put r))
  | .get k => let (c', r) := c.get k; some (c', .get r)
  | .peek k => let (b, n) := c.peek h k; some (c, .peek b n)
  | .len => some (c, .int c.len)
  | .cap => some (c, .int c.cap)
  | .drop n => (c.drop h n choice).map (fun c' => (c', .unit))
  | .resize n => (c.resize h n choice).map (fun c' => (c', .unit))

def rObj (h : Heap) : Obj where
  σ := RCache
  Op := Call
  Ret := CRet
  Loc := Unit
  spec s op r s' := ∃ choice, RCache.call h s choice op = some (s', r)
  isRead := Call.isRead
  init _ := ()
  more _ _ _ _ _ := False
  done op _ s r s' := ∃ choice, RCache.call h s choice op = some (s', r)

theorem RCache.call_read {h : Heap} {c c' : RCache} {choice : List Nat} {op : Call} {r : CRet}
    (hr : op.isRead = true) (d : RCache.call h c choice op = some (c', r)) : c' = c := by
  cases op with
  | peek _ | len | cap => exact (Prod.mk.inj (Option.some.inj d)).1.symm
  | _ => cases hr

theorem rObj_laws (h : Heap) : Laws (rObj h) :=
  Laws.of_atomic _ (fun _ _ _ _ _ m => m) (fun _ _ _ _ _ d => d)
    (fun _ _ _ _ _ hr ⟨_, d⟩ => RCache.call_read hr d)

theorem rcache_linearizable (h : Heap) (n : Int) {g : G (rObj h)} {w : List (Ev (rObj h))}
    (r : Reach (rObj h) (RCache.new n) g w) :
    Linearizable (rObj h) (RCache.new n) (visible (rObj h) w) :=
  lock_linearizable (rObj h) (rObj_laws h) (RCache.new n) r

inductive RecCall
  | get (k : Int)
  | put (id : Nat)
  | stats
  | reset
deriving DecidableEq, Repr

inductive RecLoc
  | start
  | counted
  | gotG (r : Option Nat)
  | gotP (r : PutRes)

def recObj {σ : Type} (o : CacheOps σ) (h : Heap) : Obj where
  σ := σ × Stats
  Op := RecCall
  Ret := CRet
  Loc := RecLoc
  spec s op r s' :=
    match op with
    | .get k => (recorderOps o).get h s k = (s', match r with | .get x => x | _ => none) ∧ ∃ x, r = .get x
    | .put id => ∃ hint x, (recorderOps o).put h s id hint = some (s', x) ∧ r = .put x
    | .stats => s' = s ∧ r = .stats s.2
    | .reset => s' = (s.1, {}) ∧ r = .unit
  isRead op := match op with | .stats => true | _ => false
  init _ := .start
  more op l s l' s' :=
    match op, l, l' with
    -- s.stats.Gets++
    | .get _, .start, .counted => s' = (s.1, { s.2 with gets := s.2.gets + 1 })
    -- blk := s.Cache.Get(base)
    | .get k, .counted, .gotG r => (o.get h s.1 k).2 = r ∧ s' = ((o.get h s.1 k).1, s.2)
    -- s.stats.Puts++
    | .put _, .start, .counted => s' = (s.1, { s.2 with puts := s.2.puts + 1 })
    -- blk, retained := s.Cache.Put(b)
    | .put id, .counted, .gotP r => ∃ hint c', o.put h s.1 id hint = some (c', r) ∧ s' = (c', s.2)
    | _, _, _ => False
  done op l s r s' :=
    match op, l with
    -- if blk == nil { s.stats.Misses++ }; return blk
    | .get _, .gotG x => r = .get x ∧
        s' = (s.1, match x with | none => { s.2 with misses := s.2.misses + 1 } | some _ => s.2)
    -- if retained { Retains++; if blk != nil { Evictions++ } }; return
    | .put _, .gotP x => r = .put x ∧
        s' = (s.1, match x with
          | .kept none => { s.2 with retains := s.2.retains + 1 }
          | .kept (some _) => { s.2 with retains := s.2.retains + 1, evictions := s.2.evictions + 1 }
          | _ => s.2)
    | .stats, .start => r = .stats s.2 ∧ s' = s
    | .reset, .start => r = .unit ∧ s' = (s.1, {})
    | _, _ => False

theorem recObj_laws {σ : Type} (o : CacheOps σ) (h : Heap) : Laws (recObj o h) where
  body_implements op s r s' b := by
    cases op with
    | get k =>
      -- start -more-> counted -more-> gotG x -done-> result
      obtain ⟨l1, s1, m1, b1⟩ := b.inv.resolve_left fun d => d
      cases l1 with
      | start | gotG _ | gotP _ => exact m1.elim
      | counted =>
        obtain ⟨l2, s2, m2, b2⟩ := b1.inv.resolve_left fun d => d
        cases l2 with
        | start | counted | gotP _ => exact m2.elim
        | gotG x =>
          rcases b2.inv with ⟨rfl, rfl⟩ | ⟨l3, s3, m3, _⟩
          · obtain ⟨rfl, rfl⟩ := m2
            cases m1
            refine ⟨?_, _, rfl⟩
            show (((o.get h s.1 k).1, s.2.onGet (o.get h s.1 k).2), (o.get h s.1 k).2) = _
            cases (o.get h s.1 k).2 <;> rfl
          · cases l3 <;> exact m3.elim
    | put id =>
      obtain ⟨l1, s1, m1, b1⟩ := b.inv.resolve_left fun d => d
      cases l1 with
      | start | gotG _ | gotP _ => exact m1.elim
      | counted =>
        obtain ⟨l2, s2, m2, b2⟩ := b1.inv.resolve_left fun d => d
        cases l2 with
        | start | counted | gotG _ => exact m2.elim
        | gotP x =>
          rcases b2.inv with ⟨rfl, rfl⟩ | ⟨l3, s3, m3, _⟩
          · obtain ⟨hint, c', hp, rfl⟩ := m2
            cases m1
            refine ⟨hint, x, ?_, rfl⟩
            show Option.map _ (o.put h s.1 id hint) = _
            rw [hp]
            rcases x with _ | (_ | _) | _ <;> rfl
          · cases l3 <;> exact m3.elim
    | stats | reset =>
      rcases b.inv with d | ⟨l1, s1, m1, _⟩
      · exact ⟨d.2, d.1⟩
      · cases l1 <;> exact m1.elim
  read_more op l s l' s' hr m := by
    cases op with
    | stats => cases l <;> cases l' <;> exact m.elim
    | _ => cases hr
  read_done op l s r s' hr d := by
    cases op with
    | stats =>
      cases l with
      | start => exact d.2
      | _ => exact d.elim
    | _ => cases hr

theorem recorder_linearizable {σ : Type} (o : CacheOps σ) (h : Heap) (c0 : σ) {g : G (recObj o h)}
    {w : List (Ev (recObj o h))} (r : Reach (recObj o h) (c0, {}) g w) :
    Linearizable (recObj o h) (c0, {}) (visible (recObj o h) w) :=
  lock_linearizable (recObj o h) (recObj_laws o h) (c0, {}) r

end Hts.Spec.Lin
