/-
Record level: `UnmarshalSAM` of the line `MarshalSAM` prints is the canonical form of the record, for
every expressible record, with decimal or hexadecimal flags; the canonical form is expressible and prints
the same line, so a second round trip returns it unchanged.  `recordLine_ok` is what the line reader (Lemmas/SamReader)
asks of a line; `fakeRefs` is defined here.
-/
import Hts.Lemmas.SamAux
namespace Hts.Model.SamText
open Hts.Spec.SamLine (QNameChar RNameOK)

@[simp] theorem except_ok_bind {α β : Type} (a : α) (f : α → Except Fault β) : (Except.ok a >>= f) = f a := rfl
@[simp] theorem ofOpt_some {α : Type} (a : α) : ofOpt (some a) = .ok a := rfl

theorem wrap64_id (x : Int) (h1 : -9223372036854775808 ≤ x) (h2 : x < 9223372036854775808) : wrap64 x = x := by
  unfold wrap64; omega

theorem qnameChar_ge32 {c : UInt8} (h : QNameChar c) : 32 ≤ c :=
  h.elim (fun h => UInt8.le_trans (by decide) h.1) fun h => UInt8.le_trans (by decide) h.1

namespace Expressible
variable {h : Header} {r : Record} (he : Expressible h r)
include he
theorem name : NameOK r.name := he.1
theorem ref : OptRefIn h r.ref := he.2.1
theorem mateRef : OptRefIn h r.mateRef := he.2.2.1
theorem ints : IntsOK r := he.2.2.2.1
theorem cigar : CigarOK r := he.2.2.2.2.1
theorem qual : QualOK r := he.2.2.2.2.2.1
theorem aux : ∀ a ∈ r.aux, AuxOK a := he.2.2.2.2.2.2
end Expressible

theorem findRef_spec (refs : List (Bytes × Nat)) : ∀ (i j : Nat) (name : Bytes) (len : Nat),
    refs[j]? = some (name, len) → (refs.map (·.1)).Nodup →
    findRef refs name i = some ⟨((i + j : Nat) : Int), name, len⟩ := by
  induction refs with
  | nil => intro i j name len h; cases h
  | cons p rest ih =>
    intro i j name len h hnd
    rw [findRef]
    cases j with
    | zero => cases Option.some.inj h; rw [if_pos rfl]; rfl
    | succ j =>
      rw [List.map_cons, List.nodup_cons] at hnd
      have hne : p.1 ≠ name := fun e =>
        hnd.1 (e ▸ List.mem_map.mpr ⟨(name, len), List.mem_of_getElem? h, rfl⟩)
      rw [if_neg hne, ih (i + 1) j name len h hnd.2, Nat.add_right_comm, Nat.add_assoc]

theorem rnameOK_field (n : Bytes) (h : RNameOK n) : n ≠ [42] ∧ n ≠ [61] ∧ NoSep n := by
  cases n with
  | nil => exact h.elim
  | cons c rest =>
    exact ⟨fun e => h.1 (List.cons.inj e).1, fun e => h.2.1 (List.cons.inj e).1,
      .of_ge32 (List.forall_mem_cons.mpr ⟨UInt8.le_trans (by decide) h.2.2.1.1,
        fun d hd => UInt8.le_trans (by decide) (h.2.2.2 d hd).1⟩)⟩

theorem refIn_get (h : Header) (hh : HeaderOK h) (x : Ref) (hx : RefIn h x) :
    h.refs[x.id.toNat]? = some (x.name, x.len) ∧ RNameOK x.name := by
  obtain ⟨_, hx⟩ := hx
  unfold Header.refAt at hx
  cases hg : h.refs[x.id.toNat]? with
  | none => rw [hg] at hx; cases hx
  | some p =>
    rw [hg] at hx
    have e : (⟨x.id.toNat, p.1, p.2⟩ : Ref) = x := Option.some.inj hx
    rw [← e]
    exact ⟨rfl, hh.1 p (List.mem_of_getElem? hg)⟩

theorem refName_ne (h : Header) (hh : HeaderOK h) (x : Option Ref) (hx : OptRefIn h x) : refName x ≠ [61] := by
  cases x with
  | none => decide
  | some x => exact (rnameOK_field x.name (refIn_get h hh x hx).2).2.1

theorem refName_no_sep (h : Header) (hh : HeaderOK h) (x : Option Ref) (hx : OptRefIn h x) : NoSep (refName x) := by
  cases x with
  | none => exact noSep_star
  | some x => exact (rnameOK_field x.name (refIn_get h hh x hx).2).2.2

theorem referenceForName_opt (h : Header) (hh : HeaderOK h) (x : Option Ref) (hx : OptRefIn h x) :
    referenceForName (some h) (refName x) = .ok x := by
  cases x with
  | none => rfl
  | some x =>
    have hg := findRef_spec h.refs 0 x.id.toNat x.name x.len (refIn_get h hh x hx).1 hh.2
    rw [Nat.zero_add, Int.toNat_of_nonneg hx.1] at hg
    simp only [referenceForName, refName, (rnameOK_field x.name (refIn_get h hh x hx).2).1, if_false, hg]

theorem refName_inj (h : Header) (hh : HeaderOK h) (x y : Option Ref) (hx : OptRefIn h x) (hy : OptRefIn h y)
    (e : refName x = refName y) : x = y := by
  have h1 := referenceForName_opt h hh x hx
  rw [e, referenceForName_opt h hh y hy] at h1
  exact (Except.ok.inj h1).symm

theorem formatMate_eq (ref mate : Option Ref) :
    formatMate ref mate = if mate ≠ none ∧ ref = mate then [61] else refName mate := by
  cases mate with
  | none => rfl
  | some m => by_cases he : ref = some m <;> simp [formatMate, refName, he]

theorem formatMate_congr {ref mate ref' mate' : Option Ref} (hn : refName mate' = refName mate)
    (hnone : mate' = none ↔ mate = none) (heq : ref' = mate' ↔ ref = mate) :
    formatMate ref' mate' = formatMate ref mate := by
  simp only [formatMate_eq, ne_eq, hn, hnone, heq]

theorem parseMateRef_format (ho : Option Header) (g : Option Ref → Option Ref) (h : Header) (hh : HeaderOK h)
    (H : ∀ x, OptRefIn h x → referenceForName ho (refName x) = .ok (g x))
    (ref mate : Option Ref) (hr : OptRefIn h ref) (hm : OptRefIn h mate) :
    parseMateRef ho (g ref) (refName ref) (formatMate ref mate) = .ok (g mate) := by
  unfold parseMateRef
  rw [formatMate_eq]
  split
  · rename_i hc; rw [if_pos (Or.inr rfl), hc.2]
  · by_cases e : refName ref = refName mate
    · rw [if_pos (Or.inl e), refName_inj h hh ref mate hr hm e]
    · rw [if_neg (fun hc => hc.elim e (refName_ne h hh mate hm)), H mate hm]

theorem formatMate_no_sep (h : Header) (hh : HeaderOK h) (ref mate : Option Ref) (hm : OptRefIn h mate) :
    NoSep (formatMate ref mate) := by
  rw [formatMate_eq]
  split
  · exact .cons (by decide) .nil
  · exact refName_no_sep h hh mate hm

theorem parseUintGo_formatFlags (fl : UInt16) (f : FlagFmt) (hf : f = .dec ∨ f = .hex) :
    parseUintGo (formatFlags fl f) 0 16 = some fl.toNat := by
  rcases hf with rfl | rfl
  · exact parseUintGo_showNat_0 _ _ fl.toNat_lt
  · exact parseUintGo_hex _ _ fl.toNat_lt

theorem formatFlags_no_sep (fl : UInt16) (f : FlagFmt) (hf : f = .dec ∨ f = .hex) : NoSep (formatFlags fl f) := by
  rcases hf with rfl | rfl
  · exact showNat_noSep _
  · exact .cons (by decide) (.cons (by decide) (.of_ge32 fun c hc => (showHex_chars _ c hc).2))

theorem recordFields_no_sep {ft : FloatText} (L : FloatLaws ft) (h : Header) (hh : HeaderOK h) (f : FlagFmt)
    (hf : f = .dec ∨ f = .hex) (r : Record) (he : Expressible h r) :
    ∀ fld ∈ recordFields ft f r, NoSep fld := by
  intro fld hfld
  simp only [recordFields, List.cons_append, List.nil_append, List.mem_cons, List.mem_map] at hfld
  rcases hfld with rfl | rfl | rfl | rfl | rfl | rfl | rfl | rfl | rfl | rfl | rfl | ⟨a, ha, rfl⟩
  · exact .of_ge32 fun c hc => qnameChar_ge32 (he.name.2.2 c hc)
  · exact formatFlags_no_sep _ f hf
  · exact refName_no_sep h hh _ he.ref
  · exact showInt_noSep _
  · exact showNat_noSep _
  · exact formatCigar_no_sep _ fun co hco => Nat.le_succ_of_le (he.cigar.1 co hco).1
  · exact formatMate_no_sep h hh _ _ he.mateRef
  · exact showInt_noSep _
  · exact showInt_noSep _
  · exact formatSeq_no_sep _
  · exact formatQual_no_sep r he.qual
  · exact formatAux_no_sep L a (he.aux a ha)

theorem recordLine_ok {ft : FloatText} (L : FloatLaws ft) (h : Header) (hh : HeaderOK h) (f : FlagFmt)
    (hf : f = .dec ∨ f = .hex) (r : Record) (he : Expressible h r) :
    (∀ c ∈ joinWith 9 (recordFields ft f r), c ≠ 10 ∧ c ≠ 13) ∧ joinWith 9 (recordFields ft f r) ≠ [] := by
  constructor
  · intro c hc
    rcases mem_joinWith hc with rfl | ⟨fld, hfld, hc⟩
    · decide
    · exact (recordFields_no_sep L h hh f hf r he fld hfld c hc).2
  · obtain ⟨c, cs, hn⟩ := List.exists_cons_of_ne_nil (List.ne_nil_of_length_pos he.name.1)
    simp only [recordFields, List.cons_append, joinWith, hn]
    exact List.cons_ne_nil _ _

theorem checkCigar_ok (r : Record) (h : CigarOK r) :
    checkCigar (formatSeq r.seq != [42]) r.cigar r.seq.length = .ok () := by
  unfold checkCigar
  rcases h.2 with h2 | h2 | h2
  · rw [h2]; exact if_neg fun hc => absurd hc.2 (by decide)
  · rw [h2]; exact if_neg fun hc => absurd hc.1 (by decide)
  · split
    · rw [h2]
    · rfl

theorem checkQualLen_ok (r : Record) (h : QualOK r) : checkQualLen (canonQual r) r.seq.length = .ok () := by
  unfold checkQualLen
  split
  · rename_i q hq
    rw [if_neg fun hc => hc.2 (canonQual_length r q h hq)]
  · rfl

/-- stated for any way `ho` of resolving reference names that returns `g x` for the name of `x` (`*` for none), so
that reading with the header (`g = id`) and without one (`g = Option.map fakeRef`) are both instances -/
theorem parseRecord_format_gen {ft : FloatText} (L : FloatLaws ft) (ho : Option Header)
    (g : Option Ref → Option Ref) (h : Header) (hh : HeaderOK h) (f : FlagFmt) (hf : f = .dec ∨ f = .hex)
    (r : Record) (he : Expressible h r) (H : ∀ x, OptRefIn h x → referenceForName ho (refName x) = .ok (g x)) :
    parseRecord ft ho (joinWith 9 (recordFields ft f r)) =
      .ok { canonRecord L r with ref := g r.ref, mateRef := g r.mateRef } := by
  have hsplit : splitOn 9 (joinWith 9 (recordFields ft f r)) = recordFields ft f r :=
    splitOn_joinWith 9 _ (List.cons_ne_nil _ _)
      fun fld hfld c hc => (recordFields_no_sep L h hh f hf r he fld hfld c hc).1
  obtain ⟨hp1, hp2, hm1, hm2, ht1, ht2⟩ := he.ints
  have hp1' : -9223372036854775808 ≤ r.pos + 1 := by omega
  have hm1' : -9223372036854775808 ≤ r.matePos + 1 := by omega
  have hcig := he.cigar
  -- in the order of `parseRecord`'s `do` block: each `rw` turns the scrutinees of the next binds into `.ok`/`some`, each
  -- `simp only [ofOpt_some, except_ok_bind]` performs those binds; a new field goes in at its place in that order
  unfold parseRecord
  rw [hsplit]
  simp only [recordFields, List.cons_append, List.nil_append]
  rw [parseUintGo_formatFlags r.flags f hf, H r.ref he.ref, wrap64_id (r.pos + 1) hp1' hp2,
    atoi_showInt (r.pos + 1) hp1' hp2, parseUintGo_showNat_10 r.mapq.toNat 8 r.mapq.toNat_lt,
    parseCigar_formatCigar r.cigar fun co hco => ⟨Nat.le_succ_of_le (hcig.1 co hco).1, (hcig.1 co hco).2⟩]
  simp only [ofOpt_some, except_ok_bind]
  rw [parseMateRef_format ho g h hh H r.ref r.mateRef he.ref he.mateRef, wrap64_id (r.matePos + 1) hm1' hm2,
    atoi_showInt (r.matePos + 1) hm1' hm2, atoi_showInt r.tempLen ht1 ht2]
  simp only [ofOpt_some, except_ok_bind]
  rw [parseSeq_formatSeq, checkCigar_ok r hcig, parseQual_formatQual r he.qual, checkQualLen_ok r he.qual]
  simp only [except_ok_bind]
  rw [mapM_map_pure (formatAux ft) (parseAux ft) (canonAux L) r.aux
    fun a ha => parseAux_formatAux L a (auxRep_of_auxOK a (he.aux a ha))]
  simp only [pure, Except.pure, except_ok_bind, Int.add_sub_cancel, wrap64_id r.pos hp1 (by omega),
    wrap64_id r.matePos hm1 (by omega), UInt16.ofNat_toNat, UInt8.ofNat_toNat]
  rfl

theorem parseRecord_format {ft : FloatText} (L : FloatLaws ft) (h : Header) (hh : HeaderOK h) (f : FlagFmt)
    (hf : f = .dec ∨ f = .hex) (r : Record) (he : Expressible h r) :
    parseRecord ft (some h) (joinWith 9 (recordFields ft f r)) = .ok (canonRecord L r) :=
  parseRecord_format_gen L (some h) id h hh f hf r he (referenceForName_opt h hh)

/-- the reference UnmarshalSAM makes up for a name when it has no header -/
def fakeRef (x : Ref) : Ref := ⟨-1, x.name, 0⟩

def fakeRefs (r : Record) : Record := { r with ref := r.ref.map fakeRef, mateRef := r.mateRef.map fakeRef }

theorem refName_fakeRef (x : Option Ref) : refName (x.map fakeRef) = refName x := by cases x <;> rfl

theorem referenceForName_nil (h : Header) (hh : HeaderOK h) (x : Option Ref) (hx : OptRefIn h x) :
    referenceForName none (refName x) = .ok (x.map fakeRef) := by
  cases x with
  | none => rfl
  | some x => exact if_neg (rnameOK_field x.name (refIn_get h hh x hx).2).1

theorem parseRecord_format_nil {ft : FloatText} (L : FloatLaws ft) (h : Header) (hh : HeaderOK h) (f : FlagFmt)
    (hf : f = .dec ∨ f = .hex) (r : Record) (he : Expressible h r) :
    parseRecord ft none (joinWith 9 (recordFields ft f r)) = .ok (fakeRefs (canonRecord L r)) :=
  parseRecord_format_gen L none (Option.map fakeRef) h hh f hf r he (referenceForName_nil h hh)

theorem recordFields_fakeRefs {ft : FloatText} (h : Header) (hh : HeaderOK h) (f : FlagFmt) (r : Record)
    (hr : OptRefIn h r.ref) (hm : OptRefIn h r.mateRef) :
    recordFields ft f (fakeRefs r) = recordFields ft f r := by
  -- `=` is printed exactly when read and mate share the reference; fake references that are equal have equal names,
  -- and names are unique in the header
  have h2 : formatMate (r.ref.map fakeRef) (r.mateRef.map fakeRef) = formatMate r.ref r.mateRef :=
    formatMate_congr (refName_fakeRef _) Option.map_eq_none_iff
      ⟨fun e => refName_inj h hh _ _ hr hm (by rw [← refName_fakeRef, e, refName_fakeRef]), fun e => by rw [e]⟩
  unfold recordFields fakeRefs
  simp only [refName_fakeRef, h2]

theorem formatRecord_ok {ft : FloatText} (f : FlagFmt) (r : Record) (h : QualOK r) :
    formatRecord ft f r = .ok (joinWith 9 (recordFields ft f r)) := by
  unfold formatRecord
  split
  · rename_i q hq; rw [if_neg fun hn => hn (qualOK_some h hq).1]
  · rfl

theorem recordFields_canon {ft : FloatText} (L : FloatLaws ft) (f : FlagFmt) (r : Record) :
    recordFields ft f (canonRecord L r) = recordFields ft f r := by
  unfold recordFields canonRecord
  simp only [formatQual_canonQual, List.map_map]
  congr 2
  funext a
  exact formatAux_canonAux L a

theorem formatRecord_canon {ft : FloatText} (L : FloatLaws ft) (f : FlagFmt) (r : Record) (h : QualOK r) :
    formatRecord ft f (canonRecord L r) = .ok (joinWith 9 (recordFields ft f r)) := by
  rw [formatRecord_ok f _ (qualOK_canon r (canonRecord L r) rfl rfl h), recordFields_canon]

theorem fieldsEq_canon {ft : FloatText} (L : FloatLaws ft) (r : Record) (h : QualOK r) :
    fieldsEq r (canonRecord L r) :=
  ⟨rfl, rfl, rfl, rfl, rfl, rfl, rfl, rfl, rfl, rfl, qualView_canon r (canonRecord L r) rfl rfl h,
    listRel_map (auxEq_canonAux L) r.aux⟩

theorem auxOK_canon {ft : FloatText} (L : FloatLaws ft) (a : Aux) (h : AuxOK a) : AuxOK (canonAux L a) := by
  obtain ⟨t0, t1, v⟩ := a
  refine ⟨h.1, ?_⟩
  cases v with
  | int ty w => have := intTy_range ty w h.2; exact narrowTy_range w this.1 this.2
  | float b => trivial
  | floats bs => trivial
  | _ => exact h.2

theorem expressible_canon {ft : FloatText} (L : FloatLaws ft) (h : Header) (r : Record) (he : Expressible h r) :
    Expressible h (canonRecord L r) :=
  ⟨he.name, he.ref, he.mateRef, he.ints, he.cigar, qualOK_canon r (canonRecord L r) rfl rfl he.qual,
    List.forall_mem_map.mpr fun a ha => auxOK_canon L a (he.aux a ha)⟩

end Hts.Model.SamText
