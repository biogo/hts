/-
Chunk lists of the sequential pass, the header decoder, the span of a split `A ++ M ++ B` (`RecSpan.of_split`), and the
example file.
-/
import Hts.Lemmas.BamReplay
namespace Hts.Model.Bgzf
open Hts.Spec.Flat

variable {F : File} {r : Reader} {br : BamReader} {s : State}

/-- The chunk from the `Begin` of the first to the `End` of the last of a run of reported chunks. -/
def spanChunk (cs : List Chunk) : Chunk := ⟨(cs.headD default).bgn, (cs.getLastD default).fin⟩

theorem recChunks_append (L : Layout) (p : Nat) (A M : List (List UInt8)) :
    recChunks L p (A ++ M) = recChunks L p A ++ recChunks L (p + recSize A) M := by
  induction A generalizing p with
  | nil => simp [recChunks, recSize]
  | cons a A ih =>
    simp only [List.cons_append, recChunks, recSize, ih]
    have : p + (4 + a.length) + recSize A = p + (4 + a.length + recSize A) := by omega
    rw [this]

theorem recChunks_length (L : Layout) (p : Nat) (bs : List (List UInt8)) :
    (recChunks L p bs).length = bs.length := by
  induction bs generalizing p with
  | nil => rfl
  | cons b bs ih => simp [recChunks, ih]

theorem recChunks_head (L : Layout) (p : Nat) (b : List UInt8) (M : List (List UInt8)) :
    ((recChunks L p (b :: M)).headD default).bgn = offBefore L p := by
  simp [recChunks]

theorem recChunks_last (L : Layout) (p : Nat) (b : List UInt8) (M : List (List UInt8)) :
    ((recChunks L p (b :: M)).getLastD default).fin = offAfter L (p + recSize (b :: M)) := by
  induction M generalizing p b with
  | nil => simp [recChunks, recSize]
  | cons b' M ih =>
    have := ih (p + (4 + b.length)) b'
    simp only [recChunks, recSize, List.getLastD_cons] at this ⊢
    rw [show p + (4 + b.length + (4 + b'.length + recSize M)) = p + (4 + b.length) + (4 + b'.length + recSize M) by omega]
    rw [← this]

theorem recChunks_mid (L : Layout) (p0 : Nat) (A M B : List (List UInt8)) :
    ((recChunks L p0 (A ++ M ++ B)).drop A.length).take M.length = recChunks L (p0 + recSize A) M := by
  rw [List.append_assoc, recChunks_append, recChunks_append, List.drop_left' (recChunks_length L p0 A),
    List.take_left' (recChunks_length L (p0 + recSize A) M)]

/-- The reported chunks are ordered: `Begin < End` for every record and `End ≤` the next `Begin`. -/
def ChunksMonotone : List Chunk → Prop
  | [] => True
  | [c] => vOffset c.bgn < vOffset c.fin
  | c :: c' :: rest => vOffset c.bgn < vOffset c.fin ∧ vOffset c.fin ≤ vOffset c'.bgn ∧ ChunksMonotone (c' :: rest)

theorem recChunks_monotone {L : Layout} (hL : LWF L) (p : Nat) (bs : List (List UInt8))
    (h : p + recSize bs ≤ total L) : ChunksMonotone (recChunks L p bs) := by
  induction bs generalizing p with
  | nil => trivial
  | cons b bs ih =>
    simp only [recSize] at h
    have hlt : vOffset (offBefore L p) < vOffset (offAfter L (p + (4 + b.length))) :=
      vOffset_before_lt_after hL (by omega) (by omega)
    cases bs with
    | nil => simpa [recChunks, ChunksMonotone] using hlt
    | cons b' bs =>
      have := ih (p + (4 + b.length)) (by simp only [recSize] at h ⊢; omega)
      simp only [recChunks, ChunksMonotone] at this ⊢
      refine ⟨hlt, ?_, this⟩
      simp only [recSize] at h
      exact vOffset_after_le_before hL (Nat.le_refl _) (by omega)

/-- The header decoder's reads stay inside the data (a zero-length read not at its very end). -/
def HdrOk (tot : Nat) : Nat → List Nat → Prop
  | _, [] => True
  | q, n :: ns => q + n ≤ tot ∧ q < tot ∧ HdrOk tot (q + n) ns

def sumNat : List Nat → Nat
  | [] => 0
  | n :: ns => n + sumNat ns

theorem consumeHeader_ok (hwf : WF F) {hs : List Nat} (h : Sim F r s) (hb : s.blocked = false)
    (hok : HdrOk (flatLen F) s.pos hs) :
    ∃ r' s', BamReader.consumeHeader r hs = (r', none) ∧ Sim F r' s' ∧ s'.blocked = false ∧
      s'.pos = s.pos + sumNat hs := by
  induction hs generalizing r s with
  | nil => exact ⟨r, s, rfl, h, hb, by simp [sumNat]⟩
  | cons n hs ih =>
    obtain ⟨h1, h2, h3⟩ := hok
    obtain ⟨r1, heq, hsim⟩ := sim_read hwf h n
    have hspec : (Hts.Spec.Flat.read (flatOf F) s n).bytes.length = n ∧
        (Hts.Spec.Flat.read (flatOf F) s n).eof = false ∧
        (Hts.Spec.Flat.read (flatOf F) s n).st.pos = s.pos + n ∧
        (Hts.Spec.Flat.read (flatOf F) s n).st.blocked = false := by
      by_cases hn : n = 0
      · subst hn
        rw [flat_read_zero _ _ (by simpa [flatOf] using h2)]
        exact ⟨rfl, rfl, rfl, hb⟩
      · rw [flat_read_enough _ _ _ hb (by omega) (by simpa [flatOf] using h1)]
        refine ⟨?_, rfl, rfl, rfl⟩
        simp [flatOf]; omega
    obtain ⟨r', s', i1, i2, i3, i4⟩ := ih hsim hspec.2.2.2 (by rw [hspec.2.2.1]; exact h3)
    refine ⟨r', s', ?_, i2, i3, by rw [i4, hspec.2.2.1]; simp [sumNat]; omega⟩
    simp only [BamReader.consumeHeader, heq, hspec.1, hspec.2.1, errOf, ne_eq, not_true_eq_false, if_false]
    exact i1

theorem bam_new (hwf : WF F) (hs : List Nat) (br0 : BamReader)
    (h0 : BamReader.new F hs = .ok br0) (hok : HdrOk (flatLen F) 0 hs) :
    br0.c = none ∧ ∃ s, BSim F br0 s ∧ s.pos = sumNat hs := by
  unfold BamReader.new at h0
  cases hn : Reader.new F with
  | error e => simp [hn] at h0
  | ok r =>
    obtain ⟨r', s', hch, c2, c3, c4⟩ := consumeHeader_ok hwf (sim_new hn) rfl hok
    simp only [hn, hch, Except.ok.injEq] at h0
    subst h0
    exact ⟨rfl, s', ⟨c2, c3⟩, by rw [c4]; simp [init]⟩

theorem RecSpan.of_split {p0 : Nat} {bs A M B : List (List UInt8)} (hr : RecAt F p0 bs)
    (hle : p0 ≤ flatLen F) (hbs : bs = A ++ M ++ B) (hM : M ≠ []) :
    RecSpan.Valid F ⟨p0 + recSize A, M, B⟩ ∧
    spanChunk (((recChunks (layoutOf F) p0 bs).drop A.length).take M.length) =
      RecSpan.chunk (layoutOf F) ⟨p0 + recSize A, M, B⟩ ∧
    ((recChunks (layoutOf F) p0 bs).drop A.length).take M.length = recChunks (layoutOf F) (p0 + recSize A) M := by
  subst hbs
  have hmid := recChunks_mid (layoutOf F) p0 A M B
  refine ⟨?_, ?_, hmid⟩
  · have htot := hr.total hle
    rw [List.append_assoc] at hr htot
    rw [recSize_append] at htot
    exact ⟨hM, hr.skip, by simp only []; omega⟩
  · rw [hmid]
    cases M with
    | nil => exact absurd rfl hM
    | cons b M => simp only [spanChunk, RecSpan.chunk, recChunks_head, recChunks_last]

/-- A BAM-shaped file: 4 header bytes, records `[9]` and `[7, 8]`; the first record ends exactly on a block
end, an empty block follows, the second record's size field spans two blocks. -/
def exBam : File :=
  [⟨[66, 65, 77, 1, 1, 0, 0, 0, 9], 40⟩, ⟨[], 28⟩, ⟨[2, 0, 0], 33⟩, ⟨[0, 7, 8], 33⟩, ⟨[], 28⟩]

theorem exBam_wf : WF exBam := by
  unfold WF exBam; decide

end Hts.Model.Bgzf
