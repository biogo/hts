/-
Representability (`CWF`) of a CSI index after ANY sequence of `csi.Index.Add` calls: no sortedness, no
hypothesis that placed records have `0 ≤ start < stop` (the code does not check it), rejected calls included
(a call rejected for position order has already entered its bin).  Only sizes of the input are assumed.
`CIdxRepr` is the invariant every `Add` keeps, whatever it returns.
-/
import Hts.Lemmas.IndexIOCsi
import Hts.Lemmas.IndexCsi
import Hts.Lemmas.IndexRepr
namespace Hts.Model.Csi
open Hts.Model.Index Hts.Model.IndexIO

/-- `P` is the range a virtual offset has to lie in, `L` the bin limit, `n` the number of `Add` calls so far -/
structure CBinRepr (P : Int → Prop) (L n : Nat) (b : CBin) : Prop where
  bin : b.bin < L
  left : P b.left
  records : b.records ≤ n
  chunks : b.chunks.length ≤ n
  offs : ∀ c, c ∈ b.chunks → P c.b ∧ P c.e

structure CRefRepr (P : Int → Prop) (L n : Nat) (r : CRef) : Prop where
  nodup : (r.bins.map (·.bin)).Nodup
  len : r.bins.length ≤ n
  bins : ∀ b, b ∈ r.bins → CBinRepr P L n b
  stats : ∀ s, r.stats = some s → P s.chunk.b ∧ P s.chunk.e ∧ s.mapped ≤ n ∧ s.unmapped ≤ n

/-- the invariant after `n` calls of `Add` (accepted or not) with reference ids below `R` on an index that
started unsorted -/
structure CIdxRepr (P : Int → Prop) (L R n : Nat) (i : CIndex) : Prop where
  flag : i.isSorted = false
  nrefs : i.refs.length ≤ R
  um : ∀ m, i.unmapped = some m → m ≤ n
  refs : ∀ r, r ∈ i.refs → CRefRepr P L n r

theorem CBinRepr.mono {P : Int → Prop} {L n m : Nat} {b : CBin} (h : CBinRepr P L n b) (hnm : n ≤ m) : CBinRepr P L m b :=
  ⟨h.bin, h.left, Nat.le_trans h.records hnm, Nat.le_trans h.chunks hnm, h.offs⟩

theorem CRefRepr.mono {P : Int → Prop} {L n m : Nat} {r : CRef} (h : CRefRepr P L n r) (hnm : n ≤ m) : CRefRepr P L m r :=
  ⟨h.nodup, Nat.le_trans h.len hnm, fun b hb => (h.bins b hb).mono hnm,
   fun s hs => have ⟨a, b, c, d⟩ := h.stats s hs; ⟨a, b, Nat.le_trans c hnm, Nat.le_trans d hnm⟩⟩

/-- pigeonhole on the bin numbers; the `1` is the pseudo-bin the statistics are written as -/
theorem CRefRepr.bin_count {P : Int → Prop} {L n : Nat} {r : CRef} (h : CRefRepr P L n r) :
    r.bins.length + (if r.stats.isSome then 1 else 0) ≤ L + 1 := by
  have := h.nodup.length_le_of_subset (l₂ := List.range L) fun x hx => by
    obtain ⟨b, hb, rfl⟩ := List.mem_map.1 hx
    exact List.mem_range.2 (h.bins b hb).bin
  rw [List.length_map, List.length_range] at this
  split <;> omega

theorem cRefRepr_empty (P : Int → Prop) (L n : Nat) : CRefRepr P L n emptyRef :=
  ⟨List.nodup_nil, Nat.zero_le n, fun _ hb => absurd hb List.not_mem_nil, fun _ hs => nomatch hs⟩

theorem addBin_binRepr (P : Int → Prop) (L n : Nat) (bins : List CBin) (bin : Nat) (c : Chunk) (hbin : bin < L)
    (hc : P c.b ∧ P c.e) (h : ∀ b, b ∈ bins → CBinRepr P L n b) :
    ∀ b, b ∈ (addBin bins bin c).1 → CBinRepr P L (n + 1) b := by
  induction bins with
  | nil =>
    intro b hb
    have : b = ⟨bin, c.b, 1, [c]⟩ := by simpa [addBin] using hb
    subst this
    exact ⟨hbin, hc.1, Nat.succ_le_succ (Nat.zero_le n), Nat.succ_le_succ (Nat.zero_le n),
      fun x hx => List.mem_singleton.1 hx ▸ hc⟩
  | cons b0 bs ih =>
    intro b hb
    by_cases heq : b0.bin = bin
    · subst heq
      simp only [addBin, if_true] at hb
      rcases List.mem_cons.1 hb with rfl | hb
      · have h0 := h b0 List.mem_cons_self
        exact ⟨h0.bin, h0.left, Nat.succ_le_succ h0.records,
          Nat.le_trans (extendChunks_length_le b0.chunks c) (Nat.succ_le_succ h0.chunks),
          extendChunks_offs P _ _ hc h0.offs⟩
      · exact (h b (List.mem_cons_of_mem _ hb)).mono (Nat.le_succ n)
    · simp only [addBin, heq, if_false] at hb
      rcases List.mem_cons.1 hb with rfl | hb
      · exact (h _ List.mem_cons_self).mono (Nat.le_succ n)
      · exact ih (fun z hz => h z (List.mem_cons_of_mem _ hz)) b hb

theorem addRef_repr (P : Int → Prop) (L n : Nat) (ref : CRef) (last : Int) (bin : Nat) (r : CRec) (hbin : bin < L)
    (hc : P r.chunk.b ∧ P r.chunk.e) (h : CRefRepr P L n ref) :
    CRefRepr P L (n + 1) (addRef ref last bin r).1 := by
  have hb := addBin_binRepr P L n ref.bins bin r.chunk hbin hc h.bins
  have hn := addBin_nodup ref.bins bin r.chunk h.nodup
  have hl : (addBin ref.bins bin r.chunk).1.length ≤ n + 1 :=
    Nat.le_trans (length_addBin_le ref.bins bin r.chunk) (Nat.succ_le_succ h.len)
  unfold addRef
  split
  · exact ⟨hn, hl, hb, fun s hs =>
      have ⟨a, b, c, d⟩ := h.stats s hs; ⟨a, b, Nat.le_succ_of_le c, Nat.le_succ_of_le d⟩⟩
  · exact ⟨hn, hl, hb, fun s hs => Option.some.inj hs ▸ addStats_repr P n ref.stats r.chunk r.mapped hc h.stats⟩

theorem add_repr (P : Int → Prop) (binOf : Int → Int → Nat → Nat → Nat) (L R n : Nat) (i : CIndex) (r : CRec)
    (hbin : validPos i.minShift i.depth r.start = true → binOf r.start r.stop i.minShift i.depth < L)
    (hc : P r.chunk.b ∧ P r.chunk.e) (hrid : r.rid < (R : Int)) (h : CIdxRepr P L R n i) :
    CIdxRepr P L R (n + 1) (add binOf i r).1 := by
  have hum : umCount i.unmapped ≤ n := by
    cases hu : i.unmapped with
    | none => exact Nat.zero_le _
    | some m => exact h.um m hu
  have hrefs : ∀ x, x ∈ i.refs → CRefRepr P L (n + 1) x := fun x hx => (h.refs x hx).mono (Nat.le_succ n)
  have um : ∀ k, k ≤ umCount i.unmapped + 1 → CIdxRepr P L R (n + 1) { i with unmapped := some k } := fun k hk =>
    ⟨h.flag, h.nrefs, fun m hm => Option.some.inj hm ▸ Nat.le_trans hk (Nat.succ_le_succ hum), hrefs⟩
  refine add_cases binOf i r (fun _ => ⟨h.flag, h.nrefs, fun m hm => Nat.le_succ_of_le (h.um m hm), hrefs⟩)
    (fun _ _ => um _ (Nat.le_refl _)) (fun _ _ _ => um _ (Nat.le_succ _)) (fun _ _ _ _ => um _ (Nat.le_succ _))
    (fun hv _ h0 _ ref href => ?_)
  -- a call that enters reference `rid`, accepted or rejected for position order
  refine ⟨by show (i.isSorted && _) = false; rw [h.flag]; rfl, ?_,
    fun m hm => Option.some.inj hm ▸ Nat.le_succ_of_le hum, ?_⟩
  · show ((padTo emptyRef i.refs r.rid.toNat).set _ _).length ≤ R
    rw [List.length_set, padTo_length]
    have := h.nrefs
    omega
  · intro y hy
    have hpad : ∀ y, y ∈ padTo emptyRef i.refs r.rid.toNat → CRefRepr P L n y := by
      intro y hy
      rcases mem_padTo _ _ _ _ hy with hy | rfl
      · exact h.refs y hy
      · exact cRefRepr_empty P L n
    rcases List.mem_or_eq_of_mem_set hy with hy | rfl
    · exact (hpad y hy).mono (Nat.le_succ n)
    · exact addRef_repr P L n ref _ _ r (hbin hv.1) hc (hpad ref (List.mem_of_getElem? href))

theorem addAll_repr (P : Int → Prop) (binOf : Int → Int → Nat → Nat → Nat) (L R : Nat) : ∀ (recs : List CRec) (n : Nat) (i : CIndex),
    (∀ r, r ∈ recs → (validPos i.minShift i.depth r.start = true → binOf r.start r.stop i.minShift i.depth < L) ∧
      P r.chunk.b ∧ P r.chunk.e ∧ r.rid < (R : Int)) →
    CIdxRepr P L R n i → CIdxRepr P L R (n + recs.length) (addAll binOf i recs).1 := by
  intro recs
  induction recs with
  | nil => intro n i _ h; exact h
  | cons r rs ih =>
    intro n i hr h
    obtain ⟨h1, h2, h3, h4⟩ := hr r List.mem_cons_self
    have step := add_repr P binOf L R n i r h1 ⟨h2, h3⟩ h4 h
    obtain ⟨_, _, g1, g2⟩ := add_fixed binOf i r
    have := ih (n + 1) (add binOf i r).1
      (by intro x hx; rw [g1, g2]; exact hr x (List.mem_cons_of_mem _ hx)) step
    simp only [addAll, List.length_cons]
    rw [← Nat.add_assoc, Nat.add_right_comm]
    exact this

/-- `csi_any_bin_count` assumes nothing about reference ids, but `CIdxRepr` carries a bound `R` on them: any bound will do -/
theorem exists_rid_bound : ∀ recs : List CRec, ∃ R : Nat, ∀ r, r ∈ recs → r.rid < (R : Int) := by
  intro recs
  induction recs with
  | nil => exact ⟨0, by intro r hr; cases hr⟩
  | cons r rs ih =>
    obtain ⟨R, h⟩ := ih
    refine ⟨R + r.rid.toNat + 1, ?_⟩
    intro x hx
    rcases List.mem_cons.1 hx with rfl | hx
    · omega
    · have := h x hx; omega

theorem reg2bin_lt_binLimit_of_validPos (ms d : Nat) (hd : d ≤ 10) (start stop : Int)
    (hv : validPos ms d start = true) : Hts.Model.Coord.reg2bin start stop ms d < csiBinLimit d :=
  reg2bin_lt_binLimit_any ms d hd start stop (validPos_range ms d start hv).1 (validPos_range ms d start hv).2

theorem addAll_repr_reg2bin (P : Int → Prop) (i0 : CIndex) (hd : i0.depth ≤ 10)
    (hi0 : i0.refs = [] ∧ i0.unmapped = none ∧ i0.isSorted = false)
    (R : Nat) (recs : List CRec) (hrid : ∀ r, r ∈ recs → r.rid < (R : Int))
    (hoff : ∀ r, r ∈ recs → P r.chunk.b ∧ P r.chunk.e) :
    CIdxRepr P (csiBinLimit i0.depth) R recs.length (addAll Hts.Model.Coord.reg2bin i0 recs).1 := by
  have init : CIdxRepr P (csiBinLimit i0.depth) R 0 i0 :=
    { flag := hi0.2.2
      nrefs := by rw [hi0.1]; exact Nat.zero_le _
      um := by intro m hm; rw [hi0.2.1] at hm; cases hm
      refs := by intro r hr; rw [hi0.1] at hr; cases hr }
  have := addAll_repr P Hts.Model.Coord.reg2bin (csiBinLimit i0.depth) R recs 0 i0
    (fun r hr => ⟨reg2bin_lt_binLimit_of_validPos _ _ hd r.start r.stop, (hoff r hr).1, (hoff r hr).2, hrid r hr⟩)
    init
  rwa [Nat.zero_add] at this

end Hts.Model.Csi

namespace Hts.Model.IndexIO
open Hts.Model.Index Hts.Model.Csi

/-- the bin-count clause `CRefBounds.nb` is what `csi.readBins` checks; no hypothesis on the records -/
theorem csi_any_bin_count (i0 : CIndex) (hd : i0.depth ≤ 10)
    (hi0 : i0.refs = [] ∧ i0.unmapped = none ∧ i0.isSorted = false)
    (recs : List CRec) (ref : CRef) (href : ref ∈ (Csi.addAll Hts.Model.Coord.reg2bin i0 recs).1.refs) :
    (ref.bins.map (·.bin)).Nodup ∧ (∀ b, b ∈ ref.bins → b.bin < csiBinLimit i0.depth) ∧
      ref.bins.length + (if ref.stats.isSome then 1 else 0) ≤ csiBinLimit i0.depth + 1 := by
  obtain ⟨R, hR⟩ := exists_rid_bound recs
  have rr := (addAll_repr_reg2bin (fun _ => True) i0 hd hi0 R recs hR (fun _ _ => ⟨trivial, trivial⟩)).refs ref href
  exact ⟨rr.nodup, fun b hb => (rr.bins b hb).bin, rr.bin_count⟩

/-- the bounds `2^31 - 1` as in `built_wf` (Lemmas/IndexRepr): the pseudo-bin in `nb31`, the largest id + 1 in `nrefs` -/
theorem csi_any_cwf (i0 : CIndex) (hd : i0.depth ≤ 10) (hgeom : i0.minShift + 3 * i0.depth ≤ 62)
    (hi0 : i0.refs = [] ∧ i0.unmapped = none ∧ i0.isSorted = false) (hver : i0.version = 1 ∨ i0.version = 2)
    (haux : i0.aux.length < 2147483648)
    (recs : List CRec) (hlen : recs.length < 2147483647)
    (hrid : ∀ r, r ∈ recs → r.rid < 2147483647)
    (hoff : ∀ r, r ∈ recs → OffOK r.chunk.b ∧ OffOK r.chunk.e) :
    CWF (Csi.addAll Hts.Model.Coord.reg2bin i0 recs).1 := by
  have inv := addAll_repr_reg2bin OffOK i0 hd hi0 2147483647 recs (by intro r hr; have := hrid r hr; omega) hoff
  obtain ⟨hv, ha, hms, hdp⟩ := Csi.addAll_fixed Hts.Model.Coord.reg2bin recs i0
  have h31 : ∀ {k}, k ≤ recs.length → k < 2147483648 := fun h => Nat.lt_of_le_of_lt h (Nat.lt_succ_of_lt hlen)
  have h64 : ∀ {k}, k ≤ recs.length → k < 18446744073709551616 := fun h => Nat.lt_trans (h31 h) (by decide)
  refine
    { version := hv ▸ hver
      minShift := by rw [hms]; omega
      geom := by rw [hms, hdp]; exact hgeom
      aux := ha ▸ haux
      nrefs := Nat.lt_succ_of_le inv.nrefs
      bounds := ?_
      flag := by intro hf; rw [inv.flag] at hf; cases hf
      um := fun n hn => h64 (inv.um n hn) }
  intro ref href
  rw [hdp]
  have rr := inv.refs ref href
  have hlim := csiBinLimit_lt i0.depth (by omega)
  refine { nb := rr.bin_count, nb31 := ?_, bins := ?_, stats := ?_ }
  · have := rr.len; split <;> omega
  · intro bn hbn
    have b := rr.bins bn hbn
    exact ⟨Nat.lt_trans b.bin (Nat.lt_of_succ_lt hlim), Nat.ne_of_lt (Nat.lt_succ_of_lt b.bin),
      b.left, h64 b.records, h31 b.chunks, b.offs⟩
  · intro s hs
    obtain ⟨a, b, c, e⟩ := rr.stats s hs
    exact ⟨a, b, h64 c, h64 e⟩

end Hts.Model.IndexIO
