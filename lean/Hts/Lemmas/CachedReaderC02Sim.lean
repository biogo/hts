/-
The uncached baseline of C03 IS C02's reader (general simulation).

`Hts.Model.CachedReader` run with no cache attached (heap of blocks with identities, `Int` offsets, `Except Fault`)
and `Hts.Model.Bgzf.Reader` (one block value, `Nat` offsets, fuel errors) are two independently written models of
bgzf/reader.go.  This file relates them by a simulation relation `R` between their states and proves, for every
well-formed file and every history whose seeks the simulation follows (`followed`: to a member start plus an offset
within the member, or to an offset up to the end of the file at which no member starts — the load fails and both models
latch the error, state `Stuck`), that they return the same bytes, error class and `LastChunk`.
The two models use different loop bounds; the loop lemmas say "whenever C02's loop ends without hitting ITS bound,
the C03 loop started with at least that much fuel (+1) ends in the related state", and C02's own theorems
(`sim_step`) say that its bounds are never hit while its reader stands at a position of the flat file.

Props/C03 takes from here `outputsOf_followed` (the run without a cache is C02's reader; CachedReaderVsC02 takes it too),
`simOuts_eq_flatOuts` (C02's reader is the flat specification), `outputsOf_uncached_flat` (both, for the uncached form of a
history with cache calls) and `fileOK_ofB`; its statements mention `ofB`, `flatOp`, `Plain`, `simOuts`, `flatOuts` of this file.
-/
import Hts.Lemmas.CachedReaderSim
import Hts.Lemmas.ReaderSteps
namespace Hts.Model.CachedReader.C02
open Hts.Model.Cache Hts.Spec.CacheContract Hts.Model.CachedReader
open Hts.Model.Bgzf (memberAt csum WF)

abbrev BFile := Hts.Model.Bgzf.File
abbrev BReader := Hts.Model.Bgzf.Reader
abbrev BBlock := Hts.Model.Bgzf.Block
abbrev BErr := Hts.Model.Bgzf.Err

variable {σ : Type}

def nat8 (l : List UInt8) : List Nat := l.map (·.toNat)

@[simp] theorem nat8_length (l : List UInt8) : (nat8 l).length = l.length := by simp [nat8]

/-- the C03 file (members with absolute offsets) of a C02 file (members in order) -/
def membersFrom (base : Nat) : BFile → File
  | [] => []
  | m :: rest => ⟨(base : Int), (m.csize : Int), nat8 m.data⟩ :: membersFrom (base + m.csize) rest

def ofB (F : BFile) : File := membersFrom 0 F

theorem find_below (F : BFile) (base : Nat) {x : Int} (h : x < base) : File.find (membersFrom base F) x = none := by
  induction F generalizing base with
  | nil => rfl
  | cons m rest ih =>
    have hne : ((base : Int) == x) = false := beq_eq_false_iff_ne.2 (Int.ne_of_gt h)
    simp only [membersFrom, File.find, List.find?_cons, hne]
    exact ih _ (Int.lt_of_lt_of_le h (Int.ofNat_le.2 (Nat.le_add_right _ _)))

theorem find_membersFrom (F : BFile) (hwf : WF F) (base off : Nat) :
    match memberAt F off with
    | .ok m => File.find (membersFrom base F) ((base + off : Nat) : Int) =
        some ⟨((base + off : Nat) : Int), (m.csize : Int), nat8 m.data⟩
    | .eof => File.find (membersFrom base F) ((base + off : Nat) : Int) = none ∧ off = csum F
    | .bad => File.find (membersFrom base F) ((base + off : Nat) : Int) = none ∧ off ≠ csum F := by
  induction F generalizing base off with
  | nil => cases off <;> simp [memberAt, membersFrom, File.find, csum]
  | cons m rest ih =>
    have ⟨hc, _, hw⟩ := Hts.Model.Bgzf.WF.cons hwf
    by_cases h0 : off = 0
    · subst h0
      simp [memberAt, membersFrom, File.find]
    · have hne : ((base : Int) == ((base + off : Nat) : Int)) = false :=
        beq_eq_false_iff_ne.2 fun h => h0 (Nat.add_left_cancel ((Int.ofNat.inj h).symm.trans (Nat.add_zero base).symm))
      by_cases h1 : off < m.csize
      · simp only [memberAt, h0, h1, if_false, if_true, membersFrom, File.find, List.find?_cons, hne, csum]
        exact ⟨find_below rest _ (Int.ofNat_lt.2 (Nat.add_lt_add_left h1 base)), by omega⟩
      · have ih' := ih hw (base + m.csize) (off - m.csize)
        have hle := Nat.le_of_not_lt h1
        rw [Nat.add_assoc, Nat.add_sub_cancel' hle] at ih'
        simp only [memberAt, h0, h1, if_false, membersFrom, File.find, List.find?_cons, hne, csum]
        revert ih'
        cases memberAt rest (off - m.csize) with
        | ok m' => intro ih'; exact ih'
        | eof => intro ih'; exact ⟨ih'.1, (Nat.sub_eq_iff_eq_add' hle).1 ih'.2⟩
        | bad => intro ih'; exact ⟨ih'.1, fun h => ih'.2 (by omega)⟩

theorem find_ofB (F : BFile) (hwf : WF F) (off : Nat) :
    match memberAt F off with
    | .ok m => File.find (ofB F) (off : Int) = some ⟨(off : Int), (m.csize : Int), nat8 m.data⟩
    | .eof => File.find (ofB F) (off : Int) = none ∧ off = csum F
    | .bad => File.find (ofB F) (off : Int) = none ∧ off ≠ csum F := by
  have h := find_membersFrom F hwf 0 off
  rwa [Nat.zero_add] at h

theorem len_membersFrom (F : BFile) (base : Nat) (hne : F ≠ []) :
    File.len (membersFrom base F) = ((base + csum F : Nat) : Int) := by
  induction F generalizing base with
  | nil => exact absurd rfl hne
  | cons m rest ih =>
    cases rest with
    | nil => simp [membersFrom, File.len, csum]
    | cons m2 rest2 =>
      have := ih (base + m.csize) (by simp)
      simp only [membersFrom, File.len, List.getLast?_cons_cons] at this ⊢
      rw [this]
      simp only [csum]
      omega

theorem len_ofB (F : BFile) : File.len (ofB F) = (csum F : Int) := by
  cases F with
  | nil => simp [ofB, membersFrom, File.len, csum]
  | cons m rest => simpa [ofB] using len_membersFrom (m :: rest) 0 (by simp)

structure BlkRel (F : BFile) (c : RBlk) (b : BBlock) : Prop where
  base : c.base = (b.base : Int)
  offFile : c.offFile = (b.tx.file : Int)
  offBlock : c.offBlock = b.tx.block
  pos : c.pos = b.pos
  kind : (c.hasData = true ∧ b.hsize ≠ 0 ∧ c.hsize = (b.hsize : Int) ∧ c.data = nat8 b.data ∧
            b.pos ≤ b.data.length ∧ b.data.length < 65536 ∧ b.tx.block = b.pos ∧
            memberAt F b.base = .ok ⟨b.data, b.hsize⟩)
         ∨ (c.hasData = false ∧ b.hsize = 0 ∧ c.hsize = -1)

/-- everything of the two reader states except the sticky error -/
structure Core (F : BFile) (C : Reader σ) (B : BReader) : Prop where
  file : B.file = F
  cache : C.cache = none
  lent : C.lent = none
  cur : ∃ id, C.cur = some id ∧ BlkRel F (C.heap id) B.cur
  blocked : C.blocked = B.blocked
  cb : C.chunkBegin = ((B.lastChunk.bgn.file : Int), B.lastChunk.bgn.block)
  ce : C.chunkEnd = ((B.lastChunk.fin.file : Int), B.lastChunk.fin.block)

theorem BlkRel.len {F : BFile} {c : RBlk} {b : BBlock} (h : BlkRel F c b) (hd : b.hsize ≠ 0) :
    c.len = b.len ∧ c.hasData = true ∧ c.data = nat8 b.data := by
  rcases h.kind with ⟨khd, -, -, kdata, -⟩ | ⟨-, k0, -⟩
  · refine ⟨?_, khd, kdata⟩
    simp only [RBlk.len, khd, if_true, kdata, nat8_length, h.pos, Hts.Model.Bgzf.Block.len]
  · exact absurd k0 hd

theorem txOffset_small (c : RBlk) (h : c.data.length < 65536) : c.txOffset = (c.offFile, c.offBlock) := by
  simp [RBlk.txOffset, Nat.not_lt.2 (Nat.le_of_lt_succ h)]

/-- blocks of C02's well-formed files hold fewer than 65536 bytes: the reported position is the plain offset -/
theorem BlkRel.txOffset {F : BFile} {c : RBlk} {b : BBlock} (h : BlkRel F c b) :
    c.txOffset = (c.offFile, c.offBlock) := by
  rcases h.kind with ⟨-, -, -, kdata, -, klen, -⟩ | ⟨khd, -⟩
  · exact txOffset_small c (by rw [kdata, nat8_length]; exact klen)
  · simp [RBlk.txOffset, khd]

def ErrRel (x : Err) (y : Option BErr) : Prop := (x = .none ∧ y = none) ∨ (x = .eof ∧ y = some .eof)

theorem ErrRel.of_none {x : Err} (h : ErrRel x none) : x = .none := by
  rcases h with ⟨h, _⟩ | ⟨_, h⟩
  · exact h
  · cases h

theorem ErrRel.of_some {x : Err} {e : BErr} (h : ErrRel x (some e)) : x = .eof ∧ e = .eof := by
  rcases h with ⟨_, h⟩ | ⟨h1, h2⟩
  · cases h
  · exact ⟨h1, Option.some.inj h2⟩

structure R (F : BFile) (C : Reader σ) (B : BReader) : Prop where
  core : Core F C B
  err : ErrRel C.err B.err
  /-- while no error is latched the current block is a loaded one -/
  data : B.err = none → B.cur.hsize ≠ 0

theorem R.cerr {F : BFile} {C : Reader σ} {B : BReader} (r : R F C B) (h : B.err = none) : C.err = .none :=
  (h ▸ r.err).of_none

theorem Core.withErr {F : BFile} {C : Reader σ} {B : BReader} (c : Core F C B) (x : Err) (y : Option BErr) :
    Core F { C with err := x } { B with err := y } :=
  ⟨c.file, c.cache, c.lent, c.cur, c.blocked, c.cb, c.ce⟩

theorem Core.failed {cfg : Cfg} (hcfg : cfg.failReset = true) {F : BFile} {C : Reader σ} {B : BReader}
    (c : Core F C B) {id : Nat} (hid : C.cur = some id) (b : RBlk) (off : Nat) :
    Core F (C.setB id (failedBlk cfg b (off : Int))) { B with cur := .failed off } := by
  refine ⟨c.file, c.cache, c.lent, ⟨id, hid, ?_⟩, c.blocked, c.cb, c.ce⟩
  rw [setB_same]
  simp only [failedBlk, hcfg, if_true, Hts.Model.Bgzf.Block.failed]
  exact ⟨rfl, rfl, rfl, rfl, Or.inr ⟨rfl, rfl, rfl⟩⟩

theorem fetch_sim {cfg : Cfg} (hcfg : cfg.failReset = true) (o : CacheOps σ) {F : BFile} (hwf : WF F)
    {C : Reader σ} {B : BReader} (c : Core F C B) (off : Nat) {b' : BBlock} {e : Option BErr}
    (h : B.cur.load B.file off = (b', e)) (he : e = none ∨ e = some .eof) :
    ∃ C' x, fetch cfg o (ofB F) C (off : Int) = .ok (C', x) ∧ ErrRel x e ∧ Core F C' { B with cur := b' } ∧
      C'.err = C.err ∧ (e = none → b'.hsize ≠ 0) := by
  obtain ⟨id, hid, hb⟩ := c.cur
  have hlazy : lazyBlock C = (C, id) := by simp only [lazyBlock, hid]
  have hfind := find_ofB F hwf off
  rw [fetch_uncached cfg o _ _ c.cache c.lent]
  simp only [Hts.Model.Bgzf.Block.load, c.file] at h
  cases hm : memberAt F off with
  | ok m =>
    rw [hm] at hfind h
    cases h
    have hm2 := hwf m (Hts.Model.Bgzf.memberAt_mem hm)
    refine ⟨C.setB id { rebase cfg (C.heap id) (off : Int) with
        hsize := (m.csize : Int), data := nat8 m.data, pos := 0, hasData := true }, .none,
      by simp only [loadAt, hlazy, hfind], Or.inl ⟨rfl, rfl⟩,
      ⟨c.file, c.cache, c.lent, ⟨id, hid, ?_⟩, c.blocked, c.cb, c.ce⟩, rfl, fun _ => Nat.ne_of_gt hm2.1⟩
    obtain ⟨r1, r2, r3⟩ := rebase_facts cfg (C.heap id) (off : Int)
    rw [setB_same]
    exact ⟨r1, r2, r3, rfl, Or.inl ⟨rfl, Nat.ne_of_gt hm2.1, rfl, rfl, Nat.zero_le _, hm2.2, rfl, hm⟩⟩
  | eof =>
    rw [hm] at hfind h
    cases h
    have hge : (off : Int) ≥ File.len (ofB F) := by rw [len_ofB, hfind.2]; exact Int.le_refl _
    exact ⟨C.setB id (failedBlk cfg (rebase cfg (C.heap id) (off : Int)) (off : Int)), .eof,
      by simp only [loadAt, hlazy, hfind.1, hge, if_true], Or.inr ⟨rfl, rfl⟩, c.failed hcfg hid _ off, rfl, nofun⟩
  | bad =>
    rw [hm] at h
    cases h
    rcases he with h | h <;> cases h

theorem fetch_bad {cfg : Cfg} (hcfg : cfg.failReset = true) (o : CacheOps σ) {F : BFile} (hwf : WF F)
    {C : Reader σ} {B : BReader} (c : Core F C B) {off : Nat} (hm : memberAt F off = .bad) (hle : off ≤ csum F) :
    ∃ C', fetch cfg o (ofB F) C (off : Int) = .ok (C', .other) ∧ Core F C' { B with cur := .failed off } := by
  obtain ⟨id, hid, -⟩ := c.cur
  have hfind := find_ofB F hwf off
  rw [hm] at hfind
  have hlt : ¬ (off : Int) ≥ File.len (ofB F) := by
    rw [len_ofB]; exact Int.not_le.2 (Int.ofNat_lt.2 (Nat.lt_of_le_of_ne hle hfind.2))
  rw [fetch_uncached cfg o _ _ c.cache c.lent]
  exact ⟨C.setB id (failedBlk cfg (rebase cfg (C.heap id) off) off),
    by simp only [loadAt, lazyBlock, hid, hfind.1, hlt, if_false], c.failed hcfg hid _ off⟩

theorem nextBlock_sim {cfg : Cfg} (hcfg : cfg.failReset = true) (o : CacheOps σ) {F : BFile} (hwf : WF F)
    {C : Reader σ} {B B' : BReader} {e : Option BErr} (c : Core F C B) (hd : B.cur.hsize ≠ 0)
    (h : B.nextBlock = (B', e)) (he : e = none ∨ e = some .eof) :
    ∃ C' x, nextBlock cfg o (ofB F) C = .ok (C', x) ∧ ErrRel x e ∧ Core F C' B' ∧ (e = none → B'.cur.hsize ≠ 0) := by
  obtain ⟨id, hid, hb⟩ := c.cur
  have hnext : (C.heap id).next = ((B.cur.nextBase : Nat) : Int) := by
    rcases hb.kind with ⟨-, -, khs, -⟩ | ⟨-, k0, -⟩
    · simp only [RBlk.next, hb.base, khs, Hts.Model.Bgzf.Block.nextBase]
      omega
    · exact absurd k0 hd
  cases (show B.nextBlock = ({ B with cur := (B.cur.load B.file B.cur.nextBase).1 },
    (B.cur.load B.file B.cur.nextBase).2) from rfl).symm.trans h
  simp only [nextBlock, hid, hnext]
  obtain ⟨C', x, h1, hx, h2, -, h3⟩ := fetch_sim hcfg o hwf c B.cur.nextBase rfl he
  exact ⟨C', x, h1, hx, h2, h3⟩

theorem skipEmpty_sim {cfg : Cfg} (hcfg : cfg.failReset = true) (o : CacheOps σ) {F : BFile} (hwf : WF F) :
    ∀ (n : Nat) (C : Reader σ) (B B1 : BReader), B.skipEmpty n = B1 → R F C B → B.err = none →
      (B1.err = none ∨ B1.err = some .eof) → ∀ m, n ≤ m →
      ∃ C', skipEmpty cfg o (ofB F) m C = .ok C' ∧ R F C' B1 ∧ (B1.err = none → B1.cur.len ≠ 0) := by
  intro n
  induction n with
  | zero =>
    intro C B B1 h _ _ hres
    cases h
    rcases hres with h | h <;> cases h
  | succ n ih =>
    intro C B B1 h r hbe hres m hm
    obtain ⟨id, hid, hb⟩ := r.core.cur
    have hlen := hb.len (r.data hbe)
    obtain ⟨m, rfl⟩ := Nat.exists_eq_add_one.2 (Nat.zero_lt_of_lt hm)
    by_cases hl : B.cur.len = 0
    · simp only [Hts.Model.Bgzf.Reader.skipEmpty, hl, if_true] at h
      simp only [skipEmpty, hid, hlen.1.trans hl, if_true]
      cases hnb : B.nextBlock with
      | mk B' e =>
        rw [hnb] at h
        cases e with
        | none =>
          obtain ⟨C', x, h1, hx, h2, h5⟩ := nextBlock_sim hcfg o hwf r.core (r.data hbe) hnb (Or.inl rfl)
          cases hx.of_none
          simp only [h1, if_true]
          exact ih _ _ B1 h ⟨h2.withErr _ _, Or.inl ⟨rfl, rfl⟩, fun _ => h5 rfl⟩ rfl hres m
            (Nat.le_of_succ_le_succ hm)
        | some e =>
          cases h
          obtain ⟨C', x, h1, hx, h2, -⟩ := nextBlock_sim hcfg o hwf r.core (r.data hbe) hnb hres
          obtain ⟨rfl, rfl⟩ := hx.of_some
          exact ⟨{ C' with err := .eof }, by simp only [h1]; rfl, ⟨h2.withErr _ _, Or.inr ⟨rfl, rfl⟩, nofun⟩, nofun⟩
    · simp only [Hts.Model.Bgzf.Reader.skipEmpty, hl, if_false] at h
      cases h
      simp only [skipEmpty, hid, hlen.1 ▸ hl, if_false]
      exact ⟨C, rfl, r, fun _ => hl⟩

/-- what `Read` does with the result of its copy loop -/
def finish (C : Reader σ) (flag : Bool) : Reader σ :=
  if flag then { C with err := .none, chunkEnd := curOffset C } else { C with chunkEnd := curOffset C }

def clsB : Option BErr → ErrClass
  | none => .ok
  | some .eof => .eof
  | _ => .err

theorem Core.fin {F : BFile} {C : Reader σ} {B : BReader} (c : Core F C B) (x : Err) (y : Option BErr) :
    Core F { C with err := x, chunkEnd := curOffset C } ({ B with err := y }.setEnd) := by
  obtain ⟨id, hid, hb⟩ := c.cur
  refine ⟨c.file, c.cache, c.lent, ⟨id, hid, hb⟩, c.blocked, c.cb, ?_⟩
  simp only [curOffset, hid, hb.txOffset, hb.offFile, hb.offBlock, Hts.Model.Bgzf.Reader.setEnd]

theorem readLoop_sim {cfg : Cfg} (hcfg : cfg.failReset = true) (o : CacheOps σ) {F : BFile} (hwf : WF F) :
    ∀ (n : Nat) (C : Reader σ) (B : BReader) (want : Nat) (acc : List Nat) {B' : BReader} {bs : List UInt8}
      {e : Option BErr}, B.readLoop n want = (B', bs, e) → R F C B → B.err = none →
      (e = none ∨ e = some .eof) → ∀ m, n + 1 ≤ m →
      ∃ C' flag, readLoop cfg o (ofB F) m C want acc = .ok (C', acc ++ nat8 bs, flag) ∧
        R F (finish C' flag) B' ∧ (if flag then ErrClass.eof else C'.err.cls) = clsB e := by
  intro n
  induction n with
  | zero =>
    intro C B want acc B' bs e h _ _ hres
    cases h
    rcases hres with h | h <;> cases h
  | succ n ih =>
    intro C B want acc B' bs e h r hbe hres m hm
    have c := r.core
    have hce := r.cerr hbe
    have hd := r.data hbe
    obtain ⟨id, hid, hb⟩ := c.cur
    have hlen := hb.len hd
    obtain ⟨m, rfl⟩ := Nat.exists_eq_add_one.2 (Nat.zero_lt_of_lt hm)
    by_cases hw : want = 0
    · -- nothing left to deliver: both loops return
      subst hw
      cases (Hts.Model.Bgzf.readLoop_zero n B).symm.trans h
      refine ⟨C, false, by rw [readLoop_done _ _ _ _ _ _ (Or.inl rfl)]; simp [nat8],
        ⟨c.fin C.err B.err, Or.inl ⟨hce, hbe⟩, fun _ => hd⟩, by simp [hce, hbe, Err.cls, clsB]⟩
    · have hw' : 0 < want := Nat.pos_of_ne_zero hw
      by_cases hp : B.cur.data.length ≤ B.cur.pos
      · -- the current block is exhausted
        have hcl : (C.heap id).len = 0 := hlen.1.trans (Nat.sub_eq_zero_of_le hp)
        rw [Hts.Model.Bgzf.readLoop_exhausted B want n hw' hbe hp] at h
        rw [readLoop_exhausted cfg o (ofB F) m want acc hw hce hid hlen.2.1 hcl, c.blocked]
        by_cases hbl : B.blocked = true
        · -- Blocked: both return `io.EOF` without latching it (`flag`)
          rw [if_pos hbl] at h ⊢
          cases h
          exact ⟨C, true, by simp [nat8], ⟨c.fin .none none, Or.inl ⟨rfl, rfl⟩, fun _ => hd⟩, by simp [clsB]⟩
        · rw [if_neg hbl] at h ⊢
          cases hnb : B.nextBlock with
          | mk B1 e1 =>
            rw [hnb] at h
            cases e1 with
            | none =>
              -- the next block loads: both loops go round with it
              obtain ⟨C1, x, h1, hx, h2, h5⟩ := nextBlock_sim hcfg o hwf c hd hnb (Or.inl rfl)
              cases hx.of_none
              simp only [h1]
              exact ih _ _ want acc h ⟨h2.withErr .none none, Or.inl ⟨rfl, rfl⟩, fun _ => h5 rfl⟩ rfl hres m
                (Nat.le_of_succ_le_succ hm)
            | some e1 =>
              -- the end of the file: both latch `io.EOF`; C02's loop returns at once, this one in its next round (the `+ 1`)
              cases h
              obtain ⟨C1, x, h1, hx, h2, -⟩ := nextBlock_sim hcfg o hwf c hd hnb hres
              obtain ⟨rfl, rfl⟩ := hx.of_some
              simp only [h1]
              obtain ⟨m1, rfl⟩ := Nat.exists_eq_add_one.2 (Nat.zero_lt_of_lt (Nat.le_of_succ_le_succ hm))
              exact ⟨{ C1 with err := .eof }, false, by simp [readLoop, nat8],
                ⟨(h2.withErr .eof (some .eof)).fin .eof (some .eof), Or.inr ⟨rfl, rfl⟩, nofun⟩,
                by simp [Err.cls, clsB]⟩
      · -- the block has data left: both copy `min want len` bytes and go round
        have hcl : (C.heap id).len ≠ 0 := hlen.1 ▸ Nat.sub_ne_zero_of_lt (Nat.lt_of_not_le hp)
        obtain ⟨_, _, khs, kdata, kpos, klen, ktx, kmem⟩ := hb.kind.resolve_right (fun k => hd k.2.1)
        have hbytes : ((C.heap id).data.drop (C.heap id).pos).take (min want B.cur.len) =
            nat8 ((B.cur.data.drop B.cur.pos).take want) := by
          rw [kdata, hb.pos]
          simp only [nat8, List.map_take, List.map_drop]
          rw [List.take_eq_take_iff]
          simp only [List.length_drop, List.length_map, Hts.Model.Bgzf.Block.len, Nat.min_assoc, Nat.min_self]
        have hk : B.cur.pos + min want B.cur.len ≤ B.cur.data.length :=
          Nat.add_le_of_le_sub' kpos (Nat.min_le_right _ _)
        have hmod : (B.cur.tx.block + min want B.cur.len) % 65536 = B.cur.pos + min want B.cur.len := by
          rw [ktx]; exact Nat.mod_eq_of_lt (Nat.lt_of_le_of_lt hk klen)
        cases hX : ({ B with cur := { B.cur with
            pos := B.cur.pos + min want B.cur.len,
            tx := ⟨B.cur.tx.file, (B.cur.tx.block + min want B.cur.len) % 65536⟩ } } : BReader).readLoop n
            (want - min want B.cur.len) with
        | mk B2 p =>
          obtain ⟨rest, e2⟩ := p
          cases (Hts.Model.Bgzf.readLoop_data B want n hw' hbe hp hX).symm.trans h
          rw [readLoop_data cfg o (ofB F) m want acc hw hce hid hlen.2.1 hcl, hlen.1, hbytes,
            show acc ++ nat8 ((B.cur.data.drop B.cur.pos).take want ++ rest) =
              acc ++ nat8 ((B.cur.data.drop B.cur.pos).take want) ++ nat8 rest by simp [nat8]]
          refine ih (C.setB id _) _ _ _ hX
            ⟨⟨c.file, c.cache, c.lent, ⟨id, hid, ?_⟩, c.blocked, c.cb, c.ce⟩, r.err, r.data⟩ hbe hres m
            (Nat.le_of_succ_le_succ hm)
          rw [setB_same]
          exact ⟨hb.base, hb.offFile, by simp only [hb.offBlock, ktx], by simp only [hb.pos],
            Or.inl ⟨hlen.2.1, hd, khs, kdata, hk, klen, by simp only [hmod], kmem⟩⟩

theorem length_membersFrom (F : BFile) (base : Nat) : (membersFrom base F).length = F.length := by
  induction F generalizing base with
  | nil => rfl
  | cons m rest ih => simp [membersFrom, ih]

theorem fuel_le {F : BFile} {B : BReader} (hB : B.file = F) (n : Nat) :
    B.skipFuel ≤ fuelFor (ofB F) 0 ∧ (n ≠ 0 → B.loopFuel + 1 ≤ fuelFor (ofB F) n) := by
  simp only [Hts.Model.Bgzf.Reader.skipFuel, Hts.Model.Bgzf.Reader.loopFuel, fuelFor, ofB, length_membersFrom, hB]
  refine ⟨by omega, fun hn => ?_⟩
  have := Nat.mul_le_mul_right (F.length + 2) (show 2 ≤ n + 1 by omega)
  omega

theorem Core.begin {F : BFile} {C : Reader σ} {B : BReader} (c : Core F C B) :
    Core F { C with chunkBegin := curOffset C } B.setBgn := by
  obtain ⟨id, hid, hb⟩ := c.cur
  refine ⟨c.file, c.cache, c.lent, ⟨id, hid, hb⟩, c.blocked, ?_, c.ce⟩
  simp only [curOffset, hid, hb.txOffset, hb.offFile, hb.offBlock, Hts.Model.Bgzf.Reader.setBgn]

theorem clsB_of_ErrRel {x : Err} {y : Option BErr} (h : ErrRel x y) : x.cls = clsB y := by
  rcases h with ⟨h1, h2⟩ | ⟨h1, h2⟩ <;> subst h1 h2 <;> rfl

theorem read_sim {cfg : Cfg} (hcfg : cfg.failReset = true) (o : CacheOps σ) {F : BFile} (hwf : WF F)
    {C : Reader σ} {B : BReader} (r : R F C B) (n : Nat)
    (hres : (B.read n).2.2 = none ∨ (B.read n).2.2 = some .eof) :
    ∃ C', read cfg o (ofB F) C n = .ok (C', nat8 (B.read n).2.1, clsB (B.read n).2.2) ∧ R F C' (B.read n).1 := by
  rcases r.err with ⟨hce, hbe⟩ | ⟨hce, hbe⟩
  rotate_left
  · rw [Hts.Model.Bgzf.read_err B n .eof hbe]
    exact ⟨C, by simp [read, hce, Err.cls, clsB, nat8], r⟩
  have hsim := skipEmpty_sim hcfg o hwf B.skipFuel C B _ rfl r hbe
  generalize hB1 : B.skipEmpty B.skipFuel = B1 at hsim
  cases hE : B1.err with
  | some e =>
    rw [Hts.Model.Bgzf.read_skip_err B n e hbe (hB1 ▸ hE), hB1] at hres ⊢
    obtain ⟨C1, s1, r1, -⟩ := hsim (hE ▸ hres) _ (fuel_le r.core.file 0).1
    obtain ⟨t1, rfl⟩ := (hE ▸ r1.err).of_some
    exact ⟨C1, by simp [read, hce, s1, t1, Err.cls, clsB, nat8], r1⟩
  | none =>
    rw [Hts.Model.Bgzf.read_skip_ok B n hbe (hB1 ▸ hE), hB1] at hres ⊢
    obtain ⟨C1, s1, r1, -⟩ := hsim (Or.inl hE) _ (fuel_le r.core.file 0).1
    have t1 := r1.cerr hE
    have hstep : ∀ r3 bytes flag,
        readLoop cfg o (ofB F) (fuelFor (ofB F) n) { C1 with chunkBegin := curOffset C1 } n [] = .ok (r3, bytes, flag) →
        read cfg o (ofB F) C n = .ok (finish r3 flag, bytes, if flag then ErrClass.eof else r3.err.cls) := by
      intro r3 bytes flag h
      simp only [read]
      rw [if_neg (fun h => h hce)]
      simp only [s1]
      rw [if_neg (fun h => h t1)]
      simp only [h]
      cases flag <;> simp [finish]
    have r2 : R F { C1 with chunkBegin := curOffset C1 } B1.setBgn :=
      ⟨r1.core.begin, Or.inl ⟨t1, hE⟩, fun _ => r1.data hE⟩
    cases hX : B1.setBgn.readLoop (2 * B1.file.length + 3) n with
    | mk B' p =>
      obtain ⟨bs, e⟩ := p
      rw [hX] at hres
      -- with nothing requested C02's loop leaves at once, whatever its bound
      have key : ∃ k, k + 1 ≤ fuelFor (ofB F) n ∧ B1.setBgn.readLoop k n = (B', bs, e) := by
        by_cases hn : n = 0
        · subst hn
          refine ⟨1, Nat.succ_le_succ (Nat.le_add_left 1 _), ?_⟩
          rw [← hX, Hts.Model.Bgzf.readLoop_zero, Hts.Model.Bgzf.readLoop_zero]
        · exact ⟨_, (fuel_le r2.core.file n).2 hn, hX⟩
      obtain ⟨k, hk, hXk⟩ := key
      obtain ⟨C3, flag, g1, g2, g4⟩ := readLoop_sim hcfg o hwf k _ _ n [] hXk r2 hE hres _ hk
      exact ⟨finish C3 flag, by rw [hstep _ _ _ g1, g4]; simp, g2⟩

theorem read_one {cfg : Cfg} {o : CacheOps σ} {f : File} {C C' : Reader σ} {bs : List Nat} {c : ErrClass}
    (h : read cfg o f C 1 = .ok (C', bs, c)) : (c = .ok ∧ ∃ x, bs = [x]) ∨ (c ≠ .ok ∧ bs = []) := by
  have sticky : ∀ {r : Reader σ} {e : Err}, e ≠ .none → (.ok (r, [], e.cls) : Except Fault _) = .ok (C', bs, c) →
      c ≠ .ok ∧ bs = [] := by
    intro r e he h
    cases h
    exact ⟨by cases e <;> first | exact absurd rfl he | nofun, rfl⟩
  rw [← readByte_eq_read, readByte] at h
  split at h
  · exact Or.inr (sticky ‹_› h)
  · split at h
    · cases h
    · split at h
      · exact Or.inr (sticky ‹_› h)
      · unfold byteFin at h
        split at h
        · cases h
        · simp only at h
          split at h <;> cases h
          exact Or.inl ⟨rfl, _, rfl⟩

/-- the state `seekFin` leaves -/
def seekStep (C : Reader σ) (id : Nat) (file : Int) (blk : Nat) : Reader σ :=
  { C.setB id { C.heap id with pos := blk, offBlock := blk % 65536 } with
    err := .none, chunkBegin := (file, blk), chunkEnd := (file, blk) }

theorem seekFin_sim {F : BFile} {C : Reader σ} {B : BReader} (c : Core F C B) (hd : B.cur.hsize ≠ 0)
    (off : Hts.Spec.Flat.Offset) (hk : off.block ≤ B.cur.data.length) :
    ∃ C', seekFin C (off.file : Int) off.block = .ok (C', .ok) ∧
      R F C' ({ B with cur := B.cur.seek off.block, err := none, lastChunk := ⟨off, off⟩ } : BReader) := by
  obtain ⟨id, hid, hb⟩ := c.cur
  obtain ⟨khd, _, khs, kdata, kpos, klen, ktx, kmem⟩ := hb.kind.resolve_right (fun k => hd k.2.1)
  have hmod : off.block % 65536 = off.block := Nat.mod_eq_of_lt (Nat.lt_of_le_of_lt hk klen)
  refine ⟨seekStep C id (off.file : Int) off.block, by simp only [seekFin, hid, khd, seekStep]; rfl,
    ⟨c.file, c.cache, c.lent, ⟨id, hid, ?_⟩, c.blocked, rfl, rfl⟩, Or.inl ⟨rfl, rfl⟩, fun _ => hd⟩
  show BlkRel F ((C.setB id _).heap id) _
  rw [setB_same]
  exact ⟨hb.base, hb.offFile, rfl, rfl, Or.inl ⟨khd, hd, khs, kdata, hk, klen, hmod, kmem⟩⟩

/-- the two models' tests whether `Seek` has to load a block -/
theorem seek_cond {F : BFile} {c : RBlk} {b : BBlock} (hb : BlkRel F c b) (file : Nat) :
    ((file : Int) ≠ c.base || !c.hasData) = decide (file ≠ b.base ∨ b.hasData = false) := by
  rcases hb.kind with k | k <;> simp [hb.base, k.1, k.2.1, Hts.Model.Bgzf.Block.hasData, Int.natCast_inj]

theorem seek_sim {cfg : Cfg} (hcfg : cfg.failReset = true) (o : CacheOps σ) {F : BFile} (hwf : WF F)
    {C : Reader σ} {B : BReader} (c : Core F C B) (off : Hts.Spec.Flat.Offset) (m : Hts.Model.Bgzf.Member)
    (hm : memberAt F off.file = .ok m) (hk : off.block ≤ m.data.length) :
    ∃ C', seek cfg o (ofB F) C (off.file : Int) off.block = .ok (C', .ok) ∧ R F C' (B.seek off).1 ∧
      (B.seek off).2 = none := by
  obtain ⟨id, hid, hb⟩ := c.cur
  have hcc := seek_cond hb off.file
  by_cases hc : off.file ≠ B.cur.base ∨ B.cur.hasData = false
  · have hl : B.cur.load B.file off.file = (⟨off.file, m.csize, m.data, 0, ⟨off.file, 0⟩⟩, none) := by
      simp only [Hts.Model.Bgzf.Block.load, c.file, hm]
    obtain ⟨C1, x, f1, hx, f2, -, f4⟩ := fetch_sim hcfg o hwf c off.file hl (Or.inl rfl)
    cases hx.of_none
    obtain ⟨C2, g1, g2⟩ := seekFin_sim (f2.withErr .none B.err) (f4 rfl) off hk
    simp only [Hts.Model.Bgzf.Reader.seek, hc, hl, if_true]
    exact ⟨C2, by simp only [seek, hid, hcc, hc, decide_true, if_true, f1]; exact g1, g2, trivial⟩
  · have h1 : off.file = B.cur.base := Decidable.not_not.1 fun h => hc (Or.inl h)
    have h3 : B.cur.hsize ≠ 0 := fun h => hc (Or.inr (by simp [Hts.Model.Bgzf.Block.hasData, h]))
    obtain ⟨_, _, _, _, _, _, _, kmem⟩ := hb.kind.resolve_right (fun k => h3 k.2.1)
    have hmm : m = ⟨B.cur.data, B.cur.hsize⟩ := by
      rw [← h1, hm] at kmem
      cases kmem; rfl
    obtain ⟨C2, g1, g2⟩ := seekFin_sim c h3 off (by rw [hmm] at hk; exact hk)
    simp only [Hts.Model.Bgzf.Reader.seek, hc, if_false]
    exact ⟨C2, by simp only [seek, hid, hcc, hc, decide_false]; exact g1, g2, trivial⟩

theorem seek_fail_sim {cfg : Cfg} (o : CacheOps σ) {F : BFile} {C C1 : Reader σ} {B : BReader} (c : Core F C B)
    (off : Hts.Spec.Flat.Offset) {x : Err} {e : BErr}
    (hl : B.cur.load B.file off.file = (.failed off.file, some e))
    (hf : fetch cfg o (ofB F) C (off.file : Int) = .ok (C1, x)) (hx : x ≠ .none) :
    seek cfg o (ofB F) C (off.file : Int) off.block = .ok ({ C1 with err := x }, x.cls) ∧
      B.seek off = ({ B with cur := .failed off.file, err := some e }, some e) := by
  obtain ⟨id, hid, hb⟩ := c.cur
  have hc : off.file ≠ B.cur.base ∨ B.cur.hasData = false := by
    refine Decidable.by_contra fun hc => ?_
    have h1 : off.file = B.cur.base := Decidable.not_not.1 fun h => hc (Or.inl h)
    have h3 : B.cur.hsize ≠ 0 := fun h => hc (Or.inr (by simp [Hts.Model.Bgzf.Block.hasData, h]))
    obtain ⟨_, _, _, _, _, _, _, kmem⟩ := hb.kind.resolve_right (fun k => h3 k.2.1)
    rw [Hts.Model.Bgzf.Block.load, c.file, h1, kmem] at hl
    cases congrArg Prod.snd hl
  constructor
  · simp only [seek, hid, seek_cond hb, hc, decide_true, if_true, hf]
    rw [if_neg hx]
  · simp only [Hts.Model.Bgzf.Reader.seek, hc, hl, if_true]

def flatOp : Op σ → Option Hts.Spec.Flat.Op
  | .seek f b => some (.seek ⟨f.toNat, b⟩)
  | .read n => some (.read n)
  | .readByte => some .readByte
  | .setBlocked b => some (.setBlocked b)
  | _ => none

def Plain : Op σ → Prop
  | .setCache c _ => c = none
  | .reattach _ _ => False
  | .seek f _ => 0 ≤ f
  | _ => True

def chunkOf (c : Hts.Spec.Flat.Chunk) : (Int × Nat) × (Int × Nat) :=
  (((c.bgn.file : Int), c.bgn.block), ((c.fin.file : Int), c.fin.block))

/-- what C02's model returns for an operation, in C03's vocabulary (`ReadByte` returns no byte with an error) -/
def outOf (op : Hts.Spec.Flat.Op) (p : BReader × Hts.Model.Bgzf.Out) : Out :=
  ⟨(match op with
    | .readByte => if p.2.err.isSome then [] else nat8 p.2.bytes
    | _ => nat8 p.2.bytes), clsB p.2.err, chunkOf p.1.lastChunk⟩

/-- the outputs of C02's reader model along a C03 history -/
def simOuts (B : BReader) : List (Op σ) → List Out
  | [] => []
  | op :: ops =>
    match flatOp op with
    | some fop => outOf fop (B.step fop) :: simOuts (B.step fop).1 ops
    | none => ⟨[], .ok, chunkOf B.lastChunk⟩ :: simOuts B ops

theorem Core.chunk {F : BFile} {C : Reader σ} {B : BReader} (c : Core F C B) :
    (C.chunkBegin, C.chunkEnd) = chunkOf B.lastChunk := by
  simp only [chunkOf, c.cb, c.ce]

theorem step_seek {cfg : Cfg} (hcfg : cfg.failReset = true) (o : CacheOps σ) {F : BFile} (hwf : WF F)
    {C : Reader σ} {B : BReader} (c : Core F C B) (f : Int) (b : Nat) (hp : 0 ≤ f) {p : Nat}
    (hv : Hts.Spec.Flat.seekTarget (Hts.Model.Bgzf.layoutOf F) ⟨f.toNat, b⟩ = some p) :
    ∃ C', step cfg o (ofB F) C (.seek f b) = .ok (C', outOf (.seek ⟨f.toNat, b⟩) (B.step (.seek ⟨f.toNat, b⟩))) ∧
      R F C' (B.step (.seek ⟨f.toNat, b⟩)).1 := by
  obtain ⟨pre, m, post, hF, ho, hb, _, hm, _⟩ := Hts.Model.Bgzf.seekTarget_member F _ p hwf hv
  obtain ⟨C', g1, g2, g3⟩ := seek_sim hcfg o hwf c ⟨f.toNat, b⟩ m hm hb
  rw [Int.toNat_of_nonneg hp] at g1
  refine ⟨C', ?_, g2⟩
  have e2 : B.step (.seek ⟨f.toNat, b⟩) = ((B.seek ⟨f.toNat, b⟩).1, ⟨[], (B.seek ⟨f.toNat, b⟩).2⟩) := rfl
  simp only [step, g1, e2, outOf, g3, clsB, nat8, List.map_nil]
  rw [← g2.core.chunk]

theorem step_at {cfg : Cfg} (hcfg : cfg.failReset = true) (o : CacheOps σ) {F : BFile} (hwf : WF F)
    {C : Reader σ} {B : BReader} {s : Hts.Spec.Flat.State} (r : R F C B) (hs : Hts.Model.Bgzf.Sim F B s)
    (op : Op σ) (fop : Hts.Spec.Flat.Op) (hf : flatOp op = some fop) (hp : Plain op)
    (hv : Hts.Model.Bgzf.OpValid (Hts.Model.Bgzf.layoutOf F) fop) :
    ∃ C', step cfg o (ofB F) C op = .ok (C', outOf fop (B.step fop)) ∧ R F C' (B.step fop).1 ∧
      (∃ s', Hts.Model.Bgzf.Sim F (B.step fop).1 s') ∧
      ((B.step fop).2.err = none ∨ (B.step fop).2.err = some .eof) := by
  -- of C02's refinement theorem only this: its reader stands at a position of the flat file again, and the call ends in nil
  -- or `io.EOF`, never in an error of the model's own (`fuel` …), so the loop lemmas' `hres` holds
  obtain ⟨-, hclean, -, hs'⟩ := Hts.Model.Bgzf.sim_step hwf hs fop hv
  have hcl : (B.step fop).2.err = none ∨ (B.step fop).2.err = some .eof := hclean ▸ Hts.Model.Bgzf.errOf_cases _
  suffices h : ∃ C', step cfg o (ofB F) C op = .ok (C', outOf fop (B.step fop)) ∧ R F C' (B.step fop).1 from
    let ⟨C', g1, g2⟩ := h
    ⟨C', g1, g2, ⟨_, hs'⟩, hcl⟩
  cases op with
  | seek f b =>
    cases hf
    obtain ⟨p, hp2⟩ := Option.isSome_iff_exists.1 hv
    exact step_seek hcfg o hwf r.core f b hp hp2
  | read n =>
    cases hf
    have e2 : B.step (.read n) = ((B.read n).1, ⟨(B.read n).2.1, (B.read n).2.2⟩) := rfl
    rw [e2] at hcl ⊢
    obtain ⟨C', g1, g2⟩ := read_sim hcfg o hwf r n hcl
    refine ⟨C', ?_, g2⟩
    simp only [step, g1, outOf]
    rw [← g2.core.chunk]
  | readByte =>
    -- in both models `ReadByte()` is `Read` of one byte
    cases hf
    have e2 : B.step .readByte = ((B.read 1).1, ⟨[(B.read 1).2.1.headD 0], (B.read 1).2.2⟩) := by
      simp only [Hts.Model.Bgzf.Reader.step, Hts.Model.Bgzf.readByte_eq_read hwf hs]
    rw [e2] at hcl ⊢
    obtain ⟨C', g1, g2⟩ := read_sim hcfg o hwf r 1 hcl
    refine ⟨C', ?_, g2⟩
    simp only [step, readByte_eq_read, g1, outOf]
    rw [← g2.core.chunk]
    rcases read_one g1 with ⟨hc, x, hx⟩ | ⟨hc, hx⟩
    · cases he : (B.read 1).2.2 with
      | some e => rw [he] at hc hcl; rcases hcl with h | h <;> cases h; cases hc
      | none =>
        rw [hx]
        cases hb : (B.read 1).2.1 with
        | nil => rw [hb] at hx; cases hx
        | cons y t =>
          rw [hb] at hx
          simp only [nat8, List.map_cons, List.cons.injEq, List.map_eq_nil_iff] at hx
          obtain ⟨rfl, rfl⟩ := hx
          rfl
    · cases he : (B.read 1).2.2 with
      | some e => rw [hx]; rfl
      | none => rw [he] at hc; exact absurd rfl hc
  | setBlocked b =>
    cases hf
    refine ⟨{ C with blocked := b }, ?_, ⟨⟨r.core.file, r.core.cache, r.core.lent, r.core.cur, rfl, r.core.cb, r.core.ce⟩,
      r.err, r.data⟩⟩
    simp only [step, outOf, Hts.Model.Bgzf.Reader.step, Hts.Model.Bgzf.Reader.setBlocked, clsB, nat8, List.map_nil]
    rw [← r.core.chunk]
  | setCache c h => cases hf
  | reattach i h => cases hf

/-- both models hold the error of a `Seek` to an offset inside the file at which no member starts; C02's reader then
stands at no position of the flat file -/
structure Stuck (F : BFile) (C : Reader σ) (B : BReader) : Prop where
  core : Core F C B
  cerr : C.err = .other
  berr : B.err = some .other
  nodata : B.cur.hsize = 0

def St (F : BFile) (C : Reader σ) (B : BReader) : Prop :=
  (R F C B ∧ ∃ s, Hts.Model.Bgzf.Sim F B s) ∨ Stuck F C B

def loads (F : BFile) (off : Nat) : Bool :=
  match memberAt F off with
  | .ok _ => true
  | _ => false

/-- the calls the simulation follows: every `Seek` goes to a member start plus an offset within that member, or to an
offset up to the end of the file at which no member starts (beyond the end C02's `memberAt` reports an error, this
model `io.EOF`) -/
def followed (F : BFile) : Hts.Spec.Flat.Op → Bool
  | .seek o => (Hts.Spec.Flat.seekTarget (Hts.Model.Bgzf.layoutOf F) o).isSome ||
      (decide (o.file ≤ csum F) && !loads F o.file)
  | _ => true

theorem step_fail {cfg : Cfg} (hcfg : cfg.failReset = true) (o : CacheOps σ) {F : BFile} (hwf : WF F)
    {C : Reader σ} {B : BReader} (c : Core F C B) (f : Int) (b : Nat) (hp : 0 ≤ f) (hle : f.toNat ≤ csum F)
    (hm : loads F f.toNat = false) :
    ∃ C', step cfg o (ofB F) C (.seek f b) = .ok (C', outOf (.seek ⟨f.toNat, b⟩) (B.step (.seek ⟨f.toNat, b⟩))) ∧
      St F C' (B.step (.seek ⟨f.toNat, b⟩)).1 ∧
      ((B.step (.seek ⟨f.toNat, b⟩)).2.err = some .eof ∨ (B.step (.seek ⟨f.toNat, b⟩)).2.err = some .other) := by
  have hcast : ((f.toNat : Nat) : Int) = f := Int.toNat_of_nonneg hp
  have e2 : ∀ p, B.step (.seek p) = ((B.seek p).1, ⟨[], (B.seek p).2⟩) := fun _ => rfl
  unfold loads at hm
  cases hmm : memberAt F f.toNat with
  | ok m => rw [hmm] at hm; cases hm
  | eof =>
    have hl : B.cur.load B.file f.toNat = (.failed f.toNat, some .eof) := by
      rw [Hts.Model.Bgzf.Block.load, c.file, hmm]
    obtain ⟨C1, x, f1, hx, c1, he, -⟩ := fetch_sim hcfg o hwf c f.toNat hl (Or.inr rfl)
    obtain ⟨rfl, -⟩ := hx.of_some
    obtain ⟨g1, g2⟩ := seek_fail_sim o c ⟨f.toNat, b⟩ hl f1 nofun
    rw [hcast] at g1
    have hfind := find_ofB F hwf f.toNat
    rw [hmm] at hfind
    rw [e2, g2]
    refine ⟨_, ?_, Or.inl ⟨⟨c1.withErr .eof (some .eof), Or.inr ⟨rfl, rfl⟩, nofun⟩, _,
      Hts.Model.Bgzf.AtEOF.sim ⟨c.file, rfl, hfind.2, by rw [← hfind.2]; rfl⟩⟩, Or.inl rfl⟩
    simp only [step, g1, outOf, clsB, nat8, List.map_nil, Err.cls]
    rw [c1.chunk]
  | bad =>
    have hl : B.cur.load B.file f.toNat = (.failed f.toNat, some .other) := by
      rw [Hts.Model.Bgzf.Block.load, c.file, hmm]
    obtain ⟨C1, f1, c1⟩ := fetch_bad hcfg o hwf c hmm hle
    obtain ⟨g1, g2⟩ := seek_fail_sim o c ⟨f.toNat, b⟩ hl f1 nofun
    rw [hcast] at g1
    rw [e2, g2]
    refine ⟨_, ?_, Or.inr ⟨c1.withErr .other (some .other), rfl, rfl, rfl⟩, Or.inr rfl⟩
    simp only [step, g1, outOf, clsB, nat8, List.map_nil, Err.cls]
    rw [c1.chunk]

theorem step_stuck {cfg : Cfg} (hcfg : cfg.failReset = true) (o : CacheOps σ) {F : BFile} (hwf : WF F)
    {C : Reader σ} {B : BReader} (st : Stuck F C B) (op : Op σ) (fop : Hts.Spec.Flat.Op) (hf : flatOp op = some fop)
    (hp : Plain op) (hv : Hts.Model.Bgzf.OpValid (Hts.Model.Bgzf.layoutOf F) fop) :
    ∃ C', step cfg o (ofB F) C op = .ok (C', outOf fop (B.step fop)) ∧ St F C' (B.step fop).1 ∧
      ((B.step fop).2.err = none ∨ (B.step fop).2.err = some .other) := by
  have c := st.core
  cases op with
  | seek f b =>
    -- a valid `Seek` clears the error: back in `R`, with C02's reader at a position of the flat file
    cases hf
    obtain ⟨p, hp2⟩ := Option.isSome_iff_exists.1 hv
    obtain ⟨C', g1, g2⟩ := step_seek hcfg o hwf c f b hp hp2
    -- the block has no data, so C02's `Seek` loads one: it does what it does at the end of the file
    obtain ⟨B', hB', hs'⟩ := Hts.Model.Bgzf.sim_seek hwf (r := { B with cur := .failed (csum F), err := some .eof })
      (Hts.Model.Bgzf.AtEOF.sim ⟨c.file, rfl, rfl, rfl⟩) ⟨f.toNat, b⟩ p hp2
    have e2 : B.step (.seek ⟨f.toNat, b⟩) = (B', ⟨[], none⟩) := by
      have : B.seek ⟨f.toNat, b⟩ = (B', none) := by
        rw [← hB']
        simp only [Hts.Model.Bgzf.Reader.seek, Hts.Model.Bgzf.Block.hasData, st.nodata, Hts.Model.Bgzf.Block.failed,
          ne_eq, not_true_eq_false, decide_false, or_true, if_true]
        rfl
      simp only [Hts.Model.Bgzf.Reader.step, this]
    rw [e2] at g1 g2 ⊢
    exact ⟨C', g1, Or.inl ⟨g2, _, hs'⟩, Or.inl rfl⟩
  | read n =>
    -- `Read` and `ReadByte` return the latched error and change nothing
    cases hf
    have e2 : B.step (.read n) = (B, ⟨[], some .other⟩) := by
      simp only [Hts.Model.Bgzf.Reader.step, Hts.Model.Bgzf.read_err B n .other st.berr]
    rw [e2]
    refine ⟨C, ?_, Or.inr st, Or.inr rfl⟩
    simp [step, read, st.cerr, outOf, clsB, nat8, Err.cls, c.chunk]
  | readByte =>
    cases hf
    have e2 : B.step .readByte = (B, ⟨[0], some .other⟩) := by
      simp only [Hts.Model.Bgzf.Reader.step, Hts.Model.Bgzf.Reader.readByte, st.berr]
    rw [e2]
    refine ⟨C, ?_, Or.inr st, Or.inr rfl⟩
    simp [step, readByte, st.cerr, outOf, clsB, Err.cls, c.chunk]
  | setBlocked b =>
    cases hf
    refine ⟨{ C with blocked := b }, ?_, Or.inr ⟨⟨c.file, c.cache, c.lent, c.cur, rfl, c.cb, c.ce⟩, st.cerr, st.berr,
      st.nodata⟩, Or.inl rfl⟩
    simp only [step, outOf, Hts.Model.Bgzf.Reader.step, Hts.Model.Bgzf.Reader.setBlocked, clsB, nat8, List.map_nil]
    rw [← c.chunk]
  | setCache c h => cases hf
  | reattach i h => cases hf

theorem St.core {F : BFile} {C : Reader σ} {B : BReader} (st : St F C B) : Core F C B :=
  st.elim (fun h => h.1.core) Stuck.core

/-- The last conjunct: after a call the simulation follows, the error of C02's reader is `io.EOF` or that of a failed
`Seek`, never one of its model's own (`fuel`, `short`, `panic`).  `VsC02.obs02From_simOuts` alone consumes it (its `cls` is
partial); `run_sim` drops it. -/
theorem step_sim {cfg : Cfg} (hcfg : cfg.failReset = true) (o : CacheOps σ) {F : BFile} (hwf : WF F)
    {C : Reader σ} {B : BReader} (st : St F C B) (op : Op σ) (fop : Hts.Spec.Flat.Op) (hf : flatOp op = some fop)
    (hp : Plain op) (hv : followed F fop = true) :
    ∃ C', step cfg o (ofB F) C op = .ok (C', outOf fop (B.step fop)) ∧ St F C' (B.step fop).1 ∧
      ((B.step fop).2.err = none ∨ (B.step fop).2.err = some .eof ∨ (B.step fop).2.err = some .other) := by
  -- a history that comes from `ValidOps` only takes the `hval` branch with the first disjunct of `St`; the second disjunct of
  -- `followed`, `Stuck`, `step_stuck` and `step_fail` serve CachedReaderVsC02, whose alphabets seek to offsets where no member starts
  by_cases hval : Hts.Model.Bgzf.OpValid (Hts.Model.Bgzf.layoutOf F) fop
  · rcases st with ⟨r, s, hs⟩ | st
    · obtain ⟨C', g1, g2, hs', hcl⟩ := step_at hcfg o hwf r hs op fop hf hp hval
      exact ⟨C', g1, Or.inl ⟨g2, hs'⟩, hcl.imp_right Or.inl⟩
    · obtain ⟨C', g1, g2, g3⟩ := step_stuck hcfg o hwf st op fop hf hp hval
      exact ⟨C', g1, g2, g3.imp_right Or.inr⟩
  · -- a `Seek` to an offset at which no member starts
    obtain ⟨f, b, rfl, rfl⟩ : ∃ f b, op = .seek f b ∧ fop = .seek ⟨f.toNat, b⟩ := by
      cases op <;> cases hf <;> first | exact ⟨_, _, rfl, rfl⟩ | exact absurd trivial hval
    simp only [followed, Bool.or_eq_true, Bool.and_eq_true, decide_eq_true_eq, Bool.not_eq_true'] at hv
    obtain ⟨C', g1, g2, g3⟩ := step_fail hcfg o hwf st.core f b hp (hv.resolve_left hval).1 (hv.resolve_left hval).2
    exact ⟨C', g1, g2, Or.inr g3⟩

theorem St.detach {F : BFile} {C : Reader σ} {B : BReader} (st : St F C B) (h : List Int) (p : List σ) :
    St F { C with cache := none, hints := h, parked := p } B :=
  have c : Core F { C with cache := none, hints := h, parked := p } B :=
    ⟨st.core.file, rfl, st.core.lent, st.core.cur, st.core.blocked, st.core.cb, st.core.ce⟩
  st.imp (fun ⟨r, hs⟩ => ⟨⟨c, r.err, r.data⟩, hs⟩) fun s => ⟨c, s.cerr, s.berr, s.nodata⟩

theorem run_sim {cfg : Cfg} (hcfg : cfg.failReset = true) (o : CacheOps σ) {F : BFile} (hwf : WF F)
    (ops : List (Op σ)) :
    ∀ (C : Reader σ) (B : BReader), St F C B → (∀ op ∈ ops, Plain op) →
      (∀ fop ∈ ops.filterMap flatOp, followed F fop = true) →
      ∃ C', run cfg o (ofB F) C ops = .ok (C', simOuts B ops) := by
  induction ops with
  | nil => intro C B _ _ _; exact ⟨C, rfl⟩
  | cons op ops ih =>
    intro C B st hp hv
    have hp1 : Plain op := hp op (by simp)
    have hp2 : ∀ x ∈ ops, Plain x := fun x hx => hp x (by simp [hx])
    cases hf : flatOp op with
    | some fop =>
      rw [List.filterMap_cons_some hf] at hv
      obtain ⟨C1, g1, g2, -⟩ := step_sim hcfg o hwf st op fop hf hp1 (hv fop (by simp))
      obtain ⟨C2, g3⟩ := ih C1 (B.step fop).1 g2 hp2 fun x hx => hv x (by simp [hx])
      exact ⟨C2, by simp only [run, g1, g3, simOuts, hf]⟩
    | none =>
      rw [List.filterMap_cons_none hf] at hv
      cases op with
      | setCache c h =>
        cases (hp1 : c = none)
        obtain ⟨C2, g3⟩ := ih _ B (st.detach h (C.parked ++ C.cache.toList)) hp2 hv
        exact ⟨C2, by simp only [run, step, g3, simOuts, hf]; rw [← st.core.chunk]⟩
      | reattach i h => exact hp1.elim
      | _ => cases hf

theorem newReader_sim {cfg : Cfg} (hcfg : cfg.failReset = true) (o : CacheOps σ) {F : BFile} (hwf : WF F)
    {r0 : BReader} (h0 : Hts.Model.Bgzf.Reader.new F = .ok r0) :
    ∃ C0, newReader o cfg (ofB F) = .ok (C0, .none) ∧ St F C0 r0 := by
  obtain ⟨m, post, rfl, rfl⟩ := Hts.Model.Bgzf.Reader.new_ok h0
  have c : Core (m :: post) (lazyBlock (Reader.init : Reader σ)).1
      ⟨m :: post, ⟨0, 0, [], 0, ⟨0, 0⟩⟩, ⟨⟨0, 0⟩, ⟨0, 0⟩⟩, none, false⟩ :=
    ⟨rfl, rfl, rfl, ⟨0, rfl, rfl, rfl, rfl, rfl, Or.inr ⟨rfl, rfl, rfl⟩⟩, rfl, rfl, rfl⟩
  obtain ⟨C0, x, h1, hx, h2, he, h3⟩ :=
    fetch_sim hcfg o hwf c 0 (e := none) (by rw [Hts.Model.Bgzf.Block.load, Hts.Model.Bgzf.memberAt_zero_cons]) (Or.inl rfl)
  cases hx.of_none
  exact ⟨C0, (newReader_eq o cfg _).trans ((fetch_uncached cfg o _ 0 c.cache c.lent).symm.trans h1),
    Or.inl ⟨⟨h2, Or.inl ⟨he, rfl⟩, fun _ => h3 rfl⟩, _, Hts.Model.Bgzf.sim_new h0⟩⟩

def flatOut (fop : Hts.Spec.Flat.Op) (ob : Hts.Spec.Flat.Obs) : Out :=
  ⟨(match fop with
    | .readByte => if ob.eof then [] else nat8 ob.bytes
    | _ => nat8 ob.bytes), if ob.eof then .eof else .ok, chunkOf ob.last⟩

/-- what `Hts.Spec.Flat` prescribes along a C03 history (cache calls return nothing and change nothing) -/
def flatOuts (FF : Hts.Spec.Flat.FlatFile) (s : Hts.Spec.Flat.State) : List (Op σ) → List Out
  | [] => []
  | op :: ops =>
    match flatOp op with
    | some fop => flatOut fop (Hts.Spec.Flat.step FF s fop).2 :: flatOuts FF (Hts.Spec.Flat.step FF s fop).1 ops
    | none => ⟨[], .ok, chunkOf s.last⟩ :: flatOuts FF s ops

theorem flatOp_uncached (op : Op σ) : flatOp op.uncached = flatOp op := by
  cases op <;> rfl

theorem filterMap_flatOp_uncached (ops : List (Op σ)) :
    (ops.map Op.uncached).filterMap flatOp = ops.filterMap flatOp := by
  induction ops with
  | nil => rfl
  | cons op ops ih =>
    simp only [List.map_cons, List.filterMap_cons, flatOp_uncached, ih]

theorem flatOuts_uncached (FF : Hts.Spec.Flat.FlatFile) (ops : List (Op σ)) :
    ∀ s, flatOuts FF s (ops.map Op.uncached) = flatOuts FF s ops := by
  induction ops with
  | nil => intro s; rfl
  | cons op ops ih =>
    intro s
    simp only [List.map_cons, flatOuts, flatOp_uncached]
    cases flatOp op with
    | none => simp only [ih]
    | some fop => simp only [ih]

theorem simOuts_eq_flatOuts {F : BFile} (hwf : WF F) (ops : List (Op σ)) :
    ∀ (B : BReader) (s : Hts.Spec.Flat.State), Hts.Model.Bgzf.Sim F B s →
      Hts.Spec.Flat.ValidOps (Hts.Model.Bgzf.layoutOf F) (ops.filterMap flatOp) →
      simOuts B ops = flatOuts (Hts.Model.Bgzf.flatOf F) s ops := by
  induction ops with
  | nil => intro B s _ _; rfl
  | cons op ops ih =>
    intro B s hs hv
    cases hf : flatOp op with
    | some fop =>
      rw [List.filterMap_cons_some hf] at hv
      obtain ⟨hv1, hv2⟩ := Hts.Model.Bgzf.validOps_cons hv
      obtain ⟨h1, h2, h3, h4⟩ := Hts.Model.Bgzf.sim_step hwf hs fop hv1
      simp only [simOuts, flatOuts, hf]
      rw [ih _ _ h4 hv2]
      congr 1
      simp only [outOf, flatOut, h1, h2, h3]
      cases (Hts.Spec.Flat.step (Hts.Model.Bgzf.flatOf F) s fop).2.eof <;>
        cases fop <;> simp [Hts.Model.Bgzf.errOf, clsB]
    | none =>
      have hv2 : Hts.Spec.Flat.ValidOps (Hts.Model.Bgzf.layoutOf F) (ops.filterMap flatOp) := by
        rw [List.filterMap_cons_none hf] at hv; exact hv
      simp only [simOuts, flatOuts, hf]
      rw [ih _ _ hs hv2, hs.last]

theorem plain_uncached (op : Op σ) (h : ∀ f b, op = .seek f b → 0 ≤ f) : Plain op.uncached := by
  cases op with
  | seek f b => exact h f b rfl
  | setCache c hs => rfl
  | reattach i hs => rfl
  | _ => trivial

theorem followed_of_valid {F : BFile} : ∀ {l : List Hts.Spec.Flat.Op},
    Hts.Spec.Flat.ValidOps (Hts.Model.Bgzf.layoutOf F) l → ∀ fop ∈ l, followed F fop = true
  | fop :: l, hv, x, hx => by
    obtain ⟨h1, h2⟩ := Hts.Model.Bgzf.validOps_cons hv
    rcases List.mem_cons.1 hx with rfl | hx
    · cases x with
      | seek o => exact Bool.or_eq_true_iff.2 (Or.inl h1)
      | _ => rfl
    · exact followed_of_valid h2 x hx

theorem outputsOf_followed {cfg : Cfg} (hcfg : cfg.failReset = true) (o : CacheOps σ) {F : BFile} (hwf : WF F)
    {r0 : BReader} (h0 : Hts.Model.Bgzf.Reader.new F = .ok r0) (ops : List (Op σ)) (hp : ∀ op ∈ ops, Plain op)
    (hv : ∀ fop ∈ ops.filterMap flatOp, followed F fop = true) :
    outputsOf cfg o (ofB F) ops = .ok (simOuts r0 ops) := by
  obtain ⟨C0, n1, st⟩ := newReader_sim hcfg o hwf h0
  obtain ⟨C', hrun⟩ := run_sim hcfg o hwf ops C0 r0 st hp hv
  simp only [outputsOf, n1, hrun, ne_eq, not_true_eq_false, if_false]

theorem outputsOf_uncached_flat {cfg : Cfg} (hcfg : cfg.failReset = true) (o : CacheOps σ) {F : BFile} (hwf : WF F)
    {r0 : BReader} (h0 : Hts.Model.Bgzf.Reader.new F = .ok r0) (ops : List (Op σ))
    (hseek : ∀ f b, Op.seek f b ∈ ops → 0 ≤ f)
    (hv : Hts.Spec.Flat.ValidOps (Hts.Model.Bgzf.layoutOf F) (ops.filterMap flatOp)) :
    outputsOf cfg o (ofB F) (ops.map Op.uncached) =
      .ok (flatOuts (Hts.Model.Bgzf.flatOf F) Hts.Spec.Flat.init ops) := by
  have hv' := (filterMap_flatOp_uncached ops).symm ▸ hv
  rw [outputsOf_followed hcfg o hwf h0 _ (fun op hop => ?_) (followed_of_valid hv'),
    simOuts_eq_flatOuts hwf _ r0 _ (Hts.Model.Bgzf.sim_new h0) hv', flatOuts_uncached]
  obtain ⟨op0, h1, rfl⟩ := List.mem_map.1 hop
  exact plain_uncached op0 fun f b e => hseek f b (e ▸ h1)

theorem fileOK_ofB {F : BFile} (hwf : WF F) : FileOK (ofB F) := by
  suffices h : ∀ base, FileOK (membersFrom base F) from h 0
  induction F with
  | nil => intro base m hm; simp [membersFrom] at hm
  | cons a rest ih =>
    intro base m hm
    have ⟨hc, _, hw⟩ := Hts.Model.Bgzf.WF.cons hwf
    simp only [membersFrom, List.mem_cons] at hm
    rcases hm with h | h
    · subst h; exact Int.natCast_pos.2 hc
    · exact ih hw _ m h

end Hts.Model.CachedReader.C02
