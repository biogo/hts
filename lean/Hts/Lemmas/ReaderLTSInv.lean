/-
Read-ahead protocol: the invariant `Inv` with the consumer's expectation `Expect`. Worker steps keep an
expectation, hence `Inv`; consumer steps keep `Inv` because receiving in `nextBlock` never overruns the loop bound.
-/
import Hts.Lemmas.ReaderLTS
namespace Hts.Model.ReadAhead

/-- The consumer expects base `e` and has received `i` blocks in the current `nextBlock`: the delivery stream
is `old ++ new`, `new` (with what the worker does next) is the file from `T` on, `e` lies `d` members after
`T`, and `old`, `d`, `i` together leave room in the scan loop.  While a redirect `v` waits in `control` the whole
stream is old and `T = v`; the worker's `redirect` step opens `new` with `[.tgt v]`. -/
def Expect (cfg : Cfg) (s : State) (e i : Nat) : Prop :=
  ∃ (old new : List Slot) (d : Nat) (T : Option Nat),
    stream s = old ++ new ∧
    (match s.control with
     | some v => new = [] ∧ T = v
     | none => ChainFrom cfg.chain T new s.worker.natural) ∧
    adv cfg.chain d T = some e ∧
    old.length + d + i + 1 ≤ cfg.rd

def Closing (c : Cons) : Prop := c = .closeW ∨ c = .join ∨ c = .closed

/-- `rd2` and `mono` are assumptions on `cfg`, passed on by the step lemmas: `rd2` is read by `inv_progress` only, `mono`
by no proof.  Dead-lock freedom (`inv_progress`) reads `count`, `rd2`, `expScan`, `ctl`, `wt`, `exited`, `atSend.2`,
`nopanic`; termination (`ApiStep.mu`) reads `expScan` (through `Expect.room`); `atDrain` and `atSend.1` serve
`C02.readahead_in_order`, `closed` serves `C02.reader_no_leak`; `wfCur`, `wfWorking`, `wfPush` are also `wf_reachable`. -/
structure Inv (cfg : Cfg) (s : State) : Prop where
  rd2 : 2 ≤ cfg.rd
  mono : Mono cfg.chain
  /-- the `rd` decompressors are conserved -/
  count : s.waiting + s.working.length + s.worker.holds + s.cons.holds = cfg.rd
  wfCur : WFBlk cfg.chain s.cur
  wfWorking : ∀ b ∈ s.working, WFBlk cfg.chain b
  wfPush : ∀ b, s.worker = .push b → WFBlk cfg.chain b
  ctl : s.ctlClosed = true ↔ Closing s.cons
  wt : s.wtClosed = true ↔ (s.cons = .join ∨ s.cons = .closed)
  exited : ∀ h, s.worker = .exited h → s.ctlClosed = true
  closed : s.cons = .closed → ∃ h, s.worker = .exited h
  /-- the base the consumer asks for next lies ahead in the delivery stream, within reach of the scan loop -/
  expIdle : (s.cons = .idle ∨ ∃ ok, s.cons = .ret ok) → ∀ e, s.cur.next = some e → Expect cfg s e 0
  expScan : ∀ e i, s.cons = .scan e i → Expect cfg s e i
  atDrain : ∀ w, s.cons = .drain w → s.cur.base = some w
  atSend : ∀ w, s.cons = .send w → s.cur.base = some w ∧ s.control = none
  nopanic : s.cons ≠ .panicked

theorem append_eq_snoc {α} {l1 l2 w : List α} {a : α} (h : l1 ++ l2 = w ++ [a]) :
    (l2 = [] ∧ l1 = w ++ [a]) ∨ ∃ l2', l2 = l2' ++ [a] ∧ l1 ++ l2' = w := by
  rcases List.eq_nil_or_concat l2 with rfl | ⟨l2', b, rfl⟩
  · left; simpa using h
  · right
    simp only [List.concat_eq_append] at h ⊢
    rw [← List.append_assoc] at h
    have := List.append_inj' h rfl
    simp only [List.cons.injEq, and_true] at this
    exact ⟨l2', by rw [this.2], this.1⟩

variable {cfg : Cfg} {s t : State} {ev : Option Ev}

theorem expect_congr {e i : Nat} (hx : Expect cfg s e i) (hst : stream t = stream s)
    (hc : t.control = s.control) (hn : t.worker.natural = s.worker.natural) : Expect cfg t e i := by
  obtain ⟨old, new, d, T, hs, hctl, hadv, hbound⟩ := hx
  exact ⟨old, new, d, T, by rw [hst]; exact hs, by rw [hc, hn]; exact hctl, hadv, hbound⟩

theorem not_closing_flags (hi : Inv cfg s) (h : ¬ Closing s.cons) : s.ctlClosed = false ∧ s.wtClosed = false := by
  constructor
  · cases hc : s.ctlClosed with
    | false => rfl
    | true => exact absurd (hi.ctl.mp hc) h
  · cases hc : s.wtClosed with
    | false => rfl
    | true =>
      exfalso; apply h
      rcases hi.wt.mp hc with h1 | h1 <;> simp [Closing, h1]

theorem WkStep.expect {pc : Worker} {e i : Nat} (h : WkStep cfg s pc ev t) (hw : s.worker = pc)
    (hi : Inv cfg s) (hnc : ¬ Closing s.cons) (hx : Expect cfg s e i) : Expect cfg t e i := by
  have ⟨hnc, hwt⟩ := not_closing_flags hi hnc
  cases h with
  | take | push =>
    exact expect_congr hx (by simp [stream, hw, Worker.committed]) rfl (by simp [hw, Worker.natural])
  | exitIdle _ hc => rw [hwt] at hc; cases hc
  | exitHeld _ hc => rw [hnc] at hc; cases hc
  | stay hc =>
    -- a redirect to −1 while the consumer expects a block: impossible
    obtain ⟨old, new, d, T, -, hctl, hadv, -⟩ := hx
    rw [hc] at hctl
    rw [hctl.2, adv_none] at hadv; cases hadv
  | redirect hc =>
    obtain ⟨old, new, d, T, hst, hctl, hadv, hbound⟩ := hx
    rw [hc] at hctl
    obtain ⟨rfl, rfl⟩ := hctl
    exact ⟨old, [.tgt T], d, T, by simpa [stream, hw, Worker.committed] using hst, by simp [ChainFrom], hadv,
      hbound⟩
  | @goOn b hc =>
    obtain ⟨old, new, d, T, hst, hctl, hadv, hbound⟩ := hx
    simp only [hc, hw, Worker.natural] at hctl
    simp only [stream, hw, Worker.committed, List.append_nil] at hst
    refine ⟨old, new ++ [.tgt (some b)], d, T, by simp [stream, Worker.committed, hst], ?_, hadv, hbound⟩
    simp only [hc]
    refine chainFrom_append_tgt hctl (fun y hy => ?_) _
    have : Slot.tgt y ∈ s.working.map .blk := hst ▸ List.mem_append_right old hy
    simp at this
  | @load x f b hd ev' hl =>
    obtain ⟨old, new, d, T, hst, hctl, hadv, hbound⟩ := hx
    have ⟨hb, hwf⟩ := doLoad_spec hl
    have hst' : old ++ new = s.working.map .blk ++ [.tgt x] := by
      simpa [stream, hw, Worker.committed] using hst.symm
    rcases append_eq_snoc hst' with ⟨rfl, hold⟩ | ⟨new', rfl, hold⟩
    · -- the load is an old one: it stays old
      cases hc : s.control with
      | some v =>
        simp only [hc] at hctl
        refine ⟨s.working.map .blk ++ [.blk b], [], d, T, by simp [stream, Worker.committed],
          by simp [hctl.2], hadv, ?_⟩
        rw [hold] at hbound; simpa using hbound
      | none =>
        simp only [hc, ChainFrom, hw, Worker.natural] at hctl
        rw [← hctl, adv_none] at hadv; cases hadv
    · cases hc : s.control with
      | some v => simp [hc] at hctl
      | none =>
        simp only [hc] at hctl
        refine ⟨old, new' ++ [.blk b], d, T, ?_, ?_, hadv, by simpa using hbound⟩
        · simp only [stream, Worker.committed]; rw [← hold, List.append_assoc]
        · exact chainFrom_load hctl hb hwf


section
variable {pc : Worker}

theorem WkStep.inv (h : WkStep cfg s pc ev t) (hw : s.worker = pc) (hi : Inv cfg s) : Inv cfg t := by
  obtain ⟨hcons, hcur, hctl, hwt, -, hcn⟩ := h.frame
  have hwf := h.blocks hw (fun hl => (doLoad_spec hl).2) ⟨hi.wfCur, hi.wfWorking, hi.wfPush⟩
  refine ⟨hi.rd2, hi.mono, ?count, hwf.1, hwf.2.1, hwf.2.2, by rw [hctl, hcons]; exact hi.ctl,
    by rw [hwt, hcons]; exact hi.wt, ?exited, ?closed, ?expIdle, ?expScan, by rw [hcons, hcur]; exact hi.atDrain,
    ?atSend, hcons ▸ hi.nopanic⟩
  case count =>
    have hcount := hi.count
    cases h <;> simp only [hw, Worker.holds, List.length_append, List.length_singleton] at hcount ⊢ <;> omega
  case exited =>
    cases h with
    | exitIdle _ hc =>
      intro _ _
      rcases hi.wt.mp hc with h1 | h1 <;> exact hi.ctl.mpr (by simp [Closing, h1])
    | exitHeld _ hc => exact fun _ _ => hc
    | stay => exact hi.exited
    | _ => exact nofun
  case closed =>
    -- the worker cannot move once Close has returned
    intro hc
    obtain ⟨hh, hw'⟩ := hi.closed (hcons ▸ hc)
    rw [hw] at hw'; subst hw'; cases h
  case expIdle =>
    intro hc e he
    rw [hcons] at hc; rw [hcur] at he
    exact h.expect hw hi (by rcases hc with hc | ⟨ok, hc⟩ <;> simp [Closing, hc]) (hi.expIdle hc e he)
  case expScan =>
    intro e i hc
    rw [hcons] at hc
    exact h.expect hw hi (by simp [Closing, hc]) (hi.expScan e i hc)
  case atSend =>
    intro w hc
    have := hi.atSend w (hcons ▸ hc)
    exact ⟨hcur ▸ this.1, hcn this.2⟩

end

section
variable {pc : Cons}

theorem Expect.room {e i : Nat} (hx : Expect cfg s e i) : i + 1 ≤ cfg.rd := by
  obtain ⟨_, _, _, _, -, -, -, hbound⟩ := hx
  omega

theorem Expect.advance {e i e' : Nat} (hx : Expect cfg s e (i + 1)) (he : cfg.chain e = some e') :
    Expect cfg s e' 0 := by
  obtain ⟨old, new, d, T, hs, hctl, hadv, hbound⟩ := hx
  exact ⟨old, new, d + 1, T, hs, hctl, by rw [adv_succ, hadv]; exact he, by omega⟩

/-- Either `b` was an old block, or it is the first of the run the expectation speaks of. -/
theorem expect_recv {e i : Nat} {b : Blk} (hx : Expect cfg s e i) (hw : s.working = b :: t.working)
    (hn : t.worker = s.worker) (hc : t.control = s.control) :
    Expect cfg t e (i + 1) ∨
    (t.control = none ∧ ChainFrom cfg.chain b.next (stream t) t.worker.natural ∧
      ∃ d, adv cfg.chain d b.base = some e ∧ d + i + 1 ≤ cfg.rd) := by
  obtain ⟨old, new, d, T, hs, hctl, hadv, hbound⟩ := hx
  have hst : stream s = .blk b :: stream t := by simp [stream, hw, hn]
  rw [hst] at hs
  rw [← hc, ← hn] at hctl
  cases old with
  | cons a old' =>
    simp only [List.cons_append, List.cons.injEq] at hs
    exact .inl ⟨old', new, d, T, hs.2, hctl, hadv, by simp at hbound; omega⟩
  | nil =>
    obtain rfl : new = .blk b :: stream t := hs.symm
    cases hcs : t.control with
    | some v => rw [hcs] at hctl; cases hctl.1
    | none =>
      rw [hcs] at hctl
      exact .inr ⟨rfl, hctl.2.2, d, hctl.1 ▸ hadv, by simpa using hbound⟩

theorem expect_recv_match {e i e' : Nat} {b : Blk} (hx : Expect cfg s e i)
    (hw : s.working = b :: t.working) (hn : t.worker = s.worker) (hc : t.control = s.control)
    (hwf : WFBlk cfg.chain b) (hb : b.base = some e) (hg : b.next = some e') : Expect cfg t e' 0 := by
  rcases expect_recv hx hw hn hc with hx' | ⟨hcn, hch, d, -, hbound⟩
  · refine hx'.advance ?_
    simp only [WFBlk, hb, hg] at hwf
    exact hwf.elim Eq.symm nofun
  · exact ⟨[], stream t, 0, b.next, rfl, by rw [hcn]; exact hch, by simp [adv, hg], by simp; omega⟩

theorem expect_recv_skip {e i : Nat} {b : Blk} (hx : Expect cfg s e i)
    (hw : s.working = b :: t.working) (hn : t.worker = s.worker) (hc : t.control = s.control)
    (hwf : WFBlk cfg.chain b) (hb : b.base ≠ some e) (hg : b.next ≠ none) : Expect cfg t e (i + 1) := by
  rcases expect_recv hx hw hn hc with hx' | ⟨hcn, hch, d, hadv, hbound⟩
  · exact hx'
  · cases d with
    | zero => exact absurd hadv hb
    | succ d' =>
      cases hT : b.base with
      | none => rw [hT, adv_none] at hadv; cases hadv
      | some tt =>
        rw [hT] at hadv
        simp only [WFBlk, hT] at hwf
        exact ⟨[], stream t, d', b.next, rfl, by rw [hcn]; exact hch,
          by rw [hwf.resolve_right hg]; exact hadv, by simp; omega⟩

theorem stream_length_le (s : State) : (stream s).length ≤ s.working.length + s.worker.holds := by
  simp only [stream, List.length_append, List.length_map]
  cases s.worker <;> simp [Worker.committed, Worker.holds]

theorem expect_after_send {e : Nat} (hcount : (stream t).length + 1 ≤ cfg.rd)
    (hc : t.control = some (some e)) : Expect cfg t e 0 :=
  ⟨stream t, [], 0, some e, by simp, by simp [hc], rfl, by simpa using hcount⟩

/-- What `Inv` says at each point of the consumer's code. -/
def AtPc (cfg : Cfg) (s : State) : Cons → Prop
  | .idle | .ret _ => ∀ e, s.cur.next = some e → Expect cfg s e 0
  | .scan e i => Expect cfg s e i
  | .drain w => s.cur.base = some w
  | .send w => s.cur.base = some w ∧ s.control = none
  | .closed => ∃ h, s.worker = .exited h
  | .panicked => False
  | _ => True

theorem Inv.atPc (hi : Inv cfg s) : AtPc cfg s s.cons := by
  cases hc : s.cons with
  | idle => exact hi.expIdle (.inl hc)
  | ret ok => exact hi.expIdle (.inr ⟨ok, hc⟩)
  | scan e i => exact hi.expScan e i hc
  | drain w => exact hi.atDrain w hc
  | send w => exact hi.atSend w hc
  | closed => exact hi.closed hc
  | panicked => exact hi.nopanic hc
  | _ => trivial

theorem Inv.of_atPc (rd2 : 2 ≤ cfg.rd) (mono : Mono cfg.chain)
    (count : t.waiting + t.working.length + t.worker.holds + t.cons.holds = cfg.rd)
    (wf : Blocks (WFBlk cfg.chain) t) (ctl : t.ctlClosed = true ↔ Closing t.cons)
    (wt : t.wtClosed = true ↔ (t.cons = .join ∨ t.cons = .closed))
    (exited : ∀ h, t.worker = .exited h → t.ctlClosed = true) (pc : AtPc cfg t t.cons) : Inv cfg t := by
  refine ⟨rd2, mono, count, wf.1, wf.2.1, wf.2.2, ctl, wt, exited, ?_, ?_, ?_, ?_, ?_, ?_⟩
  · intro hc; rw [hc] at pc; exact pc
  · rintro (hc | ⟨ok, hc⟩) <;> rw [hc] at pc <;> exact pc
  · intro e i hc; rw [hc] at pc; exact pc
  · intro w hc; rw [hc] at pc; exact pc
  · intro w hc; rw [hc] at pc; exact pc
  · intro hc; rw [hc] at pc; exact pc

theorem ApiStep.count (h : ApiStep cfg s pc ev t) (hc : s.cons = pc) :
    t.waiting + t.working.length + t.cons.holds = s.waiting + s.working.length + s.cons.holds := by
  cases h <;> simp only [*, Cons.holds, List.length_cons] <;> omega

theorem ApiStep.flags (h : ApiStep cfg s pc ev t) (hc : s.cons = pc)
    (hctl : s.ctlClosed = true ↔ Closing s.cons) (hwt : s.wtClosed = true ↔ (s.cons = .join ∨ s.cons = .closed)) :
    (t.ctlClosed = true ↔ Closing t.cons) ∧ (t.wtClosed = true ↔ (t.cons = .join ∨ t.cons = .closed)) := by
  cases h <;> simp_all [Closing]

theorem ApiStep.inv (h : ApiStep cfg s pc ev t) (hc : s.cons = pc) (hi : Inv cfg s) : Inv cfg t := by
  have hfl := h.flags hc hi.ctl hi.wt
  have hpc := hc ▸ hi.atPc
  have hwf := h.blocks (fun hl => (doLoad_spec hl).2) ⟨hi.wfCur, hi.wfWorking, hi.wfPush⟩
  have hex : ∀ h, t.worker = .exited h → t.ctlClosed = true := by
    cases h with
    | close => exact fun _ _ => rfl
    | _ => exact hi.exited
  refine .of_atPc hi.rd2 hi.mono ?count hwf hfl.1 hfl.2 hex ?pc
  case count => have := h.count hc; have := hi.count; rw [h.worker]; omega
  case pc =>
    cases h with
    -- `Expect` does not look at `script` or `cons`
    | nextsDone | note => exact hc ▸ hpc
    | ret | seekFast => exact hpc
    | nextsMore _ he | next _ he => exact hpc _ he
    | nextFailed _ he => exact fun e he' => by rw [he] at he'; cases he'
    | scanHit hw hb => exact fun e' he' => expect_recv_match hpc hw rfl rfl (hi.wfWorking _ (hw ▸ .head _)) hb he'
    | scanSkip hw hb hn => exact expect_recv_skip hpc hw rfl rfl (hi.wfWorking _ (hw ▸ .head _)) hb hn
    | scanPanic hw hb hn hrd =>
      -- a stale block: the loop has room for it
      have := (expect_recv_skip (t := { s with working := _ }) hpc hw rfl rfl (hi.wfWorking _ (hw ▸ .head _))
        hb hn).room
      omega
    | fetch hl | sync hl => exact (doLoad_spec hl).1
    | selHit _ hg => exact hg.2
    | drain => exact ⟨hpc, rfl⟩
    | send =>
      intro e he
      refine expect_after_send ?_ (congrArg some he)
      have := stream_length_le s
      have := hi.count
      simp only [stream, hc, Cons.holds] at *
      omega
    | join hw => exact ⟨_, hw⟩
    | _ => trivial

end

end Hts.Model.ReadAhead
