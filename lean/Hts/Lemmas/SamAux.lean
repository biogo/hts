/-
Aux fields: `ParseAux` reads back what the SAM formatter prints, for every type.
-/
import Hts.Lemmas.SamFields
import Hts.Lemmas.SamSplit
namespace Hts.Model.SamText
open Hts.Spec.SamLine (TagOK isAlnum)

theorem mapM_map_pure {m : Type → Type} [Monad m] [LawfulMonad m] {α β γ : Type} (f : α → β) (g : β → m γ)
    (k : α → γ) (l : List α) (h : ∀ x ∈ l, g (f x) = pure (k x)) : (l.map f).mapM g = pure (l.map k) := by
  induction l with
  | nil => rfl
  | cons x l ih =>
    rw [List.map_cons, List.mapM_cons, h x List.mem_cons_self, pure_bind,
      ih fun y hy => h y (List.mem_cons_of_mem _ hy), pure_bind, List.map_cons]

theorem flatMap_sep (sep : UInt8) (x : Bytes) (xs : List Bytes) :
    (x :: xs).flatMap (fun y => sep :: y) = sep :: joinWith sep (x :: xs) := by
  induction xs generalizing x with
  | nil => simp [joinWith]
  | cons y ys ih =>
    rw [List.flatMap_cons, ih y, joinWith]
    simp

theorem array_elems {α : Type} (f : α → Bytes) (xs : List α) (h : ∀ x ∈ xs, ∀ c ∈ f x, c ≠ 44) :
    arrayElems (xs.flatMap fun x => 44 :: f x) = some (xs.map f) := by
  rw [← List.flatMap_map (f := f) (g := fun y => 44 :: y)]
  cases hm : xs.map f with
  | nil => rfl
  | cons y ys =>
    simp only [flatMap_sep, arrayElems, if_true]
    rw [splitOn_joinWith 44 _ (List.cons_ne_nil _ _) (hm ▸ List.forall_mem_map.mpr h)]

theorem hexDigitUpper_table : ∀ d, d < 16 → fromHexChar (hexDigitUpper d) = some d ∧ 32 ≤ hexDigitUpper d := by
  decide

theorem hexDecode_hexEncode (b : Bytes) : hexDecode (hexEncode b) = some b := by
  induction b with
  | nil => rfl
  | cons x b ih =>
    unfold hexEncode at ih ⊢
    rw [List.flatMap_cons, List.cons_append, List.cons_append, List.nil_append, hexDecode,
      (hexDigitUpper_table _ (Nat.div_lt_of_lt_mul x.toNat_lt)).1,
      (hexDigitUpper_table _ (Nat.mod_lt _ (by decide))).1, ih]
    show some (UInt8.ofNat (x.toNat / 16 * 16 + x.toNat % 16) :: b) = _
    rw [Nat.div_add_mod', UInt8.ofNat_toNat]

theorem hexEncode_no_sep (b : Bytes) : NoSep (hexEncode b) := by
  intro c hc
  obtain ⟨x, _, hc⟩ := List.mem_flatMap.mp hc
  exact NoSep.cons (hexDigitUpper_table _ (Nat.div_lt_of_lt_mul x.toNat_lt)).2
    (.cons (hexDigitUpper_table _ (Nat.mod_lt _ (by decide))).2 .nil) c hc

theorem intTy_letter (ty : IntTy) : ty.letter ≠ 102 ∧ IntTy.ofLetter ty.letter = some ty ∧ 32 ≤ ty.letter := by
  cases ty <;> decide

theorem intTy_lo_hi (ty : IntTy) : 1 ≤ ty.bits ∧
    ty.lo = (if ty.signed then -(2 ^ (ty.bits - 1) : Int) else 0) ∧
    ty.hi + 1 = (if ty.signed then (2 ^ (ty.bits - 1) : Int) else ((2 ^ ty.bits : Nat) : Int)) := by
  cases ty <;> decide

/-- every integer type lies inside what `NewAux` narrows -/
theorem intTy_range (ty : IntTy) (v : Int) (h : ty.lo ≤ v ∧ v ≤ ty.hi) :
    -2147483648 ≤ v ∧ v ≤ 4294967295 := by
  cases ty <;> exact ⟨Int.le_trans (by decide) h.1, Int.le_trans h.2 (by decide)⟩

theorem narrowInt_eq (v : Int) (h1 : -2147483648 ≤ v) (h2 : v ≤ 4294967295) :
    narrowInt v = some (.int (narrowTy v) v) := by
  simp only [narrowInt, narrowTy, apply_ite (fun t => some (AuxVal.int t v)), h1, h2, if_true]

theorem narrowTy_range (v : Int) (h1 : -2147483648 ≤ v) (h2 : v ≤ 4294967295) :
    (narrowTy v).lo ≤ v ∧ v ≤ (narrowTy v).hi := by
  let P (ty : IntTy) := ty.lo ≤ v ∧ v ≤ ty.hi
  refine iteInduction (motive := P) (fun h0 => ?_) (fun h0 => ?_)
  · -- a negative number is below the upper bound of every signed type
    have hhi : ∀ k : Int, 0 ≤ k → v ≤ k := fun k hk => Int.le_trans (Int.le_of_lt h0) hk
    exact iteInduction (motive := P) (fun h => ⟨h, hhi _ (by decide)⟩) fun _ =>
      iteInduction (motive := P) (fun h => ⟨h, hhi _ (by decide)⟩) fun _ => ⟨h1, hhi _ (by decide)⟩
  · have hlo : 0 ≤ v := Int.not_lt.mp h0
    exact iteInduction (motive := P) (fun h => ⟨hlo, h⟩) fun _ =>
      iteInduction (motive := P) (fun h => ⟨hlo, h⟩) fun _ => ⟨hlo, h2⟩

theorem parseElem_showInt (ty : IntTy) (v : Int) (h : ty.lo ≤ v ∧ v ≤ ty.hi) :
    parseElem ty (showInt v) = some v := by
  obtain ⟨hbits, hlo, hhi⟩ := intTy_lo_hi ty
  unfold parseElem
  cases hs : ty.signed <;> simp only [hs, Bool.false_eq_true, if_false, if_true] at hlo hhi ⊢
  · rw [parseUintGo_showInt v ty.bits (hlo ▸ h.1) (hhi ▸ Int.lt_add_one_of_le h.2), Option.map_some,
      Int.ofNat_eq_natCast, Int.toNat_of_nonneg (hlo ▸ h.1)]
  · exact parseIntGo_showInt v 0 ty.bits (Or.inr rfl) hbits (hlo ▸ h.1) (hhi ▸ Int.lt_add_one_of_le h.2)

theorem parseArray_ints {ft : FloatText} (ty : IntTy) (vs : List Int) (h : ∀ v ∈ vs, ty.lo ≤ v ∧ v ≤ ty.hi) :
    parseArray ft (ty.letter :: vs.flatMap fun v => 44 :: showInt v) = some (.ints ty vs) := by
  rw [parseArray, array_elems showInt vs fun v _ c hc => (showInt_no_sep v c hc).2.1]
  simp only [(intTy_letter ty).1, if_false, (intTy_letter ty).2.1]
  rw [mapM_map_pure showInt (parseElem ty) id vs fun v hv => parseElem_showInt ty v (h v hv), List.map_id]
  rfl

theorem parseArray_floats {ft : FloatText} (L : FloatLaws ft) (bs : List UInt32) :
    parseArray ft (102 :: bs.flatMap fun b => 44 :: ft.fmt b) = some (.floats (bs.map L.canon)) := by
  rw [parseArray, array_elems ft.fmt bs fun b _ c hc => (L.no_sep b c hc).2.1]
  simp only [if_true]
  rw [mapM_map_pure ft.fmt ft.parse L.canon bs fun b _ => L.parse_fmt b]
  rfl

/-- representation invariant of an aux field: integers inside their type, an `A` character in ASCII -/
def AuxRep (a : Aux) : Prop :=
  match a.val with
  | .char c => c < 128
  | .int ty v => ty.lo ≤ v ∧ v ≤ ty.hi
  | .ints ty vs => ∀ v ∈ vs, ty.lo ≤ v ∧ v ≤ ty.hi
  | _ => True

theorem parseAux_formatAux {ft : FloatText} (L : FloatLaws ft) (a : Aux) (h : AuxRep a) :
    parseAux ft (formatAux ft a) = .ok (canonAux L a) := by
  obtain ⟨t0, t1, v⟩ := a
  unfold AuxRep at h
  unfold formatAux canonAux canonVal
  cases v with
  | char c =>
    have : utf8OfByte c = [c] := if_pos h
    simp [parseAux, this]
  | int ty w =>
    have hr := intTy_range ty w h
    have ha := atoi_showInt w (Int.le_trans (by decide) hr.1) (Int.lt_of_le_of_lt hr.2 (by decide))
    simp [parseAux, ha, narrowInt_eq w hr.1 hr.2]
  | float b => simp [parseAux, L.parse_fmt]
  | text s => simp [parseAux]
  | hex b => simp [parseAux, hexDecode_hexEncode]
  | ints ty vs =>
    have := parseArray_ints (ft := ft) ty vs h
    simp only [List.cons_append, List.nil_append]
    simp [parseAux, this]
  | floats bs =>
    have := parseArray_floats L bs
    simp only [List.cons_append, List.nil_append]
    simp [parseAux, this]

theorem auxRep_of_auxOK (a : Aux) (h : AuxOK a) : AuxRep a := by
  obtain ⟨t0, t1, v⟩ := a
  unfold AuxOK at h
  unfold AuxRep
  cases v with
  | char c => exact UInt8.lt_of_le_of_lt h.2.2 (by decide)
  | int ty w => exact h.2
  | ints ty vs => exact h.2
  | _ => trivial

theorem formatAux_canonAux {ft : FloatText} (L : FloatLaws ft) (a : Aux) :
    formatAux ft (canonAux L a) = formatAux ft a := by
  obtain ⟨t0, t1, v⟩ := a
  unfold formatAux canonAux canonVal
  cases v <;> simp only [L.fmt_canon]
  · simp only [List.flatMap_map, L.fmt_canon]

theorem listRel_map {α β} {R : α → β → Prop} {f : α → β} (h : ∀ a, R a (f a)) (l : List α) :
    listRel R l (l.map f) := by
  induction l with
  | nil => trivial
  | cons a l ih => exact ⟨h a, ih⟩

theorem auxEq_canonAux {ft : FloatText} (L : FloatLaws ft) (a : Aux) : auxEq a (canonAux L a) := by
  obtain ⟨t0, t1, v⟩ := a
  refine ⟨rfl, rfl, ?_⟩
  cases v with
  | float b => exact L.canon_eq b
  | floats bs => exact listRel_map L.canon_eq bs
  | ints ty vs => exact ⟨rfl, rfl⟩
  | _ => exact rfl

theorem tag_ge32 (t0 t1 : UInt8) (h : TagOK t0 t1) : 32 ≤ t0 ∧ 32 ≤ t1 := by
  have key : ∀ c : UInt8, isAlnum c → 32 ≤ c := by
    rintro c ((h | h) | h) <;> exact UInt8.le_trans (by decide) h.1
  exact ⟨key t0 (Or.inl h.1), key t1 h.2⟩

theorem no_sep_array {α} (f : α → Bytes) (l : List α)
    (h : ∀ v, ∀ x ∈ f v, x ≠ 9 ∧ x ≠ 44 ∧ x ≠ 10 ∧ x ≠ 13) : NoSep (l.flatMap fun v => 44 :: f v) := by
  intro c hc
  obtain ⟨v, _, hc⟩ := List.mem_flatMap.mp hc
  exact NoSep.cons (by decide) (.of_comma (h v)) c hc

theorem formatAux_no_sep {ft : FloatText} (L : FloatLaws ft) (a : Aux) (h : AuxOK a) : NoSep (formatAux ft a) := by
  obtain ⟨t0, t1, v⟩ := a
  obtain ⟨htag, h2⟩ := h
  -- TAG `:` TYPE `:`, then the value
  have key : ∀ (ty : UInt8) (val : Bytes), 32 ≤ ty → NoSep val → NoSep (t0 :: t1 :: 58 :: ty :: 58 :: val) :=
    fun _ _ hty hval => .cons (tag_ge32 t0 t1 htag).1 (.cons (tag_ge32 t0 t1 htag).2
      (.cons (by decide) (.cons hty (.cons (by decide) hval))))
  cases v with
  | char x =>
    have hu : utf8OfByte x = [x] := if_pos (UInt8.lt_of_le_of_lt h2.2 (by decide))
    exact key 65 _ (by decide) (hu ▸ .cons (UInt8.le_trans (by decide) h2.1) .nil)
  | int ty w => exact key 105 _ (by decide) (showInt_noSep w)
  | float b => exact key 102 _ (by decide) (.of_comma (L.no_sep b))
  | text s => exact key 90 _ (by decide) (.of_ge32 fun c hc => (h2 c hc).1)
  | hex b => exact key 72 _ (by decide) (hexEncode_no_sep b)
  | ints ty vs => exact key 66 _ (by decide) (.cons (intTy_letter ty).2.2 (no_sep_array showInt vs showInt_no_sep))
  | floats bs => exact key 66 _ (by decide) (.cons (by decide) (no_sep_array ft.fmt bs L.no_sep))

end Hts.Model.SamText
