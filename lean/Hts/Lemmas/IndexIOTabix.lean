/-
Round trip of the tabix serialisation: header fields, the NUL-separated name block, then the shared
`internal` index body (Hts.Lemmas.IndexIO).
-/
import Hts.Lemmas.IndexIO
import Hts.Lemmas.Text
namespace Hts.Model.IndexIO
open Hts.Model.Index Hts.Model.Tabix

def nameBlock (names : List Name) : Bytes := names.flatMap (fun nm => nm ++ [0])

theorem nameBlock_length (names : List Name) (acc : Int) :
    names.foldl (fun n nm => n + ((nm.length : Int) + 1)) acc = acc + ((nameBlock names).length : Int) := by
  induction names generalizing acc with
  | nil => simp [nameBlock]
  | cons a as ih =>
    simp only [List.foldl_cons, ih, nameBlock, List.flatMap_cons, List.length_append, List.length_cons,
      List.length_nil]
    omega

theorem nameBlock_sublist {l₁ l₂ : List Name} (h : l₁.Sublist l₂) :
    (nameBlock l₁).length ≤ (nameBlock l₂).length := by
  induction h with
  | slnil => exact Nat.le_refl _
  | cons a _ ih => simp only [nameBlock, List.flatMap_cons, List.length_append] at ih ⊢; omega
  | cons_cons a _ ih => simp only [nameBlock, List.flatMap_cons, List.length_append] at ih ⊢; omega

open Hts.Lemmas (Sep.splitOn Sep.splitOn_ne_nil Sep.splitOn_no_sep Sep.splitOn_append_sep)

theorem splitNul_eq (bs : Bytes) : splitNul bs = Sep.splitOn 0 bs := by
  induction bs with
  | nil => rfl
  | cons b bs ih => rw [splitNul, Sep.splitOn, ih]; cases Sep.splitOn 0 bs <;> rfl

theorem splitNul_ne_nil (bs : Bytes) : splitNul bs ≠ [] := splitNul_eq bs ▸ Sep.splitOn_ne_nil 0 bs

theorem nameBlock_ne_nil (names : List Name) (h : names ≠ []) : nameBlock names ≠ [] := by
  cases names with
  | nil => exact absurd rfl h
  | cons a as => simp [nameBlock]

theorem nameBlock_getLast (names : List Name) (h : names ≠ []) : (nameBlock names).getLast? = some 0 := by
  induction names with
  | nil => exact absurd rfl h
  | cons a as ih =>
    cases as with
    | nil => simp [nameBlock]
    | cons b bs =>
      have hne : nameBlock (b :: bs) ≠ [] := nameBlock_ne_nil _ (by simp)
      have : nameBlock (a :: b :: bs) = (a ++ [0]) ++ nameBlock (b :: bs) := by simp [nameBlock]
      rw [this, List.getLast?_append, ih (by simp)]
      rfl

theorem splitNul_nameBlock (names : List Name) (h : names ≠ []) (hn : ∀ nm, nm ∈ names → ∀ b, b ∈ nm → b ≠ 0) :
    splitNul (nameBlock names).dropLast = names := by
  rw [splitNul_eq]
  induction names with
  | nil => exact absurd rfl h
  | cons a as ih =>
    have ha : (0 : UInt8) ∉ a := fun hm => hn a List.mem_cons_self 0 hm rfl
    cases as with
    | nil =>
      have : (nameBlock [a]).dropLast = a := by simp [nameBlock]
      rw [this, Sep.splitOn_no_sep ha]
    | cons b bs =>
      have hne : nameBlock (b :: bs) ≠ [] := nameBlock_ne_nil _ (by simp)
      have e : nameBlock (a :: b :: bs) = a ++ ([0] ++ nameBlock (b :: bs)) := by simp [nameBlock]
      rw [e, List.dropLast_append_of_ne_nil (by simp), List.dropLast_append_of_ne_nil hne, List.singleton_append,
        Sep.splitOn_append_sep ha, ih (by simp) (fun nm hnm => hn nm (List.mem_cons_of_mem _ hnm))]

/-- what the tabix header can store -/
structure HeaderOK (h : Header) (names : List Name) : Prop where
  format : h.format < 256
  nameCol : -2147483648 ≤ h.nameCol ∧ h.nameCol < 2147483648
  begCol : -2147483648 ≤ h.begCol ∧ h.begCol < 2147483648
  endCol : -2147483648 ≤ h.endCol ∧ h.endCol < 2147483648
  metaChar : -2147483648 ≤ h.metaChar ∧ h.metaChar < 2147483648
  skip : -2147483648 ≤ h.skip ∧ h.skip < 2147483648
  namesLen : (nameBlock names).length < 2147483648
  noNul : ∀ nm, nm ∈ names → ∀ b, b ∈ nm → b ≠ 0

/-- the format word: the format byte, with the zero-based flag in bit 16 -/
theorem formatWord (f : Nat) (z : Bool) (hf : f < 256) :
    -2147483648 ≤ (f : Int) + (if z then 65536 else 0) ∧ (f : Int) + (if z then 65536 else 0) < 2147483648 ∧
      (((f : Int) + (if z then 65536 else 0)) % 256).toNat = f ∧
      decide ((((f : Int) + (if z then 65536 else 0)) / 65536) % 2 = 1) = z := by
  cases z <;> simp <;> omega

theorem rTabixHeader_w (h : Header) (names : List Name) (ok : HeaderOK h names) (rest : Bytes) :
    rTabixHeader (wTabixHeader h names ++ rest) = .ok ((h, names), rest) := by
  have hlen := nameBlock_length names 0
  rw [Int.zero_add] at hlen
  have hfmt := formatWord h.format h.zeroBased ok.format
  simp only [rTabixHeader, wTabixHeader, List.append_assoc, hlen,
    rI32_i32 _ hfmt.1 hfmt.2.1, rI32_i32 _ ok.nameCol.1 ok.nameCol.2, rI32_i32 _ ok.begCol.1 ok.begCol.2,
    rI32_i32 _ ok.endCol.1 ok.endCol.2, rI32_i32 _ ok.metaChar.1 ok.metaChar.2, rI32_i32 _ ok.skip.1 ok.skip.2,
    rI32_natCast _ ok.namesLen, Int.not_lt.2 (Int.natCast_nonneg _), if_false, hfmt.2.2.1, hfmt.2.2.2, Int.toNat_natCast]
  by_cases hne : names = []
  · subst hne; rfl
  · have hpos : ¬ ((nameBlock names).length : Int) = 0 := fun h0 =>
      nameBlock_ne_nil names hne (List.eq_nil_of_length_eq_zero (Int.ofNat_eq_zero.1 h0))
    have hb : names.flatMap (fun nm => nm ++ [0]) = nameBlock names := rfl
    simp only [hpos, if_false, hb, rBytes_append, nameBlock_getLast names hne, ne_eq, not_true_eq_false,
      splitNul_nameBlock names hne ok.noNul]

/-- a tabix index the format can represent -/
structure TWF (t : TIndex) : Prop where
  idx : WF t.idx
  hdr : HeaderOK t.hdr t.names
  count : t.names.length = t.idx.refs.length

theorem readTabix_writeTabix (t : TIndex) (h : TWF t) : readTabix (writeTabix t) = .ok (normTabix t) := by
  have hm : ∀ rest, rBytes 4 (tbiMagic ++ rest) = .ok (tbiMagic, rest) := rBytes_append tbiMagic
  simp only [readTabix, writeTabix, List.append_assoc, hm, ne_eq, not_true_eq_false, if_false,
    rI32_natCast _ h.idx.nrefs, rTabixHeader_w t.hdr t.names h.hdr, h.count, rIndex_wIndex t.idx h.idx]
  rfl

theorem writeTabix_norm (t : TIndex) : writeTabix (normTabix t) = writeTabix t := by
  unfold writeTabix normTabix
  simp only [wIndex_norm, norm_refs_length]

end Hts.Model.IndexIO
