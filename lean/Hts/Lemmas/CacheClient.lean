/-
Reader-style use of a cache, as a protocol, and what the contract guarantees under it.

The client (the bgzf reader) keeps track of the blocks it *owns*: blocks it allocated, blocks `Get` handed
over, blocks `Put` refused or evicted.  It may overwrite any block it owns with another member (new base,
used flag, next base) and offers only blocks it owns.  It cannot see inside the cache.

For every cache satisfying `Contract`, every reachable state of this protocol is `Coherent`: each indexed
block still carries the base it is indexed under, no indexed block is owned by the client, and block
identities in the cache are distinct.  Consequently `Get`/`Peek` never answer with a block of another base.
FIFO is not an instance: `fifoS4` is a reachable state of the same protocol (`fifo_witness_reach`) in which
`Get(0)` returns a block whose base is 100 (`fifo_witness_wrong_base`).
-/
import Hts.Lemmas.CacheContract
namespace Hts.Spec.CacheContract
open Hts.Model.Cache

structure Client (σ : Type) where
  cache : σ
  heap : Heap
  owned : List Nat
  /-- next unused block identity -/
  fresh : Nat

def setBlk (h : Heap) (id : Nat) (b : Blk) : Heap := fun i => if i = id then b else h i

inductive Lab
  | alloc
  | write
  | put
  | get (k : Int)
  | shrink

inductive Step {σ : Type} (o : CacheOps σ) (wf : σ → Prop) : Lab → Client σ → Client σ → Prop
  | alloc (s : Client σ) (b : Blk) :
      Step o wf .alloc s ⟨s.cache, setBlk s.heap s.fresh b, s.fresh :: s.owned, s.fresh + 1⟩
  /-- overwrite an owned block (recycling it for another member, or reading from it) -/
  | write (s : Client σ) (id : Nat) (b : Blk) (hown : id ∈ s.owned) :
      Step o wf .write s ⟨s.cache, setBlk s.heap id b, s.owned, s.fresh⟩
  /-- `Put` of an owned block that is refused: the client keeps it -/
  | putRefused (s : Client σ) (id : Nat) (hint : Option Nat) (c' : σ) (hown : id ∈ s.owned)
      (hp : o.put s.heap s.cache id hint = some (c', .refused)) :
      Step o wf .put s ⟨c', s.heap, s.owned, s.fresh⟩
  /-- `Put` of an owned block that is retained: ownership passes to the cache, an evicted block comes back -/
  | putKept (s : Client σ) (id : Nat) (hint : Option Nat) (c' : σ) (ev : Option Nat) (hown : id ∈ s.owned)
      (hp : o.put s.heap s.cache id hint = some (c', .kept ev)) :
      Step o wf .put s ⟨c', s.heap, s.owned.filter (· ≠ id) ++ ev.toList, s.fresh⟩
  /-- `Get`: a returned block is owned by the client from now on -/
  | get (s : Client σ) (k : Int) :
      Step o wf (.get k) s
        ⟨(o.get s.heap s.cache k).1, s.heap, (o.get s.heap s.cache k).2.toList ++ s.owned, s.fresh⟩
  /-- `Drop`, `Resize(n ≥ 1)`, `Free`: any well-formed state holding a subset of the blocks; dropped blocks
  are garbage (neither indexed nor owned) -/
  | shrink (s : Client σ) (c' : σ) (hwf : wf c') (hsub : ∀ e ∈ o.held c', e ∈ o.held s.cache) :
      Step o wf .shrink s ⟨c', s.heap, s.owned, s.fresh⟩

/-- `P lab s` restricts which steps the client may take from `s` (`FifoSafe` below). -/
inductive ReachP {σ : Type} (o : CacheOps σ) (wf : σ → Prop) (P : Lab → Client σ → Prop) (init : σ)
    (h0 : Heap) : Client σ → Prop
  | init : ReachP o wf P init h0 ⟨init, h0, [], 0⟩
  | step {lab : Lab} {s t : Client σ} :
      ReachP o wf P init h0 s → Step o wf lab s t → P lab s → ReachP o wf P init h0 t

abbrev Reach {σ : Type} (o : CacheOps σ) (wf : σ → Prop) (init : σ) (h0 : Heap) : Client σ → Prop :=
  ReachP o wf (fun _ _ => True) init h0

theorem Reach.init {σ : Type} {o : CacheOps σ} {wf : σ → Prop} {init : σ} {h0 : Heap} :
    Reach o wf init h0 ⟨init, h0, [], 0⟩ := ReachP.init

theorem Reach.step {σ : Type} {o : CacheOps σ} {wf : σ → Prop} {init : σ} {h0 : Heap} {lab : Lab}
    {s t : Client σ} (r : Reach o wf init h0 s) (st : Step o wf lab s t) : Reach o wf init h0 t :=
  ReachP.step r st trivial

structure Coherent {σ : Type} (o : CacheOps σ) (wf : σ → Prop) (s : Client σ) : Prop where
  wf : wf s.cache
  base : ∀ e ∈ o.held s.cache, (s.heap e.id).base = e.key
  disj : ∀ e ∈ o.held s.cache, e.id ∉ s.owned
  ids : ∀ a ∈ o.held s.cache, ∀ b ∈ o.held s.cache, a.id = b.id → a = b
  lt_fresh : (∀ e ∈ o.held s.cache, e.id < s.fresh) ∧ ∀ i ∈ s.owned, i < s.fresh

theorem setBlk_ne {h : Heap} {id i : Nat} (b : Blk) (hne : i ≠ id) : setBlk h id b i = h i :=
  if_neg hne

theorem Coherent.of_subset {σ : Type} {o : CacheOps σ} {wf : σ → Prop} {s : Client σ}
    (inv : Coherent o wf s) {c' : σ} (hwf : wf c') (hsub : ∀ e ∈ o.held c', e ∈ o.held s.cache) :
    Coherent o wf ⟨c', s.heap, s.owned, s.fresh⟩ :=
  ⟨hwf, fun e he => inv.base e (hsub e he), fun e he => inv.disj e (hsub e he),
    fun a ha b hb => inv.ids a (hsub a ha) b (hsub b hb),
    fun e he => inv.lt_fresh.1 e (hsub e he), inv.lt_fresh.2⟩

theorem step_coherent {σ : Type} {o : CacheOps σ} {wf : σ → Prop} (c : Contract o wf)
    {lab : Lab} {s t : Client σ} (inv : Coherent o wf s) (st : Step o wf lab s t) : Coherent o wf t := by
  have hlt := inv.lt_fresh
  cases st with
  | alloc s b =>
    refine ⟨inv.wf, fun e he => ?_, fun e he hm => ?_, inv.ids,
      fun e he => Nat.lt_succ_of_lt (hlt.1 e he), fun i hi => ?_⟩
    · show (setBlk s.heap s.fresh b e.id).base = e.key
      rw [setBlk_ne b (Nat.ne_of_lt (hlt.1 e he))]
      exact inv.base e he
    · rcases List.mem_cons.1 hm with h | h
      · exact Nat.lt_irrefl _ (h ▸ hlt.1 e he)
      · exact inv.disj e he h
    · rcases List.mem_cons.1 hi with rfl | h
      · exact Nat.lt_succ_self _
      · exact Nat.lt_succ_of_lt (hlt.2 i h)
  | write s id b hown =>
    refine ⟨inv.wf, fun e he => ?_, inv.disj, inv.ids, hlt⟩
    show (setBlk s.heap id b e.id).base = e.key
    rw [setBlk_ne b fun h : e.id = id => inv.disj e he (h ▸ hown)]
    exact inv.base e he
  | putRefused s id hint c' hown hp =>
    exact inv.of_subset (c.put_wf _ _ _ _ _ _ inv.wf hp) fun e he => c.put_refused _ _ _ _ _ inv.wf hp ▸ he
  | putKept s id hint c' ev hown hp =>
    obtain ⟨out, hout, hsub, hk⟩ := c.put_kept_mem inv.wf hp
    have hnew : ∀ e ∈ o.held s.cache, e.id ≠ id := fun e he h => inv.disj e he (h ▸ hown)
    have hback : ∀ i ∈ ev.toList, ∃ x ∈ out, x.id = i := fun i hi => List.mem_map.1 (hout ▸ hi)
    refine ⟨c.put_wf _ _ _ _ _ _ inv.wf hp, fun e he => ?_, fun e he hm => ?_, fun a ha b hb hab => ?_,
      fun e he => ?_, fun i hi => ?_⟩
    · rcases (hk e).1 he with rfl | h
      · rfl
      · exact inv.base e h.1
    · rcases List.mem_append.1 hm with hm | hm
      · rcases (hk e).1 he with rfl | h
        · exact (of_decide_eq_true (List.mem_filter.1 hm).2) rfl
        · exact inv.disj e h.1 (List.mem_filter.1 hm).1
      · obtain ⟨x, hx, hxe⟩ := hback _ hm
        rcases (hk e).1 he with rfl | h
        · exact hnew x (hsub x hx) hxe
        · exact h.2 (inv.ids x (hsub x hx) e h.1 hxe ▸ hx)
    · rcases (hk a).1 ha with rfl | h1 <;> rcases (hk b).1 hb with rfl | h2
      · rfl
      · exact absurd hab.symm (hnew b h2.1)
      · exact absurd hab (hnew a h1.1)
      · exact inv.ids a h1.1 b h2.1 hab
    · rcases (hk e).1 he with rfl | h
      · exact hlt.2 id hown
      · exact hlt.1 e h.1
    · rcases List.mem_append.1 hi with hi | hi
      · exact hlt.2 i (List.mem_filter.1 hi).1
      · obtain ⟨x, hx, rfl⟩ := hback _ hi
        exact hlt.1 x (hsub x hx)
  | get s k =>
    obtain ⟨hm, hk⟩ := c.get_mem s.heap k inv.wf
    refine ⟨c.get_wf _ _ k inv.wf, fun e he => inv.base e ((hk e).1 he).1, fun e he hmem => ?_,
      fun a ha b hb => inv.ids a ((hk a).1 ha).1 b ((hk b).1 hb).1,
      fun e he => hlt.1 e ((hk e).1 he).1, fun i hi => ?_⟩
    · obtain ⟨h1, h2⟩ := (hk e).1 he
      rcases List.mem_append.1 hmem with h | h
      · exact h2 _ (Option.mem_toList.1 h) (inv.ids e h1 _ (hm _ (Option.mem_toList.1 h)) rfl)
      · exact inv.disj e h1 h
    · rcases List.mem_append.1 hi with h | h
      · exact hlt.1 _ (hm i (Option.mem_toList.1 h))
      · exact hlt.2 i h
  | shrink s c' hwf hsub => exact inv.of_subset hwf hsub

theorem init_coherent {σ : Type} {o : CacheOps σ} {wf : σ → Prop}
    {init : σ} {h0 : Heap} (hwf : wf init) (hempty : o.held init = []) :
    Coherent o wf ⟨init, h0, [], 0⟩ := by
  refine ⟨hwf, ?_, ?_, ?_, ?_, ?_⟩ <;> simp [hempty]

theorem reach_coherent {σ : Type} {o : CacheOps σ} {wf : σ → Prop} (c : Contract o wf)
    {P : Lab → Client σ → Prop} {init : σ} {h0 : Heap} (hwf : wf init) (hempty : o.held init = [])
    {s : Client σ} (r : ReachP o wf P init h0 s) : Coherent o wf s := by
  induction r with
  | init => exact init_coherent hwf hempty
  | step _ st _ ih => exact step_coherent c ih st

theorem coherent_get_base {σ : Type} {o : CacheOps σ} {wf : σ → Prop} (c : Contract o wf)
    {s : Client σ} (inv : Coherent o wf s) (k : Int) :
    (∀ c' id, o.get s.heap s.cache k = (c', some id) → (s.heap id).base = k) ∧
    (∀ nx, o.peek s.heap s.cache k = (true, nx) →
      ∃ id, (⟨k, id⟩ : Entry) ∈ o.held s.cache ∧ (s.heap id).base = k ∧ nx = (s.heap id).next) := by
  constructor
  · intro c' id hg
    exact inv.base _ (c.get_hit _ _ _ _ _ inv.wf hg).1
  · intro nx hp
    obtain ⟨id, hm, hn⟩ := c.peek_hit _ _ _ _ inv.wf hp
    exact ⟨id, hm, inv.base _ hm, hn⟩

/-- the restriction under which FIFO behaves: a `Get` finds no block, or one that has not been read from -/
def FifoSafe : Lab → Client LCache → Prop
  | .get k, s => ∀ e, lookup s.cache.items k = some e → (s.heap e.id).used = false
  | _, _ => True

theorem fifo_get_eq_lru {h : Heap} {c : LCache} {k : Int}
    (hs : ∀ e, lookup c.items k = some e → (h e.id).used = false) :
    LCache.get .fifo h c k = LCache.get .lru h c k := by
  cases hl : lookup c.items k with
  | none => rw [LCache.get_of_lookup_none hl, LCache.get_of_lookup_none hl]
  | some e =>
    rw [LCache.get_of_lookup_some hl, LCache.get_of_lookup_some hl, hs e hl,
      if_neg (fun x => nomatch x.2), if_neg (fun x => nomatch x.1)]

theorem fifo_step_is_lru_step {lab : Lab} {s t : Client LCache}
    (st : Step fifoOps LCache.WF lab s t) (safe : FifoSafe lab s) : Step lruOps LCache.WF lab s t := by
  -- `fifoOps` and `lruOps` differ in `get` only; `put`, `peek`, `held` are the same terms
  cases st with
  | alloc s b => exact Step.alloc s b
  | write s id b hown => exact Step.write s id b hown
  | putRefused s id hint c' hown hp => exact Step.putRefused s id hint c' hown hp
  | putKept s id hint c' ev hown hp => exact Step.putKept s id hint c' ev hown hp
  | get s k =>
    have e : fifoOps.get s.heap s.cache k = lruOps.get s.heap s.cache k := fifo_get_eq_lru safe
    rw [e]
    exact Step.get s k
  | shrink s c' hwf hsub => exact Step.shrink s c' hwf hsub

theorem fifo_safe_reach_lru {init : LCache} {h0 : Heap} {s : Client LCache}
    (r : ReachP fifoOps LCache.WF FifoSafe init h0 s) : Reach lruOps LCache.WF init h0 s := by
  induction r with
  | init => exact .init
  | step _ st safe ih => exact ih.step (fifo_step_is_lru_step st safe)

def w0 : Blk := ⟨0, true, 100⟩
/-- block 0 recycled for the member at 100 -/
def w1 : Blk := ⟨100, true, 200⟩

def fifoS1 : Client LCache := ⟨LCache.new 1, setBlk (fun _ => default) 0 w0, [0], 1⟩
def fifoS2 : Client LCache := ⟨⟨1, [⟨0, 0⟩]⟩, fifoS1.heap, [], 1⟩
def fifoS3 : Client LCache := ⟨⟨1, [⟨0, 0⟩]⟩, fifoS1.heap, [0], 1⟩
def fifoS4 : Client LCache := ⟨⟨1, [⟨0, 0⟩]⟩, setBlk fifoS1.heap 0 w1, [0], 1⟩

/-- alloc block 0 (base 0, used); Put → retained; Get(0) → block 0, still indexed; Put → refused (key 0
is present); the owner overwrites its block with the member at 100 -/
theorem fifo_witness_reach :
    Reach fifoOps LCache.WF (LCache.new 1) (fun _ => default) fifoS4 := by
  have r1 : Reach fifoOps LCache.WF (LCache.new 1) (fun _ => default) fifoS1 :=
    Reach.init.step (Step.alloc _ w0)
  have r2 : Reach _ _ _ _ fifoS2 :=
    r1.step (Step.putKept fifoS1 0 none ⟨1, [⟨0, 0⟩]⟩ none (by decide) (by decide))
  have r3 : Reach _ _ _ _ fifoS3 := r2.step (Step.get fifoS2 0)
  exact (r3.step (Step.putRefused fifoS3 0 none ⟨1, [⟨0, 0⟩]⟩ (by decide) (by decide))).step
    (Step.write fifoS3 0 w1 (by decide))

theorem fifo_witness_wrong_base :
    ∃ c' id, fifoOps.get fifoS4.heap fifoS4.cache 0 = (c', some id) ∧ (fifoS4.heap id).base ≠ 0 :=
  ⟨⟨1, [⟨0, 0⟩]⟩, 0, by decide, by decide⟩

end Hts.Spec.CacheContract
