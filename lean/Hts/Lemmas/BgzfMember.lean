/-
Lemmas about the member model (Hts.Model.Member): the exact bytes `writeBlock` produces and when it
refuses (`writeBlock_cases`); the writer's header and the EOF marker as instances of `Gzip.Layout`; `readHeader`
reads every well-formed layout, hence `readMember` reads such a member (and the EOF marker) back.
-/
import Hts.Model.Member
import Hts.Lemmas.GzipLayout
import Hts.Lemmas.Bytes
namespace Hts.Model.Member
open Hts.Model
open Hts.Lemmas.Gzip (zfield Layout)

theorem toNat_ofNat_mod (n : Nat) : (UInt8.ofNat (n % 256)).toNat = n % 256 := by simp

theorem u16_le16 (n : Nat) (h : n < 65536) :
    u16 (UInt8.ofNat (n % 256)) (UInt8.ofNat (n / 256 % 256)) = n := by
  rw [u16, toNat_ofNat_mod, toNat_ofNat_mod, Hts.Lemmas.digits2, Nat.mod_eq_of_lt h]

theorem u32_le32 (n : Nat) (h : n < 2 ^ 32) :
    u32 (UInt8.ofNat (n % 256)) (UInt8.ofNat (n / 256 % 256)) (UInt8.ofNat (n / 65536 % 256))
      (UInt8.ofNat (n / 16777216 % 256)) = n := by
  simp only [u32, toNat_ofNat_mod, Hts.Lemmas.digits4, Nat.mod_eq_of_lt h]

theorem le32_ne_zero (n : Nat) (h0 : n ≠ 0) (hn : n < 2 ^ 32) : le32 n ≠ [0, 0, 0, 0] := by
  intro h
  have := u32_le32 n hn
  simp only [le32, List.cons.injEq, and_true] at h
  rw [h.1, h.2.1, h.2.2.1, h.2.2.2] at this
  exact h0 this.symm

theorem le32_length (n : Nat) : (le32 n).length = 4 := rfl
theorem le16_length (n : Nat) : (le16 n).length = 2 := rfl

theorem ofNat_ne_zero (v : Nat) (h : v ≠ 0 ∧ v ≤ 255) : UInt8.ofNat v ≠ 0 := by
  intro e
  have := congrArg UInt8.toNat e
  simp at this; omega

/-- the header settings gzip.Writer accepts -/
structure HdrOK (h : Header) : Prop where
  extra_le : 6 + h.extra.length ≤ 0xffff
  name_ok : ∀ v ∈ h.name, v ≠ 0 ∧ v ≤ 255
  comment_ok : ∀ v ∈ h.comment, v ≠ 0 ∧ v ≤ 255

instance (h : Header) : Decidable (HdrOK h) :=
  if h1 : 6 + h.extra.length ≤ 0xffff ∧ (∀ v ∈ h.name, v ≠ 0 ∧ v ≤ 255) ∧ (∀ v ∈ h.comment, v ≠ 0 ∧ v ≤ 255)
  then isTrue ⟨h1.1, h1.2.1, h1.2.2⟩ else isFalse (fun k => h1 ⟨k.1, k.2, k.3⟩)

/-- a header string on the wire: nothing when empty, else its Latin-1 bytes and a NUL -/
def zbytes (s : List Nat) : List Byte := if s = [] then [] else s.map UInt8.ofNat ++ [0]

def flgOf (h : Header) : Byte := 4 + (if h.name = [] then 0 else 8) + (if h.comment = [] then 0 else 16)

/-- an optional NUL-terminated header field on the wire -/
def optz (present : Bool) (bs : List Byte) : List Byte := if present then bs ++ [0] else []

theorem zbytes_optz (s : List Nat) : zbytes s = optz (decide (s ≠ [])) (s.map UInt8.ofNat) := by
  by_cases h : s = [] <;> simp [zbytes, optz, h]

theorem latin1_ne_zero {s : List Nat} (hs : ∀ v ∈ s, v ≠ 0 ∧ v ≤ 255) : ∀ b ∈ s.map UInt8.ofNat, b ≠ 0 := by
  intro b hb
  obtain ⟨v, hv, rfl⟩ := List.mem_map.mp hb
  exact ofNat_ne_zero v (hs v hv)

/-- the gzip header bgzf.Writer writes under header settings `h`, with `bsz` in the BSIZE field -/
def writerHeader (c : CodecFns) (h : Header) (bsz : Nat) : List Byte :=
  0x1f :: 0x8b :: 8 :: flgOf h ::
  UInt8.ofNat (h.mtime % 2 ^ 32 % 256) :: UInt8.ofNat (h.mtime % 2 ^ 32 / 256 % 256) ::
  UInt8.ofNat (h.mtime % 2 ^ 32 / 65536 % 256) :: UInt8.ofNat (h.mtime % 2 ^ 32 / 16777216 % 256) ::
  c.xfl :: h.os ::
  UInt8.ofNat ((6 + h.extra.length) % 256) :: UInt8.ofNat ((6 + h.extra.length) / 256 % 256) ::
  66 :: 67 :: 2 :: 0 :: UInt8.ofNat (bsz % 256) :: UInt8.ofNat (bsz / 256 % 256) ::
  (h.extra ++ (optz (decide (h.name ≠ [])) (h.name.map UInt8.ofNat) ++
    optz (decide (h.comment ≠ [])) (h.comment.map UInt8.ofNat)))

/-- `writerHeader` as an instance of the general header layout -/
def writerLayout (c : CodecFns) (h : Header) (bsz : Nat) : Layout :=
  { flg := flgOf h, m0 := UInt8.ofNat (h.mtime % 2 ^ 32 % 256), m1 := UInt8.ofNat (h.mtime % 2 ^ 32 / 256 % 256),
    m2 := UInt8.ofNat (h.mtime % 2 ^ 32 / 65536 % 256), m3 := UInt8.ofNat (h.mtime % 2 ^ 32 / 16777216 % 256),
    xfl := c.xfl, os := h.os,
    x0 := UInt8.ofNat ((6 + h.extra.length) % 256), x1 := UInt8.ofNat ((6 + h.extra.length) / 256 % 256),
    extra := 66 :: 67 :: 2 :: 0 :: UInt8.ofNat (bsz % 256) :: UInt8.ofNat (bsz / 256 % 256) :: h.extra,
    hasName := decide (h.name ≠ []), name := h.name.map UInt8.ofNat,
    hasComment := decide (h.comment ≠ []), comment := h.comment.map UInt8.ofNat }

theorem writerHeader_eq (c : CodecFns) (h : Header) (bsz : Nat) : writerHeader c h bsz = (writerLayout c h bsz).bytes := rfl

theorem writerLayout_wf (c : CodecFns) {h : Header} (hk : HdrOK h) (bsz : Nat) : (writerLayout c h bsz).WF :=
  ⟨(u16_le16 _ (by have := hk.extra_le; omega)).trans (by simp [writerLayout]; omega),
    latin1_ne_zero hk.name_ok, latin1_ne_zero hk.comment_ok⟩

/-- the header of the EOF marker -/
def markerLayout : Layout := ⟨4, 0, 0, 0, 0, 0, 255, 6, 0, [66, 67, 2, 0, 27, 0], false, [], false, []⟩

theorem markerLayout_wf : markerLayout.WF := ⟨rfl, by simp [markerLayout], by simp [markerLayout]⟩

/-- what follows the gzip header in the member for payload `p`: DEFLATE stream, CRC32, ISIZE -/
def memberBody (c : CodecFns) (p : List Byte) : List Byte :=
  c.deflate p ++ (le32 (c.crc32 p) ++ le32 (p.length % 2 ^ 32))

/-- the member `writeBlock` produces, with `bsz` in the BSIZE field -/
def memberBytes (c : CodecFns) (h : Header) (p : List Byte) (bsz : Nat) : List Byte :=
  writerHeader c h bsz ++ memberBody c p

def hdrLen (h : Header) : Nat := 18 + h.extra.length + (zbytes h.name).length + (zbytes h.comment).length

def memberLen (c : CodecFns) (h : Header) (p : List Byte) : Nat :=
  18 + h.extra.length + (zbytes h.name).length + (zbytes h.comment).length + (c.deflate p).length + 8

theorem memberLen_ge (c : CodecFns) (h : Header) (p : List Byte) : 18 ≤ memberLen c h p := by
  simp [memberLen]; omega

theorem writerHeader_length (c : CodecFns) (h : Header) (bsz : Nat) : (writerHeader c h bsz).length = hdrLen h := by
  simp [writerHeader, hdrLen, zbytes_optz]; omega

theorem memberBody_length (c : CodecFns) (p : List Byte) : (memberBody c p).length = (c.deflate p).length + 8 := by
  simp [memberBody, le32_length]

theorem memberLen_eq (c : CodecFns) (h : Header) (p : List Byte) :
    memberLen c h p = hdrLen h + ((c.deflate p).length + 8) := by
  simp only [memberLen, hdrLen]; omega

theorem fits_bsz (c : CodecFns) (h : Header) (p : List Byte) (hlen : memberLen c h p ≤ BgzfWriter.MaxBlockSize) :
    memberLen c h p - 1 < 65536 ∧
    memberLen c h p - 1 + 1 = (writerHeader c h (memberLen c h p - 1)).length + ((c.deflate p).length + 8) := by
  refine ⟨by simp [BgzfWriter.MaxBlockSize] at hlen; omega, ?_⟩
  rw [writerHeader_length, memberLen_eq]; omega

theorem memberBytes_length (c : CodecFns) (h : Header) (p : List Byte) (bsz : Nat) :
    (memberBytes c h p bsz).length = memberLen c h p := by
  rw [memberBytes, List.length_append, writerHeader_length, memberBody_length, memberLen_eq]

theorem latin1_eq_some (s : List Nat) : (∀ v ∈ s, v ≠ 0 ∧ v ≤ 255) → latin1 s = some (s.map UInt8.ofNat) := by
  intro h; simp only [latin1]; rw [if_pos]; simpa using h

theorem latin1_eq_none (s : List Nat) : ¬ (∀ v ∈ s, v ≠ 0 ∧ v ≤ 255) → latin1 s = none := by
  intro h; simp only [latin1]; rw [if_neg]; simpa using h

theorem latin1_field {s : List Nat} (hs : ∀ v ∈ s, v ≠ 0 ∧ v ≤ 255) :
    (if s = [] then some [] else (latin1 s).map (· ++ [0])) = some (zbytes s) := by
  rw [latin1_eq_some s hs, zbytes]
  split <;> rfl

theorem gzipHeader_ok (c : CodecFns) (h : Header) (hk : HdrOK h) : gzipHeader c h = .ok (writerHeader c h 0) := by
  have hx : (bgzfExtra ++ h.extra).length = 6 + h.extra.length := by simp [bgzfExtra]; omega
  have h1 : ¬ 6 + h.extra.length > 0xffff := by have := hk.extra_le; omega
  simp only [gzipHeader, hx, if_neg h1, latin1_field hk.name_ok, latin1_field hk.comment_ok]
  simp [writerHeader, zbytes_optz, flgOf, le32, le16, bgzfExtra]

theorem gzipHeader_bad (c : CodecFns) (h : Header) (hk : ¬ HdrOK h) : gzipHeader c h = .error .gzip := by
  simp only [gzipHeader]
  by_cases h1 : (bgzfExtra ++ h.extra).length > 0xffff
  · simp only [h1, if_true]
  · simp only [h1, if_false]
    have h1' : 6 + h.extra.length ≤ 0xffff := by simp [bgzfExtra] at h1; omega
    by_cases hn : ∀ v ∈ h.name, v ≠ 0 ∧ v ≤ 255
    · by_cases hc : ∀ v ∈ h.comment, v ≠ 0 ∧ v ≤ 255
      · exact absurd ⟨h1', hn, hc⟩ hk
      · have hcne : h.comment ≠ [] := by intro e; apply hc; simp [e]
        simp [latin1_eq_none _ hc, hcne]
    · have hnne : h.name ≠ [] := by intro e; apply hn; simp [e]
      simp [latin1_eq_none _ hn, hnne]

theorem findBC_member (c : CodecFns) (h : Header) (p : List Byte) (bsz : Nat) :
    findBC (memberBytes c h p bsz) = some 12 := by
  simp [findBC, memberBytes, writerHeader, indexOf, bgzfExtraPrefix, List.isPrefixOf]

theorem patch_member (c : CodecFns) (h : Header) (p : List Byte) :
    patch (memberBytes c h p 0) 12 =
      if memberLen c h p - 1 ≥ BgzfWriter.MaxBlockSize then .error .overflow
      else .ok (memberBytes c h p (memberLen c h p - 1)) := by
  simp only [patch, memberBytes_length]
  split
  · rfl
  · simp [memberBytes, writerHeader, List.set]

theorem writeBlock_eq (c : CodecFns) (h : Header) (p : List Byte) (hk : HdrOK h) :
    writeBlock c h p =
      if memberLen c h p - 1 ≥ BgzfWriter.MaxBlockSize then .error .overflow
      else .ok (memberBytes c h p (memberLen c h p - 1)) := by
  have hraw : rawMember c (writerHeader c h 0) p = memberBytes c h p 0 := rfl
  simp only [writeBlock, gzipHeader_ok c h hk, hraw, findBC_member, patch_member]

theorem writeBlock_ok (c : CodecFns) (h : Header) (p : List Byte) (hk : HdrOK h)
    (hlen : memberLen c h p ≤ BgzfWriter.MaxBlockSize) :
    writeBlock c h p = .ok (memberBytes c h p (memberLen c h p - 1)) := by
  rw [writeBlock_eq c h p hk, if_neg]
  have := memberLen_ge c h p
  omega

theorem writeBlock_overflow (c : CodecFns) (h : Header) (p : List Byte) (hk : HdrOK h)
    (hlen : BgzfWriter.MaxBlockSize < memberLen c h p) :
    writeBlock c h p = .error .overflow := by
  rw [writeBlock_eq c h p hk, if_pos]
  omega

theorem writeBlock_gzip (c : CodecFns) (h : Header) (p : List Byte) (hk : ¬ HdrOK h) :
    writeBlock c h p = .error .gzip := by
  simp [writeBlock, gzipHeader_bad c h hk]

theorem writeBlock_cases (c : CodecFns) (h : Header) (p : List Byte) :
    (HdrOK h ∧ memberLen c h p ≤ BgzfWriter.MaxBlockSize ∧
        writeBlock c h p = .ok (memberBytes c h p (memberLen c h p - 1))) ∨
    (HdrOK h ∧ BgzfWriter.MaxBlockSize < memberLen c h p ∧ writeBlock c h p = .error .overflow) ∨
    (¬ HdrOK h ∧ writeBlock c h p = .error .gzip) := by
  by_cases hk : HdrOK h
  · by_cases hl : memberLen c h p ≤ BgzfWriter.MaxBlockSize
    · exact Or.inl ⟨hk, hl, writeBlock_ok c h p hk hl⟩
    · exact Or.inr (Or.inl ⟨hk, by omega, writeBlock_overflow c h p hk (by omega)⟩)
  · exact Or.inr (Or.inr ⟨hk, writeBlock_gzip c h p hk⟩)

theorem takeN_append (a t : List Byte) : takeN a.length (a ++ t) = some (a, t) := by simp [takeN]

theorem readCString_append (fuel : Nat) (bs t : List Byte) (h : ∀ b ∈ bs, b ≠ 0) (hf : bs.length < fuel) :
    readCString fuel (bs ++ 0 :: t) = some (bs, t) := by
  induction bs generalizing fuel with
  | nil =>
    cases fuel with
    | zero => simp at hf
    | succ f => simp [readCString]
  | cons b bs ih =>
    cases fuel with
    | zero => simp at hf
    | succ f =>
      have hb : b ≠ 0 := h b (by simp)
      simp [readCString, hb, ih f (fun x hx => h x (by simp [hx])) (by simpa using hf)]

theorem readCString_zfield (pn : Bool) (nm t : List Byte) (hz : ∀ b ∈ nm, b ≠ 0) (hl : nm.length < 512) :
    (if pn = true then (readCString 512 (zfield pn nm ++ t)).map (fun (x, r) => (x ++ [0], r))
      else some ([], zfield pn nm ++ t)) = some (zfield pn nm, t) := by
  cases pn with
  | false => rfl
  | true => simp [zfield, readCString_append 512 nm t hz hl]

/-- header strings the gzip reader accepts (its string buffer holds 512 bytes including the NUL) -/
def ReaderOK (h : Header) : Prop := h.name.length ≤ 511 ∧ h.comment.length ≤ 511

theorem readerOK_default : ReaderOK {} := ⟨Nat.zero_le _, Nat.zero_le _⟩

theorem writerLayout_short (c : CodecFns) {h : Header} (hr : ReaderOK h) (bsz : Nat) : (writerLayout c h bsz).Short :=
  ⟨by rw [writerLayout, List.length_map]; exact Nat.lt_succ_of_le hr.1,
   by rw [writerLayout, List.length_map]; exact Nat.lt_succ_of_le hr.2⟩

theorem readHeader_layout (c : CodecFns) (L : Layout) (hw : L.WF) (hs : L.Short)
    (h4 : L.flg &&& 4 ≠ 0) (h8 : L.flg &&& 8 ≠ 0 ↔ L.hasName = true) (h16 : L.flg &&& 16 ≠ 0 ↔ L.hasComment = true)
    (h2 : ¬ L.flg &&& 2 ≠ 0) (t : List Byte) :
    readHeader c (L.bytes ++ t) = some (L.extra, t) := by
  have hid : ¬ ((0x1f : Byte) ≠ 0x1f ∨ (0x8b : Byte) ≠ 0x8b ∨ (8 : Byte) ≠ 8) := by decide
  have hx : u16 L.x0 L.x1 = L.extra.length := hw.xlen
  simp only [Layout.bytes, List.cons_append, List.append_assoc, readHeader, hid, if_false, if_pos h4, hx, takeN_append,
    Option.map_some, h8, h16, readCString_zfield _ _ _ hw.name_nz hs.1, readCString_zfield _ _ _ hw.comment_nz hs.2, if_neg h2]

theorem expectedMemberSize_bc (bsz : Nat) (hb : bsz < 65536) (ex : List Byte) :
    expectedMemberSize (66 :: 67 :: 2 :: 0 :: UInt8.ofNat (bsz % 256) :: UInt8.ofNat (bsz / 256 % 256) :: ex) = some (bsz + 1) := by
  simp [expectedMemberSize, indexOf, bgzfExtraPrefix, List.isPrefixOf, u16_le16 _ hb]

theorem readMember_framed (c : CodecFns) (H E cdata tr data rest : List Byte) (c0 c1 c2 c3 i0 i1 i2 i3 : Byte)
    (htr : tr = [c0, c1, c2, c3, i0, i1, i2, i3])
    (hH : readHeader c (H ++ (cdata ++ (tr ++ rest))) = some (E, cdata ++ (tr ++ rest)))
    (hE : expectedMemberSize E = some (H.length + (cdata.length + 8)))
    (hinf : c.inflate (cdata ++ tr) = some (data, cdata.length))
    (hcrc : u32 c0 c1 c2 c3 = c.crc32 data) (hisz : u32 i0 i1 i2 i3 = data.length % 2 ^ 32)
    (hd : data.length ≤ BgzfWriter.MaxBlockSize) :
    readMember c (H ++ (cdata ++ (tr ++ rest))) = some (data, rest) := by
  have hneed : H.length + (cdata.length + 8) - H.length = (cdata ++ tr).length := by simp [htr]
  have hlt : ¬ H.length + (cdata.length + 8) ≤ H.length := by omega
  have hskip : ∀ B : List Byte, (H ++ B).length - B.length = H.length := fun B => by
    rw [List.length_append, Nat.add_sub_cancel]
  rw [← List.append_assoc cdata] at hH ⊢
  simp only [readMember, hH, hE, hskip, if_neg hlt, hneed, takeN_append, hinf, List.drop_left]
  subst htr
  simp only [hcrc, hisz, hd, and_self, if_true]

theorem flgOf_and (h : Header) : flgOf h &&& 4 ≠ 0 ∧ (flgOf h &&& 8 ≠ 0 ↔ decide (h.name ≠ []) = true) ∧
    (flgOf h &&& 16 ≠ 0 ↔ decide (h.comment ≠ []) = true) ∧ ¬ flgOf h &&& 2 ≠ 0 := by
  by_cases hn : h.name = [] <;> by_cases hc : h.comment = [] <;> simp [flgOf, hn, hc] <;> decide

theorem readHeader_writer (c : CodecFns) (h : Header) (bsz : Nat) (t : List Byte) (hk : HdrOK h) (hr : ReaderOK h) :
    readHeader c (writerHeader c h bsz ++ t) =
      some (66 :: 67 :: 2 :: 0 :: UInt8.ofNat (bsz % 256) :: UInt8.ofNat (bsz / 256 % 256) :: h.extra, t) :=
  -- `writerHeader c h bsz` is `(writerLayout c h bsz).bytes` by definition (`writerHeader_eq`, `optz` being `zfield`)
  readHeader_layout c (writerLayout c h bsz) (writerLayout_wf c hk bsz) (writerLayout_short c hr bsz)
    (flgOf_and h).1 (flgOf_and h).2.1 (flgOf_and h).2.2.1 (flgOf_and h).2.2.2 t

theorem readMember_member (c : Codec) (h : Header) (p : List Byte) (rest : List Byte)
    (hk : HdrOK h) (hr : ReaderOK h) (hlen : memberLen c.toCodecFns h p ≤ BgzfWriter.MaxBlockSize)
    (hp : p.length ≤ BgzfWriter.MaxBlockSize) :
    readMember c.toCodecFns (memberBytes c.toCodecFns h p (memberLen c.toCodecFns h p - 1) ++ rest) = some (p, rest) := by
  obtain ⟨hb, hsz⟩ := fits_bsz c.toCodecFns h p hlen
  have hE := expectedMemberSize_bc _ hb h.extra
  rw [hsz] at hE
  rw [memberBytes, memberBody, List.append_assoc, List.append_assoc]
  exact readMember_framed c.toCodecFns _ _ _ _ p rest _ _ _ _ _ _ _ _ rfl (readHeader_writer _ h _ _ hk hr) hE
    (c.inflate_deflate p _) (u32_le32 _ (c.crc32_lt p)) (u32_le32 _ (Nat.mod_lt _ (by decide))) hp

theorem readMember_magic (c : Codec) (rest : List Byte) :
    readMember c.toCodecFns (magicBlock ++ rest) = some ([], rest) :=
  readMember_framed c.toCodecFns markerLayout.bytes markerLayout.extra [3, 0] [0, 0, 0, 0, 0, 0, 0, 0] [] rest
    0 0 0 0 0 0 0 0 rfl
    (readHeader_layout c.toCodecFns markerLayout markerLayout_wf ⟨by decide, by decide⟩ (by decide) (by decide)
      (by decide) (by decide) _)
    (by decide) (c.inflate_marker _) c.crc32_nil.symm rfl (by decide)

end Hts.Model.Member
