/-
What `tabix.ReadFrom` establishes: every tabix index it returns is well-formed (`TWF`).
-/
import Hts.Lemmas.IndexIOTabix
import Hts.Lemmas.IndexIORead
namespace Hts.Model.IndexIO
open Hts.Model.Index Hts.Model.Tabix

theorem splitNul_noNul (bs w : Bytes) (hw : w ∈ splitNul bs) (b : UInt8) (hb : b ∈ w) : b ≠ 0 :=
  fun e => Hts.Lemmas.Sep.splitOn_mem_no_sep bs w (splitNul_eq bs ▸ hw) (e ▸ hb)

theorem nameBlock_splitNul (bs : Bytes) : nameBlock (splitNul bs) = bs ++ [0] :=
  splitNul_eq bs ▸ Hts.Lemmas.Sep.flatMap_splitOn bs

theorem rTabixHeader_sat : Sat rTabixHeader fun r => HeaderOK r.1 r.2 := by
  intro bs
  unfold rTabixHeader
  refine rI32_sat.elim bs .err fun fmt r1 _ => ?_
  have hfmt : (fmt % 256).toNat < 256 := by omega
  dsimp only
  refine rI32_sat.elim r1 .err fun nc r2 h2 => ?_
  dsimp only
  refine rI32_sat.elim r2 .err fun bc r3 h3 => ?_
  dsimp only
  refine rI32_sat.elim r3 .err fun ec r4 h4 => ?_
  dsimp only
  refine rI32_sat.elim r4 .err fun mc r5 h5 => ?_
  dsimp only
  refine rI32_sat.elim r5 .err fun sk r6 h6 => ?_
  dsimp only
  refine rI32_sat.elim r6 .err fun n r7 h7 => ?_
  refine .ite_err fun _ => .ite (fun _ => .ok ?_) fun hn0 => ?_
  · exact
      { format := hfmt, nameCol := h2, begCol := h3, endCol := h4, metaChar := h5, skip := h6
        namesLen := Nat.zero_lt_succ _, noNul := fun _ hnm => absurd hnm List.not_mem_nil }
  refine (rBytes_sat n.toNat).elim r7 .err fun nb r8 h8 => ?_
  dsimp only
  cases hl : nb.getLast? with
  | none =>
    -- `names[len(names)-1]` is in range: the block has the announced, positive, length
    rw [List.getLast?_eq_none_iff.1 hl] at h8
    exact absurd h8 (by show ¬ 0 = n.toNat; omega)
  | some l =>
    refine .ite_err fun hl0 => .ok ?_
    -- the block ends in the NUL that `splitNul` is not given
    have hlast : nb = nb.dropLast ++ [0] := by
      have hne : nb ≠ [] := fun he => by rw [he] at hl; cases hl
      have hl' : nb.getLast hne = 0 := by
        rw [List.getLast?_eq_some_getLast hne] at hl
        rw [Option.some.inj hl]
        exact Decidable.not_not.1 hl0
      rw [← hl']
      exact (List.dropLast_concat_getLast hne).symm
    exact
      { format := hfmt, nameCol := h2, begCol := h3, endCol := h4, metaChar := h5, skip := h6
        namesLen := by
          show (nameBlock (splitNul nb.dropLast)).length < _
          rw [nameBlock_splitNul, ← hlast, h8]
          omega
        noNul := fun nm hnm => splitNul_noNul _ nm hnm }

theorem readTabix_good (bs : Bytes) : Good TWF (readTabix bs) := by
  unfold readTabix
  refine (rBytes_sat 4).elim bs .err fun m r1 _ => ?_
  refine .ite_err fun _ => ?_
  refine rI32_sat.elim r1 .err fun n r2 h2 => ?_
  dsimp only
  refine rTabixHeader_sat.elim r2 .err fun ⟨hd, names⟩ r3 h3 => ?_
  refine .ite_err fun hcount => ?_
  refine (rIndex_good h2.2 r3).elim .err fun i h4 => .ok ?_
  exact { idx := h4.1, hdr := h3, count := Int.ofNat_inj.1 ((Decidable.not_not.1 hcount).trans h4.2.symm) }

theorem readTabix_wf {bs : Bytes} {t : TIndex} (h : readTabix bs = .ok t) : TWF t := (readTabix_good bs).of_ok h

end Hts.Model.IndexIO
