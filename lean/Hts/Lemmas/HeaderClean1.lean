/-
A predicate on (name, data) of every object of a kind is kept by the generic operations (they copy, move and renumber
objects but only SetName, Clone-with-map and replace touch name or data).  With well-formedness for the predicate this is
the data invariant `DInv` of a world, under which every live header is `ApiBuilt ∧ UriCanon`.
-/
import Hts.Lemmas.HeaderApi
-- `fun_cases` / `fun_induction` on model functions are used here and in HeaderLine, HeaderParse, HeaderMerge,
-- HeaderRemove, HeaderStep.  Lean generates auxiliary lemmas about their `match`es in whichever module uses them first,
-- and two modules that did so independently cannot be imported together: hence this import.
import Hts.Lemmas.HeaderStep
namespace Hts.Model.Header
variable {α : Type}

theorem all_set {β : Type} {Q : β → Prop} {l : List β} (h : ∀ (i : Nat) (x : β), l[i]? = some x → Q x) (i : Nat) (y : β)
    (hy : Q y) : ∀ (j : Nat) (x : β), (l.set i y)[j]? = some x → Q x := by
  intro j x hj
  rw [List.getElem?_set] at hj
  split at hj
  · split at hj
    · cases hj; exact hy
    · cases hj
  · exact h j x hj

theorem all_snoc {β : Type} {Q : β → Prop} {l : List β} (h : ∀ (i : Nat) (x : β), l[i]? = some x → Q x) (y : β)
    (hy : Q y) : ∀ (j : Nat) (x : β), (l ++ [y])[j]? = some x → Q x := by
  intro j x hj
  rcases snoc_get hj with hj | ⟨_, rfl⟩
  · exact h j x hj
  · exact hy

def DH (P : Bytes → α → Prop) (heap : List (Obj α)) : Prop :=
  ∀ (o : Nat) (x : Obj α), heap[o]? = some x → P x.name x.dat

theorem dh_newTab {P : Bytes → α → Prop} {k : KW α} (h : DH P k.heap) : DH P k.newTab.heap := h

variable {P : Bytes → α → Prop}

theorem dh_set {heap : List (Obj α)} (h : DH P heap) (o : Nat) (y : Obj α) (hy : P y.name y.dat) : DH P (heap.set o y) :=
  all_set h o y hy

theorem dh_snoc {heap : List (Obj α)} (h : DH P heap) (y : Obj α) (hy : P y.name y.dat) : DH P (heap ++ [y]) :=
  all_snoc h y hy

theorem dh_shift (os : List Nat) (heap : List (Obj α)) (seen : Seen) (h : DH P heap) :
    DH P (KW.shift heap seen os).1 := by
  fun_induction KW.shift heap seen os with
  | case1 => exact h
  | case2 heap seen o os x hx ih => exact ih (dh_set h o _ (h o x hx))
  | case3 heap seen o os hx ih => exact ih h

theorem dh_cloneItems (hn : Nat) (os : List Nat) (heap : List (Obj α)) (h : DH P heap) :
    DH P (KW.cloneItems hn heap os).1 := by
  fun_induction KW.cloneItems hn heap os with
  | case1 => exact h
  | case2 heap o os x hx heap' os' he ih => exact fst_of_eq he ▸ ih (dh_snoc h _ (h o x hx))
  | case3 heap o os hx ih => exact ih h

theorem dh_alloc {k : KW α} (h : DH P k.heap) (x : Obj α) (hx : P x.name x.dat) :
    DH P (k.alloc x).1.heap := dh_snoc h x hx

theorem dh_addNewU {k : KW α} (h : DH P k.heap) (hn o : Nat) : DH P (k.addNewU hn o).heap := by
  fun_cases KW.addNewU k hn o
  · next x _ _ hx _ => exact dh_set h o _ (h o x hx)
  · exact h

theorem dh_addNew {k : KW α} (h : DH P k.heap) (hn o : Nat) : DH P (k.addNew hn o).1.heap :=
  addNew_cases k hn o (DH P ·.1.heap) ⟨h, h⟩ fun _ _ _ => dh_addNewU h hn o

theorem dh_addUniq {k : KW α} (h : DH P k.heap) (hn o : Nat) : DH P (k.addUniq hn o).1.heap :=
  addUniq_cases k hn o (DH P ·.1.heap) ⟨h, h⟩ fun _ _ _ _ _ _ => dh_addNewU h hn o

theorem dh_remove {k : KW α} (h : DH P k.heap) (hn o : Nat) : DH P (k.remove hn o).1.heap := by
  fun_cases KW.remove k hn o <;> try exact h
  next hs _ =>
  have h1 := fst_of_eq hs ▸ dh_shift _ _ _ h
  dsimp +zetaDelta only
  split
  · next x1 hx1 => exact dh_set h1 o _ (h1 o x1 hx1)
  · exact h1

theorem dh_setName {k : KW α} (h : DH P k.heap) (o : Nat) (n : Bytes)
    (hren : ∀ name d, P name d → P n d) : DH P (k.setName o n).1.heap := by
  have hx := fun x (hx : k.heap[o]? = some x) => dh_set h o { x with name := n } (hren _ _ (h o x hx))
  fun_cases KW.setName k o n <;> first | exact h | exact hx _ ‹_›

theorem dh_cloneObj {k : KW α} (h : DH P k.heap) (o : Nat) (f : α → α)
    (hf : ∀ name d, P name d → P name (f d)) : DH P (k.cloneObj o f).1.heap := by
  fun_cases KW.cloneObj k o f
  · next x hx _ _ he => cases he; exact dh_snoc h _ (hf _ _ (h o x hx))
  · exact h

theorem dh_cloneTab {k : KW α} (h : DH P k.heap) (s : Nat) : DH P (k.cloneTab s).heap := by
  fun_cases KW.cloneTab k s
  · next he => exact fst_of_eq he ▸ dh_cloneItems _ _ _ h
  · exact h

theorem dh_replace {k : KW α} (h : DH P k.heap) (hn : Nat) (slot : Int) (eo o : Nat) (d : α)
    (hd : ∀ r, k.heap[o]? = some r → P r.name d) : DH P (k.replace hn slot eo o d).heap := by
  fun_cases KW.replace k hn slot eo o d
  · next r er _ _ her hr _ _ => exact dh_set (dh_set h o _ (hd r hr)) eo _ (h eo er her)
  · exact h

theorem dh_foldl_addNewU (hn : Nat) : ∀ (os : List Nat) (k : KW α), DH P k.heap →
    DH P (os.foldl (fun k o => k.addNewU hn o) k).heap := by
  intro os
  induction os with
  | nil => intro k h; exact h
  | cons o os ih => intro k h; exact ih _ (dh_addNewU h hn o)

variable {E : Ext}

/-- `normRef d` (the pointer 0) and `freshUri q d` unfold to this map, so this is their well-formedness too -/
theorem wfRef_ptr {n : Bytes} {d : RefD} (q : Nat) (wf : WFRef E n d) :
    WFRef E n { d with uri := d.uri.map fun u => (q, u.2) } := by
  refine ⟨wf.name, wf.len, wf.md5, wf.asm, wf.sp, fun p u hu => ?_, wf.other⟩
  cases hd : d.uri with
  | none => simp [hd] at hu
  | some pu =>
    simp only [hd, Option.map_some, Option.some.injEq, Prod.mk.injEq] at hu
    exact wf.uri pu.1 u (by rw [hd, ← hu.2])

theorem wfRef_rename {n n' : Bytes} {d : RefD} (hn : Clean n') (wf : WFRef E n d) : WFRef E n' d :=
  ⟨hn, wf.len, wf.md5, wf.asm, wf.sp, wf.uri, wf.other⟩

theorem wfRg_rename {n n' : Bytes} {d : RgD} (hn : Clean n') (wf : WFRg E n d) : WFRg E n' d :=
  ⟨hn, wf.cn, wf.ds, wf.dt, wf.fo, wf.ks, wf.lb, wf.pg, wf.pi, wf.pl, wf.pu, wf.sm, wf.other⟩

theorem wfPg_rename {n n' : Bytes} {d : PgD} (hn : Clean n') (wf : WFPg n d) : WFPg n' d :=
  ⟨hn, wf.pn, wf.cl, wf.pp, wf.vn, wf.other⟩

theorem wfRef_inherit {n n' : Bytes} {r er : RefD} (wr : WFRef E n r) (we : WFRef E n' er) :
    WFRef E n (inherit r er) := by
  unfold inherit
  refine ⟨wr.name, wr.len, ?_, ?_, ?_, ?_, ?_⟩
  · simp only; split
    · exact we.md5
    · exact wr.md5
  · simp only; split
    · exact we.asm
    · exact wr.asm
  · simp only; split
    · exact we.sp
    · exact wr.sp
  · simp only; intro p u hu
    split at hu
    · exact we.uri p u hu
    · exact wr.uri p u hu
  · simp only; split
    · exact we.other
    · exact wr.other

theorem dh_addReference {k : KW RefD} (h : DH (WFRef E) k.heap) (hn o : Nat) :
    DH (WFRef E) (addReference k hn o).1.heap := by
  fun_cases addReference k hn o <;> first | exact h | exact dh_addNew h hn o | skip
  -- what is left is the branch in which the reference replaces a bare entry and inherits from it
  next r _ _ hr _ _ eo _ er her _ _ _ =>
  refine dh_replace h _ _ _ _ _ fun r' hr' => ?_
  cases hr.symm.trans hr'
  exact wfRef_inherit (h o r hr) (h eo er her)

theorem dh_mergeAdd (hn : Nat) (xs : List (Obj RefD)) (k : KW RefD) (p : Nat) (h : DH (WFRef E) k.heap)
    (hx : ∀ x ∈ xs, WFRef E x.name x.dat) : DH (WFRef E) (mergeAdd k p hn xs).1.heap := by
  fun_induction mergeAdd k p hn xs with
  | case1 => exact h
  | case2 k p hn x xs k1 o ha k2 hr ih =>
    cases ha
    exact ih (fst_of_eq hr ▸ dh_addReference (dh_alloc h _ (wfRef_ptr p (hx x List.mem_cons_self))) _ _)
      fun y hy => hx y (List.mem_cons_of_mem _ hy)
  | case3 k p hn x xs k1 o ha k2 r _ hr =>
    cases ha
    exact fst_of_eq hr ▸ dh_addReference (dh_alloc h _ (wfRef_ptr p (hx x List.mem_cons_self))) _ _

theorem dh_mergeSources (hn : Nat) (ss : List Nat) (k : KW RefD) (p : Nat) (h : DH (WFRef E) k.heap) :
    DH (WFRef E) (mergeSources k p hn ss).1.heap := by
  fun_induction mergeSources k p hn ss with
  | case1 => exact h
  | case2 k p hn s ss k1 p1 hm ih =>
    exact ih (fst_of_eq hm ▸ dh_mergeAdd hn _ k p h fun x hx => (objsOf_mem hx).elim fun o ho => h o x ho)
  | case3 k p hn s ss _ => exact dh_mergeAdd hn _ k p h fun x hx => (objsOf_mem hx).elim fun o ho => h o x ho

/-- the @HD fields of a header are well-formed (`WFHd` without the liveness flag) -/
structure HdOk (f : HdrF) : Prop where
  hd : f.version = [] → f.so = 0 ∧ f.go = 0 ∧ f.other = []
  ver : Clean f.version
  so : 0 ≤ f.so ∧ f.so ≤ 3
  go : 0 ≤ f.go ∧ f.go ≤ 3
  other : WFOther knownHd f.other
  comments : ∀ c ∈ f.comments, 10 ∉ c ∧ 13 ∉ c

theorem hdOk_empty : HdOk {} :=
  ⟨fun _ => ⟨rfl, rfl, rfl⟩, (by decide), (by decide), (by decide), wfOther_nil _, forall_nil⟩

theorem HdOk.setDead {f : HdrF} (ok : HdOk f) (b : Bool) : HdOk { f with dead := b } :=
  ⟨ok.hd, ok.ver, ok.so, ok.go, ok.other, ok.comments⟩

theorem hdOk_dead : HdOk { dead := true } := hdOk_empty.setDead true

theorem hdOk_comment {f : HdrF} (ok : HdOk f) {c : Bytes} (hc : 10 ∉ c ∧ 13 ∉ c) :
    HdOk { f with comments := f.comments ++ [c] } := by
  refine ⟨ok.hd, ok.ver, ok.so, ok.go, ok.other, fun c' hc' => ?_⟩
  rcases List.mem_append.1 hc' with h1 | h1
  · exact ok.comments c' h1
  · rw [List.mem_singleton.1 h1]; exact hc

structure DInv (E : Ext) (w : World) : Prop where
  refs : DH (WFRef E) w.refs.heap
  rgs : DH (WFRg E) w.rgs.heap
  pgs : DH WFPg w.pgs.heap
  hdrs : ∀ (h : Nat) (f : HdrF), w.hdrs[h]? = some f → HdOk f

theorem dinv_empty (E : Ext) : DInv E {} :=
  ⟨fun o x h => by simp at h, fun o x h => by simp at h, fun o x h => by simp at h, fun h f hf => by simp at hf⟩

theorem dinv_pushHeader {w : World} (d : DInv E w) (f : HdrF) (hf : HdOk f) : DInv E (pushHeader w f) :=
  ⟨d.refs, d.rgs, d.pgs, all_snoc d.hdrs f hf⟩

theorem dinv_setHdr {w : World} (d : DInv E w) (i : Nat) (f : HdrF) (hf : HdOk f) : DInv E (setHdr w i f) :=
  ⟨d.refs, d.rgs, d.pgs, all_set d.hdrs i f hf⟩

theorem dinv_markDead {w : World} (d : DInv E w) (i : Nat) : DInv E (markDead w i) := by
  unfold markDead
  split
  · next f hf => exact dinv_setHdr d i _ ((d.hdrs i f hf).setDead true)
  · exact d

theorem dinv_cloneHeader {w : World} (d : DInv E w) (h : Nat) : DInv E (cloneHeader w h) := by
  unfold cloneHeader
  split
  · next f hf =>
    exact ⟨dh_cloneTab d.refs h, dh_cloneTab d.rgs h, dh_cloneTab d.pgs h, all_snoc d.hdrs f (d.hdrs h f hf)⟩
  · exact dinv_pushHeader d _ hdOk_dead

theorem dinv_mergeInit {w : World} (d : DInv E w) (s0 : Nat) : DInv E (mergeInit w s0) := by
  unfold mergeInit
  dsimp only
  have d1 := dinv_cloneHeader d s0
  split
  · next f hf =>
    have := d1.hdrs _ f hf
    exact dinv_setHdr d1 _ _ ⟨fun _ => ⟨rfl, rfl, (this.hd (by assumption)).2.2⟩, this.ver, (by simp), (by simp), this.other, this.comments⟩
  · exact d1

theorem dinv_mergeHeaders {w : World} (d : DInv E w) (srcs : List Nat) : DInv E (mergeHeaders w srcs).1 := by
  unfold mergeHeaders
  split
  · next s0 s1 ss =>
    dsimp only
    have d2 := dinv_mergeInit d s0
    generalize mergeInit w s0 = w2 at d2
    have hk := dh_mergeSources (E := E) w.hdrs.length (s1 :: ss) w2.refs w2.nextUri d2.refs
    generalize mergeSources w2.refs w2.nextUri w.hdrs.length (s1 :: ss) = res at hk
    obtain ⟨k, p, r⟩ := res
    have d3 : DInv E { w2 with refs := k, nextUri := p } := ⟨hk, d2.rgs, d2.pgs, d2.hdrs⟩
    cases r
    case ok =>
      dsimp only
      split
      · exact d3
      · exact dinv_markDead d3 _
    all_goals exact dinv_markDead d3 _
  · exact dinv_pushHeader d _ hdOk_dead

theorem unmarshalText_nil (E : Ext) (w : World) (h : Nat) : unmarshalText E w h [] = (w, .ok) := rfl

theorem apiBuilt_of_dinv {w : World} (d : DInv E w) {h : Nat} (hl : live w h = true) :
    ApiBuilt E (view w h) ∧ UriCanon E (view w h) := by
  unfold live at hl
  cases hf : w.hdrs[h]? with
  | none => simp [hf] at hl
  | some f =>
    simp only [hf, Bool.not_eq_true'] at hl
    have ok := d.hdrs h f hf
    have hrefs : ∀ r ∈ (view w h).refs, WFRef E r.2.1 r.2.2 := by
      intro r hr
      simp only [view, List.mem_map] at hr
      obtain ⟨e, he, rfl⟩ := hr
      obtain ⟨o, x, hx, rfl⟩ := items_mem he
      exact wfRef_ptr 0 (d.refs o x hx)
    refine ⟨⟨?_, ?_, ?_, ?_⟩, ?_⟩
    · have : (view w h).f = f := by simp [view, hf]
      rw [this]
      exact ⟨ok.hd, ok.ver, ok.so, ok.go, ok.other, hl, ok.comments⟩
    · exact fun r hr => (hrefs r hr).api
    · intro r hr
      obtain ⟨o, x, hx, rfl⟩ := items_mem (show r ∈ items w.rgs h from hr)
      exact d.rgs o x hx
    · intro r hr
      obtain ⟨o, x, hx, rfl⟩ := items_mem (show r ∈ items w.pgs h from hr)
      exact d.pgs o x hx
    · intro r hr p u hu
      exact ((hrefs r hr).uri p u hu).2

end Hts.Model.Header
