/-
MergeHeaders: every source reference is linked to a reference the merged header owns, with the same name and length
(`mergeHeaders_ok`, of which `mergeHeaders_links`, the statement of C07's `merge_links`, is a part); the world stays
consistent whatever the outcome, and nothing panics (`winv_mergeHeaders`, `mergeHeaders_no_panic`).
-/
import Hts.Lemmas.HeaderParse
namespace Hts.Model.Header

theorem mapM_some_get {β γ : Type} (f : β → Option γ) : ∀ (l : List β) (r : List γ), l.mapM f = some r →
    r.length = l.length ∧ ∀ (j : Nat) (a : β), l[j]? = some a → ∃ b, r[j]? = some b ∧ f a = some b := by
  intro l
  induction l with
  | nil => intro r h; cases h; exact ⟨rfl, nofun⟩
  | cons a l ih =>
    intro r h
    rw [List.mapM_cons] at h
    cases hfa : f a with
    | none => rw [hfa] at h; cases h
    | some b =>
      cases hl : l.mapM f with
      | none => rw [hfa, hl] at h; cases h
      | some bs =>
        rw [hfa, hl] at h; cases h
        obtain ⟨h1, h2⟩ := ih bs hl
        refine ⟨congrArg (· + 1) h1, fun j a' hj => ?_⟩
        cases j with
        | zero => cases hj; exact ⟨b, rfl, hfa⟩
        | succ j => exact h2 j a' hj

theorem mapM_some_of {β γ : Type} (f : β → Option γ) : ∀ (l : List β), (∀ a ∈ l, ∃ b, f a = some b) →
    ∃ r, l.mapM f = some r := by
  intro l
  induction l with
  | nil => exact fun _ => ⟨[], rfl⟩
  | cons a l ih =>
    intro h
    obtain ⟨b, hb⟩ := h a List.mem_cons_self
    obtain ⟨r, hr⟩ := ih fun a' ha' => h a' (List.mem_cons_of_mem _ ha')
    exact ⟨b :: r, by rw [List.mapM_cons, hb, hr]; rfl⟩

/-- the header `hn` lists a reference of this name and length -/
def Has (k : KW RefD) (hn : Nat) (n : Bytes) (l : Int) : Prop :=
  ∃ (t : Tab) (i o : Nat) (y : Obj RefD), k.tabs[hn]? = some t ∧ t.items[i]? = some o ∧ k.heap[o]? = some y ∧
    y.name = n ∧ y.dat.len = l

/-- what the merge loop may change: only the merged header `hn`, which keeps what it has -/
structure MergeRel (k k' : KW RefD) (hn : Nat) : Prop where
  len : k'.tabs.length = k.tabs.length
  tabs : ∀ (s : Nat), s ≠ hn → k'.tabs[s]? = k.tabs[s]?
  heap : ∀ (q : Nat) (y : Obj RefD) (s : Nat), k.heap[q]? = some y → y.owner = some s → s ≠ hn → k'.heap[q]? = some y
  keep : ∀ (n : Bytes) (l : Int), Has k hn n l → Has k' hn n l

theorem MergeRel.refl (k : KW RefD) (hn : Nat) : MergeRel k k hn :=
  ⟨rfl, fun _ _ => rfl, fun _ _ _ h _ _ => h, fun _ _ h => h⟩

theorem MergeRel.trans {k k' k'' : KW RefD} {hn : Nat} (a : MergeRel k k' hn) (b : MergeRel k' k'' hn) :
    MergeRel k k'' hn :=
  ⟨b.len.trans a.len, fun s hs => (b.tabs s hs).trans (a.tabs s hs),
    fun q y s hy ho hs => b.heap q y s (a.heap q y s hy ho hs) ho hs, fun n l h => b.keep n l (a.keep n l h)⟩

theorem MergeRel.alloc (k : KW RefD) (x : Obj RefD) (hn : Nat) : MergeRel k (k.alloc x).1 hn :=
  ⟨rfl, fun _ _ => rfl, fun _ _ _ h _ _ => alloc_old k x h,
    fun _ _ ⟨t, i, o, y, h1, h2, h3, h4⟩ => ⟨t, i, o, y, h1, h2, alloc_old k x h3, h4⟩⟩

theorem inherit_len (r er : RefD) : (inherit r er).len = r.len := rfl

theorem addReference_rel {k : KW RefD} (hk : KInv k) (hn : Nat) {o : Nat} {x : Obj RefD} (ho : k.heap[o]? = some x) :
    KInv (addReference k hn o).1 ∧ (addReference k hn o).2 ≠ .panic ∧ MergeRel k (addReference k hn o).1 hn ∧
      ((addReference k hn o).2 = .ok → Has (addReference k hn o).1 hn x.name x.dat.len) := by
  refine ⟨(kinv_addReference hk hn o).1, addReference_no_panic hk hn o, ?_⟩
  refine addReference_cases hk hn o (fun res => MergeRel k res.1 hn ∧ (res.2 = .ok → Has res.1 hn x.name x.dat.len))
    ⟨⟨.refl k hn, nofun⟩, .refl k hn, nofun⟩ ?_ ?_
  · -- the name is known, `er` in slot `i` has it: nothing changes, or `o` takes the slot and `hn` has `o` for `er`
    intro r t i eo er hr ht hi her hn' hl
    cases ho.symm.trans hr
    refine ⟨⟨.refl k hn, fun _ => ⟨t, i, eo, er, ht, hi, her, hn', hl⟩⟩, fun hfree => ?_⟩
    have T := hk.tab hn t ht
    have hne : o ≠ eo := fun e => hk.free_unlisted ho hfree ht (e ▸ hi)
    have hget := replace_heap (s := i) (inherit x.dat er.dat) ho her ht hne
    have htab := replace_tabs (s := i) (inherit x.dat er.dat) ho her ht
    -- the closing `rfl` is `inherit_len`: the inherited data has the length of `x`
    have hnew : Has (k.replace hn i eo o (inherit x.dat er.dat)) hn x.name x.dat.len :=
      ⟨_, i, o, { x with owner := some hn, id := i, dat := inherit x.dat er.dat }, (htab hn).trans (if_pos rfl),
        by simp [set_get _ _ _ _ _ hi], by rw [hget, if_neg hne.symm, if_pos rfl], rfl, rfl⟩
    -- `.2` of `Keeps`: as many tables as before, which is `MergeRel.len`
    refine ⟨⟨(kinv_replace hk _ ht hi ho her hfree hn'.symm).2, fun s hs => (htab s).trans (if_neg (Ne.symm hs)), ?_, ?_⟩,
      fun _ => hnew⟩
    · exact fun q y s hy hys hs => (replace_other _ ho her ht hne hfree (T.listed hi her).1 q y s hys hs).2 hy
    · rintro n l ⟨t', i', o', y, h1, h2, h3, rfl, rfl⟩
      cases ht.symm.trans h1
      by_cases e : i = i'
      · subst e; cases hi.symm.trans h2; cases her.symm.trans h3
        rw [hn', hl]; exact hnew
      · have h4 : eo ≠ o' := fun e' => e (T.inj hi (e' ▸ h2))
        have h5 : o ≠ o' := fun e' => hk.free_unlisted ho hfree ht (e' ▸ h2)
        exact ⟨_, i', o', y, (htab hn).trans (if_pos rfl), by simp [set_get _ _ _ _ _ hi, e, h2],
          by rw [hget, if_neg h4, if_neg h5, h3], rfl, rfl⟩
  · -- the name is new: `o` is appended, and `hn` has what it had and `o`
    intro r t hr ht hfree hnew
    cases ho.symm.trans hr
    have hget := addNewU_heap ho ht
    have htab := addNewU_tabs ho ht
    refine ⟨⟨(kinv_addNewU hk ho ht hfree hnew).2, fun s hs => (htab s).trans (if_neg (Ne.symm hs)), ?_, ?_⟩, ?_⟩
    · exact fun q y s hy hys hs => (addNewU_other ho ht hfree q y s hys hs).2 hy
    · rintro n l ⟨t', i', o', y, h1, h2, h3, rfl, rfl⟩
      cases ht.symm.trans h1
      have hne : o ≠ o' := fun e => hk.free_unlisted ho hfree ht (e ▸ h2)
      exact ⟨_, i', o', y, (htab hn).trans (if_pos rfl), append_get_some _ h2,
        by rw [hget, if_neg hne, h3], rfl, rfl⟩
    · exact fun _ => ⟨_, t.items.length, o, _, (htab hn).trans (if_pos rfl), by simp, (hget o).trans (if_pos rfl), rfl, rfl⟩

theorem freshUri_len (p : Nat) (d : RefD) : (freshUri p d).len = d.len := rfl

theorem mergeAdd_spec (hn : Nat) : ∀ (xs : List (Obj RefD)) (k : KW RefD) (p : Nat), KInv k →
    KInv (mergeAdd k p hn xs).1 ∧ MergeRel k (mergeAdd k p hn xs).1 hn ∧ (mergeAdd k p hn xs).2.2 ≠ .panic ∧
      ((mergeAdd k p hn xs).2.2 = .ok → ∀ x ∈ xs, Has (mergeAdd k p hn xs).1 hn x.name x.dat.len) := by
  intro xs
  induction xs with
  | nil => exact fun k p hk => ⟨hk, .refl _ _, nofun, fun _ => nofun⟩
  | cons x xs ih =>
    intro k p hk
    -- the allocated copy has the name of `x` and, by `freshUri_len`, its length: so `c` below speaks of `x`
    have h := addReference_rel (kinv_alloc hk { x with owner := none, id := -1, dat := freshUri p x.dat } rfl) hn (alloc_heap k _)
    rw [mergeAdd]
    dsimp only
    generalize addReference _ hn _ = res at h
    obtain ⟨k2, r⟩ := res
    obtain ⟨hk2, hnp, b, c⟩ := h
    cases r
    case ok =>
      obtain ⟨a', b', n', c'⟩ := ih k2 (p + 1) hk2
      refine ⟨a', (MergeRel.alloc k _ hn).trans (b.trans b'), n', fun e y hy => ?_⟩
      rcases List.mem_cons.1 hy with rfl | hy
      · exact b'.keep _ _ (c rfl)
      · exact c' e y hy
    all_goals exact ⟨hk2, (MergeRel.alloc k _ hn).trans b, hnp, nofun⟩

theorem objsOf_frame {k k' : KW RefD} {hn s : Nat} (hk : KInv k) (m : MergeRel k k' hn) (hs : s ≠ hn) :
    objsOf k' s = objsOf k s :=
  objsOf_congr hk (m.tabs s hs) fun q y hy ho => m.heap q y s hy ho hs

theorem mergeSources_spec (hn : Nat) : ∀ (ss : List Nat) (k : KW RefD) (p : Nat), KInv k →
    KInv (mergeSources k p hn ss).1 ∧ MergeRel k (mergeSources k p hn ss).1 hn ∧ (mergeSources k p hn ss).2.2 ≠ .panic ∧
      ((∀ s ∈ ss, s ≠ hn) → (mergeSources k p hn ss).2.2 = .ok →
        ∀ s ∈ ss, ∀ x ∈ objsOf (mergeSources k p hn ss).1 s, Has (mergeSources k p hn ss).1 hn x.name x.dat.len) := by
  intro ss
  induction ss with
  | nil => exact fun k p hk => ⟨hk, .refl _ _, nofun, fun _ _ => nofun⟩
  | cons s ss ih =>
    intro k p hk
    have h := mergeAdd_spec hn (objsOf k s) k p hk
    rw [mergeSources]
    generalize mergeAdd k p hn (objsOf k s) = res at h
    obtain ⟨k1, p1, r⟩ := res
    obtain ⟨a, b, n, c⟩ := h
    cases r
    case ok =>
      obtain ⟨a', b', n', c'⟩ := ih k1 p1 a
      refine ⟨a', b.trans b', n', fun hne e s' hs' x hx => ?_⟩
      rcases List.mem_cons.1 hs' with rfl | hs'
      · rw [objsOf_frame a b' (hne s' List.mem_cons_self), objsOf_frame hk b (hne s' List.mem_cons_self)] at hx
        exact b'.keep _ _ (c rfl x hx)
      · exact c' (fun s'' hs'' => hne s'' (List.mem_cons_of_mem _ hs'')) e s' hs' x hx
    all_goals exact ⟨a, b, n, fun _ => nofun⟩

theorem linkOf_of_has {k : KW RefD} (hk : KInv k) {hn : Nat} {n : Bytes} {l : Int} (h : Has k hn n l) :
    ∃ (o : Nat) (y : Obj RefD) (t : Tab) (i : Nat), linkOf k hn n = some o ∧ k.heap[o]? = some y ∧ y.name = n ∧
      y.dat.len = l ∧ y.owner = some hn ∧ k.tabs[hn]? = some t ∧ y.id = (i : Int) ∧ t.items[i]? = some o := by
  obtain ⟨t, i, o, y, ht, hi, hy, hn', hl⟩ := h
  have T := hk.tab hn t ht
  have hkn := T.known i o y hi hy
  have hlst := T.listed hi hy
  refine ⟨o, y, t, i, ?_, hy, hn', hl, hlst.1, ht, hlst.2, hi⟩
  unfold linkOf
  simp only [ht, ← hn', hkn, Option.getD_some, idx_nat]; exact hi

theorem cloneTab_has {k : KW RefD} (hk : KInv k) {s : Nat} {t : Tab} (ht : k.tabs[s]? = some t) :
    ∀ x ∈ objsOf k s, Has (k.cloneTab s) k.tabs.length x.name x.dat.len := by
  obtain ⟨heap', e, _, _, h5⟩ := cloneTab_some hk ht
  rw [e]
  intro x hx
  simp only [objsOf, ht] at hx
  obtain ⟨o, ho, hox⟩ := List.mem_filterMap.1 hx
  obtain ⟨i, hi⟩ := List.mem_iff_getElem?.1 ho
  exact ⟨⟨List.range' k.heap.length t.items.length, t.seen⟩, i, k.heap.length + i, _, by simp,
    by rw [List.getElem?_range' (get_lt hi), Nat.one_mul], h5 i o x hi hox, rfl, rfl⟩

theorem mergeInit_refs {w : World} {s0 : Nat} (h : s0 < w.hdrs.length) :
    (mergeInit w s0).refs = w.refs.cloneTab s0 ∧ (mergeInit w s0).nextUri = w.nextUri := by
  obtain ⟨f, hf⟩ : ∃ f, w.hdrs[s0]? = some f := ⟨w.hdrs[s0], by simp [h]⟩
  unfold mergeInit cloneHeader
  simp only [hf]
  split <;> exact ⟨rfl, rfl⟩

/-- the link of every reference of every source: owned by the merged header, same name and length -/
def LinksOk (k : KW RefD) (hn : Nat) (srcs : List Nat) (ls : List (List Nat)) : Prop :=
  ls.length = srcs.length ∧
  ∀ (i s : Nat), srcs[i]? = some s → ∃ l, ls[i]? = some l ∧ l.length = (objsOf k s).length ∧
    ∀ (j : Nat) (x : Obj RefD), (objsOf k s)[j]? = some x →
      ∃ (o : Nat) (y : Obj RefD) (t : Tab) (n : Nat), l[j]? = some o ∧ k.heap[o]? = some y ∧
        y.name = x.name ∧ y.dat.len = x.dat.len ∧ y.owner = some hn ∧
        k.tabs[hn]? = some t ∧ y.id = (n : Int) ∧ t.items[n]? = some o

theorem linksOk_of_has {k : KW RefD} (hk : KInv k) {hn : Nat} {srcs : List Nat} {ls : List (List Nat)}
    (hhas : ∀ s ∈ srcs, ∀ x ∈ objsOf k s, Has k hn x.name x.dat.len)
    (hl : mergeLinks k hn srcs = some ls) : LinksOk k hn srcs ls := by
  unfold mergeLinks at hl
  obtain ⟨h1, h2⟩ := mapM_some_get _ _ _ hl
  refine ⟨h1, ?_⟩
  intro i s hi
  obtain ⟨l, hli, hl'⟩ := h2 i s hi
  obtain ⟨h3, h4⟩ := mapM_some_get _ _ _ hl'
  refine ⟨l, hli, h3, ?_⟩
  intro j x hj
  obtain ⟨o, hlo, hlink⟩ := h4 j x hj
  have hs : s ∈ srcs := List.mem_iff_getElem?.2 ⟨i, hi⟩
  have hx : x ∈ objsOf k s := List.mem_iff_getElem?.2 ⟨j, hj⟩
  obtain ⟨o', y, t, n, e1, e2, e3, e4, e5, e6, e7, e8⟩ := linkOf_of_has hk (hhas s hs x hx)
  rw [hlink] at e1; cases e1
  exact ⟨o, y, t, n, hlo, e2, e3, e4, e5, e6, e7, e8⟩

theorem objsOf_cloneTab {k : KW RefD} (hk : KInv k) {s0 s : Nat} {t : Tab} (ht : k.tabs[s0]? = some t)
    (hs : s < k.tabs.length) : objsOf (k.cloneTab s0) s = objsOf k s := by
  obtain ⟨heap', e, _, h3, _⟩ := cloneTab_some hk ht
  rw [e]
  exact objsOf_congr hk (List.getElem?_append_left hs) fun q y hy _ => h3 q y hy

theorem mergeSources_has {w : World} (hw : WInv w) {s0 s1 : Nat} {ss : List Nat}
    (hs : ∀ s ∈ s0 :: s1 :: ss, s < w.hdrs.length) {k : KW RefD} {p : Nat}
    (hm : mergeSources (mergeInit w s0).refs (mergeInit w s0).nextUri w.hdrs.length (s1 :: ss) = (k, p, .ok)) :
    KInv k ∧ (∀ s ∈ s0 :: s1 :: ss, objsOf k s = objsOf w.refs s) ∧
      ∀ s ∈ s0 :: s1 :: ss, ∀ x ∈ objsOf k s, Has k w.hdrs.length x.name x.dat.len := by
  have hs0 := hs s0 List.mem_cons_self
  obtain ⟨e1, e2⟩ := mergeInit_refs hs0
  rw [e1, e2] at hm
  have hlr := hw.lr
  have ht := List.getElem?_eq_getElem (hlr ▸ hs0 : s0 < w.refs.tabs.length)
  have hk0 := kinv_cloneTab hw.refs s0
  have c3 := cloneTab_has hw.refs ht
  rw [hlr] at c3
  have hne : ∀ s ∈ s0 :: s1 :: ss, s ≠ w.hdrs.length := fun s hs' e => Nat.lt_irrefl _ (e ▸ hs s hs')
  have h := mergeSources_spec w.hdrs.length (s1 :: ss) _ w.nextUri hk0
  rw [hm] at h
  obtain ⟨a, b, _, c⟩ := h
  have c := c (fun s hs' => hne s (List.mem_cons_of_mem _ hs')) rfl
  have hobj : ∀ s ∈ s0 :: s1 :: ss, objsOf k s = objsOf w.refs s := fun s hs' => by
    rw [objsOf_frame hk0 b (hne s hs'), objsOf_cloneTab hw.refs ht (hlr ▸ hs s hs')]
  refine ⟨a, hobj, fun s hs' x hx => ?_⟩
  rcases List.mem_cons.1 hs' with rfl | hs''
  · rw [hobj s hs'] at hx; exact b.keep _ _ (c3 x hx)
  · exact c s hs'' x hx

theorem mergeHeaders_ok {w w' : World} (hw : WInv w) {srcs : List Nat} {ls : List (List Nat)}
    (hs : ∀ s ∈ srcs, s < w.hdrs.length) (hm : mergeHeaders w srcs = (w', .ok, ls)) :
    KInv w'.refs ∧ LinksOk w'.refs w.hdrs.length srcs ls ∧ ∀ s ∈ srcs, objsOf w'.refs s = objsOf w.refs s := by
  unfold mergeHeaders at hm
  split at hm
  case h_2 => simp at hm
  next s0 s1 ss =>
  dsimp only at hm
  generalize hres : mergeSources _ _ _ _ = res at hm
  obtain ⟨k, p, r⟩ := res
  cases r
  case ok =>
    obtain ⟨a, hobj, hhas⟩ := mergeSources_has hw hs hres
    dsimp only at hm
    split at hm
    · next ls' hls =>
      cases hm
      exact ⟨a, linksOk_of_has a hhas hls, hobj⟩
    · simp at hm
  all_goals simp at hm

theorem mergeHeaders_links {w w' : World} (hw : WInv w) {srcs : List Nat} {ls : List (List Nat)}
    (hs : ∀ s ∈ srcs, s < w.hdrs.length) (hm : mergeHeaders w srcs = (w', .ok, ls)) :
    LinksOk w'.refs w.hdrs.length srcs ls ∧ ∀ s ∈ srcs, objsOf w'.refs s = objsOf w.refs s :=
  (mergeHeaders_ok hw hs hm).2

theorem mergeLinks_some {k : KW RefD} (hk : KInv k) {hn : Nat} (srcs : List Nat)
    (h : ∀ s ∈ srcs, ∀ x ∈ objsOf k s, Has k hn x.name x.dat.len) : ∃ ls, mergeLinks k hn srcs = some ls :=
  mapM_some_of _ _ fun s hs => mapM_some_of _ _ fun x hx =>
    let ⟨o, _, _, _, ho, _⟩ := linkOf_of_has hk (h s hs x hx); ⟨o, ho⟩

theorem winv_mergeInit {w : World} (hw : WInv w) (s0 : Nat) : WInv (mergeInit w s0) := by
  unfold mergeInit
  dsimp only
  split
  · exact winv_setHdr (winv_cloneHeader hw s0) _ _
  · exact winv_cloneHeader hw s0

theorem winv_mergeHeaders {w : World} (hw : WInv w) (srcs : List Nat) : WInv (mergeHeaders w srcs).1 := by
  unfold mergeHeaders
  split
  · next s0 s1 ss =>
    dsimp only
    have h2 := winv_mergeInit hw s0
    generalize mergeInit w s0 = w2 at h2
    obtain ⟨a, b, _⟩ := mergeSources_spec w.hdrs.length (s1 :: ss) w2.refs w2.nextUri h2.refs
    generalize mergeSources w2.refs w2.nextUri w.hdrs.length (s1 :: ss) = res at a b
    obtain ⟨k, p, r⟩ := res
    have h3 := winv_refs h2 w2.rpool p ⟨a, b.len⟩
    cases r
    case ok =>
      dsimp only
      split
      · exact h3
      · exact winv_markDead h3 _
    all_goals exact winv_markDead h3 _
  · exact winv_pushHeader hw _

theorem mergeHeaders_no_panic {w : World} (hw : WInv w) {srcs : List Nat} (hs : ∀ s ∈ srcs, s < w.hdrs.length) :
    (mergeHeaders w srcs).2.1 ≠ .panic := by
  fun_cases mergeHeaders w srcs <;> try exact Res.noConfusion
  · next hl => rw [hl]; nofun
  · -- the link loop indexes out of range only when a source reference is missing from the merged header
    next hm hl =>
    obtain ⟨a, _, c⟩ := mergeSources_has hw hs hm
    obtain ⟨ls, hls⟩ := mergeLinks_some a _ c
    rw [hl] at hls; cases hls
  · next hm =>
    -- `.2.2.1` of `mergeSources_spec`: its result is not `panic`
    exact (snd_of_eq (snd_of_eq hm)) ▸ (mergeSources_spec _ _ _ _ (winv_mergeInit hw _).refs).2.2.1

end Hts.Model.Header
