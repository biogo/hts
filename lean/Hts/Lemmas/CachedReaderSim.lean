/-
The argument shared by the theorems "the reader with caches returns what the reader without a cache returns"
(rd = 1): a simulation between a reader whose caches keep an invariant `I` and the same reader run without a cache.
`SimInv` is what the argument needs of `I`; Hts.Lemmas.CachedReader (every cache under the contract) and
Hts.Lemmas.CachedReaderFifo (FIFO on a tree with repair C03-5) supply the two invariants.
The uncached side needs no invariant: with no cache and no block on loan `fetch` is the decompression step.

Of this file the statements of Props/C03 mention `FileOK`, `Good`, `OpOK`, and `outputsOf`, the body of its `outputs`.
`Sim` and `ExRel` here, like `W` in the two invariant files, serve no proof: the relations of the argument are `Rel` and `Agree`.

Which lemma unfolds which model function (where to repair after a change): `cachePut` — `cachePut_spec`, `cachePut_error`;
`recycle` — `recycle_some`; `cacheSwap`, `markLent` — `cacheSwap_cases`, `cacheSwap_error`, `fetch_uncached`; `peekSkip` —
`peekSkip_miss`; `skipCached` — `skipCached_miss`, `fetch_uncached`; `lazyBlock` — `lazyBlock_setB`, `lazyBlock_cases`; `rebase`,
`failedBlk`, `loadAt` — `rebase_facts`, `failedBlk_facts`, `loadAt_eq`, `loadAt_frame`; `nextBlockAt`, `fetch` — `fetch_uncached`, `SimInv.fetch`;
`nextBlock` — `nextBlock_sim`; `seekFin`, `seek` — `seekFin_sim`, `seek_sim`; `skipEmpty` — `skipEmpty_sim`, `skipEmpty_post`;
`readLoop` — `readLoop_done`, `readLoop_exhausted`, `readLoop_data`; `read`, `readByte`, `byteFin` — `read_sim`, `readByte_eq_read`;
`newReader` — `newReader_eq`; `step` — `step_sim`; `run` — `run_sim`.  CacheHom unfolds them once more (its `x_hom`; its head says where those without one are handled),
CachedReaderC02Sim the uncached ones a third time.
-/
import Hts.Model.CachedReader
import Hts.Lemmas.CacheContract
namespace Hts.Model.CachedReader
open Hts.Model.Cache Hts.Spec.CacheContract

variable {σ : Type}

theorem perm_eraseIdx {α : Type} (l : List α) (i : Nat) (c : α) (h : l[i]? = some c) : l.Perm (c :: l.eraseIdx i) := by
  obtain ⟨hi, rfl⟩ := List.getElem?_eq_some_iff.1 h
  rw [List.eraseIdx_eq_take_drop_succ]
  conv => lhs; rw [← List.take_append_drop i l, List.drop_eq_getElem_cons hi]
  exact List.perm_middle

/-- the reader `NewReader` starts from: no block, no cache -/
def Reader.init : Reader σ := ⟨fun _ => {}, 0, none, .none, (0, 0), (0, 0), false, none, [], none, []⟩

theorem newReader_eq (o : CacheOps σ) (cfg : Cfg) (f : File) :
    newReader o cfg f = .ok (loadAt cfg f Reader.init 0) := rfl

/-- members have a positive size (so the next member starts strictly after this one) -/
def FileOK (f : File) : Prop := ∀ m ∈ f, 0 < m.size

/-- the block holds the member that starts at `k` -/
def Good (f : File) (k : Int) (b : RBlk) : Prop :=
  b.base = k ∧ b.hasData = true ∧ b.offFile = k ∧
    ∃ m, f.find k = some m ∧ b.data = m.data ∧ b.hsize = m.size

theorem find_mem {f : File} {k : Int} {m : Member} (h : f.find k = some m) : m ∈ f ∧ m.base = k :=
  ⟨List.mem_of_find?_eq_some h, by simpa using List.find?_some h⟩

theorem Good.next_ne {f : File} (hf : FileOK f) {k : Int} {b : RBlk} (g : Good f k b) : b.next ≠ b.base := by
  obtain ⟨_, _, _, m, hm, _, hs⟩ := g
  have := hf m (find_mem hm).1
  unfold RBlk.next
  rw [hs]
  split <;> omega

/-- the two current blocks look the same to the reader -/
def BlkEq (a b : RBlk) : Prop :=
  a.offFile = b.offFile ∧ a.offBlock = b.offBlock ∧ a.hasData = b.hasData ∧
    (a.hasData = true → a.base = b.base ∧ a.data = b.data ∧ a.pos = b.pos ∧ a.hsize = b.hsize)

theorem BlkEq.refl (a : RBlk) : BlkEq a a := ⟨rfl, rfl, rfl, fun _ => ⟨rfl, rfl, rfl, rfl⟩⟩

theorem BlkEq.txOffset {a b : RBlk} (h : BlkEq a b) : a.txOffset = b.txOffset := by
  obtain ⟨h1, h2, h3, h4⟩ := h
  by_cases hd : a.hasData = true
  · obtain ⟨h5, h6, h7, h8⟩ := h4 hd
    cases a; cases b
    simp only at h1 h2 h3 h5 h6 h7 h8
    subst h1 h2 h3 h5 h6 h7 h8
    rfl
  · have hd' : a.hasData = false := by simpa using hd
    have hb : b.hasData = false := by rw [← h3]; exact hd'
    simp [RBlk.txOffset, hd', hb, h1, h2]

theorem BlkEq.next {a b : RBlk} (h : BlkEq a b) (hd : a.hasData = true) : a.next = b.next := by
  obtain ⟨h5, _, _, h8⟩ := h.2.2.2 hd
  unfold RBlk.next
  rw [h5, h8]

theorem BlkEq.len {a b : RBlk} (h : BlkEq a b) : a.len = b.len := by
  unfold RBlk.len
  rw [← h.2.2.1]
  split
  · rename_i hd
    obtain ⟨_, h6, h7, _⟩ := h.2.2.2 hd
    rw [h6, h7]
  · rfl

theorem BlkEq.hasData {a b : RBlk} (h : BlkEq a b) : a.hasData = b.hasData := h.2.2.1

theorem BlkEq.setPos {a b : RBlk} (h : BlkEq a b) (p q : Nat) (u u' : Bool) :
    BlkEq { a with pos := p, offBlock := q, used := u } { b with pos := p, offBlock := q, used := u' } :=
  ⟨h.1, rfl, h.2.2.1, fun hd => ⟨(h.2.2.2 hd).1, (h.2.2.2 hd).2.1, rfl, (h.2.2.2 hd).2.2.2⟩⟩

theorem BlkEq.advance {a b : RBlk} (h : BlkEq a b) (hd : a.hasData = true) (k : Nat) (u u' : Bool) :
    BlkEq { a with pos := a.pos + k, offBlock := (a.offBlock + k) % 65536, used := u }
      { b with pos := b.pos + k, offBlock := (b.offBlock + k) % 65536, used := u' } := by
  rw [← h.2.1, ← (h.2.2.2 hd).2.2.1]
  exact h.setPos _ _ u u'

/-- everything but the caches agrees -/
structure Sim (C U : Reader σ) : Prop where
  err : C.err = U.err
  cb : C.chunkBegin = U.chunkBegin
  ce : C.chunkEnd = U.chunkEnd
  blocked : C.blocked = U.blocked
  ucache : U.cache = none
  cur : ∃ c u, C.cur = some c ∧ U.cur = some u ∧ BlkEq (C.heap c) (U.heap u)
  live : C.err = .none → ∀ c, C.cur = some c → (C.heap c).hasData = true

@[simp] theorem setB_same (r : Reader σ) (id : Nat) (b : RBlk) : (r.setB id b).heap id = b := by
  simp [Reader.setB]

theorem setB_other (r : Reader σ) {id j : Nat} (b : RBlk) (h : j ≠ id) : (r.setB id b).heap j = r.heap j := by
  simp [Reader.setB, h]

theorem markLent_eq (r : Reader σ) (b : Bool) (id : Nat) :
    markLent r b id = { r with lent := if b then some id else r.lent } := by
  cases b <;> rfl

@[simp] theorem markLent_cache (r : Reader σ) (b : Bool) (id : Nat) : (markLent r b id).cache = r.cache := by
  rw [markLent_eq]

/-- what the reader relies on of one `Put` into a well-formed cache: no panic, and the table gains at most the
block put, under its base -/
def PutSub (o : CacheOps σ) (wf : σ → Prop) : Prop :=
  ∀ (h : Heap) (c : σ) (id : Nat) (hint : Option Nat) (c2 : σ) (res : PutRes), wf c →
    o.put h c id hint = some (c2, res) →
    wf c2 ∧ res ≠ .panic ∧ (∀ e ∈ o.held c2, e ∈ o.held c ∨ e = ⟨(h id).base, id⟩) ∧
      (res = .refused → o.held c2 = o.held c)

theorem _root_.Hts.Spec.CacheContract.Contract.putSub {o : CacheOps σ} {wf : σ → Prop} (ct : Contract o wf) :
    PutSub o wf := by
  intro h c id hint c2 res hw hp
  have hw2 := ct.put_wf _ _ _ _ _ _ hw hp
  cases res with
  | refused =>
    have hh := ct.put_refused _ _ _ _ _ hw hp
    exact ⟨hw2, nofun, fun e he => Or.inl (hh ▸ he), fun _ => hh⟩
  | panic => exact absurd hp (ct.put_no_panic _ _ _ _ _ hw)
  | kept ev =>
    obtain ⟨_, _, _, hk⟩ := ct.put_kept_mem hw hp
    exact ⟨hw2, nofun, fun e he => ((hk e).1 he).symm.imp_left And.left, nofun⟩

/-- what the reader relies on of `Peek` on a well-formed cache: a hit is for a held key -/
def PeekSub (o : CacheOps σ) (wf : σ → Prop) : Prop :=
  ∀ (h : Heap) (c : σ) (k nx : Int), wf c → o.peek h c k = (true, nx) → ∃ e ∈ o.held c, e.key = k

theorem _root_.Hts.Spec.CacheContract.Contract.peekSub {o : CacheOps σ} {wf : σ → Prop} (ct : Contract o wf) :
    PeekSub o wf := fun h c k nx hw hp =>
  let ⟨_, hm, _⟩ := ct.peek_hit h c k nx hw hp
  ⟨_, hm, rfl⟩

theorem cachePut_spec {o : CacheOps σ} {wf : σ → Prop} (ps : PutSub o wf) {r r2 : Reader σ} {c c2 : σ}
    {b back : Option Nat} {ret : Bool} (hw : wf c) (h : cachePut o r c b = .ok (r2, c2, back, ret)) :
    (∃ hs, r2 = { r with hints := hs }) ∧ wf c2 ∧
    (∀ e ∈ o.held c2, e ∈ o.held c ∨
      ∃ id, b = some id ∧ (r.heap id).hasData = true ∧ e = ⟨(r.heap id).base, id⟩) ∧
    (ret = false → back = b ∧ o.held c2 = o.held c) := by
  unfold cachePut at h
  cases b with
  | none => cases h; exact ⟨⟨_, rfl⟩, hw, fun e he => Or.inl he, fun _ => ⟨rfl, rfl⟩⟩
  | some id =>
    simp only at h
    split at h
    · cases h; exact ⟨⟨_, rfl⟩, hw, fun e he => Or.inl he, fun _ => ⟨rfl, rfl⟩⟩
    · rename_i hd
      have hd : (r.heap id).hasData = true := by simpa using hd
      split at h <;> cases h
      all_goals
        rename_i hp
        obtain ⟨w2, _, hsub, href⟩ := ps _ _ _ _ _ _ hw hp
        refine ⟨⟨_, rfl⟩, w2, fun e he => (hsub e he).imp_right fun h => ⟨id, rfl, hd, h⟩, ?_⟩
      · exact fun _ => ⟨rfl, href rfl⟩
      · exact nofun
      · exact nofun

theorem cachePut_error {o : CacheOps σ} {wf : σ → Prop} (ps : PutSub o wf) {r : Reader σ} {c : σ}
    {b : Option Nat} {e : Fault} (hw : wf c) (h : cachePut o r c b = .error e) :
    e = .badHint ∧ ∃ id hint, o.put r.hview c id hint = none := by
  unfold cachePut at h
  cases b with
  | none => cases h
  | some id =>
    simp only at h
    split at h
    · cases h
    · split at h <;> cases h <;> rename_i hp
      · exact ⟨rfl, _, _, hp⟩
      · exact absurd rfl (ps _ _ _ _ _ _ hw hp).2.1

theorem cacheSwap_error {o : CacheOps σ} {wf : σ → Prop} (ps : PutSub o wf)
    (hget : ∀ h c k, wf c → wf (o.get h c k).1) {cfg : Cfg} {r : Reader σ} {k : Int} {e : Fault}
    (hw : ∀ c, r.cache = some c → wf c) (h : cacheSwap cfg o r k = .error e) :
    e = .badHint ∧ ∃ h c id hint, o.put h c id hint = none := by
  unfold cacheSwap at h
  cases hc : r.cache with
  | none => rw [hc] at h; simp only at h; split at h <;> cases h
  | some c =>
    rw [hc] at h
    have hw1 := hget r.hview c k (hw c hc)
    simp only at h
    split at h
    all_goals
      rename_i hg
      rw [hg] at hw1
      split at h <;> cases h
      rename_i hp
      exact ⟨(cachePut_error ps hw1 hp).1, _, _, (cachePut_error ps hw1 hp).2⟩

theorem recycle_some {cfg : Cfg} {o : CacheOps σ} {r2 : Reader σ} {c2 : σ} {ret : Bool} {back : Option Nat} {id : Nat}
    (h : recycle cfg o r2 c2 ret back = some id) :
    ret = false ∧ back = some id ∧ (cfg.lentGuard = true → r2.lent ≠ some id) := by
  unfold recycle at h
  cases ret with
  | true => cases h
  | false =>
    cases back with
    | none => cases h
    | some j =>
      simp only [Bool.false_eq_true, if_false] at h
      split at h
      · cases h
      · rename_i hg
        cases h
        exact ⟨rfl, rfl, fun hl hh => hg (by rw [hl, hh]; simp)⟩

/-- `a` is `b` after reading from it / seeking inside it: what a table relies on is unchanged -/
def Keep (a b : RBlk) : Prop :=
  a.base = b.base ∧ a.hasData = b.hasData ∧ a.offFile = b.offFile ∧ a.data = b.data ∧ a.hsize = b.hsize ∧
    (b.used = true → a.used = true)

theorem Keep.refl (a : RBlk) : Keep a a := ⟨rfl, rfl, rfl, rfl, rfl, fun h => h⟩

theorem Keep.used {a b : RBlk} (h : Keep a b) : b.used = true → a.used = true := h.2.2.2.2.2

theorem Keep.good {f : File} {k : Int} {a b : RBlk} (h : Keep a b) (g : Good f k b) : Good f k a := by
  obtain ⟨h1, h2, h3, h4, h5, _⟩ := h
  obtain ⟨g1, g2, g3, m, hm, g4, g5⟩ := g
  exact ⟨h1 ▸ g1, h2 ▸ g2, h3 ▸ g3, m, hm, h4 ▸ g4, h5 ▸ g5⟩

theorem Keep.setB (r : Reader σ) (id p q : Nat) {u : Bool} (hu : (r.heap id).used = true → u = true) (j : Nat) :
    Keep ((r.setB id { r.heap id with pos := p, offBlock := q, used := u }).heap j) (r.heap j) := by
  by_cases hj : j = id
  · subst hj; rw [setB_same]; exact ⟨rfl, rfl, rfl, rfl, rfl, hu⟩
  · rw [setB_other _ _ hj]; exact Keep.refl _

/-- `cacheSwap` inverted (no cache; hit; miss), with `cachePut_spec` applied and its facts carried back to `r` -/
theorem cacheSwap_cases {o : CacheOps σ} {wf : σ → Prop} (ps : PutSub o wf)
    (hget : ∀ h c k, wf c → wf (o.get h c k).1) {cfg : Cfg} {r r1 : Reader σ} {k : Int} {hit : Bool}
    (hw : ∀ c, r.cache = some c → wf c) (h : cacheSwap cfg o r k = .ok (r1, hit)) :
    (r.cache = none ∧ hit = false ∧
      ((r1 = r ∧ (cfg.lentGuard && r.cur.isSome && r.lent == r.cur) = false) ∨ r1 = { r with cur := none })) ∨
    (∃ c c1 id c2 hs, r.cache = some c ∧ o.get r.hview c k = (c1, some id) ∧ hit = true ∧
      r1 = { r.setB id { r.heap id with pos := 0, offBlock := 0 } with
              hints := hs, lent := if (cfg.lentGuard && (o.peek r.hview c1 k).1) = true then some id else r.lent,
              cache := some c2, cur := some id } ∧
      wf c2 ∧ ∀ e ∈ o.held c2, e ∈ o.held c1 ∨
        ∃ y, r.cur = some y ∧ (r.heap y).hasData = true ∧ e = ⟨(r.heap y).base, y⟩) ∨
    (∃ c c1 c2 hs back ret, r.cache = some c ∧ o.get r.hview c k = (c1, none) ∧ hit = false ∧
      r1 = { r with hints := hs, cache := some c2, cur := recycle cfg o { r with hints := hs } c2 ret back } ∧
      wf c2 ∧ (∀ e ∈ o.held c2, e ∈ o.held c1 ∨
        ∃ y, r.cur = some y ∧ (r.heap y).hasData = true ∧ e = ⟨(r.heap y).base, y⟩) ∧
      ∀ j, recycle cfg o { r with hints := hs } c2 ret back = some j →
        r.cur = some j ∧ o.held c2 = o.held c1 ∧ (cfg.lentGuard = true → r.lent ≠ some j)) := by
  unfold cacheSwap at h
  cases hc : r.cache with
  | none =>
    rw [hc] at h; simp only at h
    split at h <;> cases h
    · exact Or.inl ⟨rfl, rfl, Or.inr rfl⟩
    · exact Or.inl ⟨rfl, rfl, Or.inl ⟨rfl, Bool.eq_false_iff.2 ‹¬ _›⟩⟩
  | some c =>
    rw [hc] at h; simp only at h
    have hw1 := hget r.hview c k (hw c hc)
    split at h
    · next c1 id hg =>
      rw [hg] at hw1
      rw [markLent_eq] at h
      split at h <;> cases h
      next r2 c2 back ret hp =>
      obtain ⟨⟨hs, rfl⟩, hw2, hsub, -⟩ := cachePut_spec ps hw1 hp
      refine Or.inr (Or.inl ⟨c, c1, id, c2, hs, rfl, hg, rfl, rfl, hw2, fun e he => (hsub e he).imp_right ?_⟩)
      rintro ⟨y, hy, hd, rfl⟩
      have hk := Keep.setB r id 0 0 (u := (r.heap id).used) (fun h => h) y
      exact ⟨y, hy, hk.2.1 ▸ hd, by rw [hk.1]⟩
    · next c1 hg =>
      rw [hg] at hw1
      split at h <;> cases h
      next r2 c2 back ret hp =>
      obtain ⟨⟨hs, rfl⟩, hw2, hsub, hret⟩ := cachePut_spec ps hw1 hp
      refine Or.inr (Or.inr ⟨c, c1, c2, hs, back, ret, rfl, hg, rfl, rfl, hw2, hsub, fun j hj => ?_⟩)
      obtain ⟨h0, h1, h2⟩ := recycle_some hj
      exact ⟨(hret h0).1.symm.trans h1, (hret h0).2, h2⟩

theorem peekSkip_miss {o : CacheOps σ} {wf : σ → Prop} (ps : PeekSub o wf) {h : Heap} {c : σ} (hw : wf c) {off : Int}
    (hk : ∀ e ∈ o.held c, e.key ≠ off) (fuel : Nat) : peekSkip o h c (fuel + 1) off = .ok off := by
  unfold peekSkip
  cases hp : o.peek h c off with
  | mk b nx =>
    cases b with
    | false => rfl
    | true =>
      obtain ⟨e, hm, he⟩ := ps h c off nx hw hp
      exact absurd he (hk e hm)

theorem skipCached_miss {o : CacheOps σ} {wf : σ → Prop} (ps : PeekSub o wf) {r : Reader σ} {off : Int}
    (hw : ∀ c, r.cache = some c → wf c) (hk : ∀ c, r.cache = some c → ∀ e ∈ o.held c, e.key ≠ off) :
    skipCached o r off = .ok off := by
  unfold skipCached
  cases hc : r.cache with
  | none => rfl
  | some c => exact peekSkip_miss ps (hw c hc) (hk c hc) _

/-- `err`, `chunkBegin`, `chunkEnd`, `blocked`: what moving to another block leaves alone -/
def Reader.book (r : Reader σ) : Err × (Int × Nat) × (Int × Nat) × Bool :=
  (r.err, r.chunkBegin, r.chunkEnd, r.blocked)

theorem book_eq {r r' : Reader σ} : r.book = r'.book ↔
    r.err = r'.err ∧ r.chunkBegin = r'.chunkBegin ∧ r.chunkEnd = r'.chunkEnd ∧ r.blocked = r'.blocked := by
  simp only [Reader.book, Prod.mk.injEq]

/-- the block after (trying to) load the member at `off` -/
def Loaded (f : File) (off : Int) (b : RBlk) (e : Err) : Prop :=
  b.offFile = off ∧ b.offBlock = 0 ∧
    match f.find off with
    | some _ => e = .none ∧ Good f off b ∧ b.pos = 0
    | none => e = (if off ≥ f.len then .eof else .other) ∧ b.hasData = false

theorem Loaded.blkEq {f : File} {off : Int} {a b : RBlk} {e e' : Err}
    (ha : Loaded f off a e) (hb : Loaded f off b e') : e = e' ∧ BlkEq a b := by
  obtain ⟨a1, a2, a3⟩ := ha
  obtain ⟨b1, b2, b3⟩ := hb
  cases hm : f.find off with
  | none =>
    rw [hm] at a3 b3
    exact ⟨a3.1.trans b3.1.symm, a1.trans b1.symm, a2.trans b2.symm, a3.2.trans b3.2.symm,
      fun hd => Bool.noConfusion (a3.2.symm.trans hd)⟩
  | some m =>
    rw [hm] at a3 b3
    obtain ⟨ae, ⟨ag1, ag2, _, m1, hm1, ad, ah⟩, ap⟩ := a3
    obtain ⟨be, ⟨bg1, bg2, _, m2, hm2, bd, bh⟩, bp⟩ := b3
    cases hm1.symm.trans hm2
    exact ⟨ae.trans be.symm, a1.trans b1.symm, a2.trans b2.symm, ag2.trans bg2.symm,
      fun _ => ⟨ag1.trans bg1.symm, ad.trans bd.symm, ap.trans bp.symm, ah.trans bh.symm⟩⟩

theorem Loaded.of_good {f : File} {k : Int} {b : RBlk} (g : Good f k b) (hp : b.pos = 0) (ho : b.offBlock = 0) :
    Loaded f k b .none := by
  obtain ⟨m, hm, _⟩ := g.2.2.2
  refine ⟨g.2.2.1, ho, ?_⟩
  rw [hm]
  exact ⟨rfl, g, hp⟩

theorem Loaded.good {f : File} {off : Int} {b : RBlk} {e : Err} (h : Loaded f off b e)
    (hd : e = .none ∨ b.hasData = true) : Good f off b := by
  obtain ⟨_, _, h3⟩ := h
  split at h3
  · exact h3.2.1
  · rcases hd with hd | hd
    · rw [hd] at h3; have := h3.1; split at this <;> cases this
    · exact Bool.noConfusion (h3.2.symm.trans hd)

theorem rebase_facts (cfg : Cfg) (b : RBlk) (off : Int) :
    (rebase cfg b off).base = off ∧ (rebase cfg b off).offFile = off ∧ (rebase cfg b off).offBlock = 0 := by
  unfold rebase
  split <;> exact ⟨rfl, rfl, rfl⟩

theorem failedBlk_facts (cfg : Cfg) (hcfg : cfg.noStale) (b : RBlk) (off : Int) :
    (failedBlk cfg (rebase cfg b off) off).offFile = off ∧ (failedBlk cfg (rebase cfg b off) off).offBlock = 0 ∧
    (failedBlk cfg (rebase cfg b off) off).hasData = false := by
  unfold failedBlk
  split
  · exact ⟨rfl, rfl, rfl⟩
  · rename_i hf
    have hc : cfg.clearOnRebase = true := hcfg.resolve_right hf
    simp only [rebase, hc, if_true, and_self]

theorem loadAt_eq {cfg : Cfg} (hcfg : cfg.noStale) (f : File) (r : Reader σ) (off : Int) :
    ∃ b, (loadAt cfg f r off).1 = (lazyBlock r).1.setB (lazyBlock r).2 b ∧ Loaded f off b (loadAt cfg f r off).2 := by
  obtain ⟨rb1, rb2, rb3⟩ := rebase_facts cfg ((lazyBlock r).1.heap (lazyBlock r).2) off
  obtain ⟨fb2, fb3, fb4⟩ := failedBlk_facts cfg hcfg ((lazyBlock r).1.heap (lazyBlock r).2) off
  unfold loadAt
  simp only
  cases hm : f.find off with
  | some m => exact ⟨_, rfl, rb2, rb3, by rw [hm]; exact ⟨rfl, ⟨rb1, rfl, rb2, m, hm, rfl, rfl⟩, rfl⟩⟩
  | none => exact ⟨_, rfl, fb2, fb3, by rw [hm]; exact ⟨rfl, fb4⟩⟩

theorem lazyBlock_setB (r : Reader σ) (b : RBlk) :
    ((lazyBlock r).1.setB (lazyBlock r).2 b).cur = some (lazyBlock r).2 ∧
    ((lazyBlock r).1.setB (lazyBlock r).2 b).book = r.book ∧
    ((lazyBlock r).1.setB (lazyBlock r).2 b).cache = r.cache ∧
    ((lazyBlock r).1.setB (lazyBlock r).2 b).lent = r.lent := by
  unfold lazyBlock
  cases hc : r.cur with
  | some id => exact ⟨hc, rfl, rfl, rfl⟩
  | none => exact ⟨rfl, rfl, rfl, rfl⟩

theorem loadAt_frame {cfg : Cfg} (hcfg : cfg.noStale) (f : File) (r : Reader σ) (off : Int) :
    (loadAt cfg f r off).1.cur = some (lazyBlock r).2 ∧ (loadAt cfg f r off).1.book = r.book ∧
    (loadAt cfg f r off).1.cache = r.cache ∧ (loadAt cfg f r off).1.lent = r.lent ∧
    Loaded f off ((loadAt cfg f r off).1.heap (lazyBlock r).2) (loadAt cfg f r off).2 := by
  obtain ⟨b, hb, hl⟩ := loadAt_eq hcfg f r off
  obtain ⟨h1, h2, h3, h4⟩ := lazyBlock_setB r b
  rw [hb]
  exact ⟨h1, h2, h3, h4, by rw [setB_same]; exact hl⟩

theorem lazyBlock_cases (r : Reader σ) :
    (∃ id, r.cur = some id ∧ lazyBlock r = (r, id)) ∨
    (r.cur = none ∧ lazyBlock r = ({ r with fresh := r.fresh + 1, cur := some r.fresh }.setB r.fresh {}, r.fresh)) := by
  unfold lazyBlock
  cases r.cur with
  | some id => exact Or.inl ⟨id, rfl, rfl⟩
  | none => exact Or.inr ⟨rfl, rfl⟩

theorem fetch_uncached (cfg : Cfg) (o : CacheOps σ) (f : File) {r : Reader σ} (k : Int) (hc : r.cache = none)
    (hl : r.lent = none) : fetch cfg o f r k = .ok (loadAt cfg f r k) := by
  have hcond : (cfg.lentGuard && r.cur.isSome && r.lent == r.cur) = false := by
    rw [hl]
    cases r.cur <;> simp
  simp only [fetch, cacheSwap, hc, hcond, Bool.false_eq_true, if_false, nextBlockAt, skipCached]

/-- results of the run with caches and of the run without correspond: both succeed with related values, or both stop
with the same fault; if `bh`, the run with caches may also stop because the recorded victim was rejected -/
def Agree (bh : Prop) {α β : Type} (R : α → β → Prop) (x : Except Fault α) (y : Except Fault β) : Prop :=
  match x with
  | .ok a => ∃ b, y = .ok b ∧ R a b
  | .error e => y = .error e ∨ (bh ∧ e = .badHint)

/-- `Agree True` (`ExRel.iff_agree`) -/
def ExRel {α β : Type} (R : α → β → Prop) : Except Fault α → Except Fault β → Prop
  | .error .badHint, _ => True
  | .ok a, .ok b => R a b
  | .error e, .error e' => e = e'
  | _, _ => False

theorem ExRel.badHint {α β : Type} {R : α → β → Prop} (y : Except Fault β) :
    ExRel R (.error .badHint : Except Fault α) y := by
  simp [ExRel]

section
variable {bh : Prop} {α β : Type} {R : α → β → Prop}

theorem Agree.ok {a : α} {b : β} (h : R a b) : Agree bh R (.ok a) (.ok b) := ⟨b, rfl, h⟩

theorem Agree.error (e : Fault) : Agree bh R (.error e : Except Fault α) (.error e : Except Fault β) := Or.inl rfl

theorem Agree.of_ok {x : Except Fault α} {y : Except Fault β} {a : α} (h : Agree bh R x y) (hx : x = .ok a) :
    ∃ b, y = .ok b ∧ R a b := by
  subst hx; exact h

theorem Agree.of_error {x : Except Fault α} {y : Except Fault β} {e : Fault} (h : Agree bh R x y)
    (hx : x = .error e) : y = .error e ∨ (bh ∧ e = .badHint) := by
  subst hx; exact h

theorem ExRel.iff_agree {x : Except Fault α} {y : Except Fault β} : ExRel R x y ↔ Agree True R x y := by
  cases x with
  | ok a => cases y <;> simp [ExRel, Agree]
  | error e => cases e <;> cases y <;> simp [ExRel, Agree, eq_comm]

theorem Agree.badHint (hb : bh) {y : Except Fault β} : Agree bh R (.error .badHint : Except Fault α) y :=
  Or.inr ⟨hb, rfl⟩

/-- case analysis on two runs that agree, as an eliminator so that it applies in a goal that mentions both runs under
whatever `match` -/
@[elab_as_elim] theorem Agree.ind {motive : Except Fault α → Except Fault β → Prop}
    {x : Except Fault α} {y : Except Fault β} (h : Agree bh R x y)
    (ok : ∀ a b, R a b → motive (.ok a) (.ok b))
    (error : ∀ e, motive (.error e) (.error e))
    (badHint : bh → ∀ y, motive (.error .badHint) y) : motive x y := by
  cases x with
  | ok a => obtain ⟨b, rfl, r⟩ := h; exact ok a b r
  | error e =>
    rcases h with rfl | ⟨hb, rfl⟩
    · exact error e
    · exact badHint hb y

end

/-- `SetCache` attaches a new (empty, well-formed) cache, or none; `reattach` a cache that was attached
before, with what it holds -/
def OpOK (o : CacheOps σ) (wf : σ → Prop) : Op σ → Prop
  | .setCache (some c) _ => wf c ∧ o.held c = []
  | _ => True

def Op.attached : Op σ → Option σ
  | .setCache (some c) _ => some c
  | _ => none

theorem mem_attached {ops : List (Op σ)} {c : σ} {hints : List Int} (h : Op.setCache (some c) hints ∈ ops) :
    c ∈ ops.filterMap Op.attached :=
  List.mem_filterMap.2 ⟨_, h, rfl⟩

/-- for a literal history the list of attached caches is found by evaluation -/
theorem opOK_of_attached {o : CacheOps σ} {wf : σ → Prop} {ops : List (Op σ)}
    (h : ∀ c ∈ ops.filterMap Op.attached, OpOK o wf (.setCache (some c) [])) : ∀ op ∈ ops, OpOK o wf op := by
  intro op hop
  cases op with
  | setCache c hs =>
    cases c with
    | none => trivial
    | some c => exact h c (mem_attached hop)
  | _ => trivial

theorem eq_of_ok_imp {ε α : Type} {x y : Except ε α} (hx : x.isOk = true) (h : ∀ a, x = .ok a → y = .ok a) :
    x = y := by
  cases x with
  | error e => cases hx
  | ok a => exact (h a rfl).symm

/-- how the witness theorems of Props/C03 refute a transparency statement: the cached run is `ok`, and an observation `g`
tells it from the uncached run -/
theorem not_ok_imp_of_ne {ε α β : Type} {x y : Except ε α} (g : Except ε α → β) (hx : x.isOk = true)
    (hne : g x ≠ g y) : ¬ ∀ a, x = .ok a → y = .ok a :=
  fun h => hne (congrArg g (eq_of_ok_imp hx h))

/-- what the simulation needs of an invariant `I` of the reader with caches of kind `o`, on code variant `cfg`
(`bh`: `Put` may reject the recorded victim) -/
structure SimInv (bh : Prop) (cfg : Cfg) (o : CacheOps σ) (wf : σ → Prop) (f : File) (I : Reader σ → Prop) :
    Prop where
  noStale : cfg.noStale
  init : I Reader.init
  cur_good : ∀ {r id}, I r → r.cur = some id → (r.heap id).hasData = true → Good f (r.heap id).base (r.heap id)
  book : ∀ {r} (e : Err) (cb ce : Int × Nat) (bl : Bool), I r →
    I { r with err := e, chunkBegin := cb, chunkEnd := ce, blocked := bl }
  /-- reading from, or seeking inside, the current block.  The side condition: `used` is never reset; `FInv` depends on it
  (`loan`, and `excl` through `Share`), `Inv` does not. -/
  advance : ∀ {r id}, I r → r.cur = some id → ∀ (p q : Nat) (u : Bool), ((r.heap id).used = true → u = true) →
    I (r.setB id { r.heap id with pos := p, offBlock := q, used := u })
  /-- `cacheSwap(k)` when the current block is not a data-holding block of base `k`: a hit makes the member at `k`
  current; after a miss `nextBlockAt(k)` reads at `k`, and the block it decompresses into may be overwritten -/
  swap_ok : ∀ {r k r1 hit}, I r → (∀ id, r.cur = some id → (r.heap id).hasData = true → (r.heap id).base ≠ k) →
    cacheSwap cfg o r k = .ok (r1, hit) →
    r1.book = r.book ∧ I r1 ∧ (hit = true → ∃ id, r1.cur = some id ∧ Loaded f k (r1.heap id) .none) ∧
    (hit = false → skipCached o r1 k = .ok k ∧
      ∀ b, (b.hasData = true → Good f b.base b) → I ((lazyBlock r1).1.setB (lazyBlock r1).2 b))
  swap_error : ∀ {r k e}, I r → cacheSwap cfg o r k = .error e → bh ∧ e = .badHint
  setCache : ∀ {r} (c : Option σ) (hints : List Int), I r → OpOK o wf (.setCache c hints) →
    I { r with cache := c, hints := hints, parked := r.parked ++ r.cache.toList }
  reattach : ∀ {r} (i : Nat) (hints : List Int), I r →
    I (match r.parked[i]? with
      | some c => { r with cache := some c, hints := hints, parked := r.parked.eraseIdx i ++ r.cache.toList }
      | none => { r with cache := none, hints := hints, parked := r.parked ++ r.cache.toList })

structure Rel (I : Reader σ → Prop) (C U : Reader σ) : Prop where
  inv : I C
  ucache : U.cache = none ∧ U.lent = none
  book : C.book = U.book
  cur : ∃ c u, C.cur = some c ∧ U.cur = some u ∧ BlkEq (C.heap c) (U.heap u)
  live : C.err = .none → ∀ c, C.cur = some c → (C.heap c).hasData = true

structure Same (I : Reader σ → Prop) {α : Type} (p q : Reader σ × α) : Prop where
  out : p.2 = q.2
  rel : Rel I p.1 q.1

section
variable {bh : Prop} {cfg : Cfg} {o : CacheOps σ} {wf : σ → Prop} {f : File} {I : Reader σ → Prop}
  {C U : Reader σ}

theorem Rel.err (s : Rel I C U) : C.err = U.err := (book_eq.1 s.book).1
theorem Rel.cb (s : Rel I C U) : C.chunkBegin = U.chunkBegin := (book_eq.1 s.book).2.1
theorem Rel.ce (s : Rel I C U) : C.chunkEnd = U.chunkEnd := (book_eq.1 s.book).2.2.1
theorem Rel.blocked (s : Rel I C U) : C.blocked = U.blocked := (book_eq.1 s.book).2.2.2

theorem Rel.curOffset (s : Rel I C U) : curOffset C = curOffset U := by
  obtain ⟨c, u, hc, hu, hb⟩ := s.cur
  unfold CachedReader.curOffset
  rw [hc, hu]
  exact hb.txOffset

theorem SimInv.fetch (si : SimInv bh cfg o wf f I) {r : Reader σ} {k : Int} (i : I r)
    (hk : ∀ id, r.cur = some id → (r.heap id).hasData = true → (r.heap id).base ≠ k) :
    match fetch cfg o f r k with
    | .error e => bh ∧ e = .badHint
    | .ok (r1, e) => ∃ id, r1.cur = some id ∧ Loaded f k (r1.heap id) e ∧ I r1 ∧ r1.book = r.book := by
  unfold CachedReader.fetch
  cases hs : cacheSwap cfg o r k with
  | error e => exact si.swap_error i hs
  | ok v =>
    obtain ⟨r1, hit⟩ := v
    obtain ⟨hbook, inv1, hhit, hmiss⟩ := si.swap_ok i hk hs
    cases hit with
    | true =>
      obtain ⟨id, hcur, hl⟩ := hhit rfl
      exact ⟨id, hcur, hl, inv1, hbook⟩
    | false =>
      obtain ⟨hskip, hload⟩ := hmiss rfl
      obtain ⟨b, hb, hl⟩ := loadAt_eq si.noStale f r1 k
      obtain ⟨hcur, hbk, _⟩ := lazyBlock_setB r1 b
      simp only [nextBlockAt, hskip]
      rw [hb]
      exact ⟨_, hcur, by rw [setB_same]; exact hl, hload b fun hd => (hl.good (Or.inr hd)).1 ▸ hl.good (Or.inr hd),
        hbk.trans hbook⟩

def FetchRel (I : Reader σ → Prop) (p q : Reader σ × Err) : Prop :=
  p.2 = q.2 ∧ Rel I { p.1 with err := p.2 } { q.1 with err := q.2 }

theorem fetch_sim (si : SimInv bh cfg o wf f I) {k : Int} (s : Rel I C U)
    (hk : ∀ id, C.cur = some id → (C.heap id).hasData = true → (C.heap id).base ≠ k) :
    Agree bh (FetchRel I) (fetch cfg o f C k) (fetch cfg o f U k) := by
  rw [fetch_uncached cfg o f k s.ucache.1 s.ucache.2]
  obtain ⟨ucur, ubook, uca, ule, ul'⟩ := loadAt_frame si.noStale f U k
  have hC := si.fetch s.inv hk
  cases hx : fetch cfg o f C k with
  | error e => rw [hx] at hC; exact Or.inr hC
  | ok v =>
    obtain ⟨C1, e⟩ := v
    rw [hx] at hC
    obtain ⟨c, ccur, cl, inv1, cbook⟩ := hC
    obtain ⟨hee, hbe⟩ := cl.blkEq ul'
    refine Agree.ok ⟨hee, si.book e _ _ _ inv1, ⟨uca.trans s.ucache.1, ule.trans s.ucache.2⟩,
      book_eq.2 ⟨hee, (book_eq.1 (cbook.trans (s.book.trans ubook.symm))).2⟩,
      ⟨c, _, ccur, ucur, hbe⟩, fun he c' hc' => ?_⟩
    cases ccur.symm.trans hc'
    exact (cl.good (Or.inl he)).2.1

theorem nextBlock_sim (si : SimInv bh cfg o wf f I) (hf : FileOK f) (s : Rel I C U)
    (live : ∀ c, C.cur = some c → (C.heap c).hasData = true) :
    Agree bh (FetchRel I) (nextBlock cfg o f C) (nextBlock cfg o f U) := by
  obtain ⟨c, u, hc, hu, hb⟩ := s.cur
  unfold nextBlock
  rw [hc, hu]
  simp only
  rw [← hb.next (live c hc)]
  refine fetch_sim si s fun id hid hd => ?_
  cases hc.symm.trans hid
  exact ((si.cur_good s.inv hc hd).next_ne hf).symm

theorem skipEmpty_sim (si : SimInv bh cfg o wf f I) (hf : FileOK f) (fuel : Nat) (s : Rel I C U)
    (he : C.err = .none) : Agree bh (Rel I) (skipEmpty cfg o f fuel C) (skipEmpty cfg o f fuel U) := by
  induction fuel generalizing C U with
  | zero => exact Agree.error _
  | succ fuel ih =>
    obtain ⟨c, u, hc, hu, hb⟩ := s.cur
    unfold skipEmpty
    rw [hc, hu]
    simp only
    rw [← hb.len]
    by_cases hl : (C.heap c).len = 0
    rotate_left
    · rw [if_neg hl, if_neg hl]
      exact Agree.ok s
    · rw [if_pos hl, if_pos hl]
      refine (nextBlock_sim si hf s (s.live he)).ind (fun ⟨C1, e1⟩ ⟨U1, e2⟩ ⟨(he12 : e1 = e2), r⟩ => ?_) Agree.error
        fun hb _ => .badHint hb
      subst he12
      by_cases hen : e1 = .none
      · simp only [if_pos hen]
        rw [hen] at r
        exact ih r rfl
      · simp only [if_neg hen]
        exact Agree.ok r

section
variable (cfg : Cfg) (o : CacheOps σ) (f : File) (fuel : Nat) {r : Reader σ} {id : Nat} (want : Nat) (acc : List Nat)

theorem readLoop_done (h : want = 0 ∨ r.err ≠ .none) :
    readLoop cfg o f (fuel + 1) r want acc = .ok (r, acc, false) := by
  rw [readLoop, if_pos (by simpa using h)]

theorem readLoop_exhausted (hw : want ≠ 0) (he : r.err = .none) (hc : r.cur = some id)
    (hd : (r.heap id).hasData = true) (hl : (r.heap id).len = 0) :
    readLoop cfg o f (fuel + 1) r want acc =
      if r.blocked then .ok (r, acc, true) else
        match nextBlock cfg o f r with
        | .error e => .error e
        | .ok (r1, e) => readLoop cfg o f fuel { r1 with err := e } want acc := by
  rw [readLoop]
  simp only [hw, he, hc, hd, hl, decide_false, ne_eq, not_true_eq_false, Bool.or_self, Bool.false_eq_true, if_false,
    Bool.not_true, if_true]
  split
  · rfl
  · cases nextBlock cfg o f r <;> rfl

theorem readLoop_data (hw : want ≠ 0) (he : r.err = .none) (hc : r.cur = some id)
    (hd : (r.heap id).hasData = true) (hl : (r.heap id).len ≠ 0) :
    readLoop cfg o f (fuel + 1) r want acc =
      readLoop cfg o f fuel
        (r.setB id { r.heap id with pos := (r.heap id).pos + min want (r.heap id).len,
                                    offBlock := ((r.heap id).offBlock + min want (r.heap id).len) % 65536, used := true })
        (want - min want (r.heap id).len)
        (acc ++ ((r.heap id).data.drop (r.heap id).pos).take (min want (r.heap id).len)) := by
  rw [readLoop]
  simp only [hw, he, hc, hd, hl, decide_false, ne_eq, not_true_eq_false, Bool.or_self, Bool.false_eq_true, if_false,
    Bool.not_true]

end

theorem skipEmpty_post (cfg : Cfg) (o : CacheOps σ) (f : File) (fuel : Nat) {r r' : Reader σ}
    (h : skipEmpty cfg o f fuel r = .ok r') : r'.err ≠ .none ∨ ∃ id, r'.cur = some id ∧ (r'.heap id).len ≠ 0 := by
  induction fuel generalizing r with
  | zero => cases h
  | succ fuel ih =>
    unfold skipEmpty at h
    split at h
    · cases h
    · split at h
      · split at h
        · cases h
        · split at h
          · exact ih h
          · cases h; exact Or.inl ‹_›
      · cases h; exact Or.inr ⟨_, ‹_›, ‹_›⟩

theorem readByte_eq_read (cfg : Cfg) (o : CacheOps σ) (f : File) (r : Reader σ) :
    readByte cfg o f r = read cfg o f r 1 := by
  unfold readByte read
  by_cases he : r.err = .none
  rotate_left
  · rw [if_pos he, if_pos he]
  · rw [if_neg (not_not_intro he), if_neg (not_not_intro he)]
    cases hs : skipEmpty cfg o f (fuelFor f 0) r with
    | error e => rfl
    | ok r1 =>
      simp only
      by_cases he1 : r1.err = .none
      rotate_left
      · rw [if_pos he1, if_pos he1]
      · rw [if_neg (not_not_intro he1), if_neg (not_not_intro he1)]
        obtain ⟨id, hc, hl⟩ := (skipEmpty_post cfg o f _ hs).resolve_left (not_not_intro he1)
        have hd : (r1.heap id).hasData = true :=
          Decidable.by_contra fun hd => hl (by rw [RBlk.len, if_neg hd])
        have hk : min 1 (r1.heap id).len = 1 := Nat.min_eq_left (Nat.one_le_iff_ne_zero.2 hl)
        have hfuel : (1 + 1) * (f.length + 2) = 2 * f.length + 3 + 1 := by omega
        have hx := List.drop_eq_getElem_cons (Nat.lt_of_sub_ne_zero (by rwa [RBlk.len, if_pos hd] at hl))
        -- the copy loop delivers the byte in its first round and leaves in the second
        rw [fuelFor, readLoop_data cfg o f _ (r := { r1 with chunkBegin := curOffset r1 }) 1 [] Nat.one_ne_zero he1 hc hd hl,
          hk, hfuel, readLoop_done cfg o f _ _ _ (Or.inl rfl)]
        simp only [byteFin, hc, hx, List.head?_cons, List.take_succ_cons, List.take_zero, List.nil_append, curOffset,
          Reader.setB, if_true, he1]
        rfl

theorem readLoop_sim (si : SimInv bh cfg o wf f I) (hf : FileOK f) (fuel : Nat) (s : Rel I C U)
    (want : Nat) (acc : List Nat) :
    Agree bh (fun p q => Same I p q ∧ (p.2.2 = true → p.1.err = .none))
      (readLoop cfg o f fuel C want acc) (readLoop cfg o f fuel U want acc) := by
  induction fuel generalizing C U want acc with
  | zero => exact Agree.error _
  | succ fuel ih =>
    obtain ⟨c, u, hc, hu, hb⟩ := s.cur
    by_cases hstop : want = 0 ∨ C.err ≠ .none
    · rw [readLoop_done _ _ _ _ _ _ hstop, readLoop_done _ _ _ _ _ _ (s.err ▸ hstop)]
      exact Agree.ok ⟨⟨rfl, s⟩, nofun⟩
    · have hw : want ≠ 0 := fun h => hstop (Or.inl h)
      have herr : C.err = .none := Decidable.not_not.1 fun h => hstop (Or.inr h)
      have hd : (C.heap c).hasData = true := s.live herr c hc
      by_cases hl : (C.heap c).len = 0
      · rw [readLoop_exhausted _ _ _ _ _ _ hw herr hc hd hl,
          readLoop_exhausted _ _ _ _ _ _ hw (s.err ▸ herr) hu (hb.hasData ▸ hd) (hb.len ▸ hl), ← s.blocked]
        split
        · exact Agree.ok ⟨⟨rfl, s⟩, fun _ => herr⟩
        · refine (nextBlock_sim si hf s (fun c' hc' => by cases hc.symm.trans hc'; exact hd)).ind
            (fun ⟨C1, e1⟩ ⟨U1, e2⟩ ⟨(he12 : e1 = e2), r⟩ => ?_) Agree.error fun hb _ => .badHint hb
          subst he12
          exact ih r want acc
      · obtain ⟨_, hdat, hpos, _⟩ := hb.2.2.2 hd
        rw [readLoop_data _ _ _ _ _ _ hw herr hc hd hl,
          readLoop_data _ _ _ _ _ _ hw (s.err ▸ herr) hu (hb.hasData ▸ hd) (hb.len ▸ hl), ← hb.len,
          show List.drop (U.heap u).pos (U.heap u).data = List.drop (C.heap c).pos (C.heap c).data by
            rw [hdat, hpos]]
        apply ih
        refine ⟨si.advance s.inv hc _ _ true fun _ => rfl, s.ucache, s.book, ⟨c, u, hc, hu, ?_⟩,
          fun _ c' hc' => ?_⟩
        · rw [setB_same, setB_same]
          exact hb.advance hd _ true true
        · cases hc.symm.trans hc'
          rw [setB_same]
          exact hd

theorem read_sim (si : SimInv bh cfg o wf f I) (hf : FileOK f) (s : Rel I C U) (n : Nat) :
    Agree bh (Same I) (read cfg o f C n) (read cfg o f U n) := by
  unfold read
  by_cases he : C.err = .none
  rotate_left
  · rw [if_pos he, if_pos (s.err ▸ he), s.err]
    exact Agree.ok ⟨rfl, s⟩
  · rw [if_neg (not_not_intro he), if_neg (not_not_intro (s.err ▸ he))]
    refine (skipEmpty_sim si hf (fuelFor f 0) s he).ind (fun C1 U1 s1 => ?_) Agree.error fun hb _ => .badHint hb
    simp only
    by_cases he1 : C1.err = .none
    rotate_left
    · rw [if_pos he1, if_pos (s1.err ▸ he1), s1.err]
      exact Agree.ok ⟨rfl, s1⟩
    · rw [if_neg (not_not_intro he1), if_neg (not_not_intro (s1.err ▸ he1)), ← s1.curOffset]
      have s2 : Rel I { C1 with chunkBegin := curOffset C1 } { U1 with chunkBegin := curOffset C1 } :=
        ⟨si.book _ _ _ _ s1.inv, s1.ucache, book_eq.2 ⟨s1.err, rfl, s1.ce, s1.blocked⟩, s1.cur, s1.live⟩
      refine (readLoop_sim si hf (fuelFor f n) s2 n []).ind
        (fun ⟨C3, bs, fl⟩ ⟨U3, bs', fl'⟩ ⟨⟨(ho : (bs, fl) = (bs', fl')), (s3 : Rel I C3 U3)⟩, hfl⟩ => ?_)
        Agree.error fun hb _ => .badHint hb
      cases ho
      cases fl with
      | true =>
        simp only
        rw [← s3.curOffset]
        exact Agree.ok ⟨rfl, si.book _ _ _ _ s3.inv, s3.ucache, book_eq.2 ⟨rfl, s3.cb, rfl, s3.blocked⟩, s3.cur,
          fun _ => s3.live (hfl rfl)⟩
      | false =>
        simp only
        rw [← s3.curOffset]
        exact Agree.ok ⟨by simp only; rw [s3.err], si.book _ _ _ _ s3.inv, s3.ucache,
          book_eq.2 ⟨s3.err, s3.cb, rfl, s3.blocked⟩, s3.cur, s3.live⟩

theorem readByte_sim (si : SimInv bh cfg o wf f I) (hf : FileOK f) (s : Rel I C U) :
    Agree bh (Same I) (readByte cfg o f C) (readByte cfg o f U) := by
  rw [readByte_eq_read, readByte_eq_read]
  exact read_sim si hf s 1

theorem seekFin_sim (si : SimInv bh cfg o wf f I) (s : Rel I C U) (file : Int) (blk : Nat) :
    Agree bh (Same I) (seekFin C file blk) (seekFin U file blk) := by
  obtain ⟨c, u, hc, hu, hb⟩ := s.cur
  unfold seekFin
  rw [hc, hu]
  simp only
  by_cases hd : (C.heap c).hasData = true
  rotate_left
  · have hn : (!(C.heap c).hasData) = true := by simpa using hd
    rw [if_pos hn, if_pos (hb.hasData ▸ hn)]
    exact Agree.error _
  · have hn : (!(C.heap c).hasData) = false := by rw [hd]; rfl
    simp only [hn, hb.hasData ▸ hn, Bool.false_eq_true, if_false]
    refine Agree.ok ⟨rfl, si.book _ _ _ _ (si.advance s.inv hc blk (blk % 65536) _ id), s.ucache,
      book_eq.2 ⟨rfl, rfl, rfl, s.blocked⟩, ⟨c, u, hc, hu, ?_⟩, fun _ c' hc' => ?_⟩
    · simp only [setB_same]
      exact hb.setPos _ _ _ _
    · cases hc.symm.trans hc'
      simp only [setB_same]
      exact hd

theorem seek_sim (si : SimInv bh cfg o wf f I) (s : Rel I C U) (file : Int) (blk : Nat) :
    Agree bh (Same I) (seek cfg o f C file blk) (seek cfg o f U file blk) := by
  obtain ⟨c, u, hc, hu, hb⟩ := s.cur
  unfold seek
  rw [hc, hu]
  simp only
  have hcond : (decide (file ≠ (U.heap u).base) || !(U.heap u).hasData) =
      (decide (file ≠ (C.heap c).base) || !(C.heap c).hasData) := by
    rw [← hb.hasData]
    cases hd : (C.heap c).hasData with
    | false => simp
    | true => rw [(hb.2.2.2 hd).1]
  rw [hcond]
  split
  · rename_i hcnd
    have hk : ∀ id, C.cur = some id → (C.heap id).hasData = true → (C.heap id).base ≠ file := by
      intro id hid hd
      cases hc.symm.trans hid
      simp only [hd, Bool.not_true, Bool.or_false, decide_eq_true_eq] at hcnd
      exact fun h => hcnd h.symm
    refine (fetch_sim si s hk).ind (fun ⟨C1, ec⟩ ⟨U1, eu⟩ ⟨(hee : ec = eu), r⟩ => ?_) Agree.error
      fun hb _ => .badHint hb
    subst hee
    simp only
    split
    · rename_i hen
      rw [hen] at r
      exact seekFin_sim si r file blk
    · exact Agree.ok ⟨rfl, r⟩
  · exact seekFin_sim si s file blk

theorem step_sim (si : SimInv bh cfg o wf f I) (hf : FileOK f) (s : Rel I C U) (op : Op σ) (ok : OpOK o wf op) :
    Agree bh (Same I) (step cfg o f C op) (step cfg o f U op.uncached) := by
  cases op with
  | seek file blk =>
    simp only [step, Op.uncached]
    refine (seek_sim si s file blk).ind (fun ⟨C1, ec⟩ ⟨U1, eu⟩ ⟨(he : ec = eu), (s1 : Rel I C1 U1)⟩ => ?_) Agree.error
      fun hb _ => .badHint hb
    exact Agree.ok ⟨by simp only [he, s1.cb, s1.ce], s1⟩
  | read n =>
    simp only [step, Op.uncached]
    refine (read_sim si hf s n).ind
      (fun ⟨C1, bs, ec⟩ ⟨U1, bs', eu⟩ ⟨(he : (bs, ec) = (bs', eu)), (s1 : Rel I C1 U1)⟩ => ?_) Agree.error
      fun hb _ => .badHint hb
    cases he
    exact Agree.ok ⟨by simp only [s1.cb, s1.ce], s1⟩
  | readByte =>
    simp only [step, Op.uncached]
    refine (readByte_sim si hf s).ind
      (fun ⟨C1, bs, ec⟩ ⟨U1, bs', eu⟩ ⟨(he : (bs, ec) = (bs', eu)), (s1 : Rel I C1 U1)⟩ => ?_) Agree.error
      fun hb _ => .badHint hb
    cases he
    exact Agree.ok ⟨by simp only [s1.cb, s1.ce], s1⟩
  | setCache c hints =>
    exact Agree.ok ⟨by simp only [s.cb, s.ce], si.setCache c hints s.inv ok, ⟨rfl, s.ucache.2⟩, s.book, s.cur, s.live⟩
  | reattach i hints =>
    have hi := si.reattach i hints s.inv
    simp only [step, Op.uncached]
    cases hp : C.parked[i]? <;> rw [hp] at hi <;>
      exact Agree.ok ⟨by simp only [s.cb, s.ce], hi, ⟨rfl, s.ucache.2⟩, s.book, s.cur, s.live⟩
  | setBlocked b =>
    exact Agree.ok ⟨by simp only [s.cb, s.ce], si.book _ _ _ _ s.inv, s.ucache,
      book_eq.2 ⟨s.err, s.cb, s.ce, rfl⟩, s.cur, s.live⟩

theorem run_sim (si : SimInv bh cfg o wf f I) (hf : FileOK f) (ops : List (Op σ))
    (ok : ∀ op ∈ ops, OpOK o wf op) (s : Rel I C U) :
    Agree bh (Same I) (run cfg o f C ops) (run cfg o f U (ops.map Op.uncached)) := by
  induction ops generalizing C U with
  | nil => exact Agree.ok ⟨rfl, s⟩
  | cons op rest ih =>
    simp only [List.map_cons, run]
    refine (step_sim si hf s op (ok op (by simp))).ind
      (fun ⟨C1, o1⟩ ⟨U1, o2⟩ ⟨(ho : o1 = o2), (s1 : Rel I C1 U1)⟩ => ?_) Agree.error fun hb _ => .badHint hb
    subst ho
    simp only
    refine (ih (fun op' h' => ok op' (by simp [h'])) s1).ind
      (fun ⟨C2, os1⟩ ⟨U2, os2⟩ ⟨(hos : os1 = os2), s2⟩ => ?_) Agree.error fun hb _ => .badHint hb
    subst hos
    exact Agree.ok ⟨rfl, s2⟩

theorem newReader_rel (si : SimInv bh cfg o wf f I) {r : Reader σ} (h : newReader o cfg f = .ok (r, .none)) :
    Rel I r r := by
  -- `NewReader` is a `fetch` at the initial reader (no cache, no block on loan), and `si.fetch` is where `I` is shown to survive a load
  have hf := si.fetch si.init (k := 0) nofun
  have hl0 : loadAt cfg f Reader.init 0 = (r, .none) := Except.ok.inj ((newReader_eq o cfg f).symm.trans h)
  rw [fetch_uncached cfg o f (r := Reader.init) 0 rfl rfl, hl0] at hf
  obtain ⟨id, hcur, hl, inv, -⟩ := hf
  obtain ⟨_, _, hca, hle, _⟩ := loadAt_frame si.noStale f (Reader.init : Reader σ) 0
  rw [hl0] at hca hle
  refine ⟨inv, ⟨hca, hle⟩, rfl, ⟨id, id, hcur, hcur, BlkEq.refl _⟩, fun _ c hc => ?_⟩
  cases hcur.symm.trans hc
  exact (hl.good (Or.inl rfl)).2.1

theorem run_new_sim (si : SimInv bh cfg o wf f I) (hf : FileOK f) (ops : List (Op σ))
    (ok : ∀ op ∈ ops, OpOK o wf op) {r : Reader σ} (h : newReader o cfg f = .ok (r, .none)) :
    Agree bh (Same I) (run cfg o f r ops) (run cfg o f r (ops.map Op.uncached)) :=
  run_sim si hf ops ok (newReader_rel si h)

/-- the outputs of a whole run from `NewReader` (none when `NewReader` returns an error value); the property
statements' `Hts.Props.C03.outputs` unfolds to this -/
def outputsOf (cfg : Cfg) (o : CacheOps σ) (f : File) (ops : List (Op σ)) : Except Fault (List Out) :=
  match newReader o cfg f with
  | .error e => .error e
  | .ok (r, e) =>
    if e ≠ .none then .ok []
    else match run cfg o f r ops with
      | .error e => .error e
      | .ok (_, outs) => .ok outs

theorem outputsOf_sim (si : SimInv bh cfg o wf f I) (hf : FileOK f) (ops : List (Op σ))
    (ok : ∀ op ∈ ops, OpOK o wf op) :
    Agree bh Eq (outputsOf cfg o f ops) (outputsOf cfg o f (ops.map Op.uncached)) := by
  unfold outputsOf
  cases h0 : newReader o cfg f with
  | error e => exact Agree.error e
  | ok v =>
    obtain ⟨r0, e⟩ := v
    by_cases he : e = .none
    · subst he
      simp only [ne_eq, not_true_eq_false, if_false]
      exact (run_new_sim si hf ops ok h0).ind (fun ⟨C1, o1⟩ ⟨U1, o2⟩ ⟨(ho : o1 = o2), _⟩ => Agree.ok ho) Agree.error
        fun hb _ => .badHint hb
    · simp only [ne_eq, he, not_false_eq_true, if_true]
      exact Agree.ok rfl

end

end Hts.Model.CachedReader
