/-
Stream level of the BAM codec: a written record is read back from the front of any stream (length-prefix lemma +
record lemma), the concatenation of written records is read back in order and ends with io.EOF (induction over the
record list); the reader is total on arbitrary bytes (neither `Fault.fuel` nor the writer's panic is ever returned);
the whole file under a hypothesis about its header.
-/
import Hts.Lemmas.BamRecord
namespace Hts.Model.Bam

theorem readRecord_encodeRecord (om : Omit) {n : Nat} {r : Record} (h : WF n r) :
    ∃ bs, encodeRecord r = .ok bs ∧ 4 < bs.length ∧
      ∀ rest, readRecord om n (bs ++ rest) = .record (expected om r) rest := by
  refine ⟨_, encodeRecord_ok h, ?_, readRecord_bodyOf om h _⟩
  rw [List.length_append, putI32_length]; exact Nat.lt_add_of_pos_right (bodyOf_length_wf h _).1

theorem readRecord_written (om : Omit) {n : Nat} {r : Record} (h : WF n r) :
    ∃ bs, encodeRecord r = .ok bs ∧ ∀ rest, readRecord om n (bs ++ rest) = .record (expected om r) rest :=
  ⟨_, encodeRecord_ok h, readRecord_bodyOf om h _⟩

theorem readAllFuel_encodeAll (om : Omit) {n : Nat} (rs : List Record) (h : ∀ r ∈ rs, WF n r) :
    ∃ s, encodeAll rs = .ok s ∧ rs.length ≤ s.length ∧
      ∀ fuel, rs.length < fuel → readAllFuel fuel om n s = (rs.map (expected om), none) := by
  induction rs with
  | nil => exact ⟨[], rfl, Nat.le_refl _, fun fuel hf => by cases fuel with | zero => omega | succ f => rfl⟩
  | cons r rs ih =>
    obtain ⟨hwf, hwfs⟩ := List.forall_mem_cons.mp h
    obtain ⟨bs, hb, hl, hr⟩ := readRecord_encodeRecord om hwf
    obtain ⟨s, hs, hls, hrs⟩ := ih hwfs
    refine ⟨bs ++ s, by simp only [encodeAll, hb, hs], by simp only [List.length_cons, List.length_append]; omega, ?_⟩
    intro fuel hf
    cases fuel with
    | zero => omega
    | succ f => simp only [readAllFuel, hr, hrs f (by simpa using hf), List.map_cons]

theorem readAll_encodeAll (om : Omit) {n : Nat} (rs : List Record) (h : ∀ r ∈ rs, WF n r) :
    ∃ s, encodeAll rs = .ok s ∧ readAll om n s = (rs.map (expected om), none) := by
  obtain ⟨s, hs, hl, hr⟩ := readAllFuel_encodeAll om rs h
  exact ⟨s, hs, hr _ (by omega)⟩

/-! `Fault.fuel` is an artefact of the two model loops and `Fault.panicAuxType` the writer's only panic; neither is an
outcome of `parseAux`, `decodeBody`, `readRecord` or `readAll` on arbitrary bytes, so every read ends in a record,
`io.EOF` or a Go `error`. -/

theorem isElemType_jumps {t : Byte} (h : isElemType t = true) : 1 ≤ jumps t := by
  simp only [isElemType, Bool.or_eq_true, beq_iff_eq] at h
  rcases h with (((((rfl | rfl) | rfl) | rfl) | rfl) | rfl) | rfl <;> decide

theorem parseAuxFuel_error (fuel : Nat) (rest : List Byte) (acc : List (List Byte)) (e : Fault)
    (h : rest.length < fuel) (he : parseAuxFuel fuel rest acc = .error e) : e ≠ .fuel ∧ e ≠ .panicAuxType := by
  -- a turn that goes on drops at least one byte, so the remaining fuel still exceeds the rest; every other case returns
  -- `.ok` or an error that is neither of the two.  (A new type letter needs a case here and in `parse_step`, Lemmas/BamAux.)
  fun_induction parseAuxFuel fuel rest acc
  case case1 => omega
  -- fixed width: truncated, or goes on
  case' case2 hn => rw [if_pos hn] at he
  case case3 hn ih =>
    rw [if_neg hn] at he
    exact ih (by simp only [List.length_drop, List.length_cons] at h ⊢; omega) he
  -- `Z`/`H`: no NUL, or a NUL inside the tag
  case' case4 hi => simp only [hi] at he
  case' case5 i hi3 hi => simp only [hi, hi3, ↓reduceIte] at he
  -- `H`: `decodeHex` fails with an error of its own, or goes on
  case case6 i hi3 ht f hi hd =>
    simp only [hi, hi3, ht, hd, ↓reduceIte] at he
    cases he
    rcases decodeHex_err _ _ hd with rfl | rfl <;> exact ⟨nofun, nofun⟩
  case case7 i hi3 ht a hi hd ih =>
    simp only [hi, hi3, ht, hd, ↓reduceIte] at he
    exact ih (by simp only [List.length_drop, List.length_cons] at h ⊢; omega) he
  -- `Z`: goes on
  case case8 i hi3 ht hi ih =>
    simp only [hi, hi3, ht, ↓reduceIte] at he
    exact ih (by simp only [List.length_drop, List.length_cons] at h ⊢; omega) he
  -- `B`: the count reaches beyond the data, or goes on by at least the 8 bytes of tag, type, subtype and count
  case' case10 hj => rw [if_pos hj] at he
  case case11 sub n0 n1 n2 n3 tl hsub j hj ih =>
    rw [if_neg hj] at he
    refine ih ?_ he
    have h1 := isElemType_jumps (by simpa using hsub)
    have h0 : 0 ≤ (getU32 n0 n1 n2 n3 : Int) * jumps sub := Int.mul_nonneg (by omega) (by omega)
    simp only [List.length_drop, List.length_cons] at h ⊢
    omega
  -- left: the errors above once their test is in `he`, a `B` with a bad element type or a short header, an unknown
  -- type letter, and the end of the data (`.ok`)
  all_goals cases he
  all_goals exact ⟨nofun, nofun⟩

theorem parseAux_error {aux : List Byte} {e : Fault} (he : parseAux aux = .error e) :
    e ≠ .fuel ∧ e ≠ .panicAuxType :=
  parseAuxFuel_error _ aux [] e (by omega) he

theorem finish_error {n : Nat} {a b : Int} {bf : Buf} {r : Record} {e : Fault} :
    finish n a b bf r = .error e → e ≠ .fuel ∧ e ≠ .panicAuxType := by
  unfold finish
  split
  · rintro ⟨⟩; exact ⟨nofun, nofun⟩
  · fun_cases linkRefs n a b r
    all_goals rintro ⟨⟩
    all_goals exact ⟨nofun, nofun⟩

theorem decodeBody_error {om : Omit} {n : Nat} {body : List Byte} {e : Fault}
    (he : decodeBody om n body = .error e) : e ≠ .fuel ∧ e ≠ .panicAuxType := by
  unfold decodeBody at he
  simp only [] at he
  -- the splits, in the order of `decodeBody`: name length < 1; `om = .all`; `lSeq < 0`; `om = .aux`; `parseAux` fails
  split at he
  · cases he; exact ⟨nofun, nofun⟩
  · split at he
    · exact finish_error he
    · split at he
      · cases he; exact ⟨nofun, nofun⟩
      · split at he
        · exact finish_error he
        · split at he
          · rename_i hp
            cases he
            exact parseAux_error hp
          · exact finish_error he

theorem readRecord_outcome (om : Omit) (n : Nat) (s : List Byte) :
    match readRecord om n s with
    | .eof => True
    | .fault e => e ≠ .fuel ∧ e ≠ .panicAuxType
    | .record _ rest => rest.length < s.length := by
  fun_cases readRecord om n s
  case case1 => trivial
  case case2 => trivial
  case case5 hd => exact decodeBody_error hd
  case case6 => simp only [List.length_drop, List.length_cons]; omega
  all_goals exact ⟨nofun, nofun⟩

theorem readRecord_error {om : Omit} {n : Nat} {s : List Byte} {e : Fault}
    (he : readRecord om n s = .fault e) : e ≠ .fuel ∧ e ≠ .panicAuxType := by
  have := readRecord_outcome om n s
  rwa [he] at this

theorem readAllFuel_error {om : Omit} {n fuel : Nat} {s : List Byte} {e : Fault} (h : s.length < fuel) :
    (readAllFuel fuel om n s).2 = some e → e ≠ .fuel ∧ e ≠ .panicAuxType := by
  fun_induction readAllFuel fuel om n s
  case case1 => omega
  case case2 => rintro ⟨⟩
  case case3 hf => rintro ⟨⟩; exact readRecord_error hf
  case case4 fuel om n s r rest hr _ _ hrest ih =>
    have hlt := readRecord_outcome om n s
    rw [hr] at hlt
    -- `hrest` names the `let (rs, e) := …` of the recursive call: the goal's `.2` is that call's `.2`
    rw [hrest] at ih
    exact ih (Nat.lt_of_lt_of_le hlt (Nat.le_of_lt_succ h))

theorem readAll_error {om : Omit} {n : Nat} {s : List Byte} {e : Fault} (he : (readAll om n s).2 = some e) :
    e ≠ .fuel ∧ e ≠ .panicAuxType :=
  readAllFuel_error (by omega) he

/-! The binary header (C07) is not modelled here.  What the file theorems need of it is stated as a HYPOTHESIS about the
one header at hand, not as a law for all headers: `HeaderFramed decode bytes hd` — on the header's bytes followed by
any data the header decoder returns `hd` and leaves exactly that data.  For API-built headers with canonical URIs the
hypothesis is discharged from C07's model (`decodeBinaryR_frame` of Hts.Lemmas.HeaderBin, used in
`Props.C05.headerFramed_api_header`); for other headers the decoded header can differ from the encoded one. -/

def HeaderFramed {H : Type} (decode : List Byte → Option (H × List Byte)) (bytes : List Byte) (hd : H) : Prop :=
  ∀ rest : List Byte, decode (bytes ++ rest) = some (hd, rest)

/-- `NewWriter(h)`, `Write` for every record: the bytes under the BGZF layer, given the header section's bytes -/
def writeFile (hdrBytes : List Byte) (rs : List Record) : Except Fault (List Byte) :=
  match encodeAll rs with
  | .error f => .error f
  | .ok s => .ok (hdrBytes ++ s)

/-- `NewReader`, `Omit(om)`, `Read` until it fails: the header, the records, how it ended (`none` = io.EOF) -/
def readFile {H : Type} (decode : List Byte → Option (H × List Byte)) (nrefs : H → Nat) (om : Omit)
    (bytes : List Byte) : Option (H × List Record × Option Fault) :=
  match decode bytes with
  | none => none
  | some (h, rest) => some (h, readAll om (nrefs h) rest)

theorem readFile_framed {H : Type} {decode : List Byte → Option (H × List Byte)} {bytes : List Byte} {hd : H}
    (hf : HeaderFramed decode bytes hd) (nrefs : H → Nat) (om : Omit) (s : List Byte) :
    readFile decode nrefs om (bytes ++ s) = some (hd, readAll om (nrefs hd) s) := by
  simp only [readFile, hf s]

end Hts.Model.Bam
