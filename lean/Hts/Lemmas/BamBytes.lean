/-
Field codecs of the BAM record and their round-trip lemmas: u8 / u16 / u32 / i32 little endian, the reads of the
`buffer` type on data that starts with an encoded field, the CIGAR word list; indexing into a padded table (for Tie.C05).
-/
import Hts.Model.BamRecord
import Hts.Lemmas.Bytes
namespace Hts.Model.Bam

theorem byteOf_toNat (n : Nat) : (byteOf n).toNat = n % 256 := by
  simp [byteOf]

theorem byteOf_of_toNat (b : Byte) : byteOf b.toNat = b := by
  simp [byteOf]

theorem ofNat_nibbles (d : Byte) : BitVec.ofNat 8 (d.toNat / 16 * 16 + d.toNat % 16) = d := by
  have h : d.toNat / 16 * 16 + d.toNat % 16 = d.toNat := by omega
  rw [h, BitVec.ofNat_toNat, BitVec.setWidth_eq]

theorem getU16_put (n : Nat) : getU16 (byteOf n) (byteOf (n / 256)) = n % 65536 := by
  rw [getU16, byteOf_toNat, byteOf_toNat, Hts.Lemmas.digits2]

theorem getU32_put (n : Nat) :
    getU32 (byteOf n) (byteOf (n / 256)) (byteOf (n / 65536)) (byteOf (n / 16777216)) = n % 4294967296 := by
  simp only [getU32, byteOf_toNat, Hts.Lemmas.digits4]

theorem getU32_put_lt (n : Nat) (h : n < 4294967296) :
    getU32 (byteOf n) (byteOf (n / 256)) (byteOf (n / 65536)) (byteOf (n / 16777216)) = n := by
  rw [getU32_put, Nat.mod_eq_of_lt h]

theorem getU16_lt (a b : Byte) : getU16 a b < 65536 := by
  have := a.isLt; have := b.isLt
  simp only [getU16]; omega

theorem getU32_lt (a b c d : Byte) : getU32 a b c d < 4294967296 := by
  have := a.isLt; have := b.isLt; have := c.isLt; have := d.isLt
  simp only [getU32]; omega

/-- the double `%` is what `getU32_put` leaves of the bytes of `putI32 x` -/
theorem toI32_wrap (x : Int) (h1 : -2147483648 ≤ x) (h2 : x < 2147483648) :
    toI32 ((x % 4294967296).toNat % 4294967296) = x := by
  have h : (x % 4294967296).toNat < 4294967296 ∧ toI32 (x % 4294967296).toNat = x :=
    Hts.Lemmas.signed_wrap (M := 2147483648) h1 h2
  rw [Nat.mod_eq_of_lt h.1, h.2]

theorem putU16_length (n : Nat) : (putU16 n).length = 2 := rfl
theorem putU32_length (n : Nat) : (putU32 n).length = 4 := rfl
theorem putI32_length (x : Int) : (putI32 x).length = 4 := rfl

theorem readI32_put (x : Int) (rest : List Byte) (h : -2147483648 ≤ x ∧ x < 2147483648) :
    Buf.readI32 ⟨putI32 x ++ rest, false⟩ = (x, ⟨rest, false⟩) := by
  simp only [putI32, putU32, Buf.readI32, List.cons_append, List.nil_append, getU32_put, toI32_wrap x h.1 h.2]

theorem readU16_put (n : Nat) (rest : List Byte) (h : n < 65536) :
    Buf.readU16 ⟨putU16 n ++ rest, false⟩ = (n, ⟨rest, false⟩) := by
  simp only [putU16, Buf.readU16, List.cons_append, List.nil_append, getU16_put, Nat.mod_eq_of_lt h]

theorem readU8_cons (x : Byte) (rest : List Byte) : Buf.readU8 ⟨x :: rest, false⟩ = (x, ⟨rest, false⟩) := rfl

theorem discard_append (xs rest : List Byte) (n : Nat) (h : xs.length = n) :
    Buf.discard ⟨xs ++ rest, false⟩ n = ⟨rest, false⟩ := by
  subst h
  simp [Buf.discard]

theorem unsafeBytes_append (xs rest : List Byte) (n : Nat) (h : xs.length = n) :
    Buf.unsafeBytes ⟨xs ++ rest, false⟩ n = (xs, ⟨rest, false⟩) := by
  subst h
  simp [Buf.unsafeBytes]

theorem unsafeBytes_all (xs : List Byte) : Buf.unsafeBytes ⟨xs, false⟩ xs.length = (xs, ⟨[], false⟩) := by
  simpa using unsafeBytes_append xs [] _ rfl

theorem discard_cons (x : Byte) (rest : List Byte) : Buf.discard ⟨x :: rest, false⟩ 1 = ⟨rest, false⟩ :=
  discard_append [x] rest 1 rfl

def cigarBytes (cs : List (BitVec 32)) : List Byte := cs.flatMap (fun c => putU32 c.toNat)

theorem cigarBytes_length (cs : List (BitVec 32)) : (cigarBytes cs).length = cs.length * 4 :=
  Hts.Lemmas.flatMap_length_const _ 4 cs fun _ => rfl

theorem readCigarOps_cigarBytes (cs : List (BitVec 32)) : readCigarOps (cigarBytes cs) = cs := by
  induction cs with
  | nil => rfl
  | cons c cs ih =>
    have h : cigarBytes (c :: cs) = byteOf c.toNat :: byteOf (c.toNat / 256) :: byteOf (c.toNat / 65536) ::
        byteOf (c.toNat / 16777216) :: cigarBytes cs := by
      simp [cigarBytes, putU32]
    have hc : BitVec.ofNat 32 (c.toNat % 4294967296) = c := by
      rw [Nat.mod_eq_of_lt c.isLt, BitVec.ofNat_toNat, BitVec.setWidth_eq]
    rw [h, readCigarOps, getU32_put, hc, ih]

theorem cigarType_lt (c : BitVec 32) : cigarType c < 16 := by
  simp only [cigarType]; omega

/-- With this a generated table is compared with the model's once, as a list, instead of by evaluating `getD` at every
index (Tie.C05). -/
theorem getD_map_pad {α β} (f : α → β) (l : List α) (d : α) (k : Nat) {i : Nat} (h : i < l.length + k) (e : β) :
    ((l ++ List.replicate k d).map f).getD i e = f (l.getD i d) := by
  simp only [List.getD_eq_getElem?_getD, List.getElem?_map, List.getElem?_append, List.getElem?_replicate]
  split
  · rename_i h'; simp [h']
  · rename_i h'
    have : i - l.length < k := by omega
    simp [this, List.getElem?_eq_none (Nat.le_of_not_lt h')]

end Hts.Model.Bam
