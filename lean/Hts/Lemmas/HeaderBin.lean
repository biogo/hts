/-
The binary encoding of a view, followed by any bytes, decodes to a header with that view and leaves those bytes
(`decodeBinaryR_frame_view`); the round trip of `decodeBinary` is the case of no bytes after it.
-/
import Hts.Lemmas.HeaderApi
namespace Hts.Model.Header

theorem rd32_le32 (i : Int) (h : -2147483648 ≤ i ∧ i < 2147483648) (rest : Bytes) :
    rd32 (le32 i ++ rest) = some (i, rest) := by
  have hw : (i % 4294967296).toNat < 4294967296 ∧ (if (i % 4294967296).toNat < 2147483648
      then ((i % 4294967296).toNat : Int) else ((i % 4294967296).toNat : Int) - 4294967296) = i :=
    Hts.Lemmas.signed_wrap (M := 2147483648) h.1 h.2
  simp only [le32, rd32, List.cons_append, List.nil_append, Nat.mul_comm _ 256, Nat.mul_comm _ 65536,
    Nat.mul_comm _ 16777216, Hts.Lemmas.digits4, Nat.mod_eq_of_lt hw.1, ge_iff_le, ← Nat.not_lt, ite_not, hw.2]

theorem rdN_append (a rest : Bytes) (h : a ++ rest ≠ []) : rdN a.length (a ++ rest) = some (a, rest) := by
  unfold rdN
  simp [h]

theorem rdN_name (name rest : Bytes) :
    rdN (name.length + 1) (name ++ 0 :: rest) = some (name ++ [0], rest) := by
  have := rdN_append (name ++ [0]) rest (by simp)
  simpa using this

theorem le32_ne_nil (i : Int) (rest : Bytes) : le32 i ++ rest ≠ [] := by simp [le32]

theorem readRef_oneR (name : Bytes) (len : Int) (rest : Bytes) (n : Nat) (h1 : (name.length : Int) + 1 < 2147483648)
    (h2 : -2147483648 ≤ len ∧ len < 2147483648) :
    readRefRecordsR (n + 1) (le32 ((name.length : Int) + 1) ++ (name ++ 0 :: (le32 len ++ rest))) =
      (readRefRecordsR n rest).map (fun p => ((name, len) :: p.1, p.2)) := by
  rw [readRefRecordsR, rd32_le32 _ (by omega)]
  have hpos : ¬ ((name.length : Int) + 1 < 1) := by omega
  have hlen : ((name.length : Int) + 1).toNat = name.length + 1 := by omega
  simp only [hpos, if_false, hlen, rdN_name]
  have hlast : (name ++ [0]).getLast? = some 0 := by simp
  simp only [hlast, ne_eq, not_true_eq_false, if_false, rd32_le32 _ h2, List.dropLast_concat]
  cases readRefRecordsR n rest <;> rfl

theorem readRefRecordsR_enc (rest : Bytes) : ∀ (rs : List (Int × Bytes × RefD)),
    (∀ r ∈ rs, (r.2.1.length : Int) + 1 < 2147483648 ∧ validLen r.2.2.len = true) →
    readRefRecordsR rs.length
        ((rs.flatMap fun x => le32 (x.2.1.length + 1) ++ (x.2.1 ++ 0 :: le32 x.2.2.len)) ++ rest) =
      some (rs.map (fun x => (x.2.1, x.2.2.len)), rest) := by
  intro rs
  induction rs with
  | nil => intro _; rfl
  | cons r rs ih =>
    intro h
    obtain ⟨h1, h2⟩ := h r List.mem_cons_self
    simp only [validLen, Bool.and_eq_true, decide_eq_true_eq] at h2
    simp only [List.length_cons, List.flatMap_cons, List.append_assoc, List.cons_append]
    rw [readRef_oneR _ _ _ _ h1 (by omega), ih (fun r' h' => h r' (List.mem_cons_of_mem _ h'))]
    rfl

theorem inherit_bare (d : RefD) : inherit { len := d.len } d = d := by
  cases d; simp [inherit]

/-- one reference of the binary dictionary that the text already defined: the header is unchanged -/
theorem addBin_step {k : KW RefD} (hk : KInv k) {hn : Nat} {t : Tab} (ht : k.tabs[hn]? = some t) {i : Nat}
    {name : Bytes} {d : RefD} (hi : (items k hn)[i]? = some ((i : Int), name, d)) {x : Obj RefD}
    (hx : x = { owner := none, id := (i : Int), name := name, dat := { len := d.len } }) :
    ∃ k2, addReference (k.alloc x).1 hn (k.alloc x).2 = (k2, .ok) ∧ Keeps k k2 ∧ items k2 hn = items k hn := by
  have hown : x.owner = none := by rw [hx]
  suffices ∃ k2, addReference (k.alloc x).1 hn (k.alloc x).2 = (k2, .ok) ∧ items k2 hn = items k hn by
    obtain ⟨k2, h1, h2⟩ := this
    have hinv := (alloc_addReference_spec hk x hown hn).1
    rw [h1] at hinv
    exact ⟨k2, h1, hinv, h2⟩
  have T := hk.tab hn t ht
  obtain ⟨eo, er, hie, her, e⟩ := (items_get ht T i _).1 hi
  simp only [Prod.mk.injEq] at e
  obtain ⟨e1, rfl, rfl⟩ := e
  have ho := alloc_heap k x
  have her1 := alloc_old k x her
  have hne : (eo == (k.alloc x).2) = false := by have := get_lt her; simp [KW.alloc]; omega
  have hxn : x.name = er.name := by rw [hx]
  unfold addReference
  simp only [ho]
  rw [show (k.alloc x).1.tabs[hn]? = some t from ht]
  simp only [hxn, T.known i eo er hie her, idx_nat, hie, her1, hne]
  by_cases hoth : er.dat.other = []
  · have heq : equalRefs false er x = true := by simp [hx, equalRefs, ← e1, uriPtrDiffer, hoth, sortTags]
    simp only [heq, if_true]
    exact ⟨_, rfl, items_alloc hk _ hn⟩
  · have heq : equalRefs false er x = false := by
      have : er.dat.other.length ≠ 0 := by simpa using hoth
      simp [hx, equalRefs, ← e1, this]
    have hbare : equalRefs false x (bareRef (-1) er.name er.dat.len) = true := by
      simp [hx, equalRefs, bareRef, uriPtrDiffer, sortTags]
    have hsame : inherit x.dat er.dat = er.dat := by rw [hx]; exact inherit_bare _
    simp only [heq, hbare, hown, hsame, Bool.false_eq_true, if_false, Bool.not_true, Option.isSome_none]
    exact ⟨_, rfl, by rw [items_replace_same (kinv_alloc hk x hown) ht hie ho her1 hown hxn, items_alloc hk _ hn]⟩

theorem addBinRefs_same (hn : Nat) : ∀ (rs : List (Bytes × Int)) (k : KW RefD) (i : Nat), KInv k →
    hn < k.tabs.length →
    (∀ (j : Nat) r, rs[j]? = some r → ∃ d, (items k hn)[i + j]? = some (((i + j : Nat) : Int), r.1, d) ∧ d.len = r.2) →
    ∃ k', addBinRefs k hn i rs = (k', .ok) ∧ Keeps k k' ∧ items k' hn = items k hn := by
  intro rs
  induction rs with
  | nil => intro k i hk _ _; exact ⟨k, rfl, .refl hk, rfl⟩
  | cons r rs ih =>
    intro k i hk hlt hitems
    obtain ⟨name, len⟩ := r
    obtain ⟨t, ht, _⟩ := kindInv_of hk hlt
    obtain ⟨d, (hd : (items k hn)[i]? = some ((i : Int), name, d)), rfl⟩ := hitems 0 (name, len) rfl
    obtain ⟨k2, hk2, hkeep, hit⟩ := addBin_step hk ht hd rfl
    obtain ⟨k', h1, h2, h4⟩ := ih k2 (i + 1) hkeep.1 (hkeep.2 ▸ hlt) (by
      intro j r hj
      obtain ⟨d', hd', hl'⟩ := hitems (j + 1) r hj
      exact ⟨d', by rw [hit, Nat.add_right_comm]; exact hd', hl'⟩)
    refine ⟨k', ?_, hkeep.trans h2, h4.trans hit⟩
    rw [addBinRefs]
    dsimp only
    rw [hk2]
    exact h1

/-- `hs1`–`hs3`: the quantities the encoding writes as int32 (length of the text, number of references, length of each
name with its NUL) fit that type. -/
theorem decodeBinaryR_frame_view (E : Ext) (w : World) (hw : WInv w) (v : View) (wf : WFView E v)
    (hs1 : ((marshalView v).length : Int) < 2147483648) (hs2 : (v.refs.length : Int) < 2147483648)
    (hs3 : ∀ r ∈ v.refs, (r.2.1.length : Int) + 1 < 2147483648) (rest : Bytes) :
    ∃ w', decodeBinaryR E (pushHeader w {}) w.hdrs.length (encodeView v ++ rest) = (w', .ok, rest) ∧ WInv w' ∧
      view w' w.hdrs.length = v := by
  obtain ⟨w1, hu, hw1, hv1, hl1⟩ := text_roundtrip_view E w hw v wf
  unfold encodeView decodeBinaryR
  simp only [List.cons_append, List.nil_append, List.append_assoc]
  rw [rd32_le32 _ (by omega)]
  have hneg : ¬ (((marshalView v).length : Int) < 0) := by omega
  simp only [hneg, if_false, Int.toNat_natCast]
  rw [rdN_append _ _ fun e => le32_ne_nil _ _ (List.append_eq_nil_iff.1 e).2]
  simp only [hu]
  rw [rd32_le32 _ (by omega)]
  have hneg2 : ¬ ((v.refs.length : Int) < 0) := by omega
  simp only [hneg2, if_false, Int.toNat_natCast]
  rw [readRefRecordsR_enc rest v.refs (fun r hr => ⟨hs3 r hr, (wf.refs r hr).1.len⟩)]
  simp only
  have hlt : w.hdrs.length < w1.refs.tabs.length := by rw [hw1.lr, hl1]; omega
  obtain ⟨k', h1, h2, h4⟩ := addBinRefs_same w.hdrs.length (v.refs.map fun x => (x.2.1, x.2.2.len)) w1.refs 0
    hw1.refs hlt (by
      intro j r hj
      obtain ⟨x, hx, rfl⟩ := getElem?_map_some hj
      have hid := wf.idr j x hx
      rw [← hv1, view] at hx
      obtain ⟨y, hy, rfl⟩ := getElem?_map_some hx
      exact ⟨y.2.2, by rw [Nat.zero_add, hy, ← hid], rfl⟩)
  rw [h1]
  refine ⟨_, rfl, winv_refs hw1 _ _ h2, ?_⟩
  rw [← hv1]
  unfold view
  simp only [h4]

theorem binary_roundtrip_view (E : Ext) (w : World) (hw : WInv w) (v : View) (wf : WFView E v)
    (hs1 : ((marshalView v).length : Int) < 2147483648) (hs2 : (v.refs.length : Int) < 2147483648)
    (hs3 : ∀ r ∈ v.refs, (r.2.1.length : Int) + 1 < 2147483648) :
    ∃ w', decodeBinary E (pushHeader w {}) w.hdrs.length (encodeView v) = (w', .ok) ∧ WInv w' ∧
      view w' w.hdrs.length = v := by
  obtain ⟨w', h, hw', hv⟩ := decodeBinaryR_frame_view E w hw v wf hs1 hs2 hs3 []
  rw [List.append_nil] at h
  exact ⟨w', by rw [← decodeBinaryR_eq, h], hw', hv⟩

theorem decodeBinaryR_frame (E : Ext) (w : World) (hw : WInv w) (h : Nat) (hh : h < w.hdrs.length)
    (api : ApiBuilt E (view w h)) (uc : UriCanon E (view w h))
    (hs1 : ((marshalText w h).length : Int) < 2147483648) (hs2 : ((view w h).refs.length : Int) < 2147483648)
    (hs3 : ∀ r ∈ (view w h).refs, (r.2.1.length : Int) + 1 < 2147483648) (rest : Bytes) :
    ∃ w', decodeBinaryR E (pushHeader w {}) w.hdrs.length (marshalBinary w h ++ rest) = (w', .ok, rest) ∧ WInv w' ∧
      view w' w.hdrs.length = view w h :=
  decodeBinaryR_frame_view E w hw (view w h) (wfview_of E hw hh api uc) hs1 hs2 hs3 rest

end Hts.Model.Header
