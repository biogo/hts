/-
The linked-list code of LRU/FIFO (model `LCache`) implements the stated eviction policy (`PolicyQ`):
`abs q = q.used.reverse ++ q.unused` is a refinement map under which `Put` (result and successor state),
`Get`, `Peek`, `Drop`, `Resize`, `Free` commute.  The policy's `resize`, `free`, `step` and `run`, which C14's statements mention, are defined
here, not with the rest of `PolicyQ` in Hts.Spec.CacheContract.
-/
import Hts.Lemmas.CacheHist
import Hts.Spec.CacheContract
namespace Hts.Spec.CacheContract
open Hts.Model.Cache

namespace PolicyQ
/-- list order of the implementation: newest used … oldest used, oldest unused … newest unused -/
def abs (q : PolicyQ) : LCache := ⟨q.cap, q.used.reverse ++ q.unused⟩

theorem abs_hasKey (q : PolicyQ) (k : Int) : hasKey q.abs.items k = q.holds k := by
  simp only [abs, holds, hasKey, List.any_append, List.any_reverse]

theorem abs_len (q : PolicyQ) : (q.abs.items.length : Int) = q.len := by
  simp only [abs, len, List.length_append, List.length_reverse, Int.natCast_add]

theorem abs_evict (q : PolicyQ) :
    (match q.evict with
      | none => q.abs.items.getLast? = none
      | some (v, q') => q.abs.items.getLast? = some v ∧ q'.abs = ⟨q.cap, q.abs.items.dropLast⟩) := by
  unfold evict
  cases hu : q.unused.getLast? with
  | some v =>
    obtain ⟨ys, hys⟩ := List.getLast?_eq_some_iff.1 hu
    simp only [abs, hys, ← List.append_assoc, List.getLast?_concat, List.dropLast_concat, and_self]
  | none =>
    rw [List.getLast?_eq_none_iff] at hu
    cases hq : q.used with
    | nil => simp only [abs, hu, hq]; rfl
    | cons v t =>
      simp only [abs, hu, hq, List.append_nil, List.reverse_cons, List.getLast?_concat,
        List.dropLast_concat, and_self]

theorem abs_evict_none {q : PolicyQ} (he : q.evict = none) : q.abs.items = [] := by
  have := abs_evict q
  rw [he] at this
  exact List.getLast?_eq_none_iff.1 this

theorem abs_evict_some {q q' : PolicyQ} {v : Entry} (he : q.evict = some (v, q')) :
    q.abs.items.getLast? = some v ∧ q'.abs = ⟨q.cap, q.abs.items.dropLast⟩ := by
  have := abs_evict q
  rwa [he] at this

theorem abs_push_used (q : PolicyQ) (e : Entry) :
    ({ q with used := q.used ++ [e] } : PolicyQ).abs = ⟨q.cap, e :: q.abs.items⟩ := by
  simp only [abs, List.reverse_append, List.reverse_cons, List.reverse_nil, List.nil_append, List.cons_append]

theorem abs_put (h : Heap) (q : PolicyQ) (id : Nat) :
    q.abs.put h id = ((q.put h id).1.abs, (q.put h id).2) := by
  unfold LCache.put put
  simp only [abs_hasKey, abs_len, show q.abs.cap = q.cap from rfl]
  by_cases hk : q.holds (h id).base = true
  · simp only [if_pos hk]
  simp only [if_neg hk]
  by_cases hfull : q.len = q.cap
  · simp only [if_pos hfull]
    by_cases hu : (!(h id).used) = true
    · simp only [if_pos hu]
    simp only [if_neg hu]
    cases he : q.evict with
    | none => rw [abs_evict_none he]; rfl
    | some p =>
      obtain ⟨h1, h2⟩ := abs_evict_some he
      -- the victim is the last node; the new block is pushed onto `used` of what is left
      rw [h1]
      simp only [abs_push_used, h2]
      rw [show p.2.cap = q.cap from congrArg LCache.cap h2]
  · simp only [if_neg hfull]
    split
    · rw [abs_push_used]
    · simp only [abs, List.append_assoc]

theorem dropBack_dropLast (items : List Entry) (n : Nat) :
    dropBack items.dropLast n = dropBack items ((n + 1 : Nat) : Int) := by
  rw [dropBack_eq, dropBack_eq, Int.toNat_natCast, Int.toNat_natCast, List.length_dropLast,
    List.dropLast_eq_take, List.take_take, Nat.min_eq_left (Nat.sub_le _ _), Nat.sub_sub, Nat.add_comm]

theorem abs_dropN (q : PolicyQ) (n : Nat) : (q.dropN n).abs = q.abs.drop n := by
  induction n generalizing q with
  | zero => rw [dropN, LCache.drop, dropBack_eq]; exact congrArg _ (List.take_length).symm
  | succ n ih =>
    rw [dropN]
    cases he : q.evict with
    | none =>
      have h0 := abs_evict_none he
      rw [LCache.drop, dropBack_eq, h0, List.take_nil, ← h0]
    | some p =>
      obtain ⟨_, h2⟩ := abs_evict_some he
      rw [ih, h2, LCache.drop, LCache.drop, dropBack_dropLast]
      rfl

theorem abs_drop_int (q : PolicyQ) (n : Int) : (q.dropN n.toNat).abs = q.abs.drop n := by
  rw [abs_dropN, LCache.drop, LCache.drop, dropBack_eq, dropBack_eq, Int.toNat_natCast]

theorem abs_lookup (q : PolicyQ) (k : Int) : lookup q.abs.items k = q.find k := by
  simp only [abs, lookup, find, List.find?_append]

theorem removeKeyQ_abs (q : PolicyQ) (k : Int) :
    (q.removeKeyQ k).abs = ⟨q.cap, removeKey q.abs.items k⟩ := by
  simp only [abs, removeKeyQ, removeKey, List.filter_append, List.filter_reverse]

theorem abs_get_full (kind : Kind) (h : Heap) (q : PolicyQ) (k : Int) :
    q.abs.get kind h k = ((q.get (kind == .fifo) h k).1.abs, (q.get (kind == .fifo) h k).2) := by
  rw [PolicyQ.get, ← abs_lookup]
  cases hl : lookup q.abs.items k with
  | none => rw [LCache.get_of_lookup_none hl]
  | some e =>
    rw [LCache.get_of_lookup_some hl]
    -- the policy's guard is the Bool `(kind == .fifo) && used`, the list's the Prop `kind = .fifo ∧ used`: one `split` for both
    simp only [Bool.and_eq_true, beq_iff_eq]
    split
    · rfl
    · rw [removeKeyQ_abs]; rfl

theorem abs_peek (h : Heap) (q : PolicyQ) (k : Int) : q.abs.peek h k = q.peek h k := by
  rw [PolicyQ.peek, LCache.peek, abs_lookup]
  rfl

theorem abs_get (kind : Kind) (h : Heap) (q : PolicyQ) (k : Int) :
    (q.abs.get kind h k).2 = (lookup q.abs.items k).map (·.id) ∧
    ((q.abs.get kind h k).1 = q.abs ∨ (q.abs.get kind h k).1 = (q.removeKeyQ k).abs) := by
  cases hl : lookup q.abs.items k with
  | none => rw [LCache.get_of_lookup_none hl]; exact ⟨rfl, .inl rfl⟩
  | some e =>
    rw [LCache.get_of_lookup_some hl, removeKeyQ_abs]
    refine ⟨rfl, ?_⟩
    split
    · exact .inl rfl
    · exact .inr rfl

theorem abs_get_lru (h : Heap) (q : PolicyQ) (k : Int) (hk : q.holds k = true) :
    (q.abs.get .lru h k).1 = (q.removeKeyQ k).abs := by
  rw [← abs_hasKey, hasKey_true] at hk
  obtain ⟨e, he, hek⟩ := hk
  cases hl : lookup q.abs.items k with
  | none => exact absurd hek (lookup_none hl e he)
  | some e' => rw [LCache.get_of_lookup_some hl, removeKeyQ_abs]; rfl

def resize (q : PolicyQ) (n : Int) : PolicyQ :=
  if n < q.len then { q.dropN (q.len - n).toNat with cap := n } else { q with cap := n }

def free (q : PolicyQ) (n : Int) : PolicyQ :=
  if n ≤ q.cap - q.len then q else q.dropN (n - (q.cap - q.len)).toNat

/-- The policy-level meaning of each call (`Get`: see `PolicyQ.get`, FIFO's is as coded); nothing here refers
to the linked list. -/
def step (kind : Kind) (h : Heap) (q : PolicyQ) : LOp → PolicyQ
  | .put id => (q.put h id).1
  | .get k => (q.get (kind == .fifo) h k).1
  | .peek _ => q
  | .drop n => q.dropN n.toNat
  | .resize n => q.resize n
  | .free n => q.free n

def run (kind : Kind) (q : PolicyQ) : List (Heap × LOp) → PolicyQ
  | [] => q
  | (h, op) :: rest => run kind (q.step kind h op) rest

theorem dropN_cap (q : PolicyQ) (n : Nat) : (q.dropN n).cap = q.cap :=
  congrArg LCache.cap (abs_dropN q n)

theorem abs_resize (q : PolicyQ) (n : Int) : (q.resize n).abs = q.abs.resize n := by
  rw [resize, LCache.resize, ← abs_len]
  split
  · exact congrArg (fun c => LCache.mk n c.items) (abs_drop_int q _)
  · rfl

theorem abs_free (q : PolicyQ) (n : Int) : (q.free n).abs = (q.abs.free n).1 := by
  rw [free, LCache.free, ← abs_len]
  -- the same guard on both sides (the list's reads `q.abs.cap - q.abs.len`), so that one `split` decides both
  show (if n ≤ q.cap - q.abs.items.length then q else _).abs =
    (if n ≤ q.cap - q.abs.items.length then (q.abs, true) else _).1
  split
  · rfl
  · exact abs_drop_int q _

theorem abs_step (kind : Kind) (h : Heap) (q : PolicyQ) (op : LOp) :
    (q.step kind h op).abs = q.abs.step kind h op := by
  cases op with
  | put id => exact (congrArg Prod.fst (abs_put h q id)).symm
  | get k => exact (congrArg Prod.fst (abs_get_full kind h q k)).symm
  | peek k => rfl
  | drop n => exact abs_drop_int q n
  | resize n => exact abs_resize q n
  | free n => exact abs_free q n

theorem abs_run (kind : Kind) (q : PolicyQ) (hist : List (Heap × LOp)) :
    (q.run kind hist).abs = q.abs.run kind hist := by
  induction hist generalizing q with
  | nil => rfl
  | cons x rest ih => rw [run, LCache.run, ih, abs_step]

theorem abs_new (n : Int) : (PolicyQ.new n).abs = LCache.new n := rfl

end PolicyQ

end Hts.Spec.CacheContract
