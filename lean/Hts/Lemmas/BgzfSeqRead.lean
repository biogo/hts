/-
Lemmas about the sequential reader model (Hts.Model.BgzfSeqRead): each call delivers the next bytes
of the flat data.
Defined here, used in property statements: `Op.want`, `delivered`; for the lemmas: `Inv`.
-/
import Hts.Model.BgzfSeqRead
namespace Hts.Model.BgzfSeqRead
variable {α : Type}

theorem skipEmpty_none (cur : List α) (rest : List (List α)) :
    skipEmpty cur rest = none ↔ cur ++ rest.flatten = [] := by
  fun_induction skipEmpty cur rest with
  | case1 => simp
  | case2 b r ih => simpa using ih
  | case3 a cur rest => simp

theorem skipEmpty_some (cur : List α) (rest : List (List α)) (c : List α) (r : List (List α))
    (h : skipEmpty cur rest = some (c, r)) : c ≠ [] ∧ c ++ r.flatten = cur ++ rest.flatten := by
  fun_induction skipEmpty cur rest with
  | case1 => simp at h
  | case2 b r' ih => simpa using ih h
  | case3 a cur rest => simp at h; obtain ⟨rfl, rfl⟩ := h; simp

theorem readLoop_spec (want : Nat) (acc cur : List α) (rest : List (List α)) (hacc : acc.length ≤ want) :
    let res := readLoop want acc cur rest
    res.1 = acc ++ (cur ++ rest.flatten).take (want - acc.length) ∧
    res.2.1 ++ res.2.2.1.flatten = (cur ++ rest.flatten).drop (want - acc.length) ∧
    (res.2.2.2 = true ↔ (cur ++ rest.flatten).length < want - acc.length) := by
  fun_induction readLoop want acc cur rest with
  | case1 acc hw => simp; omega
  | case2 acc hw b r ih => simpa using ih hacc
  | case3 acc hw a t rest k ih =>
    have hk1 : k ≤ want - acc.length := Nat.min_le_left _ _
    have hk2 : k ≤ (a :: t).length := Nat.min_le_right _ _
    clear_value k
    have hlen : (acc ++ List.take k (a :: t)).length = acc.length + k := by
      rw [List.length_append, List.length_take, Nat.min_eq_left hk2]
    obtain ⟨h1, h2, h3⟩ := ih (by rw [hlen]; exact Nat.add_le_of_le_sub' hacc hk1)
    rw [hlen] at h1 h2 h3
    have hsplit : want - acc.length = k + (want - (acc.length + k)) := by
      rw [← Nat.sub_sub, Nat.add_sub_cancel' hk1]
    refine ⟨?_, ?_, ?_⟩
    · rw [h1, hsplit, List.take_add, List.append_assoc, List.take_append_of_le_length hk2,
        List.drop_append_of_le_length hk2]
    · rw [h2, hsplit, ← List.drop_drop, List.drop_append_of_le_length hk2]
    · rw [h3, List.length_append, List.length_append, List.length_drop]
      omega
  | case4 acc cur rest hw =>
    have : want - acc.length = 0 := by omega
    simp [this]

theorem init_concat (ws : List (List α)) (b : List α) : ∃ s, init (ws ++ [b]) = some s := by
  cases ws <;> exact ⟨_, rfl⟩

def Inv (s : State α) : Prop := s.eof = true → s.remaining = []

theorem init_inv (blocks : List (List α)) (s : State α) (h : init blocks = some s) :
    Inv s ∧ s.remaining = blocks.flatten := by
  cases blocks with
  | nil => simp [init] at h
  | cons b bs => simp [init] at h; subst h; simp [Inv, State.remaining]

theorem read_spec (n : Nat) (s : State α) (hs : Inv s) :
    let r := read n s
    r.2.1 = s.remaining.take n ∧ r.1.remaining = s.remaining.drop n ∧
    (r.2.2 = true ↔ (s.remaining.length < n ∨ s.remaining = [])) ∧ Inv r.1 := by
  simp only [read]
  cases he : s.eof with
  | true =>
    have := hs he
    simp [this, Inv]
  | false =>
    simp only [Bool.false_eq_true, if_false]
    cases hsk : skipEmpty s.cur s.rest with
    | none =>
      have := (skipEmpty_none _ _).mp hsk
      simp [State.remaining, this, Inv]
    | some cr =>
      obtain ⟨c, r⟩ := cr
      obtain ⟨hne, hflat⟩ := skipEmpty_some _ _ _ _ hsk
      have hsp := readLoop_spec n [] c r (by simp)
      simp only [List.length_nil, Nat.sub_zero, List.nil_append] at hsp
      obtain ⟨h1, h2, h3⟩ := hsp
      have hrem : s.remaining = c ++ r.flatten := by simp [State.remaining, hflat]
      simp only
      refine ⟨by rw [h1, hrem], by rw [hrem]; simp only [State.remaining]; rw [h2], ?_, ?_⟩
      · rw [h3, hrem]; simp [hne]
      · intro he'
        simp only at he'
        simp only [State.remaining]
        rw [h2]
        have := h3.mp he'
        exact List.drop_eq_nil_of_le (Nat.le_of_lt this)

theorem step_readByte (s : State α) : step s .readByte = read 1 s := by
  simp only [step, readByte, read]
  cases s.eof with
  | true => rfl
  | false =>
    simp only [Bool.false_eq_true, if_false]
    cases hsk : skipEmpty s.cur s.rest with
    | none => rfl
    | some cr =>
      obtain ⟨c, r⟩ := cr
      cases c with
      | nil => exact absurd rfl (skipEmpty_some _ _ _ _ hsk).1
      | cons a c =>
        have h2 : readLoop 1 [a] c r = ([a], c, r, false) := by rw [readLoop.eq_def]; rfl
        have h1 : readLoop 1 [] (a :: c) r = ([a], c, r, false) := by rw [readLoop.eq_def]; simpa using h2
        simp only [h1]
        rfl

/-- bytes an op asks for -/
def Op.want : Op → Nat
  | .read n => n
  | .readByte => 1

theorem step_spec (s : State α) (op : Op) (hs : Inv s) :
    let r := step s op
    r.2.1 = s.remaining.take op.want ∧ r.1.remaining = s.remaining.drop op.want ∧
    (r.2.2 = true ↔ (s.remaining.length < op.want ∨ s.remaining = [])) ∧ Inv r.1 := by
  cases op with
  | read n => exact read_spec n s hs
  | readByte => rw [step_readByte]; exact read_spec 1 s hs

/-- bytes delivered by a run, concatenated -/
def delivered (rs : List (List α × Bool)) : List α := (rs.map (·.1)).flatten

theorem run_spec (s : State α) (ops : List Op) (hs : Inv s) :
    delivered (run s ops).2 = s.remaining.take (ops.map Op.want).sum ∧
    (run s ops).1.remaining = s.remaining.drop (ops.map Op.want).sum ∧ Inv (run s ops).1 := by
  induction ops generalizing s with
  | nil => simp [run, delivered, hs]
  | cons op ops ih =>
    obtain ⟨h1, h2, _, h4⟩ := step_spec s op hs
    obtain ⟨i1, i2, i3⟩ := ih (step s op).1 h4
    simp only [run, delivered, List.map_cons, List.flatten_cons, List.sum_cons]
    simp only [delivered] at i1
    refine ⟨?_, ?_, i3⟩
    · rw [i1, h1, h2, List.take_add]
    · rw [i2, h2, List.drop_drop]

theorem run_init (blocks : List (List α)) (s0 : State α) (hinit : init blocks = some s0) (ops : List Op) :
    delivered (run s0 ops).2 = blocks.flatten.take (ops.map Op.want).sum ∧
    (run s0 ops).1.remaining = blocks.flatten.drop (ops.map Op.want).sum ∧ Inv (run s0 ops).1 := by
  obtain ⟨hinv, hrem⟩ := init_inv blocks s0 hinit
  exact hrem ▸ run_spec s0 ops hinv

theorem step_exhausted (s : State α) (op : Op) (hs : Inv s) (hrem : s.remaining = []) : (step s op).2 = ([], true) := by
  obtain ⟨h1, _, h3, _⟩ := step_spec s op hs
  exact Prod.ext (by rw [h1, hrem]; simp) (h3.mpr (Or.inr hrem))

end Hts.Model.BgzfSeqRead
