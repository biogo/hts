import Hts.Lemmas.Decoders
import Hts.Model.DecodersIndex
namespace Hts.Model.Decoders
open Outcome (Sat)

theorem take?_spec (k : Nat) (s : Bytes) : (take? k s).Sat fun ab => ab.1.length = k :=
  .ite_err fun h => List.length_take_of_le (Nat.le_of_not_lt h)

theorem rdI32_spec (s : Bytes) : (rdI32 s).Sat fun _ => True := (take?_spec 4 s).bind fun _ _ => trivial

theorem rdU32_spec (s : Bytes) : (rdU32 s).Sat fun _ => True := (take?_spec 4 s).bind fun _ _ => trivial

theorem skip_spec (k : Nat) (s : Bytes) : (skip k s).Sat fun _ => True := (take?_spec k s).bind fun _ _ => trivial

theorem readRecords_spec (size : Nat) : ∀ (cnt : Nat) (s : Bytes), (readRecords size cnt s).Sat fun _ => True
  | 0, _ => trivial
  | cnt + 1, s => by
    rw [readRecords]
    exact (skip_spec size s).elim trivial fun r _ => readRecords_spec size cnt r

theorem readChunksM_spec (n : Int) (s : Bytes) : (readChunksM n s).Sat fun _ => True :=
  .ite (fun _ => trivial) fun _ => .ite_err fun h =>
    .bind_eq (makeLen_of_nonneg (Int.not_lt.mp h)) <| (readRecords_spec 16 _ s).bind fun _ _ => trivial

theorem readIntervalsM_spec (s : Bytes) : (readIntervalsM s).Sat fun _ => True :=
  (rdI32_spec s).bind fun _ _ => .ite (fun _ => trivial) fun _ => .ite_err fun h =>
    .bind_eq (makeLen_of_nonneg (Int.not_lt.mp h)) <| (readRecords_spec 8 _ _).bind fun _ _ => trivial

/-- Each pseudo-bin shortens `bins` by one and uses one iteration, so `remaining ≤ len(bins)` holds throughout and
`len(bins) - 1 ≥ 0` at the slice `bins[:len(bins)-1]`, the one site of the file that needs an invariant. -/
theorem readBinsLoop_spec : ∀ (remaining : Nat) (lenBins : Int) (s : Bytes) (acc : BinsAcc),
    (remaining : Int) ≤ lenBins → (readBinsLoop remaining lenBins s acc).Sat fun _ => True
  | 0, _, _, _, _ => trivial
  | remaining + 1, lenBins, s, acc, hinv => by
    rw [readBinsLoop]
    refine (rdU32_spec s).elim trivial fun ⟨bin, s1⟩ _ => ?_
    dsimp only
    refine (rdI32_spec s1).elim trivial fun ⟨n, s2⟩ _ => ?_
    refine .ite (fun _ => .ite_err fun _ => ?_) fun _ => ?_
    · refine (skip_spec 32 s2).elim trivial fun s3 _ => ?_
      dsimp only
      rw [if_neg (by omega)]  -- the slice site, from `hinv`
      exact readBinsLoop_spec remaining _ s3 _ (by omega)
    · exact (readChunksM_spec n s2).elim trivial fun ⟨cnt, s3⟩ _ => readBinsLoop_spec remaining _ s3 _ (by omega)

theorem readBinsM_spec (s : Bytes) : (readBinsM s).Sat fun _ => True :=
  (rdI32_spec s).bind fun _ _ => .ite (fun _ => trivial) fun _ => .ite_err fun h =>
    .bind_eq (makeLen_of_nonneg (Int.not_lt.mp h)) <| readBinsLoop_spec _ _ _ _ (by omega)

theorem readRefsLoop_spec : ∀ (cnt : Nat) (s : Bytes) (len : Nat), (readRefsLoop cnt s len).Sat fun _ => True
  | 0, _, _ => trivial
  | cnt + 1, s, len => by
    rw [readRefsLoop]
    refine (readBinsM_spec s).elim trivial fun ⟨b, s1⟩ _ => ?_
    dsimp only
    exact (readIntervalsM_spec s1).elim trivial fun ⟨ni, s2⟩ _ => readRefsLoop_spec cnt s2 _

theorem readIndexBody_spec (n : Int) (s : Bytes) (base : Nat) : (readIndexBody n s base).Sat fun _ => True :=
  .ite_err fun h => .bind_eq (makeLen_of_nonneg (Int.not_lt.mp h)) <|
    (readRefsLoop_spec _ s base).bind fun _ _ => .ite (fun _ => trivial) fun _ => .ite_err fun _ => trivial

theorem readNames_spec (s : Bytes) : (readNames s).Sat fun _ => True := by
  refine (rdI32_spec s).bind fun ls _ => .ite_err fun hl => .ite (fun _ => trivial) fun hz => ?_
  refine .bind_eq (makeLen_of_nonneg (Int.not_lt.mp hl)) <| (take?_spec _ _).bind fun ns hlen => ?_
  have : ns.1.length ≠ 0 := by rw [hlen]; omega
  refine .bind_eq (indexInt_last this) <| .ite_err fun _ => ?_
  exact .bind_eq (sliceTo_of_le (by omega)) trivial

end Hts.Model.Decoders
