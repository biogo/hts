/-
Which caches satisfy the abstract contract of Hts.Spec.CacheContract:
LRU and Random do; a StatsRecorder around a conforming cache does; for FIFO the file holds the state on which
`get_hit` fails (`fifo_get_keeps_used`: `Get` of a used block leaves it indexed; the statement
`¬ Contract fifoOps LCache.WF` is C14's `fifo_violates_contract`).  What the reader model needs of `Put` and `Peek`
(`Contract.putSub`, `Contract.peekSub`) is with `PutSub` and `PeekSub` in Hts.Lemmas.CachedReaderSim.

The sum of two cache kinds is a cache kind: a value of `σ₁ ⊕ σ₂` is "a cache object of kind 1 or
of kind 2".  If both kinds satisfy `Contract`, so does the sum; instantiating the C03 theorems with a sum lets
ONE history attach an LRU, then a Random, then a StatsRecorder (each `SetCache` carries its own object).
-/
import Hts.Lemmas.Cache
import Hts.Spec.CacheContract
namespace Hts.Spec.CacheContract
open Hts.Model.Cache

/-- the two shapes of `put_kept` in one -/
theorem Contract.put_kept_mem {σ : Type} {o : CacheOps σ} {wf : σ → Prop} (c : Contract o wf) {h : Heap}
    {s s' : σ} {id : Nat} {hint ev : Option Nat} (w : wf s) (hp : o.put h s id hint = some (s', .kept ev)) :
    ∃ out : List Entry, out.map (·.id) = ev.toList ∧ (∀ x ∈ out, x ∈ o.held s) ∧
      ∀ e, e ∈ o.held s' ↔ e = ⟨(h id).base, id⟩ ∨ (e ∈ o.held s ∧ e ∉ out) := by
  have hk := (c.put_kept h s id hint s' ev w hp).2
  cases ev with
  | none =>
    exact ⟨[], rfl, nofun, fun e => (hk e).trans (or_congr_right (and_iff_left List.not_mem_nil).symm)⟩
  | some v =>
    obtain ⟨kv, hv, hk⟩ := hk
    refine ⟨[⟨kv, v⟩], rfl, fun x hx => List.mem_singleton.1 hx ▸ hv, fun e => (hk e).trans ?_⟩
    rw [List.mem_singleton]

/-- hit and miss of `Get` in one -/
theorem Contract.get_mem {σ : Type} {o : CacheOps σ} {wf : σ → Prop} (c : Contract o wf) (h : Heap)
    {s : σ} (k : Int) (w : wf s) :
    (∀ id ∈ (o.get h s k).2, (⟨k, id⟩ : Entry) ∈ o.held s) ∧
    ∀ e, e ∈ o.held (o.get h s k).1 ↔ e ∈ o.held s ∧ ∀ id ∈ (o.get h s k).2, e ≠ ⟨k, id⟩ := by
  cases hg : o.get h s k with
  | mk s' r =>
    cases r with
    | none =>
      rw [(c.get_miss h s k s' w hg).1]
      exact ⟨nofun, fun e => (and_iff_left nofun).symm⟩
    | some id =>
      obtain ⟨hm, hk⟩ := c.get_hit h s k s' id w hg
      refine ⟨fun _ hi => Option.some.inj hi ▸ hm, fun e => (hk e).trans (and_congr_right fun _ => ?_)⟩
      exact ⟨fun hne _ hi => Option.some.inj hi ▸ hne, fun hne => hne id rfl⟩

theorem contract_of_list {σ : Type} {o : CacheOps σ} {wf : σ → Prop} {cap : σ → Int}
    {ok : Heap → σ → Entry → Prop}
    (nodup : ∀ s, wf s → KeysNodup (o.held s))
    (get_wf : ∀ h s k, wf s → wf (o.get h s k).1)
    (put_wf : ∀ h s id hint s' r, wf s → o.put h s id hint = some (s', r) → wf s')
    (get_none : ∀ h s k, lookup (o.held s) k = none → o.get h s k = (s, none))
    (get_some : ∀ h s k e, lookup (o.held s) k = some e →
      ∃ s', o.get h s k = (s', some e.id) ∧ o.held s' = removeKey (o.held s) k)
    (peek_none : ∀ h s k, lookup (o.held s) k = none → o.peek h s k = (false, -1))
    (peek_some : ∀ h s k e, lookup (o.held s) k = some e → o.peek h s k = (true, (h e.id).next))
    (put_spec : ∀ h s id hint s' r, wf s → o.put h s id hint = some (s', r) →
      PutSpec (ok h s) h (cap s) (o.held s) id (o.held s') r) :
    Contract o wf where
  get_wf := get_wf
  put_wf := put_wf
  put_no_panic h s id hint s' w hp := (put_spec h s id hint s' _ w hp).ne_panic rfl
  get_hit h s k s' id w hg := by
    cases hl : lookup (o.held s) k with
    | none => rw [get_none h s k hl] at hg; cases hg
    | some e =>
      obtain ⟨_, h2, h1⟩ := get_some h s k e hl
      obtain ⟨hm, rfl⟩ := lookup_some hl
      cases hg.symm.trans h2
      exact ⟨hm, fun x => h1 ▸ mem_removeKey_iff (nodup s w) hm x⟩
  get_miss h s k s' w hg := by
    cases hl : lookup (o.held s) k with
    | none => rw [get_none h s k hl] at hg; cases hg; exact ⟨rfl, lookup_none hl⟩
    | some e => obtain ⟨_, h2, _⟩ := get_some h s k e hl; cases hg.symm.trans h2
  put_refused h s id hint s' w hp := by
    have p := put_spec h s id hint s' _ w hp
    -- `o.held s'` is no variable: `cases` needs it generalized (so below)
    generalize o.held s' = items' at p ⊢
    cases p
    rfl
  put_kept h s id hint s' ev w hp := by
    have p := put_spec h s id hint s' _ w hp
    have hn := nodup s w
    generalize o.held s' = items' at p ⊢
    cases p with
    | front hk _ => exact ⟨hasKey_false.1 hk, fun e => List.mem_cons⟩
    | back hk _ =>
      exact ⟨hasKey_false.1 hk, fun e => by rw [List.mem_append, List.mem_singleton, or_comm]⟩
    | @evict d hk _ hd _ =>
      exact ⟨hasKey_false.1 hk, d.key, hd, fun e => by rw [List.mem_cons, mem_removeKey_iff hn hd]⟩
  peek_hit h s k nx w hp := by
    cases hl : lookup (o.held s) k with
    | none => rw [peek_none h s k hl] at hp; cases hp
    | some e =>
      rw [peek_some h s k e hl] at hp
      cases hp
      obtain ⟨hm, rfl⟩ := lookup_some hl
      exact ⟨e.id, hm, rfl⟩
  peek_miss h s k nx w hp := by
    cases hl : lookup (o.held s) k with
    | none => rw [peek_none h s k hl] at hp; cases hp; exact ⟨rfl, lookup_none hl⟩
    | some e => rw [peek_some h s k e hl] at hp; cases hp
  keys_distinct := nodup

theorem lru_contract : Contract lruOps LCache.WF :=
  contract_of_list (fun _ w => w.nodup) (fun _ _ k w => LCache.get_wf w k)
    (fun _ _ _ _ _ _ w hp => LCache.put_wf w (Option.some.inj hp))
    (fun _ _ _ hl => LCache.get_of_lookup_none hl)
    -- `rfl`: for `.lru` the guard of `get_of_lookup_some` is decided false, so the entry has left `held`; with `.fifo` this is
    -- the step that fails (`fifo_get_keeps_used`)
    (fun _ _ _ _ hl => ⟨_, LCache.get_of_lookup_some hl, rfl⟩)
    (fun _ _ _ hl => LCache.peek_of_lookup_none hl)
    (fun _ _ _ _ hl => LCache.peek_of_lookup_some hl)
    (fun _ _ _ _ _ _ w hp => (LCache.put_spec w (Option.some.inj hp)).2)

theorem random_contract : Contract randomOps RCache.WF :=
  contract_of_list (fun _ w => w.nodup) (fun _ _ k w => RCache.get_wf w k)
    (fun _ _ _ _ _ _ w hp => RCache.put_wf w hp)
    (fun _ _ _ hl => RCache.get_of_lookup_none hl)
    (fun _ _ _ _ hl => ⟨_, RCache.get_of_lookup_some hl, rfl⟩)
    (fun _ _ _ hl => RCache.peek_of_lookup_none hl)
    (fun _ _ _ _ hl => RCache.peek_of_lookup_some hl)
    (fun _ _ _ _ _ _ _ hp => (RCache.put_spec hp).2)

theorem map_put_eq_some {α β : Type} {f : α → PutRes → β} {p : Option (α × PutRes)} {t : β} {r : PutRes}
    (hp : p.map (fun x => (f x.1 x.2, x.2)) = some (t, r)) : ∃ c, p = some (c, r) ∧ f c r = t := by
  cases p with
  | none => cases hp
  | some x => cases hp; exact ⟨x.1, rfl, rfl⟩

theorem recorder_put {σ : Type} {o : CacheOps σ} {h : Heap} {s s' : σ × Stats} {id : Nat}
    {hint : Option Nat} {r : PutRes} (hp : (recorderOps o).put h s id hint = some (s', r)) :
    o.put h s.1 id hint = some (s'.1, r) := by
  obtain ⟨c', h1, rfl⟩ := map_put_eq_some (f := fun c r => (c, s.2.onPut r)) hp
  exact h1

theorem recorder_get {σ : Type} {o : CacheOps σ} {h : Heap} {s s' : σ × Stats} {k : Int}
    {r : Option Nat} (hg : (recorderOps o).get h s k = (s', r)) : o.get h s.1 k = (s'.1, r) := by
  cases hg
  rfl

theorem recorder_contract {σ : Type} {o : CacheOps σ} {wf : σ → Prop} (c : Contract o wf) :
    Contract (recorderOps o) (fun s => wf s.1) where
  get_wf h s k w := c.get_wf h s.1 k w
  put_wf h s id hint s' r w hp := c.put_wf h s.1 id hint s'.1 r w (recorder_put hp)
  put_no_panic h s id hint s' w hp := c.put_no_panic h s.1 id hint s'.1 w (recorder_put hp)
  get_hit h s k s' id w hg := c.get_hit h s.1 k s'.1 id w (recorder_get hg)
  get_miss h s k s' w hg := c.get_miss h s.1 k s'.1 w (recorder_get hg)
  put_refused h s id hint s' w hp := c.put_refused h s.1 id hint s'.1 w (recorder_put hp)
  put_kept h s id hint s' ev w hp := c.put_kept h s.1 id hint s'.1 ev w (recorder_put hp)
  peek_hit h s k nx w hp := c.peek_hit h s.1 k nx w hp
  peek_miss h s k nx w hp := c.peek_miss h s.1 k nx w hp
  keys_distinct s w := c.keys_distinct s.1 w

def witnessHeap : Heap := fun _ => ⟨0, true, 10⟩

def witnessFifo : LCache := ⟨1, [⟨0, 0⟩]⟩

theorem witnessFifo_wf : witnessFifo.WF :=
  ⟨by decide, by decide, List.pairwise_singleton _ _⟩

theorem witnessFifo_reachable : (LCache.new 1).put witnessHeap 0 = (witnessFifo, .kept none) := by
  decide

theorem fifo_get_keeps_used :
    fifoOps.get witnessHeap witnessFifo 0 = (witnessFifo, some 0) := by decide

def sumOps {σ₁ σ₂ : Type} (o₁ : CacheOps σ₁) (o₂ : CacheOps σ₂) : CacheOps (σ₁ ⊕ σ₂) where
  put h s id hint :=
    match s with
    | .inl a => (o₁.put h a id hint).map (fun x => (.inl x.1, x.2))
    | .inr b => (o₂.put h b id hint).map (fun x => (.inr x.1, x.2))
  get h s k :=
    match s with
    | .inl a => (.inl (o₁.get h a k).1, (o₁.get h a k).2)
    | .inr b => (.inr (o₂.get h b k).1, (o₂.get h b k).2)
  peek h s k :=
    match s with
    | .inl a => o₁.peek h a k
    | .inr b => o₂.peek h b k
  held s :=
    match s with
    | .inl a => o₁.held a
    | .inr b => o₂.held b

def sumWF {σ₁ σ₂ : Type} (wf₁ : σ₁ → Prop) (wf₂ : σ₂ → Prop) : σ₁ ⊕ σ₂ → Prop
  | .inl a => wf₁ a
  | .inr b => wf₂ b

theorem sum_contract {σ₁ σ₂ : Type} {o₁ : CacheOps σ₁} {o₂ : CacheOps σ₂} {wf₁ : σ₁ → Prop}
    {wf₂ : σ₂ → Prop} (c₁ : Contract o₁ wf₁) (c₂ : Contract o₂ wf₂) :
    Contract (sumOps o₁ o₂) (sumWF wf₁ wf₂) where
  get_wf h s :=
    match s with
    | .inl a => c₁.get_wf h a
    | .inr b => c₂.get_wf h b
  put_wf h s id hint s' r w hp := by
    cases s with
    | inl a =>
      obtain ⟨c', h1, rfl⟩ := map_put_eq_some (f := fun x _ => Sum.inl x) hp
      exact c₁.put_wf h a id hint c' r w h1
    | inr b =>
      obtain ⟨c', h1, rfl⟩ := map_put_eq_some (f := fun x _ => Sum.inr x) hp
      exact c₂.put_wf h b id hint c' r w h1
  put_no_panic h s id hint s' w hp := by
    cases s with
    | inl a =>
      obtain ⟨c', h1, rfl⟩ := map_put_eq_some (f := fun x _ => Sum.inl x) hp
      exact c₁.put_no_panic h a id hint c' w h1
    | inr b =>
      obtain ⟨c', h1, rfl⟩ := map_put_eq_some (f := fun x _ => Sum.inr x) hp
      exact c₂.put_no_panic h b id hint c' w h1
  get_hit h s k s' id w hg := by
    cases s with
    | inl a =>
      obtain ⟨rfl, h2⟩ := Prod.mk.inj (hg : (Sum.inl _, _) = _)
      exact c₁.get_hit h a k _ id w (Prod.ext rfl h2)
    | inr b =>
      obtain ⟨rfl, h2⟩ := Prod.mk.inj (hg : (Sum.inr _, _) = _)
      exact c₂.get_hit h b k _ id w (Prod.ext rfl h2)
  get_miss h s k s' w hg := by
    cases s with
    | inl a =>
      obtain ⟨rfl, h2⟩ := Prod.mk.inj (hg : (Sum.inl _, _) = _)
      exact c₁.get_miss h a k _ w (Prod.ext rfl h2)
    | inr b =>
      obtain ⟨rfl, h2⟩ := Prod.mk.inj (hg : (Sum.inr _, _) = _)
      exact c₂.get_miss h b k _ w (Prod.ext rfl h2)
  put_refused h s id hint s' w hp := by
    cases s with
    | inl a =>
      obtain ⟨c', h1, rfl⟩ := map_put_eq_some (f := fun x _ => Sum.inl x) hp
      exact c₁.put_refused h a id hint c' w h1
    | inr b =>
      obtain ⟨c', h1, rfl⟩ := map_put_eq_some (f := fun x _ => Sum.inr x) hp
      exact c₂.put_refused h b id hint c' w h1
  put_kept h s id hint s' ev w hp := by
    cases s with
    | inl a =>
      obtain ⟨c', h1, rfl⟩ := map_put_eq_some (f := fun x _ => Sum.inl x) hp
      exact c₁.put_kept h a id hint c' ev w h1
    | inr b =>
      obtain ⟨c', h1, rfl⟩ := map_put_eq_some (f := fun x _ => Sum.inr x) hp
      exact c₂.put_kept h b id hint c' ev w h1
  peek_hit h s :=
    match s with
    | .inl a => c₁.peek_hit h a
    | .inr b => c₂.peek_hit h b
  peek_miss h s :=
    match s with
    | .inl a => c₁.peek_miss h a
    | .inr b => c₂.peek_miss h b
  keys_distinct s :=
    match s with
    | .inl a => c₁.keys_distinct a
    | .inr b => c₂.keys_distinct b

end Hts.Spec.CacheContract
