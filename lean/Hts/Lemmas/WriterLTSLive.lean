/-
Writer LTS: dead-lock freedom of the repaired protocol and a measure that strictly decreases on every step.
That a step is enabled is shown on `apiStep`/`emStep` themselves (the rules `ApiStep`/`EmStep` are only proved sound):
a new branch of the step function must be added here too.
Executable successors are complete and schedules reach reachable states (used by the `decide`d witnesses of
the unchanged protocol's dead state); `runTrace` runs a schedule and collects the trace (used by examples of Props/C09, C12).
-/
import Hts.Lemmas.WriterLTSInv
namespace Hts.Model.WriterLTS

variable {cfg : Cfg} {s t : State} {e : Option Ev}

def CanStep (cfg : Cfg) (s : State) : Prop := ∃ l, (next cfg s l).isSome = true

theorem CanStep.step (h : CanStep cfg s) : ∃ t, Step cfg s t := by
  obtain ⟨l, hl⟩ := h
  obtain ⟨⟨e, t⟩, ht⟩ := Option.isSome_iff_exists.1 hl
  exact ⟨t, l, e, ht⟩

theorem canStep_em (h : (emStep cfg s).isSome = true) : CanStep cfg s := ⟨.em, h⟩

/-- Last disjunct: the emitter waits on `<-qw.flush` for the block that Close has queued `held` and will compress
    itself at `cComp`; the API goroutine is then at `cTake`/`cComp` and can move. -/
theorem em_progress (hr : cfg.repaired = true) (hi : Inv cfg s) :
    CanStep cfg s ∨ (s.queue = [] ∧ ((s.em = .recv ∧ s.closed = false) ∨ s.em = .done ∨ apiHolding s.api = true)) := by
  cases hem : s.em with
  | recv =>
    cases hq : s.queue with
    | nil =>
      cases hc : s.closed with
      | false => exact .inr ⟨rfl, .inl ⟨rfl, rfl⟩⟩
      | true => exact .inl (canStep_em (by simp [emStep, hem, hq, hc]))
    | cons it q => exact .inl (canStep_em (by simp [emStep, hem, hq]))
  | hold it =>
    cases hst : it.st with
    | compressing => exact .inl ⟨.finE, by simp [next, hem, hst]⟩
    | flushed =>
      refine .inl (canStep_em ?_)
      simp only [emStep, hem, hst, if_true]
      -- a flushed block is dealt with whatever the fault oracles and the latch say: every branch is `some _`
      repeat' split
      all_goals rfl
    | held =>
      -- only Close's own block is `held`, and it is the last one queued
      have h := hi.held
      simp only [unwritten, hem, emUnwritten, List.singleton_append] at h
      obtain ⟨hh, hq⟩ := heldOK_head h (by simp [isHeld, hst])
      exact .inr ⟨hq, .inr (.inr hh)⟩
  | failed it => exact .inl (canStep_em (by simp [emStep, hem, hr]))
  | latch it => exact absurd hem (hi.rep it).1
  | rel it => exact .inl (canStep_em (by simp [emStep, hem]))
  | push it =>
    have hc := hi.cons
    simp only [hem, emHolds] at hc
    have : s.waiting.length < cfg.n := by omega
    exact .inl (canStep_em (by simp [emStep, hem, this]))
  | pushx it => exact absurd hem (hi.rep it).2
  | done => exact .inr ⟨(hi.emDone hem).2, .inr (.inl rfl)⟩

theorem deadlock_free_of_inv (hr : cfg.repaired = true) (hi : Inv cfg s) : AllIdle s ∨ ∃ t, Step cfg s t := by
  rcases em_progress hr hi with h | ⟨hq, hE⟩
  · exact .inr h.step
  -- the emitter is stuck with an empty queue: the API goroutine can move, or all is at rest.  A receive from `waiting`
  -- cannot block: the queue is empty, the emitter holds at most one compressor (`hH`), the API goroutine `apiHolds` ≤ 1,
  -- and by `Inv.cons` these and `waiting` sum to `cfg.n ≥ 2`, so `waiting ≠ []`
  have hn := cfg.n_ge_two
  have hcons := hi.cons
  have hat := hi.atPc
  have hH : emHolds s.em ≤ 1 := by cases s.em <;> simp [emHolds]
  have hE' : apiHolding s.api = false →
      emHolds s.em = 0 ∧ s.pending = 0 ∧ (s.em = .recv ∧ s.closed = false ∨ s.em = .done) := by
    intro hh
    rcases hE with h | h | h
    · simp [h, hi.pend, hq, emHolds, emPend]
    · simp [h, hi.pend, hq, emHolds, emPend]
    · simp [hh] at h
  simp only [hq, List.length_nil] at hcons
  have step : (apiStep cfg s).isSome = true → AllIdle s ∨ ∃ t, Step cfg s t := fun h => .inr (CanStep.step ⟨.api, h⟩)
  -- from here `hat` is `At s pc` unfolded for the pc at hand, and `hE'` is unconditional except at `cTake`/`cComp`
  cases hapi : s.api <;> simp only [hapi, At, apiHolds, apiHolding, forall_const] at hcons hat hE'
  case idle =>
    cases hs : s.script with
    | cons op rest => exact step (by simp [apiStep, hapi, hs])
    | nil => exact .inl ⟨⟨hapi, hs⟩, hq, hE'.2.1, hE'.2.2.imp And.left id⟩
  case wSub | cEnq =>
    obtain ⟨c, hc⟩ := Option.isSome_iff_exists.1 hat.2
    exact step (by simp [apiStep, hapi, hc, hq]; omega)
  case wTake | cTake =>
    cases hw : s.waiting with
    | cons c ws => exact step (by simp [apiStep, hapi, hw])
    | nil => simp [hw] at hcons; omega
  case fSwap =>
    obtain ⟨a, ha⟩ := Option.isSome_iff_exists.1 hat.2
    cases hw : s.waiting with
    | cons c ws => exact step (by simp [apiStep, hapi, ha, hw, hq]; omega)
    | nil => simp [hw, hE'.1] at hcons; omega
  case wtBlock => exact step (by simp [apiStep, hapi, hE'.2.1])
  case cJoin => exact step (by simpa [apiStep, hapi, hat.1] using hE'.2.2)
  -- at every other pc a rule fires whatever the state: each branch of `apiStep` there is `some _`
  all_goals
    refine step ?_
    simp only [apiStep, hapi]
    repeat' split
    all_goals rfl

def opCost : Op → Nat
  | .write k => 12 * k + 2
  | .flush _ => 13
  | .wait => 3
  | .close => 15

def pcM : ApiPc → Nat
  | .idle => 0
  | .retClosed => 1
  | .wLoop k => 12 * k + 1
  | .wSub k => 12 * k + 11
  | .wTake k => 12 * k + 2
  | .fChk _ => 12
  | .fSwap => 11
  | .fRet => 1
  | .wtChk => 2
  | .wtBlock => 1
  | .cEnq => 14
  | .cTake => 5
  | .cComp => 4
  | .cJoin => 3
  | .cEof => 2
  | .cRet => 1

def stM : ISt → Nat
  | .flushed => 0
  | _ => 1

def emM : EmPc → Nat
  | .recv => 1
  | .hold it => 6 + stM it.st
  | .failed _ => 5
  | .latch _ => 4
  | .rel _ => 3
  | .push _ => 2
  | .pushx _ => 1
  | .done => 0

def itemM (it : Item) : Nat := 7 + stM it.st

def sumM : List Item → Nat
  | [] => 0
  | it :: q => itemM it + sumM q

def scriptM : List Op → Nat
  | [] => 0
  | op :: r => opCost op + scriptM r

/-- work left: for the API goroutine (rest of the current call and of the script), for every queued block,
    and for the emitter's current block.
    The constants: `pcM` falls along the pcs of a call and `opCost op` exceeds `pcM` of the call's first pc
    (`entry_pcM`); a step that queues a block lowers `pcM` by at least 9 and the new item is worth at most 8; an
    item loses 1 when its compression ends, 1 more when the emitter takes it (`emM (.hold it) = itemM it - 1`), and
    the emitter then counts down through its pcs to `recv` (1) and `done` (0). -/
def measure (s : State) : Nat := pcM s.api + scriptM s.script + sumM s.queue + emM s.em

theorem sumM_append (a b : List Item) : sumM (a ++ b) = sumM a + sumM b := by
  induction a with
  | nil => simp [sumM]
  | cons x a ih => simp [sumM, ih]; omega

theorem stM_unhold (it : Item) : stM (unhold it).st ≤ stM it.st := by
  unfold unhold
  split
  · rename_i h; simp [h, stM]
  · exact Nat.le_refl _

theorem sumM_unhold (q : List Item) : sumM (q.map unhold) ≤ sumM q := by
  induction q with
  | nil => exact Nat.le_refl _
  | cons x q ih =>
    have := stM_unhold x
    simp only [List.map_cons, sumM, itemM]
    omega

theorem emM_unhold (em : EmPc) : emM (unholdEm em) ≤ emM em := by
  cases em <;> simp only [unholdEm, emM] <;> try exact Nat.le_refl _
  rename_i it
  have := stM_unhold it
  omega

theorem entry_pcM (op : Op) (c : Bool) : pcM (entry op c) < opCost op := by
  cases op <;> cases c <;> simp [entry, pcM, opCost]

theorem trans_measure (h : Trans cfg s e t) : measure t < measure s := by
  cases h with
  | api h =>
    have h1 := sumM_unhold s.queue
    have h2 := emM_unhold s.em
    cases h
    case call op _ _ _ => have := entry_pcM op s.closed; simp only [measure, *, scriptM]; omega
    all_goals (simp only [measure, *, pcM, sumM_append, sumM, itemM, stM]; omega)
  | em h =>
    cases h
    all_goals simp only [measure, *, emM, sumM, itemM, stM]
    all_goals omega
  | finQ hq =>
    obtain ⟨a, it, b, hq', -, hc, rfl⟩ := finishAt_spec hq
    simp only [measure, hq', sumM_append, sumM, itemM, stM, hc]; omega
  | finE hem hc => simp only [measure, hem, emM, hc, stM]; omega

theorem step_measure (h : Step cfg s t) : measure t < measure s :=
  let ⟨_, _, hn⟩ := h; trans_measure (next_trans hn)

/-- Every execution of the repaired protocol can be continued to rest, stated as an induction principle over the
    reachable states (strong induction on `measure`). -/
theorem comes_to_rest (hr : cfg.repaired = true) {P : State → Prop}
    (rest : ∀ s, Reachable cfg s → AllIdle s → P s)
    (back : ∀ s t, Step cfg s t → P t → P s) (h : Reachable cfg s) : P s := by
  generalize hm : measure s = m
  induction m using Nat.strongRecOn generalizing s with
  | _ m ih =>
    rcases deadlock_free_of_inv hr (reachable_inv hr h) with hidle | ⟨t, hst⟩
    · exact rest s h hidle
    · exact back s t hst (ih (measure t) (hm ▸ step_measure hst) (.step h hst) rfl)

theorem succs_complete {cfg : Cfg} {s t : State} {l : Label} {e : Option Ev} (h : next cfg s l = some (e, t)) :
    (l, e, t) ∈ succs cfg s := by
  simp only [succs, List.mem_filterMap]
  refine ⟨l, ?_, by simp [h]⟩
  cases l with
  | api => simp [labels]
  | em => simp [labels]
  | finE => simp [labels]
  | finQ i =>
    simp only [next, Option.map_eq_some_iff] at h
    obtain ⟨q, hq, _⟩ := h
    obtain ⟨a, it, b, hq', rfl, -⟩ := finishAt_spec hq
    simp [labels, hq']

theorem no_step_of_succs_nil {cfg : Cfg} {s : State} (h : succs cfg s = []) : ¬ ∃ t, Step cfg s t := by
  rintro ⟨t, l, e, hn⟩
  have := succs_complete hn
  rw [h] at this
  simp at this

theorem runLabels_reachable {cfg : Cfg} : ∀ {ls : List Label} {s t : State},
    runLabels cfg s ls = some t → Reachable cfg s → Reachable cfg t
  | [], s, t, h, hr => by simp [runLabels] at h; exact h ▸ hr
  | l :: ls, s, t, h, hr => by
    simp only [runLabels] at h
    split at h
    · rename_i e u hn
      exact runLabels_reachable h (.step hr ⟨l, e, hn⟩)
    · cases h

/-- run a schedule, collecting the observable trace (newest event first) -/
def runTrace (cfg : Cfg) : List Ev → State → List Label → Option (List Ev × State)
  | tr, s, [] => some (tr, s)
  | tr, s, l :: ls => match next cfg s l with
    | some (e, t) => runTrace cfg (e.toList ++ tr) t ls
    | none => none

theorem runTrace_run {cfg : Cfg} : ∀ {ls : List Label} {tr tr' : List Ev} {s t : State},
    runTrace cfg tr s ls = some (tr', t) → Run cfg tr s → Run cfg tr' t
  | [], tr, tr', s, t, h, hr => by
    simp only [runTrace, Option.some.injEq, Prod.mk.injEq] at h
    exact h.1 ▸ h.2 ▸ hr
  | l :: ls, tr, tr', s, t, h, hr => by
    simp only [runTrace] at h
    split at h
    · rename_i e u hn
      exact runTrace_run h (.step hr hn)
    · cases h

end Hts.Model.WriterLTS
