/-
The binning scheme of the specification, for every (minShift, depth): the bin of an interval is among the
bins listed for any interval that overlaps it.  Before that, the arithmetic of the level offsets (8^l - 1)/7 that the
Go-shaped loops of Hts.Lemmas.Coord rest on as well (`levelOffset_succ`, `_mono`, `_add_lt`; 8^l = 2^(3l)).
-/
import Hts.Spec.Coord
namespace Hts.Spec.Coord

theorem shift_mono {a b : Nat} (h : a ≤ b) (s : Nat) : a >>> s ≤ b >>> s := by
  simp only [Nat.shiftRight_eq_div_pow]
  exact Nat.div_le_div_right h

theorem pow8_pos (l : Nat) : 1 ≤ 8 ^ l := Nat.pow_pos (by omega)

theorem seven_mul_levelOffset (l : Nat) : 7 * levelOffset l = 8 ^ l - 1 := by
  have h1 : 8 ^ l % 7 = 1 := by rw [Nat.pow_mod, Nat.one_pow]
  have := pow8_pos l
  unfold levelOffset
  omega

theorem levelOffset_succ (l : Nat) : levelOffset (l + 1) = levelOffset l + 8 ^ l := by
  have hp := pow8_pos l
  refine Nat.eq_of_mul_eq_mul_left (show 0 < 7 by decide) ?_
  rw [seven_mul_levelOffset, Nat.mul_add, seven_mul_levelOffset, Nat.pow_succ]
  omega

theorem levelOffset_mono {a b : Nat} (h : a ≤ b) : levelOffset a ≤ levelOffset b := by
  induction h with
  | refl => exact Nat.le_refl _
  | step _ ih => rw [levelOffset_succ]; have := pow8_pos ‹Nat›; omega

theorem levelOffset_add_lt {l x : Nat} (h : x < 8 ^ l) : levelOffset l + x < levelOffset (l + 1) := by
  rw [levelOffset_succ]; omega

theorem pow8_eq (l : Nat) : 8 ^ l = 2 ^ (3 * l) := by
  rw [Nat.pow_mul]

theorem shr_lt_pow8 {b s l : Nat} (h : b < 2 ^ (s + 3 * l)) : b >>> s < 8 ^ l := by
  rw [Nat.shiftRight_eq_div_pow, pow8_eq]
  exact Nat.div_lt_of_lt_mul (Nat.pow_add .. ▸ h)

theorem mem_levelBins (b e ms d l k : Nat) (hk1 : b >>> (ms + 3 * (d - l)) ≤ k)
    (hk2 : k ≤ e >>> (ms + 3 * (d - l))) : levelOffset l + k ∈ levelBins b e ms d l :=
  List.mem_map.2 ⟨k - b >>> (ms + 3 * (d - l)), List.mem_range.2 (by omega), by omega⟩

theorem reg2binAux_spec (b e : Nat) : ∀ (l s : Nat),
    reg2binAux b e s l = 0 ∨
    (∃ j, j < l ∧ b >>> (s + 3 * j) = e >>> (s + 3 * j) ∧
      reg2binAux b e s l = levelOffset (l - j) + (b >>> (s + 3 * j))) := by
  intro l
  induction l with
  | zero => intro s; exact Or.inl rfl
  | succ l ih =>
    intro s
    rw [reg2binAux]
    split
    · exact Or.inr ⟨0, Nat.succ_pos l, by assumption, rfl⟩
    · refine (ih (s + 3)).imp id fun ⟨j, hj, heq, hv⟩ => ⟨j + 1, Nat.succ_lt_succ hj, ?_, ?_⟩
      · rwa [show s + 3 * (j + 1) = s + 3 + 3 * j by omega]
      · rwa [show s + 3 * (j + 1) = s + 3 + 3 * j by omega, Nat.succ_sub_succ]

/-- The intervals [b1, e1] and [b2, e2] have inclusive ends (e = end - 1). -/
theorem bin_in_bins_incl (b1 e1 b2 e2 ms d : Nat)
    (hov1 : b1 ≤ e2) (hov2 : b2 ≤ e1) (hr : b2 < 2 ^ (ms + 3 * d)) :
    reg2binAux b1 e1 ms d ∈ (List.range (d + 1)).flatMap (fun l => levelBins b2 e2 ms d l) := by
  simp only [List.mem_flatMap, List.mem_range]
  rcases reg2binAux_spec b1 e1 d ms with h | ⟨j, hj, heq, hv⟩
  · refine ⟨0, Nat.succ_pos d, ?_⟩
    have hz : b2 >>> (ms + 3 * (d - 0)) = 0 := by
      rw [Nat.shiftRight_eq_div_pow]; exact Nat.div_eq_of_lt hr
    rw [h]
    exact mem_levelBins b2 e2 ms d 0 0 (Nat.le_of_eq hz) (Nat.zero_le _)
  · refine ⟨d - j, by omega, ?_⟩
    rw [hv]
    have hdj : d - (d - j) = j := by omega
    apply mem_levelBins <;> rw [hdj]
    · exact heq ▸ shift_mono hov2 _
    · exact shift_mono hov1 _

theorem bin_in_bins (beg1 end1 beg2 end2 ms d : Nat) (_h1 : beg1 < end1) (h2 : beg2 < end2)
    (hov1 : beg1 < end2) (hov2 : beg2 < end1) (hr : beg2 < 2 ^ (ms + 3 * d)) :
    reg2bin beg1 end1 ms d ∈ reg2bins beg2 end2 ms d :=
  bin_in_bins_incl beg1 (end1 - 1) beg2 (end2 - 1) ms d (by omega) (by omega) hr

end Hts.Spec.Coord
