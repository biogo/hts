/-
The invariant `KInv` of one kind (references / read groups / programs) and the shapes of change it survives: a table
rebuilt from the ids and names of its items (`TabInv.copy`), a change confined to one header (`KInv.update`), new
cells (`kinv_alloc`, `kinv_newTab`).  Before it, the general tools of the header proofs: `ite_ind` for the `if` chains
of the model, the `Seen` map, `getElem?`/`idx` facts about lists.
-/
import Hts.Model.Header
namespace Hts.Model.Header
variable {α : Type}

/-- core's `iteInduction` with the motive explicit: the term that takes an `if` chain of a model function apart (`split`
rewrites the whole goal at every `if` of such a chain) -/
theorem ite_ind {β : Type} {c : Prop} [Decidable c] (P : β → Prop) {x y : β} (hx : c → P x) (hy : ¬ c → P y) :
    P (if c then x else y) :=
  iteInduction hx hy

/-- for a property of the first component the motive is found by unification -/
theorem ite_fst {β γ : Type} {c : Prop} [Decidable c] {P : β → Prop} {x y : β × γ} (hx : c → P x.1)
    (hy : ¬ c → P y.1) : P (if c then x else y).1 :=
  ite_ind (fun z : β × γ => P z.1) hx hy

theorem lookup_erase (m : Seen) (n n' : Bytes) :
    lookup (erase m n) n' = if n = n' then none else lookup m n' := by
  induction m with
  | nil => exact (ite_self _).symm
  | cons p m ih =>
    obtain ⟨k, v⟩ := p
    by_cases hk : k = n
    · subst hk; rw [erase, if_pos rfl, ih, lookup]; split <;> rfl
    · rw [erase, if_neg hk, lookup, lookup, ih]
      split
      · next e => rw [if_neg fun e' => hk (e.trans e'.symm)]
      · rfl

theorem lookup_insert (m : Seen) (n n' : Bytes) (v : Int) :
    lookup (insert m n v) n' = if n = n' then some v else lookup m n' := by
  rw [insert, lookup, lookup_erase]; split <;> simp_all

theorem get_lt {β : Type} {l : List β} {i : Nat} {b : β} (h : l[i]? = some b) : i < l.length :=
  (List.getElem?_eq_some_iff.1 h).1

theorem set_get {β : Type} (l : List β) (i j : Nat) (a b : β) (h : l[i]? = some b) :
    (l.set i a)[j]? = if i = j then some a else l[j]? := by
  rw [List.getElem?_set]; simp [get_lt h]

theorem snoc_get {β : Type} {l : List β} {a b : β} {i : Nat} (h : (l ++ [a])[i]? = some b) :
    l[i]? = some b ∨ i = l.length ∧ b = a := by
  rw [List.getElem?_append] at h
  split at h
  · exact .inl h
  · obtain ⟨hi, rfl⟩ := List.getElem?_eq_some_iff.1 h
    rw [List.length_singleton] at hi
    exact .inr ⟨by omega, by simp [show i - l.length = 0 by omega]⟩

theorem append_get_some {β : Type} {l : List β} {i : Nat} {b : β} (l' : List β) (h : l[i]? = some b) :
    (l ++ l')[i]? = some b := by
  rw [List.getElem?_append_left (get_lt h)]; exact h

theorem getElem?_map_some {β γ : Type} {f : β → γ} {l : List β} {i : Nat} {y : γ} (h : (l.map f)[i]? = some y) :
    ∃ x, l[i]? = some x ∧ f x = y := by
  rwa [List.getElem?_map, Option.map_eq_some_iff] at h

theorem fst_of_eq {α β : Type} {p : α × β} {a : α} {b : β} (h : p = (a, b)) : p.1 = a := by rw [h]
theorem snd_of_eq {α β : Type} {p : α × β} {a : α} {b : β} (h : p = (a, b)) : p.2 = b := by rw [h]

theorem nodup_of_inj {β : Type} (l : List β)
    (h : ∀ (a b : Nat) (x : β), l[a]? = some x → l[b]? = some x → a = b) : l.Nodup := by
  rw [List.nodup_iff_pairwise_ne, List.pairwise_iff_getElem]
  intro i j hi hj hij e
  have := h i j l[i] (by simp [hi]) (by simp [hj, e])
  omega

theorem filterMap_congr' {β γ : Type} (f g : β → Option γ) : ∀ (l : List β), (∀ a ∈ l, f a = g a) →
    l.filterMap f = l.filterMap g := by
  intro l
  induction l with
  | nil => intro _; rfl
  | cons a l ih =>
    intro h
    simp only [List.filterMap_cons, h a List.mem_cons_self]
    rw [ih (fun a' ha' => h a' (List.mem_cons_of_mem _ ha'))]

theorem filterMap_get {β γ : Type} (f : β → Option γ) : ∀ (l : List β) (i : Nat),
    (∀ a ∈ l, (f a).isSome = true) → (l.filterMap f)[i]? = (l[i]?).bind f := by
  intro l
  induction l with
  | nil => intro i _; simp
  | cons a l ih =>
    intro i h
    have ha := h a List.mem_cons_self
    cases hfa : f a with
    | none => simp [hfa] at ha
    | some b =>
      simp only [List.filterMap_cons, hfa]
      cases i with
      | zero => simp [hfa]
      | succ i => simpa using ih i (fun a' ha' => h a' (List.mem_cons_of_mem _ ha'))

theorem idx_some {β : Type} {l : List β} {i : Int} {b : β} (h : idx l i = some b) :
    0 ≤ i ∧ l[i.toNat]? = some b := by
  unfold idx at h
  split at h
  · cases h
  · exact ⟨by omega, h⟩

theorem idx_nat {β : Type} (l : List β) (i : Nat) : idx l (i : Int) = l[i]? := by
  unfold idx; split
  · omega
  · simp

/-- the invariant of one header's table of one kind -/
structure TabInv (heap : List (Obj α)) (h : Nat) (t : Tab) : Prop where
  /-- every listed item is owned by the header and its id is its index -/
  own : ∀ (i o : Nat), t.items[i]? = some o → ∃ x, heap[o]? = some x ∧ x.owner = some h ∧ x.id = (i : Int)
  /-- the name table maps the name of item i to i … -/
  known : ∀ (i o : Nat) (x : Obj α), t.items[i]? = some o → heap[o]? = some x →
    lookup t.seen x.name = some (i : Int)
  /-- … and holds nothing else -/
  only : ∀ (n : Bytes) (v : Int), lookup t.seen n = some v →
    ∃ (i o : Nat) (x : Obj α), t.items[i]? = some o ∧ heap[o]? = some x ∧ x.name = n ∧ v = (i : Int)

/-- the invariant of all headers and objects of one kind -/
structure KInv (k : KW α) : Prop where
  tab : ∀ (h : Nat) (t : Tab), k.tabs[h]? = some t → TabInv k.heap h t
  /-- an object that names an owner is listed by that owner at its id -/
  obj : ∀ (o : Nat) (x : Obj α) (h : Nat), k.heap[o]? = some x → x.owner = some h →
    ∃ (t : Tab) (i : Nat), k.tabs[h]? = some t ∧ x.id = (i : Int) ∧ t.items[i]? = some o

/-- `k'` is consistent and has as many tables as `k`: what an operation on the items of existing headers leaves -/
def Keeps (k k' : KW α) : Prop := KInv k' ∧ k'.tabs.length = k.tabs.length

theorem Keeps.refl {k : KW α} (hk : KInv k) : Keeps k k := ⟨hk, rfl⟩

theorem Keeps.trans {k k' k'' : KW α} (a : Keeps k k') (b : Keeps k' k'') : Keeps k k'' := ⟨b.1, b.2.trans a.2⟩

namespace TabInv
variable {heap : List (Obj α)} {h : Nat} {t : Tab}

theorem listed (T : TabInv heap h t) {i o : Nat} {x : Obj α} (hi : t.items[i]? = some o)
    (hx : heap[o]? = some x) : x.owner = some h ∧ x.id = (i : Int) := by
  obtain ⟨x', hx', ho, hid⟩ := T.own i o hi
  cases hx.symm.trans hx'; exact ⟨ho, hid⟩

theorem inj (T : TabInv heap h t) {i j o : Nat} (hi : t.items[i]? = some o) (hj : t.items[j]? = some o) :
    i = j := by
  obtain ⟨x, hx, _, hid⟩ := T.own i o hi
  have := (T.listed hj hx).2
  omega

theorem name_inj (T : TabInv heap h t) {i j o o' : Nat} {x x' : Obj α} (hi : t.items[i]? = some o)
    (hj : t.items[j]? = some o') (hx : heap[o]? = some x) (hx' : heap[o']? = some x')
    (hn : x.name = x'.name) : i = j := by
  have a := T.known i o x hi hx
  rw [hn, T.known j o' x' hj hx'] at a
  cases a; rfl

/-- A table only depends on the ids and names of its items, so it can be rebuilt over another heap and for another
header. -/
theorem copy (T : TabInv heap h t) {heap' : List (Obj α)} {h' : Nat} {items' : List Nat}
    (hlen : items'.length = t.items.length)
    (hc : ∀ (i o : Nat) (x : Obj α), t.items[i]? = some o → heap[o]? = some x → ∃ (o' : Nat) (x' : Obj α),
      items'[i]? = some o' ∧ heap'[o']? = some x' ∧ x'.owner = some h' ∧ x'.id = x.id ∧ x'.name = x.name) :
    TabInv heap' h' ⟨items', t.seen⟩ := by
  -- the item of `t` behind an item of the copy
  have back : ∀ {i o' : Nat}, items'[i]? = some o' → ∃ (o : Nat) (x x' : Obj α), t.items[i]? = some o ∧ heap[o]? = some x ∧
      heap'[o']? = some x' ∧ x'.owner = some h' ∧ x'.id = (i : Int) ∧ x'.name = x.name := by
    intro i o' hi'
    have hi : i < t.items.length := hlen ▸ get_lt hi'
    obtain ⟨x, hx, _, hid⟩ := T.own i _ (List.getElem?_eq_getElem hi)
    obtain ⟨o'', x', hi'', hx', ho, hid', hn⟩ := hc i _ x (List.getElem?_eq_getElem hi) hx
    cases hi'.symm.trans hi''
    exact ⟨_, x, x', List.getElem?_eq_getElem hi, hx, hx', ho, hid'.trans hid, hn⟩
  constructor
  · intro i o' hi'
    obtain ⟨_, _, x', _, _, hx', ho, hid, _⟩ := back hi'
    exact ⟨x', hx', ho, hid⟩
  · intro i o' y hi' hy
    obtain ⟨o, x, x', hi, hx, hx', _, _, hn⟩ := back hi'
    cases hy.symm.trans hx'
    rw [hn]; exact T.known i o x hi hx
  · intro n v hv
    obtain ⟨i, o, x, hi, hx, hn, hv'⟩ := T.only n v hv
    obtain ⟨o', x', hi', hx', _, _, hn'⟩ := hc i o x hi hx
    exact ⟨i, o', x', hi', hx', hn'.trans hn, hv'⟩

theorem frame (T : TabInv heap h t) (heap' : List (Obj α))
    (hf : ∀ (i o : Nat), t.items[i]? = some o → heap'[o]? = heap[o]?) : TabInv heap' h t :=
  T.copy rfl fun i o x hi hx => ⟨o, x, hi, (hf i o hi).trans hx, (T.listed hi hx).1, rfl, rfl⟩

theorem snoc (T : TabInv heap h t) {o : Nat} {x : Obj α} (hx : heap[o]? = some x) (ho : x.owner = some h)
    (hid : x.id = (t.items.length : Int)) (hnew : lookup t.seen x.name = none) :
    TabInv heap h ⟨t.items ++ [o], insert t.seen x.name t.items.length⟩ := by
  constructor
  · intro i o' hi
    rcases snoc_get hi with hi | ⟨rfl, rfl⟩
    · exact T.own i o' hi
    · exact ⟨x, hx, ho, hid⟩
  · intro i o' x' hi hx'
    rw [lookup_insert]
    rcases snoc_get hi with hi | ⟨rfl, rfl⟩
    · have hkn := T.known i o' x' hi hx'
      rw [if_neg fun e => by rw [← e, hnew] at hkn; cases hkn]; exact hkn
    · cases hx.symm.trans hx'; exact if_pos rfl
  · intro n v hv
    rw [lookup_insert] at hv
    split at hv
    · next hn => cases hv; exact ⟨_, o, x, by simp, hx, hn, rfl⟩
    · obtain ⟨i, o', x', hi, hx', hn', hv'⟩ := T.only n v hv
      exact ⟨i, o', x', append_get_some _ hi, hx', hn', hv'⟩

theorem lookup_item (T : TabInv heap h t) {n : Bytes} {v : Int} {eo : Nat}
    (hl : lookup t.seen n = some v) (he : idx t.items v = some eo) :
    ∃ (i : Nat) (er : Obj α), v = (i : Int) ∧ t.items[i]? = some eo ∧ heap[eo]? = some er ∧ er.name = n ∧
      er.owner = some h ∧ er.id = (i : Int) := by
  obtain ⟨i, o, x, hi, hx, hn, rfl⟩ := T.only n v hl
  rw [idx_nat, hi] at he; cases he
  exact ⟨i, x, rfl, hi, hx, hn, T.listed hi hx⟩

theorem lookup_idx (T : TabInv heap h t) {n : Bytes} {v : Int} (hl : lookup t.seen n = some v) :
    ∃ eo, idx t.items v = some eo := by
  obtain ⟨i, o, x, hi, _, _, rfl⟩ := T.only n v hl
  exact ⟨o, (idx_nat ..).trans hi⟩

end TabInv

namespace KInv
variable {k : KW α}

theorem free_unlisted (hk : KInv k) {o : Nat} {x : Obj α} (hx : k.heap[o]? = some x) (hf : x.owner = none)
    {h i : Nat} {t : Tab} (ht : k.tabs[h]? = some t) : t.items[i]? ≠ some o := by
  intro hi
  have := ((hk.tab h t ht).listed hi hx).1
  rw [hf] at this; cases this

theorem update (hk : KInv k) {k' : KW α} {h : Nat} {t t' : Tab} (ht : k.tabs[h]? = some t)
    (htabs : k'.tabs = k.tabs.set h t') (hT : TabInv k'.heap h t')
    (hother : ∀ (o : Nat) (x : Obj α) (s : Nat), x.owner = some s → s ≠ h →
      (k'.heap[o]? = some x ↔ k.heap[o]? = some x))
    (hmine : ∀ (o : Nat) (x : Obj α), k'.heap[o]? = some x → x.owner = some h →
      ∃ i : Nat, x.id = (i : Int) ∧ t'.items[i]? = some o) : Keeps k k' := by
  refine ⟨⟨?_, ?_⟩, by rw [htabs, List.length_set]⟩
  · intro s ts hts
    rw [htabs, set_get _ _ _ _ _ ht] at hts
    split at hts
    · cases hts; subst_vars; exact hT
    · next hs =>
      refine (hk.tab s ts hts).frame _ fun i o hi => ?_
      obtain ⟨x, hx, ho, _⟩ := (hk.tab s ts hts).own i o hi
      rw [hx]; exact (hother o x s ho (Ne.symm hs)).2 hx
  · intro o x s hx ho
    rw [htabs, set_get _ _ _ _ _ ht]
    by_cases hs : h = s
    · subst hs
      obtain ⟨i, hid, hi⟩ := hmine o x hx ho
      exact ⟨t', i, if_pos rfl, hid, hi⟩
    · obtain ⟨ts, i, hts, hid, hi⟩ := hk.obj o x s ((hother o x s ho (Ne.symm hs)).1 hx) ho
      exact ⟨ts, i, (if_neg hs).trans hts, hid, hi⟩

end KInv

theorem kinv_empty : KInv (⟨[], []⟩ : KW α) := ⟨nofun, nofun⟩

theorem kinv_alloc {k : KW α} (hk : KInv k) (x : Obj α) (hf : x.owner = none) : KInv (k.alloc x).1 := by
  constructor
  · intro h t ht
    refine (hk.tab h t ht).frame _ fun i o hi => ?_
    obtain ⟨y, hy, _⟩ := (hk.tab h t ht).own i o hi
    exact (append_get_some _ hy).trans hy.symm
  · intro o y h hy ho
    rcases snoc_get hy with hy | ⟨_, rfl⟩
    · exact hk.obj o y h hy ho
    · cases hf.symm.trans ho

theorem alloc_heap (k : KW α) (x : Obj α) : (k.alloc x).1.heap[(k.alloc x).2]? = some x := by
  simp [KW.alloc]

theorem alloc_old (k : KW α) (x : Obj α) {o : Nat} {y : Obj α} (hy : k.heap[o]? = some y) :
    (k.alloc x).1.heap[o]? = some y :=
  append_get_some _ hy

theorem alloc_tabs (k : KW α) (x : Obj α) : (k.alloc x).1.tabs = k.tabs := rfl

theorem kinv_newTab {k : KW α} (hk : KInv k) : KInv k.newTab := by
  constructor
  · intro h t ht
    rcases snoc_get ht with ht | ⟨_, rfl⟩
    · exact hk.tab h t ht
    · exact ⟨nofun, nofun, nofun⟩
  · intro o x h hx ho
    obtain ⟨t, i, ht, hid, hi⟩ := hk.obj o x h hx ho
    exact ⟨t, i, append_get_some _ ht, hid, hi⟩

theorem kinv_setDat {k : KW α} (hk : KInv k) (o : Nat) (f : α → α) : KInv (k.setDat o f) := by
  unfold KW.setDat
  split
  · next x hx =>
    have hget := fun q => set_get k.heap o q { x with dat := f x.dat } x hx
    constructor
    · intro h t ht
      refine (hk.tab h t ht).copy rfl fun i o' y hi hy => ?_
      have ho := ((hk.tab h t ht).listed hi hy).1
      by_cases e : o = o'
      · subst e; cases hx.symm.trans hy
        exact ⟨o, _, hi, (hget o).trans (if_pos rfl), ho, rfl, rfl⟩
      · exact ⟨o', y, hi, (hget o').trans ((if_neg e).trans hy), ho, rfl, rfl⟩
    · intro q y h hy ho
      rw [hget] at hy
      split at hy
      · next e => cases hy; exact hk.obj q x h (e ▸ hx) ho
      · exact hk.obj q y h hy ho
  · exact hk

end Hts.Model.Header
