/-
The faulty sequential reader with an empty oracle is the fault-free reader model of C02.
-/
import Hts.Model.BgzfReaderFaults
namespace Hts.Model.Bgzf
open Hts.Spec.Flat

theorem FReader.nextBlock_nofault (r : Reader) :
    (FReader.mk r []).nextBlock = (⟨r.nextBlock.1, []⟩, r.nextBlock.2) := by
  simp [FReader.nextBlock, FReader.loadAt, Reader.nextBlock]

theorem FReader.skipEmpty_nofault : ∀ (fuel : Nat) (r : Reader),
    (FReader.mk r []).skipEmpty fuel = ⟨r.skipEmpty fuel, []⟩ := by
  intro fuel
  induction fuel with
  | zero => intro r; simp [FReader.skipEmpty, Reader.skipEmpty, FReader.withR]
  | succ fuel ih =>
    intro r
    simp only [FReader.skipEmpty, Reader.skipEmpty, FReader.nextBlock_nofault]
    split
    · rcases hn : r.nextBlock with ⟨r', e⟩
      cases e with
      | some e => simp [FReader.withR]
      | none => simp only [FReader.withR]; exact ih _
    · rfl

theorem FReader.readLoop_nofault : ∀ (fuel : Nat) (r : Reader) (want : Nat),
    (FReader.mk r []).readLoop fuel want =
      (⟨(r.readLoop fuel want).1, []⟩, (r.readLoop fuel want).2.1, (r.readLoop fuel want).2.2) := by
  intro fuel
  induction fuel with
  | zero => intro r want; simp [FReader.readLoop, Reader.readLoop, FReader.withR]
  | succ fuel ih =>
    intro r want
    obtain ⟨rf, rc, rl, re, rb⟩ := r
    simp only [FReader.readLoop, Reader.readLoop]
    split
    · rcases hrd : rc.read want with ⟨out, eof, b⟩
      cases eof with
      | false => simp only [FReader.withR]; rw [ih]
      | true =>
        simp only [FReader.withR]
        by_cases h0 : want - out.length = 0
        · simp [h0]
        · simp only [h0, if_false]
          cases rb with
          | true => simp
          | false =>
            simp only [Bool.false_eq_true, if_false, FReader.nextBlock_nofault]
            rcases hn : Reader.nextBlock _ with ⟨r', e⟩
            cases e with
            | some e => simp
            | none => simp only; rw [ih]
    · rfl

theorem FReader.read_nofault (r : Reader) (n : Nat) :
    (FReader.mk r []).read n = (⟨(r.read n).1, []⟩, (r.read n).2.1, (r.read n).2.2) := by
  simp only [FReader.read, Reader.read]
  cases he : r.err with
  | some e => rfl
  | none =>
    simp only [FReader.skipEmpty_nofault]
    cases he2 : (r.skipEmpty r.skipFuel).err with
    | some e => rfl
    | none => simp [FReader.withR, FReader.readLoop_nofault, he2]

theorem FReader.readByte_nofault (r : Reader) :
    (FReader.mk r []).readByte = (⟨r.readByte.1, []⟩, r.readByte.2.1, r.readByte.2.2) := by
  simp only [FReader.readByte, Reader.readByte]
  cases r.err with
  | some e => rfl
  | none =>
    simp only [FReader.skipEmpty_nofault]
    generalize r.skipEmpty r.skipFuel = r1
    obtain ⟨rf, rc, rl, re, rb⟩ := r1
    cases re with
    | some e => rfl
    | none =>
      simp only [FReader.withR]
      rcases rc.readByte with ⟨c, _ | _, b⟩
      · rfl
      · cases rb with
        | true => rfl
        | false => simp only [FReader.nextBlock_nofault]; rfl

theorem FReader.seek_nofault (r : Reader) (o : Offset) :
    (FReader.mk r []).seek o = (⟨(r.seek o).1, []⟩, (r.seek o).2) := by
  simp only [FReader.seek, Reader.seek, FReader.loadAt]
  split
  · rcases hl : r.cur.load r.file o.file with ⟨b, e⟩
    cases e <;> simp [FReader.withR]
  · simp [FReader.withR]

end Hts.Model.Bgzf
