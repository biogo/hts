/-
The BAM record stream under the BGZF layer, with C01's models: the script `bam.NewWriter`/`Write`/`Close` runs on the
BGZF writer (`Write(header)`, `Flush`, one `Write` per record, `Close`) is put through C01's writer, member and stream
reader models; `Member.default_output_ok` and `Member.readStream_closeOutput` (Lemmas/BgzfStream) give the decoded
blocks, whose concatenation is the header section followed by the record frames; `readAll_encodeAll` reads the records
back.  Byte types: C01 works on `UInt8`, this model on `BitVec 8`; `toU8`/`ofU8` are the two directions of the same
wrapping.
-/
import Hts.Lemmas.BamStream
import Hts.Lemmas.BgzfStream
namespace Hts.Model.Bam
open Hts.Model Hts.Model.BgzfWriter

def toU8 (b : Byte) : UInt8 := ⟨b⟩
def ofU8 (b : UInt8) : Byte := b.toBitVec

theorem ofU8_toU8_map (bs : List Byte) : (bs.map toU8).map ofU8 = bs :=
  Hts.Lemmas.map_map_id fun _ _ => rfl

/-- the frames `Writer.Write` hands to the BGZF writer, one per record -/
def frames : List Record → Except Fault (List (List Byte))
  | [] => .ok []
  | r :: rs =>
    match encodeRecord r with
    | .error f => .error f
    | .ok bs =>
      match frames rs with
      | .error f => .error f
      | .ok more => .ok (bs :: more)

theorem encodeAll_frames (rs : List Record) (s : List Byte) :
    encodeAll rs = .ok s → ∃ fs, frames rs = .ok fs ∧ fs.flatten = s := by
  fun_induction encodeAll rs generalizing s
  case case1 => rintro ⟨⟩; exact ⟨[], rfl, rfl⟩
  case case4 r rs bs hb more hm ih =>
    rintro ⟨⟩
    obtain ⟨fs, hfs, rfl⟩ := ih more hm
    exact ⟨bs :: fs, by simp only [frames, hb, hfs], rfl⟩
  all_goals rintro ⟨⟩

/-- the operations `bam.NewWriter(w, h, wc)`, `Write(r)` for every record and `Close` perform on the BGZF writer -/
def bamScript (hdrBytes : List Byte) (fs : List (List Byte)) : List (Op UInt8) :=
  Op.write (hdrBytes.map toU8) :: Op.flush :: (fs.map (fun f => Op.write (f.map toU8)) ++ [Op.close])

theorem hasClose_script (hdrBytes : List Byte) (fs : List (List Byte)) : hasClose (bamScript hdrBytes fs) = true := by
  simp only [bamScript, hasClose]
  induction fs with
  | nil => rfl
  | cons f fs ih => simpa [hasClose] using ih

theorem accepted_writes (fs : List (List Byte)) :
    accepted (fs.map (fun f => Op.write (f.map toU8)) ++ [Op.close]) = (fs.flatten).map toU8 := by
  induction fs with
  | nil => rfl
  | cons f fs ih => simp [accepted, ih]

theorem accepted_script (hdrBytes : List Byte) (fs : List (List Byte)) :
    accepted (bamScript hdrBytes fs) = (hdrBytes ++ fs.flatten).map toU8 := by
  simp [bamScript, accepted, accepted_writes]

open Member in
theorem bam_over_bgzf (c : Codec) (hb : Bounded c.toCodecFns) (hdrBytes : List Byte) (om : Omit) {n : Nat}
    (rs : List Record) (hwf : ∀ r ∈ rs, WF n r) :
    ∃ fs s, frames rs = .ok fs ∧ encodeAll rs = .ok s ∧
      (closeOutput c.toCodecFns {} (after (bamScript hdrBytes fs)).emitted).2 = none ∧
      ∃ blocks, readStream c.toCodecFns (closeOutput c.toCodecFns {} (after (bamScript hdrBytes fs)).emitted).1
          = some blocks ∧
        blocks.flatten.map ofU8 = hdrBytes ++ s ∧
        readAll om n ((blocks.flatten.map ofU8).drop hdrBytes.length) = (rs.map (expected om), none) := by
  obtain ⟨s, hs, hr⟩ := readAll_encodeAll om rs hwf
  obtain ⟨fs, hfs, hfl⟩ := encodeAll_frames rs s hs
  have hok := default_output_ok c.toCodecFns hb _ (hasClose_script hdrBytes fs)
  obtain ⟨hrd, hflat⟩ := readStream_closeOutput c {} readerOK_default _ (hasClose_script hdrBytes fs) hok
  have hbytes : ((after (bamScript hdrBytes fs)).emitted ++ [[]]).flatten.map ofU8 = hdrBytes ++ s := by
    rw [hflat, accepted_script, ofU8_toU8_map, hfl]
  refine ⟨fs, s, hfs, hs, hok, _, hrd, hbytes, ?_⟩
  rw [hbytes, List.drop_left, hr]

end Hts.Model.Bam
