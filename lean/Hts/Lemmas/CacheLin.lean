/-
`lock_linearizable`: an object all of whose operations have the shape

    Lock() / RLock();  body (any number of small steps on the shared state);  Unlock() / RUnlock()

is linearizable with respect to its sequential specification, provided the body run alone implements
the specification and read-locked bodies do not write.  Any number of threads, any interleaving.

Linearizability is stated in its linearization-point form: a history `H` of invocation and response events is
linearizable iff one can insert, for every completed (and possibly some pending) operation, a point between
its invocation and its response such that the operations, taken in the order of their points and with the
results they returned, form a legal sequential run of the specification.  (Ordering by such points respects
the real-time order of non-overlapping operations, which is the Herlihy–Wing definition.)

What is assumed, not proved: the semantics of `sync.RWMutex` is the acquire rule of the transition system
(a writer enters only when nobody is inside, a reader only when no writer is inside), and a thread's
small steps are atomic with respect to each other (Go memory model for lock-protected data).
-/
namespace Hts.Spec.Lin

/-- an object: sequential specification + the small-step body of each operation -/
structure Obj where
  σ : Type
  Op : Type
  Ret : Type
  /-- thread-local state of a body in progress -/
  Loc : Type
  /-- sequential specification (a relation: Random's choices) -/
  spec : σ → Op → Ret → σ → Prop
  /-- the operation takes the lock for reading only -/
  isRead : Op → Bool
  init : Op → Loc
  /-- a small step that is not the last one -/
  more : Op → Loc → σ → Loc → σ → Prop
  /-- the last small step, producing the result -/
  done : Op → Loc → σ → Ret → σ → Prop

variable (O : Obj)

/-- the body run to completion without interference -/
inductive BigStep : O.Op → O.Loc → O.σ → O.Ret → O.σ → Prop
  | last {op l s r s'} : O.done op l s r s' → BigStep op l s r s'
  | next {op l s l1 s1 r s'} : O.more op l s l1 s1 → BigStep op l1 s1 r s' → BigStep op l s r s'

/-- part of a body: from `(l0, s0)` the small steps reach `(l, s)` -/
inductive Partial : O.Op → O.Loc → O.σ → O.Loc → O.σ → Prop
  | refl {op l s} : Partial op l s l s
  | snoc {op l0 s0 l s l' s'} : Partial op l0 s0 l s → O.more op l s l' s' → Partial op l0 s0 l' s'

theorem Partial.bigStep {op : O.Op} {l0 : O.Loc} {s0 : O.σ} {l : O.Loc} {s : O.σ} {r : O.Ret} {s' : O.σ}
    (p : Partial O op l0 s0 l s) (b : BigStep O op l s r s') : BigStep O op l0 s0 r s' := by
  induction p with
  | refl => exact b
  | snoc _ m ih => exact ih (BigStep.next m b)

theorem BigStep.inv {op : O.Op} {l : O.Loc} {s : O.σ} {r : O.Ret} {s' : O.σ} (b : BigStep O op l s r s') :
    O.done op l s r s' ∨ ∃ l1 s1, O.more op l s l1 s1 ∧ BigStep O op l1 s1 r s' := by
  cases b with
  | last d => exact Or.inl d
  | next m b1 => exact Or.inr ⟨_, _, m, b1⟩

structure Laws : Prop where
  body_implements : ∀ op s r s', BigStep O op (O.init op) s r s' → O.spec s op r s'
  read_more : ∀ op l s l' s', O.isRead op = true → O.more op l s l' s' → s' = s
  read_done : ∀ op l s r s', O.isRead op = true → O.done op l s r s' → s' = s

theorem Laws.of_atomic (hmore : ∀ op l s l' s', ¬ O.more op l s l' s')
    (hdone : ∀ op l s r s', O.done op l s r s' → O.spec s op r s')
    (hread : ∀ op l s r s', O.isRead op = true → O.done op l s r s' → s' = s) : Laws O where
  body_implements op s r s' b := by
    cases b with
    | last d => exact hdone _ _ _ _ _ d
    | next m _ => exact (hmore _ _ _ _ _ m).elim
  read_more op l s l' s' _ m := (hmore _ _ _ _ _ m).elim
  read_done := hread

inductive TSt
  | idle
  | pending (op : O.Op)
  /-- inside the critical section -/
  | running (op : O.Op) (l : O.Loc)
  /-- lock released, response not yet delivered -/
  | finished (op : O.Op) (r : O.Ret)

structure G where
  sh : O.σ
  th : Nat → TSt O

inductive Ev
  | inv (t : Nat) (op : O.Op)
  /-- linearization point (not part of the visible history) -/
  | lin (t : Nat) (op : O.Op) (r : O.Ret)
  | res (t : Nat) (r : O.Ret)

def upd {α : Type} (f : Nat → α) (t : Nat) (x : α) : Nat → α := fun i => if i = t then x else f i

@[simp] theorem upd_same {α : Type} (f : Nat → α) (t : Nat) (x : α) : upd f t x t = x := if_pos rfl
theorem upd_other {α : Type} (f : Nat → α) {t u : Nat} (x : α) (h : u ≠ t) : upd f t x u = f u :=
  if_neg h

/-- the transition system: any thread may move at any time -/
inductive Step : G O → Option (Ev O) → G O → Prop
  | invoke (g : G O) (t : Nat) (op : O.Op) : g.th t = .idle →
      Step g (some (.inv t op)) ⟨g.sh, upd g.th t (.pending op)⟩
  /-- `Lock()` returns: nobody is inside -/
  | acquireW (g : G O) (t : Nat) (op : O.Op) : g.th t = .pending op → O.isRead op = false →
      (∀ u op' l, g.th u ≠ .running op' l) →
      Step g none ⟨g.sh, upd g.th t (.running op (O.init op))⟩
  /-- `RLock()` returns: no writer is inside -/
  | acquireR (g : G O) (t : Nat) (op : O.Op) : g.th t = .pending op → O.isRead op = true →
      (∀ u op' l, g.th u = .running op' l → O.isRead op' = true) →
      Step g none ⟨g.sh, upd g.th t (.running op (O.init op))⟩
  | micro (g : G O) (t : Nat) (op : O.Op) (l l' : O.Loc) (s' : O.σ) : g.th t = .running op l →
      O.more op l g.sh l' s' → Step g none ⟨s', upd g.th t (.running op l')⟩
  /-- last small step and `Unlock()` -/
  | finish (g : G O) (t : Nat) (op : O.Op) (l : O.Loc) (r : O.Ret) (s' : O.σ) : g.th t = .running op l →
      O.done op l g.sh r s' → Step g (some (.lin t op r)) ⟨s', upd g.th t (.finished op r)⟩
  | respond (g : G O) (t : Nat) (op : O.Op) (r : O.Ret) : g.th t = .finished op r →
      Step g (some (.res t r)) ⟨g.sh, upd g.th t .idle⟩

/-- reachable states with the events so far, newest first -/
inductive Reach (s0 : O.σ) : G O → List (Ev O) → Prop
  | init : Reach s0 ⟨s0, fun _ => .idle⟩ []
  | step {g g' : G O} {w : List (Ev O)} {lab : Option (Ev O)} :
      Reach s0 g w → Step O g lab g' → Reach s0 g' (lab.toList ++ w)

inductive ASt
  | idle
  | invoked (op : O.Op)
  | linearized (op : O.Op) (r : O.Ret)

def astate : List (Ev O) → Nat → ASt O
  | [], _ => .idle
  | .inv t op :: w, u => if u = t then .invoked op else astate w u
  | .lin t op r :: w, u => if u = t then .linearized op r else astate w u
  | .res t _ :: w, u => if u = t then .idle else astate w u

/-- per thread the events cycle invocation, point, response, with matching operation and result -/
def WellPlaced : List (Ev O) → Prop
  | [] => True
  | .inv t _ :: w => WellPlaced w ∧ astate O w t = .idle
  | .lin t op _ :: w => WellPlaced w ∧ astate O w t = .invoked op
  | .res t r :: w => WellPlaced w ∧ ∃ op, astate O w t = .linearized op r

/-- the operations in the order of their points are a run of the specification from `s0` to `s` -/
def LegalTo (s0 : O.σ) : List (Ev O) → O.σ → Prop
  | [], s => s = s0
  | .lin _ op r :: w, s => ∃ s1, LegalTo s0 w s1 ∧ O.spec s1 op r s
  | .inv _ _ :: w, s => LegalTo s0 w s
  | .res _ _ :: w, s => LegalTo s0 w s

def visible : List (Ev O) → List (Ev O)
  | [] => []
  | .lin _ _ _ :: w => visible w
  | e :: w => e :: visible w

def Linearizable (s0 : O.σ) (H : List (Ev O)) : Prop :=
  ∃ w, visible O w = H ∧ WellPlaced O w ∧ ∃ s, LegalTo O s0 w s

def Agree (t : TSt O) (a : ASt O) : Prop :=
  match t with
  | .idle => a = .idle
  | .pending op => a = .invoked op
  | .running op _ => a = .invoked op
  | .finished op r => a = .linearized op r

structure Inv (s0 : O.σ) (g : G O) (w : List (Ev O)) : Prop where
  placed : WellPlaced O w
  agree : ∀ t, Agree O (g.th t) (astate O w t)
  /-- `sl` is the state after the last linearization point.  While only readers are inside, the shared state is `sl` (they
  do not write); every body in progress entered at `sl`, so its steps so far are a `Partial` run from `sl` to the shared
  state, and with its last step a `BigStep` from `sl`: by `Laws.body_implements`, a step of the specification. -/
  legal : ∃ sl, LegalTo O s0 w sl ∧
    ((∀ u op l, g.th u = .running op l → O.isRead op = true) → g.sh = sl) ∧
    (∀ u op l, g.th u = .running op l → Partial O op (O.init op) sl l g.sh)
  excl : ∀ u op l, g.th u = .running op l → O.isRead op = false →
    ∀ v op' l', g.th v = .running op' l' → v = u

theorem inv_init (s0 : O.σ) : Inv O s0 ⟨s0, fun _ => .idle⟩ [] :=
  ⟨trivial, fun _ => rfl, ⟨s0, rfl, fun _ => rfl, nofun⟩, nofun⟩

theorem upd_eq_iff {α : Type} {f : Nat → α} {t u : Nat} {x y : α} :
    upd f t x u = y ↔ (u = t ∧ x = y) ∨ (u ≠ t ∧ f u = y) := by
  by_cases hu : u = t
  · subst hu
    rw [upd_same]
    exact ⟨fun h => .inl ⟨rfl, h⟩, fun h => h.elim (·.2) (fun h => absurd rfl h.1)⟩
  · rw [upd_other _ _ hu]
    exact ⟨fun h => .inr ⟨hu, h⟩, fun h => h.elim (fun h => absurd h.1 hu) (·.2)⟩

section
variable {O}

theorem agree_upd {g : G O} {w w' : List (Ev O)} (ag : ∀ u, Agree O (g.th u) (astate O w u)) {t : Nat}
    {x : TSt O} (ht : Agree O x (astate O w' t)) (hw : ∀ u, u ≠ t → astate O w' u = astate O w u)
    (u : Nat) : Agree O (upd g.th t x u) (astate O w' u) := by
  by_cases hu : u = t
  · subst hu; rw [upd_same]; exact ht
  · rw [upd_other _ _ hu, hw u hu]; exact ag u

/-- invocation and response: the thread is outside its critical section before and after -/
theorem Inv.frame {s0 : O.σ} {g : G O} {w w' : List (Ev O)} (inv : Inv O s0 g w) {t : Nat} {x : TSt O}
    (hx : ∀ op l, x ≠ .running op l) (ht : ∀ op l, g.th t ≠ .running op l)
    (placed : WellPlaced O w') (agree : ∀ u, Agree O (upd g.th t x u) (astate O w' u))
    (legal : ∀ sl, LegalTo O s0 w sl → LegalTo O s0 w' sl) : Inv O s0 ⟨g.sh, upd g.th t x⟩ w' := by
  have hrun : ∀ u op l, upd g.th t x u = .running op l ↔ g.th u = .running op l := fun u op l =>
    upd_eq_iff.trans ⟨fun h => h.elim (fun h => absurd h.2 (hx op l)) (·.2),
      fun h => .inr ⟨fun hu => ht op l (hu ▸ h), h⟩⟩
  obtain ⟨sl, hleg, hsh, hpart⟩ := inv.legal
  exact ⟨placed, agree,
    ⟨sl, legal sl hleg, fun h => hsh fun u op l hr => h u op l ((hrun u op l).2 hr),
      fun u op l h => hpart u op l ((hrun u op l).1 h)⟩,
    fun u op l h hw v op' l' hv =>
      inv.excl u op l ((hrun u op l).1 h) hw v op' l' ((hrun v op' l').1 hv)⟩

theorem Inv.acquire {s0 : O.σ} {g : G O} {w : List (Ev O)} (inv : Inv O s0 g w) {t : Nat} {op : O.Op}
    (hp : g.th t = .pending op) (hreaders : ∀ u op' l, g.th u = .running op' l → O.isRead op' = true)
    (halone : O.isRead op = false → ∀ u op' l, g.th u ≠ .running op' l) :
    Inv O s0 ⟨g.sh, upd g.th t (.running op (O.init op))⟩ w := by
  obtain ⟨sl, hleg, hsh, hpart⟩ := inv.legal
  have ha := hp ▸ inv.agree t
  have hsh' : g.sh = sl := hsh hreaders
  refine ⟨inv.placed, agree_upd inv.agree ha fun _ _ => rfl, ⟨sl, hleg, fun _ => hsh', ?_⟩, ?_⟩
  · intro u op' l h
    rcases upd_eq_iff.1 h with ⟨rfl, hx⟩ | ⟨_, h'⟩
    · cases hx; exact hsh' ▸ Partial.refl
    · exact hpart u op' l h'
  · intro u op' l h hw v op'' l' hv
    rcases upd_eq_iff.1 h with ⟨rfl, hx⟩ | ⟨_, h'⟩
    · cases hx
      exact (upd_eq_iff.1 hv).elim (·.1) fun h' => absurd h'.2 (halone hw v op'' l')
    · rw [hreaders u op' l h'] at hw; cases hw

end

theorem inv_step (L : Laws O) {s0 : O.σ} {g g' : G O} {w : List (Ev O)} {lab : Option (Ev O)}
    (inv : Inv O s0 g w) (st : Step O g lab g') : Inv O s0 g' (lab.toList ++ w) := by
  cases st with
  | invoke t op hidle =>
    have ha := hidle ▸ inv.agree t
    exact inv.frame nofun (by rw [hidle]; nofun) ⟨inv.placed, ha⟩
      (agree_upd inv.agree (if_pos rfl) fun u hu => if_neg hu) fun _ h => h
  | respond t op r hfin =>
    have ha := hfin ▸ inv.agree t
    exact inv.frame nofun (by rw [hfin]; nofun) ⟨inv.placed, op, ha⟩
      (agree_upd inv.agree (if_pos rfl) fun u hu => if_neg hu) fun _ h => h
  | acquireW t op hp hw hnone =>
    exact inv.acquire hp (fun u op' l h => absurd h (hnone u op' l)) fun _ => hnone
  | acquireR t op hp hr hreaders =>
    exact inv.acquire hp hreaders fun hw => by rw [hr] at hw; cases hw
  | micro t op l l' s' hrun hmore =>
    obtain ⟨sl, hleg, hsh, hpart⟩ := inv.legal
    have ha := hrun ▸ inv.agree t
    have hagree := agree_upd inv.agree (x := TSt.running op l') ha fun _ _ => rfl
    have hpart' : ∀ u op' l1, upd g.th t (TSt.running op l') u = .running op' l1 →
        (u ≠ t → Partial O op' (O.init op') sl l1 s') → Partial O op' (O.init op') sl l1 s' :=
      fun u op' l1 h hother => by
        rcases upd_eq_iff.1 h with ⟨rfl, hx⟩ | ⟨hne, _⟩
        · cases hx; exact Partial.snoc (hpart u op l hrun) hmore
        · exact hother hne
    cases hrd : O.isRead op with
    | true =>
      have hs : s' = g.sh := L.read_more op l g.sh l' s' hrd hmore
      subst hs
      refine ⟨inv.placed, hagree,
        ⟨sl, hleg, fun h => hsh fun u op' l1 hu => ?_, fun u op' l1 h => ?_⟩, ?_⟩
      · by_cases hut : u = t
        · subst hut; rw [hrun] at hu; cases hu; exact hrd
        · exact h u op' l1 (upd_eq_iff.2 (.inr ⟨hut, hu⟩))
      · exact hpart' u op' l1 h fun hne =>
          hpart u op' l1 ((upd_eq_iff.1 h).resolve_left fun hx => hne hx.1).2
      · intro u op' l1 h hw
        -- a writer inside would be alone, but `t` is inside
        rcases upd_eq_iff.1 h with ⟨rfl, hx⟩ | ⟨hne, h'⟩
        · cases hx; rw [hrd] at hw; cases hw
        · exact absurd (inv.excl u op' l1 h' hw t op l hrun) (Ne.symm hne)
    | false =>
      have honly : ∀ v op' l1, g.th v = .running op' l1 → v = t := inv.excl t op l hrun hrd
      have hrun' : ∀ u op' l1, upd g.th t (TSt.running op l') u = .running op' l1 → u = t :=
        fun u op' l1 h => (upd_eq_iff.1 h).elim (·.1) fun h' => honly u op' l1 h'.2
      refine ⟨inv.placed, hagree, ⟨sl, hleg, fun h => ?_, fun u op' l1 h => ?_⟩, ?_⟩
      · have := h t op l' (upd_same _ _ _)
        rw [hrd] at this; cases this
      · exact hpart' u op' l1 h fun hne => absurd (hrun' u op' l1 h) hne
      · intro u op' l1 h _ v op'' l2 hv
        rw [hrun' u op' l1 h, hrun' v op'' l2 hv]
  | finish t op l r s' hrun hdone =>
    obtain ⟨sl, hleg, hsh, hpart⟩ := inv.legal
    have ha := hrun ▸ inv.agree t
    have hspec : O.spec sl op r s' :=
      L.body_implements op sl r s' ((hpart t op l hrun).bigStep O (BigStep.last hdone))
    have hrunning : ∀ u op' l1, upd g.th t (TSt.finished op r) u = .running op' l1 →
        u ≠ t ∧ g.th u = .running op' l1 := fun u op' l1 h =>
      (upd_eq_iff.1 h).resolve_left fun hx => nomatch hx.2
    refine ⟨⟨inv.placed, ha⟩, agree_upd inv.agree (if_pos rfl) fun u hu => if_neg hu,
      ⟨s', ⟨sl, hleg, hspec⟩, fun _ => rfl, fun u op' l1 h => ?_⟩,
      fun u op' l1 h hw v op'' l2 hv =>
        inv.excl u op' l1 (hrunning u op' l1 h).2 hw v op'' l2 (hrunning v op'' l2 hv).2⟩
    obtain ⟨hne, h2⟩ := hrunning u op' l1 h
    cases hrd : O.isRead op with
    | true =>
      have hs : s' = g.sh := L.read_done op l g.sh r s' hrd hdone
      have hall : ∀ u op' l1, g.th u = .running op' l1 → O.isRead op' = true := fun u op' l1 hu => by
        cases hr' : O.isRead op' with
        | true => rfl
        | false =>
          have := inv.excl u op' l1 hu hr' t op l hrun
          subst this
          rw [hrun] at hu; cases hu; rw [hrd] at hr'; cases hr'
      -- a finishing reader leaves the state unchanged (`hs`) and everyone else inside is a reader (a writer would be alone),
      -- so `g.sh = sl = s'`: the other bodies' `Partial` runs carry over to the new `sl := s'`
      have := hpart u op' l1 h2
      rw [← hsh hall, ← hs] at this
      exact this
    | false => exact absurd (inv.excl t op l hrun hrd u op' l1 h2) hne

theorem reach_inv (L : Laws O) {s0 : O.σ} {g : G O} {w : List (Ev O)} (r : Reach O s0 g w) :
    Inv O s0 g w := by
  induction r with
  | init => exact inv_init O s0
  | step _ st ih => exact inv_step O L ih st

/-- Any number of threads, any schedule; `Reach` stops anywhere, so the history may have pending operations. -/
theorem lock_linearizable (L : Laws O) (s0 : O.σ) {g : G O} {w : List (Ev O)} (r : Reach O s0 g w) :
    Linearizable O s0 (visible O w) := by
  have inv := reach_inv O L r
  obtain ⟨sl, hleg, _⟩ := inv.legal
  exact ⟨w, rfl, inv.placed, sl, hleg⟩

end Hts.Spec.Lin
