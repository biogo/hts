/-
The copy loop of `Reader.Read` on a split file (Blocked: at most the rest of the member; unblocked: `LoopRes`) and
`Reader.read` from a byte position.
-/
import Hts.Lemmas.ReaderZip
namespace Hts.Model.Bgzf
open Hts.Spec.Flat

variable {F : File} {r : Reader} {pre : File} {m : Member} {post : File} {k : Nat}

theorem readLoop_within (hwf : WF F)
    (h : At F r pre m post k) (n fuel : Nat) (hn : 0 < n) (hle : k + n ≤ m.data.length) :
    r.readLoop (fuel + 2) n = ((r.adv n).setEnd, (m.data.drop k).take n, none) := by
  have hk : k < m.data.length := by omega
  rw [readLoop_step hwf h hk n (fuel + 1) hn]
  have hmin : min n (m.data.length - k) = n := by omega
  simp only [hmin, Nat.sub_self, readLoop_zero]
  simp [Reader.adv, h.err, Reader.setEnd]

theorem readLoop_blocked (hwf : WF F) (h : At F r pre m post k) (hb : r.blocked = true) (n fuel : Nat) :
    r.readLoop (fuel + 2) n = ((r.adv (min n (m.data.length - k))).setEnd, (m.data.drop k).take n,
      if m.data.length - k < n then some .eof else none) := by
  have hkle := h.le
  by_cases hle : k + n ≤ m.data.length
  · have hmin : min n (m.data.length - k) = n := by omega
    have hif : ¬ (m.data.length - k < n) := by omega
    rw [hmin, if_neg hif]
    by_cases hn : n = 0
    · subst hn; simp [readLoop_zero, h.err, Reader.adv_zero]
    · exact readLoop_within hwf h n fuel (by omega) hle
  · have hmin : min n (m.data.length - k) = m.data.length - k := by omega
    have hif : m.data.length - k < n := by omega
    have ht : (m.data.drop k).take n = m.data.drop k := List.take_of_length_le (by simp; omega)
    have h3 := h.adv_end
    rw [hmin, if_pos hif, ht]
    by_cases hk : k < m.data.length
    · rw [readLoop_step hwf h hk n (fuel + 1) (by omega), hmin, ht]
      simp [readLoop_end_blocked h3 hb (n - (m.data.length - k)) fuel (by omega)]
    · have hz : m.data.length - k = 0 := by omega
      rw [hz, Reader.adv_zero] at h3 ⊢
      simp [readLoop_end_blocked h3 hb n (fuel + 1) (by omega), show m.data.length ≤ k by omega]

/-- Outcome of the unblocked copy loop: `avail` are the bytes from the current position to the end of the
data, `p` the logical position. -/
structure LoopRes (F : File) (r : Reader) (p : Nat) (avail : List UInt8) (n : Nat)
    (res : Reader × List UInt8 × Option Err) : Prop where
  bytes : res.2.1 = avail.take n
  frame : res.1.blocked = r.blocked ∧ res.1.file = r.file ∧ res.1.lastChunk.bgn = r.lastChunk.bgn
  ok : n ≤ avail.length → res.2.2 = none ∧ res.1.lastChunk.fin = offAfter (layoutOf F) (p + n) ∧
        ∃ pre' m' post' k', At F res.1 pre' m' post' k' ∧ p + n = flatLen pre' + k'
  eof : avail.length < n → res.2.2 = some .eof ∧ AtEOF F res.1 ∧ res.1.lastChunk.fin = ⟨csum F, 0⟩

theorem LoopRes.of_frame {r2 : Reader} {p : Nat} {avail : List UInt8} {n : Nat}
    {res : Reader × List UInt8 × Option Err} (h : LoopRes F r2 p avail n res)
    (hfr : r2.blocked = r.blocked ∧ r2.file = r.file ∧ r2.lastChunk.bgn = r.lastChunk.bgn) :
    LoopRes F r p avail n res :=
  ⟨h.bytes, ⟨h.frame.1.trans hfr.1, h.frame.2.1.trans hfr.2.1, h.frame.2.2.trans hfr.2.2⟩, h.ok, h.eof⟩

theorem LoopRes.prepend {p : Nat} {avail : List UInt8} {n' : Nat}
    {res : Reader × List UInt8 × Option Err} (x : List UInt8) (h : LoopRes F r (p + x.length) avail n' res) :
    LoopRes F r p (x ++ avail) (x.length + n') (res.1, x ++ res.2.1, res.2.2) := by
  refine ⟨?_, h.frame, ?_, ?_⟩
  · have : List.take (x.length + n') x = x := List.take_of_length_le (by omega)
    simp [h.bytes, List.take_append, this]
  · intro hle
    rw [← Nat.add_assoc]
    exact h.ok (by simp at hle; omega)
  · intro hlt
    exact h.eof (by simp at hlt; omega)

theorem readLoop_unblocked_of_end (hwf : WF F)
    (hend : ∀ (r : Reader) (n fuel : Nat), At F r pre m post m.data.length → r.blocked = false → 0 < n →
      2 * post.length + 1 ≤ fuel →
      LoopRes F r (flatLen pre + m.data.length) (flatBytes post) n (r.readLoop fuel n))
    (h : At F r pre m post k) (hb : r.blocked = false) (n fuel : Nat) (hn : 0 < n)
    (hfuel : 2 * post.length + 2 ≤ fuel) :
    LoopRes F r (flatLen pre + k) (m.data.drop k ++ flatBytes post) n (r.readLoop fuel n) := by
  have hk := h.le
  by_cases hle : k + n ≤ m.data.length
  · obtain ⟨fuel, rfl⟩ : ∃ f, fuel = f + 2 := ⟨fuel - 2, by omega⟩
    rw [readLoop_within hwf h n fuel hn hle]
    refine ⟨?_, ⟨rfl, rfl, rfl⟩, fun _ => ⟨rfl, ?_, pre, m, post, k + n, (h.adv n hle).setEnd, by omega⟩,
      fun hlt => by simp at hlt; omega⟩
    · rw [List.take_append_of_le_length (by simp; omega)]
    · rw [h.split, Nat.add_assoc, offAfter_split pre post m (k + n) (by omega) hle]
      simp [Reader.setEnd, Reader.adv, h.cur]
  · by_cases hkl : k < m.data.length
    · -- the rest of `m`, then on from its end
      obtain ⟨fuel, rfl⟩ : ∃ f, fuel = f + 1 := ⟨fuel - 1, by omega⟩
      have hmin : min n (m.data.length - k) = m.data.length - k := by omega
      have hres := hend _ (n - (m.data.length - k)) fuel h.adv_end hb (by omega) (by omega)
      rw [show flatLen pre + m.data.length = flatLen pre + k + (m.data.drop k).length by simp; omega] at hres
      have hpre := (hres.of_frame (r := r) ⟨rfl, rfl, rfl⟩).prepend (m.data.drop k)
      rw [show (m.data.drop k).length + (n - (m.data.length - k)) = n by simp; omega] at hpre
      rw [readLoop_step hwf h hkl n fuel hn, hmin,
        show (m.data.drop k).take n = m.data.drop k from List.take_of_length_le (by simp; omega)]
      exact hpre
    · have hkl' : k = m.data.length := by omega
      rw [hkl', List.drop_length, List.nil_append]
      exact hend r n fuel (hkl' ▸ h) hb hn (by omega)

/-- The hypothesis `hend` of `readLoop_unblocked_of_end`, by induction on the members behind `m`. -/
theorem readLoop_unblocked_end (hwf : WF F) :
    ∀ (post pre : File) (m : Member) (r : Reader) (n fuel : Nat),
      At F r pre m post m.data.length → r.blocked = false → 0 < n → 2 * post.length + 1 ≤ fuel →
      LoopRes F r (flatLen pre + m.data.length) (flatBytes post) n (r.readLoop fuel n) := by
  intro post
  induction post with
  | nil =>
    intro pre m r n fuel h hb hn hfuel
    obtain ⟨fuel, rfl⟩ : ∃ f, fuel = f + 1 := ⟨fuel - 1, by omega⟩
    rw [readLoop_end_nil hwf h hb n fuel hn]
    refine ⟨by simp [flatBytes], ⟨rfl, rfl, rfl⟩, fun hle => ?_, fun _ => ⟨rfl, ⟨h.file, rfl, rfl, rfl⟩, rfl⟩⟩
    simp [flatBytes] at hle; omega
  | cons m' post ih =>
    intro pre m r n fuel h hb hn hfuel
    obtain ⟨fuel, rfl⟩ : ∃ f, fuel = f + 1 := ⟨fuel - 1, by omega⟩
    rw [readLoop_end_cons hwf h hb n fuel hn]
    have h1 : At F ({ r with cur := ⟨csum (pre ++ [m]), m'.csize, m'.data, 0, ⟨csum (pre ++ [m]), 0⟩⟩ } : Reader)
        (pre ++ [m]) m' post 0 := h.next rfl rfl h.err
    have := readLoop_unblocked_of_end hwf (ih (pre ++ [m]) m') h1 hb n fuel hn (by simp at hfuel; omega)
    simpa [flatLen, flatBytes] using this.of_frame (r := r) ⟨rfl, rfl, rfl⟩

/-- `bg.lastChunk.Begin = bg.current.txOffset()` at the start of `Read`. -/
def Reader.setBgn (r : Reader) : Reader := { r with lastChunk := ⟨r.cur.tx, r.lastChunk.fin⟩ }

theorem At.setBgn (h : At F r pre m post k) : At F r.setBgn pre m post k := h.congr rfl rfl rfl

theorem read_err (r : Reader) (n : Nat) (e : Err) (h : r.err = some e) : r.read n = (r, [], some e) := by
  simp [Reader.read, h]

theorem read_skip_err (r : Reader) (n : Nat) (e : Err) (h : r.err = none)
    (h2 : (r.skipEmpty r.skipFuel).err = some e) : r.read n = (r.skipEmpty r.skipFuel, [], some e) := by
  simp [Reader.read, h, h2]

theorem read_skip_ok (r : Reader) (n : Nat) (h : r.err = none) (h2 : (r.skipEmpty r.skipFuel).err = none) :
    r.read n = (r.skipEmpty r.skipFuel).setBgn.readLoop (2 * (r.skipEmpty r.skipFuel).file.length + 3) n := by
  simp [Reader.read, h, h2, Reader.loopFuel, Reader.setBgn]

/-- `_canon`: the reader stands strictly inside a member (`k < m.data.length`), so the skip loop changes nothing
and `Read` is its copy loop. -/
theorem read_canon (h : At F r pre m post k) (hk : k < m.data.length) (n : Nat) :
    r.read n = r.setBgn.readLoop (2 * (pre.length + post.length) + 5) n := by
  have hsk : r.skipEmpty r.skipFuel = r := skipEmpty_of_lt h hk r.file.length
  rw [read_skip_ok r n h.err (by rw [hsk]; exact h.err), hsk, h.file, h.split]
  congr 1; simp; omega

theorem read_skip_idem
    (h : At F (r.skipEmpty r.skipFuel) pre m post k) (hk : k < m.data.length) (he : r.err = none) (n : Nat) :
    r.read n = (r.skipEmpty r.skipFuel).read n := by
  have hsk : (r.skipEmpty r.skipFuel).skipEmpty (r.skipEmpty r.skipFuel).skipFuel = r.skipEmpty r.skipFuel :=
    skipEmpty_of_lt h hk _
  rw [read_skip_ok r n he h.err, read_skip_ok _ n h.err (by rw [hsk]; exact h.err), hsk]

theorem read_blocked_canon (hwf : WF F)
    (h : At F r pre m post k) (hk : k < m.data.length) (hb : r.blocked = true) (n : Nat) :
    ∃ r', r.read n = (r', (m.data.drop k).take n, if m.data.length - k < n then some .eof else none) ∧
      At F r' pre m post (k + min n (m.data.length - k)) ∧ r'.blocked = true ∧
      r'.lastChunk = ⟨⟨csum pre, k⟩, ⟨csum pre, k + min n (m.data.length - k)⟩⟩ := by
  rw [read_canon h hk, readLoop_blocked hwf h.setBgn hb n]
  exact ⟨_, rfl, (h.setBgn.adv _ (by omega)).setEnd, hb, by simp [Reader.setEnd, Reader.adv, Reader.setBgn, h.cur]⟩

theorem read_unblocked_canon (hwf : WF F)
    (h : At F r pre m post k) (hk : k < m.data.length) (hb : r.blocked = false) (n : Nat) (hn : 0 < n) :
    LoopRes F r.setBgn (flatLen pre + k) (m.data.drop k ++ flatBytes post) n (r.read n) := by
  rw [read_canon h hk]
  exact readLoop_unblocked_of_end hwf (readLoop_unblocked_end hwf post pre m) h.setBgn hb n _ hn (by omega)

theorem read_zero_canon (h : At F r pre m post k) (hk : k < m.data.length) :
    r.read 0 = (r.setBgn.setEnd, [], none) := by
  rw [read_canon h hk, readLoop_zero, show r.setBgn.err = none from h.err]

end Hts.Model.Bgzf
