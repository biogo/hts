import Hts.Lemmas.Decoders
import Hts.Model.DecodersBgzf
namespace Hts.Model.Decoders
open Outcome (ok Sat)
open Hts.Model.BgzfBytes (MaxBlockSize)

theorem expectedMemberSize_le (extra : Option Bytes) (bs : Nat)
    (h : Hts.Model.BgzfBytes.expectedMemberSize extra = some bs) : bs ≤ MaxBlockSize := by
  unfold Hts.Model.BgzfBytes.expectedMemberSize at h
  split at h
  · cases h
  · split at h
    · cases h
    · split at h
      · rename_i lo hi _ _
        cases h
        have h1 := UInt8.toNat_lt lo
        have h2 := UInt8.toNat_lt hi
        unfold MaxBlockSize
        omega
      · cases h

theorem readLimitedIdx_spec {blockSize : Nat} (h : blockSize ≤ MaxBlockSize) (skipped : Nat) :
    (readLimitedIdx blockSize skipped).Sat (· = blockSize - skipped) :=
  .ite_err fun _ => by rw [sliceTo_of_le (by simp only [List.length_replicate]; omega)]; rfl

end Hts.Model.Decoders
