/-
UnmarshalText, DecodeBinary, NewHeader and Clone on a consistent world: the world stays consistent and nothing panics
(`Safe`), and the number of headers is what it should be; `decodeBinaryR` is `decodeBinary` with the unread bytes.
-/
import Hts.Lemmas.HeaderLine
namespace Hts.Model.Header

/-- the invariant of a world: every kind is consistent and has one table per header -/
structure WInv (w : World) : Prop where
  refs : KInv w.refs
  rgs : KInv w.rgs
  pgs : KInv w.pgs
  lr : w.refs.tabs.length = w.hdrs.length
  lg : w.rgs.tabs.length = w.hdrs.length
  lp : w.pgs.tabs.length = w.hdrs.length

theorem winv_setHdr {w : World} (hw : WInv w) (h : Nat) (f : HdrF) : WInv (setHdr w h f) :=
  ⟨hw.refs, hw.rgs, hw.pgs, hw.lr.trans List.length_set.symm, hw.lg.trans List.length_set.symm,
    hw.lp.trans List.length_set.symm⟩

theorem winv_refs {w : World} (hw : WInv w) {k : KW RefD} (a : List (Option Nat)) (p : Nat) (hk : Keeps w.refs k) :
    WInv { w with refs := k, rpool := a, nextUri := p } :=
  ⟨hk.1, hw.rgs, hw.pgs, hk.2.trans hw.lr, hw.lg, hw.lp⟩

theorem winv_rgs {w : World} (hw : WInv w) {k : KW RgD} (a : List (Option Nat)) (hk : Keeps w.rgs k) :
    WInv { w with rgs := k, gpool := a } :=
  ⟨hw.refs, hk.1, hw.pgs, hw.lr, hk.2.trans hw.lg, hw.lp⟩

theorem winv_pgs {w : World} (hw : WInv w) {k : KW PgD} (a : List (Option Nat)) (hk : Keeps w.pgs k) :
    WInv { w with pgs := k, ppool := a } :=
  ⟨hw.refs, hw.rgs, hk.1, hw.lr, hw.lg, hk.2.trans hw.lp⟩

def Safe (out : World × Res) : Prop := WInv out.1 ∧ out.2 ≠ .panic

theorem Safe.winv {out : World × Res} (s : Safe out) {w' : World} {r : Res} (h : out = (w', r)) : WInv w' :=
  fst_of_eq h ▸ s.1

theorem hdFields_no_panic (xs : List Bytes) (f : HdrF) : (hdFields f xs).2 ≠ .panic := by
  fun_induction hdFields f xs <;> first | assumption | exact Res.noConfusion

theorem headerLine_no_panic (f : HdrF) (l : Bytes) : (headerLine f l).2 ≠ .panic := by
  fun_cases headerLine f l <;> first | exact Res.noConfusion | exact hdFields_no_panic _ _

theorem commentLine_no_panic (f : HdrF) (l : Bytes) : (commentLine f l).2 ≠ .panic := by
  fun_cases commentLine f l <;> exact Res.noConfusion

/-- what a line does: a field of the header changes, one kind goes through its line parser, or nothing changes; the first
and the last without a panic -/
theorem parseLine_cases (E : Ext) (w : World) (h : Nat) (l : Bytes) (P : World × Res → Prop)
    (hd : ∀ f r, r ≠ .panic → P (setHdr w h f, r))
    (sq : P ({ w with refs := (referenceLine E w.refs w.nextUri h l).1, nextUri := w.nextUri + 1 },
      (referenceLine E w.refs w.nextUri h l).2))
    (rg : P ({ w with rgs := (readGroupLine E w.rgs h l).1 }, (readGroupLine E w.rgs h l).2))
    (pg : P ({ w with pgs := (programLine w.pgs h l).1 }, (programLine w.pgs h l).2))
    (same : ∀ r, r ≠ .panic → P (w, r)) : P (parseLine E w h l) := by
  unfold parseLine
  split
  · exact ite_ind P (fun _ => hd _ _ (headerLine_no_panic _ _)) fun _ => ite_ind P (fun _ => sq) fun _ =>
      ite_ind P (fun _ => rg) fun _ => ite_ind P (fun _ => pg) fun _ =>
        ite_ind P (fun _ => hd _ _ (commentLine_no_panic _ _)) fun _ => same _ nofun
  · exact same _ nofun
  · exact same _ nofun

theorem parseLine_safe (E : Ext) {w : World} (hw : WInv w) (h : Nat) (l : Bytes) : Safe (parseLine E w h l) :=
  parseLine_cases E w h l Safe (fun f _ hr => ⟨winv_setHdr hw h f, hr⟩)
    ⟨winv_refs hw _ _ ((referenceLine_out E hw.refs ..).keeps hw.refs), (referenceLine_out E hw.refs ..).no_panic⟩
    ⟨winv_rgs hw _ ((readGroupLine_out ..).keeps hw.rgs), (readGroupLine_out ..).no_panic⟩
    ⟨winv_pgs hw _ ((programLine_out ..).keeps hw.pgs), (programLine_out ..).no_panic⟩ fun _ hr => ⟨hw, hr⟩

/-- A property of outcomes that every line carries on holds of the outcome of the text.  The loop goes on only after `ok`,
so `P (w, .ok)` is what a line may assume of the world it starts in. -/
theorem parseLines_inv (E : Ext) (h : Nat) (P : World × Res → Prop) : ∀ (ls : List Bytes) (w : World),
    (∀ l ∈ ls, ∀ w, dropCR l ≠ [] → P (w, .ok) → P (parseLine E w h (dropCR l))) → P (w, .ok) →
    P (parseLines E w h ls) := by
  intro ls
  induction ls with
  | nil => intro w _ hw; exact hw
  | cons l ls ih =>
    intro w step hw
    have ih := fun w => ih w fun l' hl' => step l' (List.mem_cons_of_mem _ hl')
    rw [parseLines]
    split
    · exact ih w hw
    · next hne =>
      have := step l List.mem_cons_self w hne hw
      split
      · next w' hpl => rw [hpl] at this; exact ih w' this
      · exact this

theorem unmarshalText_safe (E : Ext) {w : World} (hw : WInv w) (h : Nat) (text : Bytes) :
    Safe (unmarshalText E w h text) :=
  parseLines_inv E h Safe (splitOn 10 text) w (fun _ _ _ _ hs => parseLine_safe E hs.1 h _) ⟨hw, nofun⟩

/-- one round of the loop of DecodeBinary that adds the references of the binary dictionary -/
theorem alloc_addReference_spec {k : KW RefD} (hk : KInv k) (x : Obj RefD) (hf : x.owner = none) (h : Nat) :
    Keeps k (addReference (k.alloc x).1 h (k.alloc x).2).1 ∧ (addReference (k.alloc x).1 h (k.alloc x).2).2 ≠ .panic :=
  ⟨kinv_addReference (kinv_alloc hk x hf) h _, addReference_no_panic (kinv_alloc hk x hf) h _⟩

theorem addBinRefs_spec (h : Nat) : ∀ (rs : List (Bytes × Int)) (k : KW RefD) (i : Nat), KInv k →
    Keeps k (addBinRefs k h i rs).1 ∧ (addBinRefs k h i rs).2 ≠ .panic := by
  intro rs
  induction rs with
  | nil => exact fun k i hk => ⟨.refl hk, nofun⟩
  | cons r rs ih =>
    intro k i hk
    obtain ⟨nm, l⟩ := r
    obtain ⟨h1, h2⟩ := alloc_addReference_spec hk ⟨none, i, nm, { len := l }⟩ rfl h
    rw [addBinRefs]
    dsimp only
    split
    · next k2 he =>
      rw [he] at h1
      exact ⟨h1.trans (ih k2 (i + 1) h1.1).1, (ih k2 (i + 1) h1.1).2⟩
    · exact ⟨h1, h2⟩

theorem decodeBinary_safe (E : Ext) {w : World} (hw : WInv w) (h : Nat) (b : Bytes) : Safe (decodeBinary E w h b) := by
  have hu := unmarshalText_safe E hw h
  fun_cases decodeBinary E w h b <;> try exact ⟨hw, nofun⟩
  all_goals try exact ⟨(hu _).winv ‹unmarshalText E w h _ = _›, nofun⟩
  · next rs _ k r hab =>
    have h1 := (hu _).winv ‹unmarshalText E w h _ = _›
    have a := addBinRefs_spec h rs _ 0 h1.refs
    rw [hab] at a
    exact ⟨winv_refs h1 _ _ a.1, a.2⟩
  · exact hu _

theorem readRefRecordsR_fst (n : Nat) (b : Bytes) : readRefRecords n b = (readRefRecordsR n b).map (·.1) := by
  fun_induction readRefRecordsR n b <;> simp_all [readRefRecords]

theorem decodeBinaryR_eq (E : Ext) (w : World) (h : Nat) (b : Bytes) :
    ((decodeBinaryR E w h b).1, (decodeBinaryR E w h b).2.1) = decodeBinary E w h b := by
  fun_cases decodeBinaryR E w h b <;> simp_all [decodeBinary, readRefRecordsR_fst, -Int.not_lt]

theorem winv_pushHeader {w : World} (hw : WInv w) (f : HdrF) : WInv (pushHeader w f) := by
  obtain ⟨a, b, c, d, e, g⟩ := hw
  refine ⟨kinv_newTab a, kinv_newTab b, kinv_newTab c, ?_, ?_, ?_⟩ <;> simp [pushHeader] <;> assumption

theorem winv_markDead {w : World} (hw : WInv w) (h : Nat) : WInv (markDead w h) := by
  unfold markDead; split
  · exact winv_setHdr hw _ _
  · exact hw

theorem winv_cloneHeader {w : World} (hw : WInv w) (h : Nat) : WInv (cloneHeader w h) := by
  unfold cloneHeader; split
  · obtain ⟨a, b, c, d, e, g⟩ := hw
    refine ⟨kinv_cloneTab a h, kinv_cloneTab b h, kinv_cloneTab c h, ?_, ?_, ?_⟩ <;> simp <;> assumption
  · exact winv_pushHeader hw _

theorem refsUsable_addNewU {k : KW RefD} {hn o : Nat} {x : Obj RefD} {t : Tab} (hx : k.heap[o]? = some x)
    (ht : k.tabs[hn]? = some t) : ∀ (os : List Nat) (names : List Bytes), x.name ∈ names →
    refsUsable k os names = true → refsUsable (k.addNewU hn o) os names = true := by
  intro os
  induction os with
  | nil => exact fun _ _ _ => rfl
  | cons o' os ih =>
    intro names hmem h'
    rw [refsUsable] at h' ⊢
    rw [addNewU_heap hx ht]
    by_cases e : o = o'
    · subst e
      simp [hx, hmem] at h'
    · rw [if_neg e]
      cases hx' : k.heap[o']? with
      | none => simp [hx'] at h'
      | some x' =>
        simp only [hx', Bool.and_eq_true] at h' ⊢
        exact ⟨h'.1, ih _ (List.mem_cons_of_mem _ hmem) h'.2⟩

/-- the references given to NewHeader are free, with distinct names unknown to the header -/
theorem kinv_addMany (hn : Nat) : ∀ (os : List Nat) (k : KW RefD) (names : List Bytes) (t : Tab), KInv k →
    k.tabs[hn]? = some t → (∀ n, (lookup t.seen n).isSome = true → n ∈ names) → refsUsable k os names = true →
    Keeps k (os.foldl (fun k o => k.addNewU hn o) k) := by
  intro os
  induction os with
  | nil => exact fun k names t hk _ _ _ => .refl hk
  | cons o os ih =>
    intro k names t hk ht hsub hus
    rw [refsUsable] at hus
    cases hx : k.heap[o]? with
    | none => simp [hx] at hus
    | some x =>
      simp only [hx, Bool.and_eq_true, Bool.not_eq_true', Bool.or_eq_false_iff, decide_eq_false_iff_not,
        Option.isSome_eq_false_iff, Option.isNone_iff_eq_none, List.contains_eq_mem, decide_eq_false_iff_not] at hus
      obtain ⟨⟨⟨hfree, _⟩, hnot⟩, hrest⟩ := hus
      have hnew : lookup t.seen x.name = none :=
        Option.not_isSome_iff_eq_none.1 fun hs => hnot (hsub _ hs)
      have hsub' : ∀ n, (lookup (insert t.seen x.name t.items.length) n).isSome = true → n ∈ x.name :: names := by
        intro n hn'
        rw [lookup_insert] at hn'
        split at hn'
        · next e => exact e ▸ List.mem_cons_self
        · exact List.mem_cons_of_mem _ (hsub n hn')
      have h1 := kinv_addNewU hk hx ht hfree hnew
      exact h1.trans (ih (k.addNewU hn o) (x.name :: names) _ h1.1
        ((addNewU_tabs hx ht hn).trans (if_pos rfl)) hsub' (refsUsable_addNewU hx ht os _ List.mem_cons_self hrest))

/-- the world NewHeader parses its text into: the new header holds the given references -/
theorem winv_newHeader_refs {w : World} (hw : WInv w) {refs : List Nat}
    (hus : refsUsable (pushHeader w {}).refs refs [] = true) :
    WInv { pushHeader w {} with
      refs := refs.foldl (fun k o => k.addNewU w.hdrs.length o) (pushHeader w {}).refs } := by
  have hp := winv_pushHeader hw {}
  have ht : (pushHeader w {}).refs.tabs[w.hdrs.length]? = some ⟨[], []⟩ := by
    simp [pushHeader, KW.newTab, ← hw.lr]
  exact winv_refs hp _ _ (kinv_addMany w.hdrs.length refs (pushHeader w {}).refs [] _ hp.refs ht nofun hus)

theorem newHeader_safe (E : Ext) {w : World} (hw : WInv w) (text : Bytes) (refs : List Nat) :
    Safe (newHeader E w text refs) := by
  unfold newHeader
  dsimp only
  refine ite_ind Safe (fun _ => ⟨winv_markDead (winv_pushHeader hw {}) _, nofun⟩) fun hus => ?_
  have h2 := unmarshalText_safe E (winv_newHeader_refs hw (by simpa using hus)) w.hdrs.length text
  generalize unmarshalText E _ w.hdrs.length text = res at h2
  obtain ⟨w', r⟩ := res
  cases r <;> first | exact h2 | exact ⟨winv_markDead h2.1 _, h2.2⟩

theorem parseLine_hdrs_len (E : Ext) (w : World) (h : Nat) (l : Bytes) :
    (parseLine E w h l).1.hdrs.length = w.hdrs.length :=
  parseLine_cases E w h l (fun o => o.1.hdrs.length = w.hdrs.length) (fun _ _ _ => List.length_set) rfl rfl rfl fun _ _ => rfl

theorem parseLines_hdrs_len (E : Ext) (h : Nat) (ls : List Bytes) (w : World) :
    (parseLines E w h ls).1.hdrs.length = w.hdrs.length :=
  parseLines_inv E h (fun o => o.1.hdrs.length = w.hdrs.length) ls w
    (fun _ _ w' _ hw' => (parseLine_hdrs_len E w' h _).trans hw') rfl

theorem markDead_hdrs_len (w : World) (h : Nat) : (markDead w h).hdrs.length = w.hdrs.length := by
  unfold markDead; split <;> simp [setHdr]

theorem newHeader_hdrs_len (E : Ext) (w : World) (text : Bytes) (refs : List Nat) :
    (newHeader E w text refs).1.hdrs.length = w.hdrs.length + 1 := by
  unfold newHeader
  dsimp only
  split
  · rw [markDead_hdrs_len]; simp [pushHeader]
  · have := parseLines_hdrs_len E w.hdrs.length (splitOn 10 text)
      { pushHeader w {} with refs := refs.foldl (fun k o => k.addNewU w.hdrs.length o) (pushHeader w {}).refs }
    unfold unmarshalText
    generalize parseLines E _ w.hdrs.length (splitOn 10 text) = res at this
    obtain ⟨w', r⟩ := res
    cases r <;> simp only [markDead_hdrs_len] <;> simpa [pushHeader] using this

end Hts.Model.Header
