/-
C01's member bytes under C10's byte-level reader model (Hts.Model.BgzfBytes, the model that `c10.trunc` /
`c10.subst` drive against bgzf.Reader on arbitrary bytes).  Every member the writer produces, under any header
gzip.Writer and gzip.Reader accept and not only the default 18-byte one, is a well-framed `Member` of
`Lemmas.BgzfBytes`, so what is proved of streams of well-framed members (`readAll_stream`, the truncation theorem
`Hts.Props.C10.prefix_reads_prefix`, …) holds of the writer's streams.
-/
import Hts.Lemmas.BgzfStream
import Hts.Lemmas.BgzfBytes
namespace Hts.Model.Member
open Hts.Model
open Hts.Lemmas.BgzfBytes (Member HeaderOk layout_ok stream data canonHeader canonHeader_ok)

/-- C01's codec as the codec of the byte-level reader model of C10 -/
def toBytesCodec (c : CodecFns) : BgzfBytes.Codec :=
  { inflate := fun b => match c.inflate b with
      | some (p, u) => .ok p u
      | none => .fail 0 0
    crc32 := c.crc32 }

theorem readOptString_false (s : List Byte) : BgzfBytes.readOptString false s = .ok (0, []) := rfl

theorem flagSet_vals :
    BgzfBytes.flagSet 4 4 = true ∧ BgzfBytes.flagSet 4 8 = false ∧ BgzfBytes.flagSet 4 16 = false ∧ BgzfBytes.flagSet 4 2 = false ∧
    BgzfBytes.flagSet 12 4 = true ∧ BgzfBytes.flagSet 12 8 = true ∧ BgzfBytes.flagSet 12 16 = false ∧ BgzfBytes.flagSet 12 2 = false ∧
    BgzfBytes.flagSet 20 4 = true ∧ BgzfBytes.flagSet 20 8 = false ∧ BgzfBytes.flagSet 20 16 = true ∧ BgzfBytes.flagSet 20 2 = false ∧
    BgzfBytes.flagSet 28 4 = true ∧ BgzfBytes.flagSet 28 8 = true ∧ BgzfBytes.flagSet 28 16 = true ∧ BgzfBytes.flagSet 28 2 = false := by
  decide

theorem flagSet_flgOf (h : Header) :
    BgzfBytes.flagSet (flgOf h) 4 = true ∧ BgzfBytes.flagSet (flgOf h) 8 = decide (h.name ≠ []) ∧
    BgzfBytes.flagSet (flgOf h) 16 = decide (h.comment ≠ []) ∧ BgzfBytes.flagSet (flgOf h) 2 = false :=
  have ⟨h4, h8, h16, h2⟩ := flgOf_and h
  ⟨bne_iff_ne.2 h4, Bool.eq_iff_iff.2 (bne_iff_ne.trans h8), Bool.eq_iff_iff.2 (bne_iff_ne.trans h16),
    Bool.eq_false_iff.2 (mt bne_iff_ne.1 h2)⟩

theorem leNat_four (a b c d : Byte) : BgzfBytes.leNat [a, b, c, d] = u32 a b c d := by
  simp only [BgzfBytes.leNat, u32]; omega

theorem leNat_le32 (n : Nat) (h : n < 2 ^ 32) : BgzfBytes.leNat (le32 n) = n :=
  (leNat_four _ _ _ _).trans (u32_le32 n h)

/-- The header bgzf.Writer writes, with any Name, Comment, user Extra, ModTime, OS that gzip.Writer and
gzip.Reader accept, is a `HeaderOk` header, announcing a member of `bsz + 1` bytes. -/
theorem writerHeader_ok (crc : List Byte → Nat) (c : CodecFns) (h : Header) (hk : HdrOK h) (hr : ReaderOK h) (bsz : Nat)
    (hb : bsz < 65536) : Hts.Lemmas.BgzfBytes.HeaderOk crc (writerHeader c h bsz) (bsz + 1) := by
  obtain ⟨g4, g8, g16, g2⟩ := flagSet_flgOf h
  -- `writerHeader c h bsz` is `(writerLayout c h bsz).bytes` by definition (`writerHeader_eq`); `u16 a b` is
  -- `a.toNat + 256 * b.toNat` by definition, the form in which `expectedMemberSize_bc` spells its result
  exact layout_ok crc (writerLayout c h bsz) (writerLayout_wf c hk bsz) (writerLayout_short c hr bsz) g4 g8 g16 g2
    ((Hts.Lemmas.BgzfBytes.expectedMemberSize_bc _ _ h.extra).trans (congrArg (fun n => some (n + 1)) (u16_le16 bsz hb)))

/-- the member the writer produces for payload `p`, as a member of C10's lemma library -/
def blockM (c : CodecFns) (h : Header) (p : List Byte) : Hts.Lemmas.BgzfBytes.Member :=
  { header := writerHeader c h (memberLen c h p - 1), cdata := c.deflate p, crc := le32 (c.crc32 p),
    isize := le32 (p.length % 2 ^ 32), payload := p }

theorem blockM_bytes (c : CodecFns) (h : Header) (p : List Byte) : (blockM c h p).bytes = mb c h p := rfl

theorem blockM_wf (c : Codec) (h : Header) (p : List Byte) (hk : HdrOK h) (hr : ReaderOK h)
    (hlen : memberLen c.toCodecFns h p ≤ BgzfWriter.MaxBlockSize) (hp : p.length ≤ BgzfWriter.MaxBlockSize) :
    (blockM c.toCodecFns h p).WellFramed (toBytesCodec c.toCodecFns) := by
  obtain ⟨hb, hsz⟩ := fits_bsz c.toCodecFns h p hlen
  have hsize : (blockM c.toCodecFns h p).size = memberLen c.toCodecFns h p - 1 + 1 := by
    rw [hsz, Member.size, Nat.add_assoc]; rfl
  exact
    { hdrOk := by rw [hsize]; exact writerHeader_ok _ c.toCodecFns h hk hr _ hb
      crcLen := rfl, isizeLen := rfl,
      inflates := by simp [toBytesCodec, blockM, Member.body, c.inflate_deflate],
      crcOk := leNat_le32 _ (c.crc32_lt p),
      isizeOk := leNat_le32 _ (Nat.mod_lt _ (by decide)),
      fits := hp }

/-- the EOF marker as a member of C10's lemma library -/
def markerM : Hts.Lemmas.BgzfBytes.Member :=
  { header := Hts.Lemmas.BgzfBytes.canonHeader 0 0 0 0 0 255 28, cdata := [3, 0], crc := [0, 0, 0, 0], isize := [0, 0, 0, 0],
    payload := [] }

theorem markerM_bytes : markerM.bytes = magicBlock := by decide

theorem markerM_wf (c : Codec) : markerM.WellFramed (toBytesCodec c.toCodecFns) :=
  { hdrOk := canonHeader_ok _ 0 0 0 0 0 255 (by decide) (by decide),
    crcLen := rfl, isizeLen := rfl,
    inflates := by simp [toBytesCodec, markerM, Member.body, c.inflate_marker],
    crcOk := by simp [toBytesCodec, markerM, BgzfBytes.leNat, c.crc32_nil],
    isizeOk := by simp [markerM, BgzfBytes.leNat],
    fits := by simp [markerM] }

/-- the closed stream of the blocks `ws`, as members of C10's lemma library -/
def closedM (c : CodecFns) (h : Header) (ws : List (List Byte)) : List Hts.Lemmas.BgzfBytes.Member :=
  ws.map (blockM c h) ++ [markerM]

theorem stream_closedM (c : CodecFns) (h : Header) (ws : List (List Byte)) :
    stream (closedM c h ws) = (ws.map (mb c h)).flatten ++ magicBlock := by
  simp [closedM, stream, Function.comp_def, blockM_bytes, markerM_bytes]

theorem data_closedM (c : CodecFns) (h : Header) (ws : List (List Byte)) : data (closedM c h ws) = ws.flatten := by
  simp [closedM, data, Function.comp_def, blockM, markerM]

theorem closedM_wf (c : Codec) (h : Header) (hr : ReaderOK h) (ws : List (List Byte))
    (hws : ∀ p ∈ ws, Fits c.toCodecFns h p ∧ p.length ≤ BgzfWriter.MaxBlockSize) :
    ∀ m ∈ closedM c.toCodecFns h ws, m.WellFramed (toBytesCodec c.toCodecFns) := by
  intro m hm
  rcases List.mem_append.mp hm with h' | h'
  · obtain ⟨p, hp, rfl⟩ := List.mem_map.mp h'
    exact blockM_wf c h p (hws p hp).1.1 hr (hws p hp).1.2 (hws p hp).2
  · rw [List.mem_singleton.mp h']; exact markerM_wf c

end Hts.Model.Member
