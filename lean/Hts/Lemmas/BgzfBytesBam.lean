/-
Lemmas for C10: BAM record framing (`newBuffer`) over a flat byte stream that ends with an error `e`
(`eof` = the BGZF layer ended cleanly), on prefixes of well-formed record sequences.
-/
import Hts.Lemmas.BgzfBytes
namespace Hts.Lemmas.BgzfBytes
open Hts.Model.BgzfBytes

/-- a BAM record as laid out in the data: the 4-byte `block_size` field and the block -/
structure Rec where
  pre : Bytes
  body : Bytes

namespace Rec

def bytes (r : Rec) : Bytes := r.pre ++ r.body

structure WellFormed (r : Rec) : Prop where
  preLen : r.pre.length = 4
  preVal : leNat r.pre = r.body.length
  pos : 0 < r.body.length
  small : r.body.length < 2147483648

theorem bytes_length {r : Rec} (h : r.WellFormed) : r.bytes.length = 4 + r.body.length := by
  simp [bytes, h.preLen]

end Rec

def recBytes (rs : List Rec) : Bytes := (rs.map Rec.bytes).flatten
/-- data offset (from the first record) of the boundary after the first `i` records -/
def roff (rs : List Rec) (i : Nat) : Nat := ((rs.take i).map fun r => 4 + r.body.length).sum

/-- the error a short `io.ReadFull` turns the stream's terminal error into -/
def shortErr (e : Err) : Err := if e = .eof then .unexpectedEOF else e

theorem shortErr_ne_eof (e : Err) : shortErr e ≠ .eof := by
  unfold shortErr; split <;> simp_all

theorem shortErr_shortErr (e : Err) : shortErr (shortErr e) = shortErr e := by
  rw [shortErr, if_neg (shortErr_ne_eof e)]

theorem readFull_append {a : Bytes} {n : Nat} (ha : a.length = n) (t : Bytes) (e : Err) :
    (⟨a ++ t, e⟩ : Flat).readFull n = .ok (a, ⟨t, e⟩) := by
  by_cases hn : n = 0
  · subst hn
    rw [List.eq_nil_of_length_eq_zero ha]
    rfl
  · have l : (a ++ t).length ≥ n := by simp [ha]
    simp only [Flat.readFull, hn, if_false, l, if_true, List.take_left' ha, List.drop_left' ha]

theorem readFull_short {d : Bytes} {n : Nat} (h : d.length < n) (e : Err) :
    (⟨d, e⟩ : Flat).readFull n = .error (if d = [] then e else shortErr e) := by
  have hn : n ≠ 0 := by omega
  have l : ¬ d.length ≥ n := by omega
  simp only [Flat.readFull, hn, if_false, l, shortErr]
  split <;> rfl

theorem readFull_take {a : Bytes} {k : Nat} (hk : k < a.length) (e : Err) :
    (⟨a.take k, e⟩ : Flat).readFull a.length = .error (if a.take k = [] then e else shortErr e) :=
  readFull_short (by rw [List.length_take]; omega) e

theorem read_append {a : Bytes} {n : Nat} (ha : a.length = n) (t : Bytes) (hne : a ++ t ≠ []) (e : Err) :
    (⟨a ++ t, e⟩ : Flat).read n = .ok (a, ⟨t, e⟩) := by
  have l : (a ++ t).length ≥ n := by simp [ha]
  simp only [Flat.read, hne, if_false, l, if_true, List.take_left' ha, List.drop_left' ha]

theorem read_short {d : Bytes} {n : Nat} (h : d.length < n) (e : Err) :
    (⟨d, e⟩ : Flat).read n = .error e := by
  have l : ¬ d.length ≥ n := by omega
  simp only [Flat.read, l, if_false, ite_self]

theorem read_take {a : Bytes} {k : Nat} (hk : k < a.length) (e : Err) : (⟨a.take k, e⟩ : Flat).read a.length = .error e :=
  read_short (by rw [List.length_take]; omega) e

theorem take_append_lt (a b : Bytes) (n : Nat) (hn : n < (a ++ b).length) :
    (n < a.length ∧ (a ++ b).take n = a.take n) ∨
    (∃ k, n = a.length + k ∧ k < b.length ∧ (a ++ b).take n = a ++ b.take k) := by
  rw [List.length_append] at hn
  by_cases h : n < a.length
  · exact Or.inl ⟨h, List.take_append_of_le_length (by omega)⟩
  · exact Or.inr ⟨n - a.length, by omega, by omega, by rw [List.take_append, List.take_of_length_le (by omega)]⟩

theorem bamNext_record (q : Quirks) {r : Rec} (h : r.WellFormed) (t : Bytes) (e : Err) :
    bamNext q ⟨r.bytes ++ t, e⟩ = .ok (r.body, ⟨t, e⟩) := by
  have n0 : r.body.length ≠ 0 := by have := h.pos; omega
  rw [bamNext, Rec.bytes, List.append_assoc, readFull_append h.preLen]
  simp only [h.preVal, n0, Nat.not_le.mpr h.small, if_false]
  rw [readFull_append rfl]

theorem bamNext_record_prefix {r : Rec} (h : r.WellFormed) (n : Nat) (hn : n < 4 + r.body.length) (e : Err) :
    bamNext .repaired ⟨r.bytes.take n, e⟩ = .error (if n = 0 then e else shortErr e) := by
  have n0 : r.body.length ≠ 0 := by have := h.pos; omega
  have hpl := h.preLen
  rcases take_append_lt r.pre r.body n (by rw [List.length_append]; omega) with ⟨hlt, e1⟩ | ⟨k, rfl, hk, e1⟩
  · have hnil : r.pre.take n = [] ↔ n = 0 := by
      rw [List.take_eq_nil_iff]
      refine ⟨fun h => h.resolve_right fun hc => ?_, Or.inl⟩
      rw [hc] at hpl
      cases hpl
    rw [Rec.bytes, e1, bamNext, ← hpl, readFull_take hlt]
    simp only [hnil]
  · rw [Rec.bytes, e1, bamNext, readFull_append hpl]
    simp only [h.preVal, n0, Nat.not_le.mpr h.small, if_false]
    rw [readFull_take hk, if_neg (by omega : ¬ r.pre.length + k = 0)]
    -- the repaired reader turns a clean end inside the body into the short-read error
    have hrep : ∀ e' : Err, (if e' = .eof ∧ (!Quirks.repaired.bamEofOnEmptyBody) = true then .unexpectedEOF else e') =
        shortErr e' := fun e' => by simp [shortErr, Quirks.repaired]
    simp only [hrep]
    split
    · rfl
    · rw [shortErr_shortErr]

theorem bamRecords_of_error {q : Quirks} {sem : BamSem} {f : Flat} {e : Err} (h : bamNext q f = .error e) :
    bamRecords q sem f = ([], e) := by
  rw [bamRecords, h]

theorem bamRecords_record (q : Quirks) (sem : BamSem) {r : Rec} (h : r.WellFormed) (hok : sem.recOk r.body = true)
    (t : Bytes) (e : Err) :
    bamRecords q sem ⟨r.bytes ++ t, e⟩ =
      (r.body :: (bamRecords q sem ⟨t, e⟩).1, (bamRecords q sem ⟨t, e⟩).2) := by
  have hl : t.length < (r.bytes ++ t).length := by
    rw [List.length_append, Rec.bytes_length h]; omega
  rw [bamRecords, bamNext_record q h t e]
  simp only [hok, Bool.not_true, Bool.false_eq_true, if_false, hl, dite_true]

theorem bamRecords_take (sem : BamSem) {rs : List Rec} (hwf : ∀ r ∈ rs, r.WellFormed)
    (hok : ∀ r ∈ rs, sem.recOk r.body = true) (n : Nat) (hn : n ≤ (recBytes rs).length) (e : Err) :
    ∃ i, i ≤ rs.length ∧ roff rs i ≤ n ∧ (i < rs.length → n < roff rs (i + 1)) ∧
      bamRecords .repaired sem ⟨(recBytes rs).take n, e⟩ =
        ((rs.take i).map Rec.body, if n = roff rs i then e else shortErr e) := by
  obtain ⟨i, hi, hlo, hhi, hr⟩ := run_take Rec.bytes (fun r => 4 + r.body.length) (fun r bs => r.body :: bs) []
    (fun d => bamRecords .repaired sem ⟨d, e⟩) e (shortErr e) rs (fun r hr => Rec.bytes_length (hwf r hr))
    (fun r hr t => bamRecords_record .repaired sem (hwf r hr) (hok r hr) t e)
    (fun r hr k hk => bamRecords_of_error (bamNext_record_prefix (hwf r hr) k hk e))
    (bamRecords_of_error (by simp [bamNext, Flat.readFull])) n hn
  exact ⟨i, hi, hlo, hhi, by rw [List.map_eq_foldr]; exact hr⟩

/-- the BAM header, abstractly: a byte string `DecodeBinary` accepts whatever follows it, and rejects when cut -/
structure HdrOk (sem : BamSem) (h : Bytes) : Prop where
  accepts : ∀ t e, bamHeader sem ⟨h ++ t, e⟩ = .ok ⟨t, e⟩
  rejects : ∀ n, n < h.length → ∀ e, ∃ e', bamHeader sem ⟨h.take n, e⟩ = .error e'

/-- a reference entry of the binary header: `l_name`, the NUL-terminated name, `l_ref` -/
structure Ref where
  ln : Bytes
  name : Bytes
  lref : Bytes

namespace Ref

def bytes (r : Ref) : Bytes := r.ln ++ (r.name ++ r.lref)

structure WellFormed (r : Ref) : Prop where
  lnLen : r.ln.length = 4
  lnVal : leNat r.ln = r.name.length
  namePos : 1 ≤ r.name.length
  nameSmall : r.name.length < 2147483648
  nul : r.name.getLast? = some 0
  lrefLen : r.lref.length = 4

end Ref

def refsBytes (rs : List Ref) : Bytes := (rs.map Ref.bytes).flatten

theorem refsBytes_cons (r : Ref) (rs : List Ref) : refsBytes (r :: rs) = r.bytes ++ refsBytes rs := by
  simp [refsBytes]

theorem bamRefs_step (k : Nat) {r : Ref} (h : r.WellFormed) (t : Bytes) (e : Err) :
    bamRefs (k + 1) ⟨r.bytes ++ t, e⟩ = bamRefs k ⟨t, e⟩ := by
  have hp := h.namePos
  have hs := h.nameSmall
  have e1 : r.bytes ++ t = r.ln ++ (r.name ++ (r.lref ++ t)) := by simp [Ref.bytes]
  have ne : r.name ++ (r.lref ++ t) ≠ [] := List.ne_nil_of_length_pos (by rw [List.length_append]; omega)
  have c1 : ¬ (r.name.length ≥ 2147483648 ∨ r.name.length < 1) := by omega
  rw [bamRefs, e1, readFull_append h.lnLen]
  simp only [h.lnVal, c1, if_false]
  rw [read_append rfl _ ne]
  simp only [h.nul, ne_eq, not_true_eq_false, if_false]
  rw [readFull_append h.lrefLen]

theorem bamRefs_refs {rs : List Ref} (hwf : ∀ r ∈ rs, r.WellFormed) (t : Bytes) (e : Err) :
    bamRefs rs.length ⟨refsBytes rs ++ t, e⟩ = .ok ⟨t, e⟩ := by
  induction rs with
  | nil => simp [refsBytes, bamRefs]
  | cons r rs ih =>
    rw [List.length_cons, refsBytes_cons, List.append_assoc, bamRefs_step _ (hwf r (by simp))]
    exact ih (fun x hx => hwf x (by simp [hx]))

theorem bamRefs_refs_prefix {rs : List Ref} (hwf : ∀ r ∈ rs, r.WellFormed) (n : Nat)
    (hn : n < (refsBytes rs).length) (e : Err) :
    ∃ e', bamRefs rs.length ⟨(refsBytes rs).take n, e⟩ = .error e' := by
  induction rs generalizing n with
  | nil => simp [refsBytes] at hn
  | cons r rs ih =>
    have hr := hwf r (by simp)
    have hp := hr.namePos
    have c1 : ¬ (r.name.length ≥ 2147483648 ∨ r.name.length < 1) := by have := hr.nameSmall; omega
    have lnl := hr.lnLen
    have lrl := hr.lrefLen
    rw [refsBytes_cons] at hn ⊢
    rw [List.length_cons]
    rcases take_append_lt _ _ n hn with ⟨hk1, e1⟩ | ⟨k1, -, hk1, e1⟩
    · -- the cut is in the first entry:
      rw [e1, Ref.bytes, bamRefs]
      rcases take_append_lt _ _ n hk1 with ⟨hk2, e2⟩ | ⟨k2, -, hk2, e2⟩
      · -- in l_name
        exact ⟨_, by rw [e2, ← lnl, readFull_take hk2]⟩
      · rw [e2, readFull_append hr.lnLen]
        simp only [hr.lnVal, c1, if_false]
        rcases take_append_lt _ _ k2 hk2 with ⟨hk3, e3⟩ | ⟨k3, -, hk3, e3⟩
        · -- in the name
          exact ⟨_, by rw [e3, read_take hk3]⟩
        · -- in l_ref
          have ne : r.name ++ r.lref.take k3 ≠ [] := List.ne_nil_of_length_pos (by rw [List.length_append]; omega)
          rw [e3, read_append rfl _ ne]
          simp only [hr.nul, ne_eq, not_true_eq_false, if_false]
          exact ⟨_, by rw [← lrl, readFull_take hk3]⟩
    · -- in a later entry
      rw [e1, bamRefs_step _ hr]
      exact ih (fun x hx => hwf x (by simp [hx])) k1 hk1

/-- a binary BAM header: magic, `l_text`, text, `n_ref`, reference entries -/
structure Hdr where
  lt : Bytes
  text : Bytes
  nr : Bytes
  refs : List Ref

namespace Hdr

def bytes (h : Hdr) : Bytes := bamMagic ++ (h.lt ++ (h.text ++ (h.nr ++ refsBytes h.refs)))

structure WellFormed (sem : BamSem) (h : Hdr) : Prop where
  ltLen : h.lt.length = 4
  ltVal : leNat h.lt = h.text.length
  textSmall : h.text.length < 2147483648
  textOk : sem.textOk h.text = true
  nrLen : h.nr.length = 4
  nrVal : leNat h.nr = h.refs.length
  refsSmall : h.refs.length < 2147483648
  refs : ∀ r ∈ h.refs, r.WellFormed

end Hdr

end Hts.Lemmas.BgzfBytes
