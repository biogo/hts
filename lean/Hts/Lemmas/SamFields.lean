/-
Round trips of single fields of a SAM line: sequence, qualities, and the CIGAR text (`ParseCigar` reads back what
`Cigar.String` prints, for every CIGAR of operations 0..9 with 28-bit lengths).
-/
import Hts.Lemmas.SamDec
import Hts.Lemmas.Bytes
import Hts.Model.SamTextSpec
namespace Hts.Model.SamText
open Hts.Lemmas (map_map_id)

theorem baseChar_table : ∀ x : Fin 16, n16 (baseChar x) = x ∧ baseChar x ≠ 42 ∧ 32 ≤ baseChar x := by
  decide +kernel

theorem parseSeq_formatSeq (s : List (Fin 16)) : parseSeq (formatSeq s) = s := by
  cases s with
  | nil => rfl
  | cons x s =>
    have hne : formatSeq (x :: s) ≠ [42] := fun e => (baseChar_table x).2.1 (List.cons.inj e).1
    rw [parseSeq, if_neg hne, formatSeq, List.isEmpty_cons, if_neg Bool.false_ne_true]
    exact map_map_id fun x _ => (baseChar_table x).1

theorem formatSeq_length (s : List (Fin 16)) (h : s ≠ []) : ((formatSeq s).map n16).length = s.length := by
  cases s with
  | nil => exact absurd rfl h
  | cons x s => simp [formatSeq]

theorem formatSeq_no_sep (s : List (Fin 16)) : NoSep (formatSeq s) := by
  unfold formatSeq
  split
  · exact noSep_star
  · exact .of_ge32 (List.forall_mem_map.mpr fun x _ => (baseChar_table x).2.2)

/- Qualities: a record either carries them (a slice with some value other than 0xff) or prints `*`; every fact
about `canonQual` is a case split on that (`canonQual_cases`). -/

theorem any_ne_false {q : Bytes} : q.any (· != 255) = false ↔ ∀ v ∈ q, v = 255 := by
  simp [List.any_eq_false]

theorem replicate_any (n : Nat) : (List.replicate n (255 : UInt8)).any (· != 255) = false :=
  any_ne_false.mpr fun _ h => List.eq_of_mem_replicate h

theorem formatQual_replicate (n : Nat) : formatQual (some (List.replicate n 255)) = [42] := by
  simp only [formatQual, replicate_any, Bool.false_eq_true, if_false]

/-- what UnmarshalSAM makes of `*`: a run of 0xff of the sequence's length, nil without a sequence -/
def absentQual (n : Nat) : Option Bytes := if n ≠ 0 then some (List.replicate n 255) else none

theorem parseQual_star (n : Nat) : parseQual [42] n = absentQual n := if_neg fun h => h rfl

theorem absentQual_some {n : Nat} {q : Bytes} (h : absentQual n = some q) : q = List.replicate n 255 := by
  unfold absentQual at h
  split at h
  · exact (Option.some.inj h).symm
  · cases h

theorem formatQual_absentQual (n : Nat) : formatQual (absentQual n) = [42] := by
  unfold absentQual
  split
  · exact formatQual_replicate n
  · rfl

theorem qualOK_some {r : Record} {q : Bytes} (h : QualOK r) (hq : r.qual = some q) :
    q.length = r.seq.length ∧ ((∀ v ∈ q, v = 255) ∨ ((∀ v ∈ q, v ≤ 93) ∧ q ≠ [9])) := by
  unfold QualOK at h; rw [hq] at h; exact h

theorem qualOK_phred {r : Record} {q : Bytes} (h : QualOK r) (hq : r.qual = some q)
    (hany : q.any (· != 255) = true) : q.length = r.seq.length ∧ (∀ v ∈ q, v ≤ 93) ∧ q ≠ [9] := by
  obtain ⟨hl, hv | hv⟩ := qualOK_some h hq
  · rw [any_ne_false.mpr hv] at hany; cases hany
  · exact ⟨hl, hv⟩

theorem canonQual_none {r : Record} (h : r.qual = none) : canonQual r = absentQual r.seq.length := by
  unfold canonQual; rw [h]; rfl

theorem canonQual_some {r : Record} {q : Bytes} (h : r.qual = some q) :
    canonQual r = if q.any (· != 255) then some q else absentQual r.seq.length := by
  unfold canonQual; rw [h]; rfl

theorem canonQual_cases (r : Record) :
    (∃ q, r.qual = some q ∧ q.any (· != 255) = true ∧ formatQual r.qual = q.map (· + 33) ∧
      canonQual r = some q) ∨
    (formatQual r.qual = [42] ∧ canonQual r = absentQual r.seq.length ∧
      ∀ q, r.qual = some q → ∀ v ∈ q, v = 255) := by
  cases hq : r.qual with
  | none => exact Or.inr ⟨rfl, canonQual_none hq, fun _ h => nomatch h⟩
  | some q =>
    cases hany : q.any (· != 255)
    · exact Or.inr ⟨by simp only [formatQual, hany, Bool.false_eq_true, if_false],
        by rw [canonQual_some hq, hany]; rfl, fun _ h => Option.some.inj h ▸ any_ne_false.mp hany⟩
    · exact Or.inl ⟨q, rfl, hany, by simp only [formatQual, hany, if_true], by rw [canonQual_some hq, hany]; rfl⟩

theorem parseQual_map (q : Bytes) (n : Nat) (hne : q ≠ []) (h9 : q ≠ [9]) :
    parseQual (q.map (· + 33)) n = some q := by
  have hmap : (q.map (· + 33)).map (· - 33) = q := map_map_id fun x _ => UInt8.add_sub_cancel x 33
  -- `*` would decode to the single quality 9
  have hstar : q.map (· + 33) ≠ [42] := fun e => h9 (hmap.symm.trans (congrArg (List.map (· - 33)) e))
  rw [parseQual, if_pos hstar, if_neg (by simpa using hne), hmap]

theorem parseQual_formatQual (r : Record) (h : QualOK r) :
    parseQual (formatQual r.qual) r.seq.length = canonQual r := by
  rcases canonQual_cases r with ⟨q, hq, hany, hf, hc⟩ | ⟨hf, hc, _⟩
  · rw [hf, hc]
    exact parseQual_map q _ (fun e => by rw [e] at hany; cases hany) (qualOK_phred h hq hany).2.2
  · rw [hf, hc, parseQual_star]

theorem canonQual_length (r : Record) (q' : Bytes) (h : QualOK r) (hq' : canonQual r = some q') :
    q'.length = r.seq.length := by
  rcases canonQual_cases r with ⟨q, hq, hany, _, hc⟩ | ⟨_, hc, _⟩
  · cases hc.symm.trans hq'; exact (qualOK_some h hq).1
  · rw [absentQual_some (hc.symm.trans hq'), List.length_replicate]

theorem phred_ge32 (x : UInt8) (h : x ≤ 93) : 32 ≤ x + 33 := by
  rw [UInt8.le_iff_toNat_le] at *
  rw [UInt8.toNat_add]
  simp only [UInt8.reduceToNat] at *
  omega

theorem formatQual_no_sep (r : Record) (h : QualOK r) : NoSep (formatQual r.qual) := by
  rcases canonQual_cases r with ⟨q, hq, hany, hf, _⟩ | ⟨hf, _, _⟩ <;> rw [hf]
  · exact .of_ge32 (List.forall_mem_map.mpr fun x hx => phred_ge32 x ((qualOK_phred h hq hany).2.1 x hx))
  · exact noSep_star

theorem formatQual_canonQual (r : Record) : formatQual (canonQual r) = formatQual r.qual := by
  rcases canonQual_cases r with ⟨q, hq, _, _, hc⟩ | ⟨hf, hc, _⟩
  · rw [hc, hq]
  · rw [hc, hf, formatQual_absentQual]

section canon
variable (r r' : Record) (hs : r'.seq = r.seq) (hq' : r'.qual = canonQual r)
include hs hq'

theorem qualOK_canon (h : QualOK r) : QualOK r' := by
  unfold QualOK
  rw [hq', hs]
  rcases canonQual_cases r with ⟨q, hq, hany, _, hc⟩ | ⟨_, hc, _⟩ <;> rw [hc]
  · exact ⟨(qualOK_some h hq).1, Or.inr (qualOK_phred h hq hany).2⟩
  · cases ha : absentQual r.seq.length with
    | none => trivial
    | some q' =>
      rw [absentQual_some ha]
      exact ⟨List.length_replicate .., Or.inl fun _ hv => List.eq_of_mem_replicate hv⟩

theorem qualView_canon (h : QualOK r) : qualView r = qualView r' := by
  have hv : qualView r' = (canonQual r).getD (List.replicate r.seq.length 255) := by
    rw [qualView, hq', hs]; cases canonQual r <;> rfl
  rcases canonQual_cases r with ⟨q, hq, _, _, hc⟩ | ⟨_, hc, hall⟩
  · rw [hv, hc, qualView, hq]; rfl
  · have hr : qualView r = List.replicate r.seq.length 255 := by
      unfold qualView
      cases hq : r.qual with
      | none => rfl
      | some q => exact List.eq_replicate_iff.mpr ⟨(qualOK_some h hq).1, hall q hq⟩
    rw [hv, hc, hr]
    unfold absentQual
    split <;> rfl

end canon

section cigar
open Hts.Model.Coord (CigarOp)

theorem opLetter_table : ∀ t, t ≤ 9 →
    isDec (opLetter t) = false ∧ opOfLetter (opLetter t) = t ∧ 32 ≤ opLetter t := by decide

theorem digitChar_toNat : ∀ d, d < 10 → (digitChar d).toNat - 48 = d := by decide

theorem showNat_foldl (m : Nat) : (showNat m).foldl (fun n d => n * 10 + (d.toNat - 48)) 0 = m :=
  showNat_radix.induction (P := fun m s => s.foldl (fun n d => n * 10 + (d.toNat - 48)) 0 = m)
    (fun m hm => by rw [List.foldl_cons, List.foldl_nil, digitChar_toNat m hm, Nat.zero_mul, Nat.zero_add])
    (fun m _ ih => by
      rw [List.foldl_append, ih, List.foldl_cons, List.foldl_nil, digitChar_toNat _ (Nat.mod_lt _ (by decide)),
        Nat.div_add_mod']) m

theorem cigarAtoi_showNat (m : Nat) (h : m < 10 ^ 13) : cigarAtoi (showNat m) = some m := by
  have : (showNat m).length ≤ 13 := by
    rw [showNat_eq_toDigits, List.length_map]
    exact (Nat.length_toDigits_le_iff (by decide) (by decide)).mpr h
  rw [cigarAtoi, if_neg (by omega), showNat_foldl]

theorem emitOps_single (op m : Nat) (h : m ≤ maxOpLen) :
    emitOps op (m : Int) = some ([⟨op, m⟩], (m : Int) - (maxOpLen : Nat)) := by
  have hk : (if m = 0 then 1 else (m + maxOpLen - 1) / maxOpLen) = 1 := by
    split
    · rfl
    · obtain ⟨m', rfl⟩ := Nat.exists_eq_succ_of_ne_zero ‹_›
      rw [Nat.succ_add, Nat.succ_sub_one, Nat.add_div_right _ (Nat.zero_lt_of_lt h), Nat.div_eq_of_lt h]
  simp only [emitOps, Int.toNat_natCast, if_neg (Int.not_lt.mpr (Int.natCast_nonneg m)), hk, List.range_one,
    List.map_cons, List.map_nil, Nat.zero_mul, Nat.sub_zero, Nat.min_eq_left h, Nat.one_mul]

theorem parseCigarLoop_digits (ds rest : Bytes) (h : ∀ c ∈ ds, isDec c = true) : ∀ cur op n,
    parseCigarLoop (ds ++ rest) cur op n = parseCigarLoop rest (cur ++ ds) op n := by
  induction ds with
  | nil => intro cur op n; rw [List.nil_append, List.append_nil]
  | cons c ds ih =>
    intro cur op n
    rw [List.cons_append, parseCigarLoop, if_pos (h c List.mem_cons_self),
      ih (fun d hd => h d (List.mem_cons_of_mem _ hd)), List.append_assoc, List.singleton_append]

theorem parseCigarLoop_format (c : List CigarOp) (h : ∀ co ∈ c, co.typ ≤ 9 ∧ co.len < 268435456) : ∀ op n,
    parseCigarLoop (c.flatMap fun co => showNat co.len ++ [opLetter co.typ]) [] op n = .ok c := by
  induction c with
  | nil => intro op n; rfl
  | cons co rest ih =>
    intro op n
    obtain ⟨ht, hl⟩ := h co List.mem_cons_self
    obtain ⟨hdec, hop, _⟩ := opLetter_table co.typ ht
    rw [List.flatMap_cons, List.append_assoc, parseCigarLoop_digits _ _ (showNat_isDec co.len), List.singleton_append,
      parseCigarLoop]
    simp only [hdec, Bool.false_eq_true, if_false, List.nil_append, cigarAtoi_showNat co.len (Nat.lt_trans hl (by decide)), hop]
    rw [if_neg (by omega), emitOps_single co.typ co.len (Nat.le_of_lt_succ hl)]
    simp only
    rw [ih (fun x hx => h x (List.mem_cons_of_mem _ hx))]
    rfl

theorem parseCigar_formatCigar (c : List CigarOp) (h : ∀ co ∈ c, co.typ ≤ 9 ∧ co.len < 268435456) :
    parseCigar (formatCigar c) = .ok c := by
  unfold parseCigar formatCigar
  cases c with
  | nil => rfl
  | cons co rest =>
    -- the text starts with a digit, so it is not `*`
    obtain ⟨d, tl, hs⟩ := List.exists_cons_of_ne_nil (showNat_ne_nil co.len)
    have hd : d ≠ 42 := ne_of_isDec (showNat_isDec co.len d (hs ▸ List.mem_cons_self)) rfl
    rw [List.isEmpty_cons, if_neg Bool.false_ne_true, if_neg, parseCigarLoop_format (co :: rest) h 0 0]
    rw [List.flatMap_cons, hs]
    exact fun e => hd (List.cons.inj e).1

theorem formatCigar_no_sep (c : List CigarOp) (h : ∀ co ∈ c, co.typ ≤ 9) : NoSep (formatCigar c) := by
  unfold formatCigar
  split
  · exact noSep_star
  · intro x hx
    obtain ⟨co, hco, hx⟩ := List.mem_flatMap.mp hx
    rcases List.mem_append.mp hx with hx | hx
    · exact showNat_noSep _ x hx
    · cases List.mem_singleton.mp hx; exact ge32_no_sep _ (opLetter_table co.typ (h co hco)).2.2

theorem formatCigar_no_tab (c : List CigarOp) (h : ∀ co ∈ c, co.typ ≤ 9) : ∀ x ∈ formatCigar c, x ≠ 9 :=
  fun x hx => (formatCigar_no_sep c h x hx).1

end cigar

end Hts.Model.SamText
