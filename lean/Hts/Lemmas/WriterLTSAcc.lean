/-
Writer LTS: block accounting against the sequential writer; position of the API goroutine in the script, read
off the trace; the number of blocks submitted when a call returns nil.
-/
import Hts.Lemmas.WriterLTSRun
namespace Hts.Model.WriterLTS

variable {cfg : Cfg} {s t : State} {e : Option Ev}

/-- blocks the current call will still submit (if no error intervenes) -/
def pcRem : ApiPc → Nat
  | .wLoop k => k
  | .wSub k => k + 1
  | .wTake k => k
  | .fChk b => if b then 1 else 0
  | .fSwap => 1
  | .cEnq => 1
  | _ => 0

def inClose : ApiPc → Bool
  | .cEnq => true
  | .cTake => true
  | .cComp => true
  | _ => false

/-- the rest of the script runs on a closed writer -/
def restClosed (s : State) : Bool := s.closed || inClose s.api

def owed (s : State) : Nat := s.submitted + pcRem s.api + seqBlocks s.script (restClosed s)

/-- block accounting against the sequential writer. `blocks`: while no error is latched, `owed s` (written out) is
    what the sequential writer makes of the whole script. `close`: the script has a `Close` iff the rest of it
    runs on a closed writer or still has one. -/
structure Acc (cfg : Cfg) (s : State) : Prop where
  blocks : s.err = false →
    s.submitted + pcRem s.api + seqBlocks s.script (restClosed s) = seqBlocks cfg.script false
  close : hasClose cfg.script = (restClosed s || hasClose s.script)

theorem seqBlocks_entry (op : Op) (rest : List Op) (c : Bool) :
    seqBlocks (op :: rest) c = pcRem (entry op c) + seqBlocks rest (c || inClose (entry op c)) := by
  cases op <;> cases c <;> simp [seqBlocks, entry, pcRem, inClose]

theorem hasClose_entry (op : Op) (rest : List Op) (c : Bool) :
    (c || hasClose (op :: rest)) = ((c || inClose (entry op c)) || hasClose rest) := by
  cases op <;> cases c <;> simp [entry, inClose, hasClose]

theorem seqBlocks_closed (op : Op) (rest : List Op) : seqBlocks (op :: rest) true = seqBlocks rest true := by
  cases op <;> rfl

theorem seqBlocks_append : ∀ (a b : List Op) (c : Bool),
    seqBlocks (a ++ b) c = seqBlocks a c + seqBlocks b (c || hasClose a)
  | [], b, c => by simp [seqBlocks, hasClose]
  | op :: a, b, true => by
    simpa [seqBlocks_closed] using seqBlocks_append a b true
  | op :: a, b, false => by
    have h1 := seqBlocks_append a b false
    have h2 := seqBlocks_append a b true
    cases op <;> simp [seqBlocks, hasClose] at h1 h2 ⊢ <;> omega

theorem restClosed_trans (h : Trans cfg s e t) (hc : ∀ op, e ≠ some (.call op)) :
    t.script = s.script ∧ restClosed t = restClosed s ∧
    ((∀ op r m, e ≠ some (.ret op r m)) → (t.api = .idle ↔ s.api = .idle)) := by
  cases h with
  | api h =>
    cases h
    case call => exact absurd rfl (hc _)
    all_goals
      refine ⟨rfl, ?_, fun hr => ?_⟩
      · simp [restClosed, inClose, *]
      -- a rule that returns is excluded by `hr`; every other one goes from a non-idle pc to a non-idle pc
      · first | exact absurd rfl (hr _ _ _) | simp [*]
  | em h =>
    have f := em_frame h
    simp [restClosed, f.api, f.script, f.closed]
  | finQ => exact ⟨rfl, rfl, fun _ => .rfl⟩
  | finE => exact ⟨rfl, rfl, fun _ => .rfl⟩

/-- `owed` drops only when a call returns the latched error without submitting what it still owed -/
theorem owed_trans (h : Trans cfg s e t) : owed t ≤ owed s ∧ (s.err = false → owed t = owed s) := by
  cases h with
  | api h =>
    cases h
    case call hapi hs => simp [owed, restClosed, hapi, hs, seqBlocks_entry, pcRem, inClose, Nat.add_assoc]
    all_goals simp_all [owed, restClosed, pcRem, inClose]
    all_goals omega
  | em h =>
    have f := em_frame h
    simp [owed, restClosed, f.api, f.script, f.closed, f.submitted]
  | finQ => simp [owed, restClosed]
  | finE => simp [owed, restClosed]

theorem reachable_owed (h : Reachable cfg s) : owed s ≤ seqBlocks cfg.script false :=
  h.induct (by simp [owed, init, pcRem, restClosed, inClose]) fun _ ih ht => Nat.le_trans (owed_trans ht).1 ih

theorem acc_trans (ha : Acc cfg s) (h : Trans cfg s e t) : Acc cfg t where
  blocks he := by
    have hs : s.err = false := Bool.eq_false_iff.2 fun hs => by simp [(trans_mono h).err hs] at he
    exact ((owed_trans h).2 hs).trans (ha.blocks hs)
  close := by
    rw [ha.close]
    by_cases hc : ∃ op, e = some (.call op)
    · obtain ⟨op, rfl⟩ := hc
      obtain ⟨rest, hapi, hs, rfl⟩ := call_step h
      simpa [restClosed, hapi, hs, inClose] using hasClose_entry op rest s.closed
    · obtain ⟨h1, h2, -⟩ := restClosed_trans h fun op he => hc ⟨op, he⟩
      rw [h1, h2]

theorem reachable_acc (h : Reachable cfg s) : Acc cfg s :=
  h.induct ⟨by intro _; simp [init, pcRem, restClosed, inClose], by simp [init, restClosed, inClose]⟩
    fun _ ha ht => acc_trans ha ht

def isCall : Ev → Bool
  | .call _ => true
  | _ => false

def isRet : Ev → Bool
  | .ret _ _ _ => true
  | _ => false

def ncalls (tr : List Ev) : Nat := (tr.filter isCall).length
def nrets (tr : List Ev) : Nat := (tr.filter isRet).length

/-- where the API goroutine stands in the script, read off the trace: one operation consumed per call event;
    returns match calls up to the call in progress; if the rest runs on a closed writer, a `Close` was called -/
structure Pos (cfg : Cfg) (tr : List Ev) (s : State) : Prop where
  script : s.script = cfg.script.drop (ncalls tr)
  bal : nrets tr + (if s.api = .idle then 0 else 1) = ncalls tr
  closedBy : restClosed s = true → Op.close ∈ cfg.script.take (ncalls tr)

theorem entry_ne_idle (op : Op) (c : Bool) : entry op c ≠ .idle := by
  cases op <;> cases c <;> simp [entry]

theorem drop_cons_mem {α} {a : α} {l rest : List α} {n : Nat} (h : l.drop n = a :: rest) :
    l.drop (n + 1) = rest ∧ a ∈ l.take (n + 1) := by
  refine ⟨by rw [List.drop_add_one_eq_tail_drop, h]; rfl, ?_⟩
  rw [List.take_add_one, ← List.head?_drop, h]
  simp

theorem pos_quiet {tr tr' : List Ev} (hp : Pos cfg tr s) (h : Trans cfg s e t)
    (hc : ∀ op, e ≠ some (.call op)) (hr : ∀ op r m, e ≠ some (.ret op r m))
    (hn : ncalls tr' = ncalls tr) (hn' : nrets tr' = nrets tr) : Pos cfg tr' t := by
  obtain ⟨q1, q3, q2⟩ := restClosed_trans h hc
  refine ⟨by rw [hn, q1]; exact hp.script, ?_, fun hc => hn ▸ hp.closedBy (q3 ▸ hc)⟩
  rw [hn, hn', ← hp.bal]
  by_cases hs : s.api = .idle <;> simp [hs, q2 hr]

theorem pos_step {tr : List Ev} (hp : Pos cfg tr s) (h : Trans cfg s e t) : Pos cfg (e.toList ++ tr) t := by
  cases e with
  | none => exact pos_quiet hp h nofun nofun rfl rfl
  | some ev =>
    simp only [Option.toList_some, List.singleton_append]
    cases ev with
    | uw b ok => exact pos_quiet hp h nofun nofun rfl rfl
    | call op =>
      obtain ⟨rest, c1, c2, rfl⟩ := call_step h
      have hn : ncalls (.call op :: tr) = ncalls tr + 1 := rfl
      have hr : nrets (.call op :: tr) = nrets tr := rfl
      have hd := hp.script
      rw [c2] at hd
      obtain ⟨d1, d2⟩ := drop_cons_mem hd.symm
      refine ⟨by rw [hn, d1], ?_, ?_⟩
      · have := hp.bal
        simp only [c1, if_true] at this
        simp only [hn, hr, entry_ne_idle, if_false]; omega
      · intro hc
        rw [hn]
        simp only [restClosed, Bool.or_eq_true] at hc
        rcases hc with hc | hc
        · exact List.take_subset_take_left _ (Nat.le_succ _) (hp.closedBy (by simp [restClosed, hc]))
        · have : op = .close := by
            cases op <;> cases hcl : s.closed <;> simp [entry, inClose, hcl] at hc
            rfl
          exact this ▸ d2
    | ret op r m =>
      obtain ⟨rfl, -, -, hni⟩ := ret_eq h
      have hn : ncalls (.ret op r m :: tr) = ncalls tr := rfl
      have hr : nrets (.ret op r m :: tr) = nrets tr + 1 := rfl
      refine ⟨hp.script, ?_, ?_⟩
      · have := hp.bal
        simp only [hni, if_false] at this
        simp only [hn, hr, if_true]; omega
      · intro hc
        refine hp.closedBy ?_
        simp only [restClosed, inClose, Bool.or_false] at hc
        simp [restClosed, hc]

theorem run_pos {tr : List Ev} (h : Run cfg tr s) : Pos cfg tr s := by
  induction h with
  | init => exact ⟨by simp [init, ncalls], by simp [init, ncalls, nrets], by simp [init, restClosed, inClose]⟩
  | step _ hn ih => exact pos_step ih (next_trans hn)

theorem ret_ok_pcRem {op : Op} {r : Res} {m : Nat} (h : Trans cfg s (some (.ret op r m)) t) (hr : r = .ok) :
    pcRem s.api = 0 := by
  cases h with
  | api h => cases h <;> simp_all [pcRem]
  | em h => cases h

/-- When the `(j+1)`-th call to return returns nil and no `Close` is among the first `j+1` calls of the script,
    the number of blocks submitted so far is exactly what those `j+1` calls owe. -/
theorem ret_ok_count {tr post mid : List Ev} (h : Run cfg tr s) {op : Op} {m j : Nat}
    (htr : tr = post ++ .ret op .ok m :: mid) (hnr : nrets mid = j)
    (hnc : hasClose (cfg.script.take (j + 1)) = false) : m = seqBlocks (cfg.script.take (j + 1)) false := by
  obtain ⟨s0, t0, hrun, hst⟩ := run_split h htr
  have hp := run_pos hrun
  obtain ⟨-, -, rfl, hni⟩ := ret_eq hst
  have hnc' : ncalls mid = j + 1 := by
    have := hp.bal
    simp only [hni, if_false] at this
    omega
  -- the calls so far contain no Close, so the rest does not run on a closed writer
  have hnotc : restClosed s0 = false := by
    cases hc : restClosed s0 with
    | false => rfl
    | true =>
      have := hp.closedBy hc
      rw [hnc'] at this
      simp [hasClose, this] at hnc
  have hb := (reachable_acc (run_reachable hrun)).blocks ((ret_res hst).2 rfl)
  rw [hp.script, hnc', hnotc, ret_ok_pcRem hst rfl] at hb
  have := seqBlocks_append (cfg.script.take (j + 1)) (cfg.script.drop (j + 1)) false
  rw [List.take_append_drop, hnc] at this
  simp only [Bool.or_self] at this
  omega

end Hts.Model.WriterLTS
