/-
sam.Reader: the reader's lines are the lines of the input, for LF and CRLF line ends, with or without
a final newline; NewReader cuts the input after the last leading `@` line; the reader's lines are those of the
specification's splitter `Spec.SamLine.textLines` (`readerLines_textLines`).  There is no model of `sam.Writer`: `Write` is
`MarshalSAM` and a `\n` (sam/sam.go), and `joinLines`, defined here with `eol` and `headerText`, stands for any text written
that way or with CRLF, with or without the last line end.
-/
import Hts.Lemmas.SamSplit
import Hts.Spec.SamLine
namespace Hts.Model.SamText

def eol (crlf : Bool) : Bytes := if crlf then [13, 10] else [10]

/-- an input made of lines, each with its own kind of line end; the last line end is present only when
`final` is set -/
def joinLines : List (Bytes × Bool) → Bool → Bytes
  | [], _ => []
  | [p], final => if final then p.1 ++ eol p.2 else p.1
  | p :: q :: rest, final => p.1 ++ eol p.2 ++ joinLines (q :: rest) final

theorem readerLines_nil : readerLines [] = [] := rfl

theorem readerLines_append (l rest : Bytes) (h : ∀ c ∈ l, c ≠ 10) :
    readerLines (l ++ 10 :: rest) = l :: readerLines rest := by
  unfold readerLines
  simp only
  rw [splitOn_append_sep 10 l rest h]
  obtain ⟨a, as, hs⟩ := List.exists_cons_of_ne_nil (splitOn_ne_nil 10 rest)
  rw [hs, List.getLast?_cons_cons]
  split <;> rfl

theorem readerLines_single (l : Bytes) (h : ∀ c ∈ l, c ≠ 10) (hne : l ≠ []) : readerLines l = [l] := by
  unfold readerLines
  simp only
  rw [splitOn_no_sep 10 l h, List.getLast?_singleton, if_neg fun e => hne (Option.some.inj e)]

theorem stripCR_cr (l : Bytes) : stripCR (l ++ [13]) = l := by
  rw [stripCR, List.getLast?_concat, if_pos rfl, List.dropLast_concat]

theorem stripCR_id (l : Bytes) (h : l.getLast? ≠ some 13) : stripCR l = l := if_neg h

theorem readerLines_line (l : Bytes) (crlf : Bool) (rest : Bytes) (h10 : ∀ c ∈ l, c ≠ 10)
    (h13 : l.getLast? ≠ some 13) :
    (readerLines (l ++ eol crlf ++ rest)).map stripCR = l :: (readerLines rest).map stripCR := by
  cases crlf with
  | false =>
    rw [show l ++ eol false ++ rest = l ++ 10 :: rest by simp [eol], readerLines_append l _ h10, List.map_cons,
      stripCR_id l h13]
  | true =>
    have h : ∀ c ∈ l ++ [13], c ≠ 10 := fun c hc =>
      (List.mem_append.mp hc).elim (h10 c) fun hc => List.mem_singleton.mp hc ▸ by decide
    rw [show l ++ eol true ++ rest = (l ++ [13]) ++ 10 :: rest by simp [eol], readerLines_append _ _ h,
      List.map_cons, stripCR_cr]

theorem reader_lines_strip (ls : List (Bytes × Bool)) (final : Bool)
    (hl : ∀ p ∈ ls, (∀ c ∈ p.1, c ≠ 10) ∧ p.1.getLast? ≠ some 13)
    (hlast : final = false → ∀ p, ls.getLast? = some p → p.1 ≠ []) :
    (readerLines (joinLines ls final)).map stripCR = ls.map (·.1) := by
  induction ls with
  | nil => rfl
  | cons p rest ih =>
    obtain ⟨h10, h13⟩ := hl p List.mem_cons_self
    cases rest with
    | nil =>
      cases final with
      | true =>
        rw [joinLines, if_pos rfl, ← List.append_nil (p.1 ++ eol p.2), readerLines_line p.1 p.2 [] h10 h13]
        rfl
      | false =>
        rw [joinLines, if_neg Bool.false_ne_true, readerLines_single p.1 h10 (hlast rfl p rfl), List.map_singleton,
          stripCR_id p.1 h13]
        rfl
    | cons q rest =>
      rw [joinLines, readerLines_line p.1 p.2 _ h10 h13,
        ih (fun x hx => hl x (List.mem_cons_of_mem _ hx)) fun hf x hx => hlast hf x (by
          rwa [List.getLast?_cons_cons])]
      rfl

theorem takeLine_append (l rest : Bytes) (h : ∀ c ∈ l, c ≠ 10) : takeLine (l ++ 10 :: rest) = some (l, rest) := by
  induction l with
  | nil => exact if_pos rfl
  | cons c l ih =>
    rw [List.cons_append, takeLine, if_neg (h c List.mem_cons_self), ih fun d hd => h d (List.mem_cons_of_mem _ hd)]
    rfl

def headerText (hls : List Bytes) : Bytes := hls.flatMap (· ++ [10])

theorem headerText_cons (l : Bytes) (ls : List Bytes) (rest : Bytes) :
    headerText (l :: ls) ++ rest = l ++ 10 :: (headerText ls ++ rest) := by
  simp [headerText]

/-- `acc` is what earlier calls have collected: only an input that is empty from the start is refused -/
theorem splitHeader_spec (hls : List Bytes) (body : Bytes)
    (hl : ∀ l ∈ hls, (∃ rest, l = 64 :: rest) ∧ ∀ c ∈ l, c ≠ 10)
    (hb : ∀ c rest, body = c :: rest → c ≠ 64) : ∀ (fuel : Nat) (acc : Bytes), hls.length < fuel →
    (hls = [] → body = [] → acc ≠ []) →
    splitHeader fuel acc (headerText hls ++ body) = some (acc ++ headerText hls, body) := by
  induction hls with
  | nil =>
    intro fuel acc hf hacc
    obtain ⟨fuel, rfl⟩ := Nat.exists_eq_add_of_le' hf
    show splitHeader (fuel + 1) acc body = some (acc ++ [], body)
    rw [List.append_nil]
    cases body with
    | nil => exact if_neg fun e => hacc rfl rfl (List.isEmpty_iff.mp e)
    | cons c rest => exact if_pos (hb c rest rfl)
  | cons l ls ih =>
    intro fuel acc hf _
    obtain ⟨fuel, rfl⟩ := Nat.exists_eq_add_of_le' (Nat.zero_lt_of_lt hf)
    obtain ⟨⟨lr, rfl⟩, h10⟩ := hl l List.mem_cons_self
    have ht : takeLine (64 :: (lr ++ 10 :: (headerText ls ++ body))) = _ :=
      takeLine_append (64 :: lr) (headerText ls ++ body) h10
    rw [headerText_cons, List.cons_append, splitHeader]
    simp only [ne_eq, not_true_eq_false, if_false, ht]
    rw [ih (fun x hx => hl x (List.mem_cons_of_mem _ hx)) fuel _ (Nat.lt_of_succ_lt_succ hf) fun _ _ => by simp]
    simp [headerText]

theorem length_le_headerText (hls : List Bytes) : hls.length ≤ (headerText hls).length := by
  induction hls with
  | nil => exact Nat.le_refl 0
  | cons l ls ih =>
    have : (headerText (l :: ls)).length = l.length + 1 + (headerText ls).length := by
      rw [headerText, List.flatMap_cons, List.length_append, List.length_append]; rfl
    rw [this, List.length_cons]
    omega

theorem readFile_header (ft : FloatText) (ph : Bytes → Option Header) (hls : List Bytes) (body : Bytes)
    (hne : hls ≠ []) (hl : ∀ l ∈ hls, (∃ rest, l = 64 :: rest) ∧ ∀ c ∈ l, c ≠ 10)
    (hb : ∀ c rest, body = c :: rest → c ≠ 64) :
    readFile ft ph (headerText hls ++ body) = (ph (headerText hls)).map fun h => readAll ft h body := by
  have hs := splitHeader_spec hls body hl hb ((headerText hls ++ body).length + 1) []
    (Nat.lt_succ_of_le (Nat.le_trans (length_le_headerText hls) (by rw [List.length_append]; exact Nat.le_add_right _ _)))
    fun e _ => absurd e hne
  have hemp : (headerText hls).isEmpty = false := by
    obtain ⟨l, ls, rfl⟩ := List.exists_cons_of_ne_nil hne
    cases l <;> rfl
  rw [readFile, hs, List.nil_append]
  exact if_neg (hemp ▸ Bool.false_ne_true)

open Hts.Spec.SamLine (dropCR linesFrom textLines)

theorem dropCR_eq_stripCR : ∀ l : Bytes, dropCR l = stripCR l
  | [] => rfl
  | [c] => by
    by_cases h : c = 13 <;> simp [dropCR, stripCR, h]
  | c :: d :: rest => by
    have ih := dropCR_eq_stripCR (d :: rest)
    simp only [dropCR, ih, stripCR, List.getLast?_cons_cons]
    split <;> simp [List.dropLast]

theorem linesFrom_spec : ∀ (s cur : Bytes), (∀ c ∈ cur, c ≠ 10) →
    linesFrom s cur = (readerLines (cur ++ s)).map stripCR := by
  intro s
  induction s with
  | nil =>
    intro cur hc
    rw [linesFrom, List.append_nil]
    cases cur with
    | nil => rfl
    | cons x xs =>
      rw [readerLines_single (x :: xs) hc (List.cons_ne_nil _ _), dropCR_eq_stripCR]
      rfl
  | cons c rest ih =>
    intro cur hc
    rw [linesFrom]
    split
    · rename_i h
      rw [h, readerLines_append cur rest hc, List.map_cons, dropCR_eq_stripCR, ih [] nofun]
      rfl
    · rename_i h
      rw [ih (cur ++ [c]) fun x hx => (List.mem_append.mp hx).elim (hc x) fun hx => List.mem_singleton.mp hx ▸ h,
        List.append_assoc]
      rfl

theorem readerLines_textLines (input : Bytes) : (readerLines input).map stripCR = textLines input :=
  (linesFrom_spec input [] nofun).symm

end Hts.Model.SamText
