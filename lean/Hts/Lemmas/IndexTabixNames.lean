/-
The tabix name table: after any sequence of Adds the name map is exactly `names.zipIdx` with
pairwise distinct names, which is also the map `ReadFrom` rebuilds from the name block — so the
re-read index resolves every name to the same reference id.  Hence also: names and references stay equal in number
(`addAll_count`), and a reference id of the trace is at most the number of names at the start plus the number of records
(`trace_rid_le`).
-/
import Hts.Lemmas.IndexTabix
namespace Hts.Model.Tabix
open Hts.Model.Index

theorem foldl_mapSet_fresh (ps : List (Name × Nat)) : ∀ m : List (Name × Nat),
    (m.map (·.1) ++ ps.map (·.1)).Nodup → ps.foldl (fun m p => mapSet m p.1 p.2) m = m ++ ps := by
  induction ps with
  | nil => intro m _; exact (List.append_nil m).symm
  | cons p ps ih =>
    intro m h
    have hp : p.1 ∉ m.map (·.1) := fun hm => (List.nodup_append.1 h).2.2 _ hm _ List.mem_cons_self rfl
    rw [List.foldl_cons, mapSet_absent m p.1 p.2 (mapGet_eq_none.2 hp),
      ih _ (by rwa [List.map_append, List.append_assoc]), List.append_assoc]
    rfl

structure NameInv (t : TIndex) : Prop where
  map : t.nameMap = t.names.zipIdx
  nodup : t.names.Nodup

theorem nameInv_empty (hdr : Header) : NameInv { hdr := hdr } := ⟨rfl, List.nodup_nil⟩

theorem add_nameInv (binOf : Int → Int → Nat) (t : TIndex) (r : TRec) (h : NameInv t) :
    NameInv (add binOf t r).1 := by
  rw [add_eq]
  split
  · rename_i hc
    have hk : mapGet t.nameMap r.name = none := Option.isNone_iff_eq_none.1 (Bool.and_eq_true_iff.1 hc).1
    have hnot : r.name ∉ t.names := List.zipIdx_map_fst 0 t.names ▸ mapGet_eq_none.1 (h.map ▸ hk)
    have hid : ridOf t r.name = t.names.length := by rw [ridOf, hk]
    refine ⟨?_, List.nodup_append.2 ⟨h.nodup, List.pairwise_singleton _ _, fun a ha b hb => ?_⟩⟩
    · show mapSet t.nameMap r.name (ridOf t r.name) = (t.names ++ [r.name]).zipIdx
      rw [mapSet_absent _ _ _ hk, h.map, List.zipIdx_append, hid, Nat.zero_add]
      rfl
    · rw [List.mem_singleton.1 hb]; exact fun hab => hnot (hab ▸ ha)
  · exact ⟨h.map, h.nodup⟩

theorem addAll_nameInv (binOf : Int → Int → Nat) : ∀ (recs : List TRec) (t : TIndex), NameInv t →
    NameInv (addAll binOf t recs).1 := by
  intro recs
  induction recs with
  | nil => intro t h; exact h
  | cons r rs ih => intro t h; exact ih _ (add_nameInv binOf t r h)

theorem buildMap_nodup (names : List Name) (h : names.Nodup) : buildMap names = names.zipIdx :=
  foldl_mapSet_fresh names.zipIdx [] (by rwa [List.zipIdx_map_fst])

theorem built_map_agrees (binOf : Int → Int → Nat) (hdr : Header) (recs : List TRec) (name : Name) :
    mapGet (buildMap (addAll binOf { hdr := hdr } recs).1.names) name =
      mapGet (addAll binOf { hdr := hdr } recs).1.nameMap name := by
  have inv := addAll_nameInv binOf recs { hdr := hdr } (nameInv_empty hdr)
  rw [buildMap_nodup _ inv.nodup, inv.map]

theorem nameInv_ids (t : TIndex) (h : NameInv t) : ∀ n id, mapGet t.nameMap n = some id → id < t.names.length := by
  intro n id hn
  rw [h.map] at hn
  have hmem : (n, id) ∈ t.names.zipIdx := mem_of_mapGet _ _ _ hn
  have := List.mem_zipIdx hmem
  omega

/-- `len(Names()) == NumRefs()` is kept by every `Add` (the point of fixes/C04-3) -/
theorem add_count (binOf : Int → Int → Nat) (t : TIndex) (r : TRec)
    (hn : NameInv t) (h : t.names.length = t.idx.refs.length) :
    (add binOf t r).1.names.length = (add binOf t r).1.idx.refs.length := by
  have hx := (add_refs_length t.idx (traceRec binOf t r)).1
  rw [show (traceRec binOf t r).rid.toNat = ridOf t r.name from Int.toNat_natCast _] at hx
  rw [add_eq]
  cases hk : mapGet t.nameMap r.name with
  | some id =>
    have hid : ridOf t r.name < t.names.length := by rw [ridOf, hk]; exact nameInv_ids t hn _ _ hk
    rw [Option.isNone_some, Bool.false_and, if_neg Bool.false_ne_true]
    show t.names.length = (Index.add t.idx (traceRec binOf t r)).1.refs.length
    omega
  | none =>
    have hid : ridOf t r.name = t.names.length := by rw [ridOf, hk]
    rw [Option.isNone_none, Bool.true_and]
    split
    · rename_i hg
      have := of_decide_eq_true hg
      show (t.names ++ [r.name]).length = (Index.add t.idx (traceRec binOf t r)).1.refs.length
      rw [List.length_append, List.length_singleton]
      omega
    · rename_i hg
      have := of_decide_eq_false (Bool.eq_false_iff.2 hg)
      show t.names.length = (Index.add t.idx (traceRec binOf t r)).1.refs.length
      omega

theorem trace_rid_le (binOf : Int → Int → Nat) : ∀ (recs : List TRec) (t : TIndex), NameInv t →
    ∀ x, x ∈ trace binOf t recs → x.rid ≤ ((t.names.length + recs.length : Nat) : Int) := by
  intro recs
  induction recs with
  | nil => intro t _ x hx; simp [trace] at hx
  | cons r rs ih =>
    intro t hinv x hx
    simp only [trace, List.mem_cons] at hx
    rcases hx with rfl | hx
    · show ((ridOf t r.name : Nat) : Int) ≤ _
      have : ridOf t r.name ≤ t.names.length := by
        unfold ridOf
        cases hk : mapGet t.nameMap r.name with
        | none => exact Nat.le_refl _
        | some id => exact Nat.le_of_lt (nameInv_ids t hinv _ _ hk)
      simp only [List.length_cons]
      omega
    · have := ih (add binOf t r).1 (add_nameInv binOf t r hinv) x hx
      have hn : (add binOf t r).1.names.length ≤ t.names.length + 1 := by
        rcases (add_hdr_names binOf t r).2 with hn | hn <;> rw [hn] <;> simp
      simp only [List.length_cons]
      omega

theorem addAll_count (binOf : Int → Int → Nat) : ∀ (recs : List TRec) (t : TIndex), NameInv t →
    t.names.length = t.idx.refs.length →
    (addAll binOf t recs).1.names.length = (addAll binOf t recs).1.idx.refs.length := by
  intro recs
  induction recs with
  | nil => intro t _ h; exact h
  | cons r rs ih =>
    intro t hn h
    exact ih _ (add_nameInv binOf t r hn) (add_count binOf t r hn h)

end Hts.Model.Tabix
