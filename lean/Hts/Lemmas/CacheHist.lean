/-
Operation histories of the caches and what holds after every history:
well-formedness (`Len ≤ Cap`, one node per key) for all capacities ≥ 1.
-/
import Hts.Lemmas.Cache
namespace Hts.Model.Cache

inductive LOp
  | put (id : Nat)
  | get (k : Int)
  | peek (k : Int)
  | drop (n : Int)
  | resize (n : Int)
  | free (n : Int)
deriving DecidableEq, Repr

/-- the property quantifies over capacities ≥ 1: `Resize` to a smaller value is outside it -/
def LOp.ok : LOp → Prop
  | .resize n => 1 ≤ n
  | _ => True

namespace LCache

def step (kind : Kind) (h : Heap) (c : LCache) : LOp → LCache
  | .put id => (c.put h id).1
  | .get k => (c.get kind h k).1
  | .peek _ => c
  | .drop n => c.drop n
  | .resize n => c.resize n
  | .free n => (c.free n).1

/-- a history: each call sees the heap as it is at that moment (blocks may change between calls) -/
def run (kind : Kind) (c : LCache) : List (Heap × LOp) → LCache
  | [] => c
  | (h, op) :: rest => run kind (c.step kind h op) rest

theorem step_wf {kind : Kind} {h : Heap} {c : LCache} (w : c.WF) {op : LOp} (ok : op.ok) :
    (c.step kind h op).WF := by
  cases op with
  | put id => exact put_wf w rfl
  | get k => exact get_wf w k
  | peek k => exact w
  | drop n => exact drop_wf w n
  | resize n => exact resize_wf w ok
  | free n => exact free_wf w n

theorem run_wf {kind : Kind} {c : LCache} (w : c.WF) (hist : List (Heap × LOp))
    (ok : ∀ x ∈ hist, x.2.ok) : (c.run kind hist).WF := by
  induction hist generalizing c with
  | nil => exact w
  | cons x rest ih =>
    obtain ⟨h, op⟩ := x
    exact ih (step_wf w (ok (h, op) (.head _))) (fun y hy => ok y (.tail _ hy))

end LCache

namespace RCache

inductive ROp
  | put (id : Nat) (hint : Option Nat)
  | get (k : Int)
  | peek (k : Int)
  | drop (n : Int) (victims : List Nat)
  | resize (n : Int) (victims : List Nat)
  | free (n : Int) (victims : List Nat)

def ROp.ok : ROp → Prop
  | .resize n _ => 1 ≤ n
  | _ => True

/-- `none`: the recorded choice of victims is not one the code can make -/
def step (h : Heap) (c : RCache) : ROp → Option RCache
  | .put id hint => (c.put h id hint).map (·.1)
  | .get k => some (c.get k).1
  | .peek _ => some c
  | .drop n vs => c.drop h n vs
  | .resize n vs => c.resize h n vs
  | .free n vs => (c.free h n vs).map (·.1)

def run (c : RCache) : List (Heap × ROp) → Option RCache
  | [] => some c
  | (h, op) :: rest => (c.step h op).bind (fun c' => run c' rest)

theorem step_wf {h : Heap} {c c' : RCache} (w : c.WF) {op : ROp} (ok : op.ok)
    (hs : c.step h op = some c') : c'.WF := by
  cases op with
  | put id hint =>
    obtain ⟨⟨c'', r⟩, h1, rfl⟩ := Option.map_eq_some_iff.1 hs
    exact put_wf w h1
  | get k => cases hs; exact get_wf w k
  | peek k => cases hs; exact w
  | drop n vs => exact drop_wf w hs
  | resize n vs => exact resize_wf w ok hs
  | free n vs =>
    obtain ⟨⟨c'', b⟩, h1, rfl⟩ := Option.map_eq_some_iff.1 hs
    exact free_wf w h1

theorem run_wf {c c' : RCache} (w : c.WF) (hist : List (Heap × ROp))
    (ok : ∀ x ∈ hist, x.2.ok) (hr : c.run hist = some c') : c'.WF := by
  induction hist generalizing c with
  | nil => cases hr; exact w
  | cons x rest ih =>
    obtain ⟨c1, h1, h2⟩ := Option.bind_eq_some_iff.1 hr
    exact ih (step_wf w (ok x (.head _)) h1) (fun y hy => ok y (.tail _ hy)) h2

end RCache

end Hts.Model.Cache
