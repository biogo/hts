/-
`tabix.Index` (model: Hts.Model.Tabix): the name table in front of `internal.Index`.
`trace` is the sequence of internal records (with the reference ids the name table assigns) that a
sequence of tabix records turns into; the tabix index is the internal index of the trace, and a placed
record's name maps to the id it was added under.
-/
import Hts.Lemmas.IndexAddAll
import Hts.Model.Tabix
namespace Hts.Model.Tabix
open Hts.Model.Index

theorem mapGet_cons (k' : Name) (v' : Nat) (m : List (Name × Nat)) (k : Name) :
    mapGet ((k', v') :: m) k = if k = k' then some v' else mapGet m k := by
  unfold mapGet
  rw [List.lookup_cons]
  by_cases h : k = k'
  · rw [if_pos h, beq_iff_eq.2 h]
  · rw [if_neg h, beq_eq_false_iff_ne.2 h]

theorem mapGet_mapSet_self (m : List (Name × Nat)) (k : Name) (v : Nat) : mapGet (mapSet m k v) k = some v := by
  induction m with
  | nil => rw [mapSet, mapGet_cons, if_pos rfl]
  | cons p m ih =>
    rw [mapSet]
    split
    · rw [mapGet_cons, if_pos rfl]
    · rename_i hne
      rw [mapGet_cons, if_neg (Ne.symm hne), ih]

theorem mapGet_mapSet_ne (m : List (Name × Nat)) (k k' : Name) (v : Nat) (h : k' ≠ k) :
    mapGet (mapSet m k v) k' = mapGet m k' := by
  induction m with
  | nil => rw [mapSet, mapGet_cons, if_neg h]
  | cons p m ih =>
    rw [mapSet]
    split
    · rename_i heq
      rw [mapGet_cons, if_neg h, mapGet_cons, if_neg (heq ▸ h)]
    · rw [mapGet_cons, mapGet_cons, ih]

theorem mapSet_absent (m : List (Name × Nat)) (k : Name) (v : Nat) (h : mapGet m k = none) :
    mapSet m k v = m ++ [(k, v)] := by
  induction m with
  | nil => rfl
  | cons p m ih =>
    rw [mapGet_cons] at h
    split at h
    · cases h
    · rename_i hk
      rw [mapSet, if_neg (Ne.symm hk), ih h, List.cons_append]

theorem mapGet_eq_none {m : List (Name × Nat)} {k : Name} : mapGet m k = none ↔ k ∉ m.map (·.1) := by
  induction m with
  | nil => exact ⟨fun _ h => (nomatch h), fun _ => rfl⟩
  | cons p m ih =>
    rw [mapGet_cons, List.map_cons, List.mem_cons, not_or]
    split
    · rename_i h; exact ⟨fun h' => (nomatch h'), fun h' => absurd h h'.1⟩
    · rename_i h; rw [ih]; exact ⟨fun h' => ⟨h, h'⟩, fun h' => h'.2⟩

theorem mem_of_mapGet (m : List (Name × Nat)) (k : Name) (v : Nat) (h : mapGet m k = some v) : (k, v) ∈ m := by
  induction m with
  | nil => cases h
  | cons p m ih =>
    rw [mapGet_cons] at h
    split at h
    · rename_i hk; cases h; rw [hk]; exact List.mem_cons_self
    · exact List.mem_cons_of_mem _ (ih h)

/-- the reference id `Add` uses for a record: the known id of the name or the next free one -/
def ridOf (t : TIndex) (name : Name) : Nat :=
  match mapGet t.nameMap name with
  | some id => id
  | none => t.names.length

/-- the internal record `tabix.Index.Add` hands to `internal.Index.Add` -/
def traceRec (binOf : Int → Int → Nat) (t : TIndex) (r : TRec) : Rec :=
  { rid := ridOf t r.name, start := r.start, stop := r.stop, bin := binOf r.start r.stop, chunk := r.chunk,
    placed := r.placed, mapped := r.mapped }

def trace (binOf : Int → Int → Nat) : TIndex → List TRec → List Rec
  | _, [] => []
  | t, r :: rs => traceRec binOf t r :: trace binOf (add binOf t r).1 rs

theorem mem_trace (binOf : Int → Int → Nat) : ∀ (recs : List TRec) (t : TIndex) (x : Rec),
    x ∈ trace binOf t recs → ∃ r t', r ∈ recs ∧ x = traceRec binOf t' r := by
  intro recs
  induction recs with
  | nil => intro t x hx; cases hx
  | cons r rs ih =>
    intro t x hx
    rcases List.mem_cons.1 hx with rfl | hx
    · exact ⟨r, t, List.mem_cons_self, rfl⟩
    · obtain ⟨r', t', hr', e⟩ := ih _ x hx
      exact ⟨r', t', List.mem_cons_of_mem _ hr', e⟩

theorem trace_length (binOf : Int → Int → Nat) : ∀ (recs : List TRec) (t : TIndex),
    (trace binOf t recs).length = recs.length := by
  intro recs
  induction recs with
  | nil => intro t; rfl
  | cons r rs ih => intro t; exact congrArg (· + 1) (ih _)

theorem add_eq (binOf : Int → Int → Nat) (t : TIndex) (r : TRec) :
    add binOf t r =
      if (mapGet t.nameMap r.name).isNone &&
          decide ((Index.add t.idx (traceRec binOf t r)).1.refs.length > ridOf t r.name) then
        ({ t with idx := (Index.add t.idx (traceRec binOf t r)).1, names := t.names ++ [r.name],
                  nameMap := mapSet t.nameMap r.name (ridOf t r.name) }, (Index.add t.idx (traceRec binOf t r)).2)
      else ({ t with idx := (Index.add t.idx (traceRec binOf t r)).1 }, (Index.add t.idx (traceRec binOf t r)).2) :=
  rfl

theorem add_idx (binOf : Int → Int → Nat) (t : TIndex) (r : TRec) :
    (add binOf t r).1.idx = (Index.add t.idx (traceRec binOf t r)).1 ∧
      (add binOf t r).2 = (Index.add t.idx (traceRec binOf t r)).2 := by
  rw [add_eq]
  split <;> exact ⟨rfl, rfl⟩

theorem add_hdr_names (binOf : Int → Int → Nat) (t : TIndex) (r : TRec) :
    (add binOf t r).1.hdr = t.hdr ∧
      ((add binOf t r).1.names = t.names ∨ (add binOf t r).1.names = t.names ++ [r.name]) := by
  rw [add_eq]
  split
  · exact ⟨rfl, Or.inr rfl⟩
  · exact ⟨rfl, Or.inl rfl⟩

theorem addAll_idx (binOf : Int → Int → Nat) : ∀ (recs : List TRec) (t : TIndex),
    (addAll binOf t recs).1.idx = (Index.addAll t.idx (trace binOf t recs)).1 ∧
      (addAll binOf t recs).2 = (Index.addAll t.idx (trace binOf t recs)).2 := by
  intro recs
  induction recs with
  | nil => intro t; exact ⟨rfl, rfl⟩
  | cons r rs ih =>
    intro t
    obtain ⟨h1, h2⟩ := add_idx binOf t r
    obtain ⟨h3, h4⟩ := ih (add binOf t r).1
    simp only [addAll, trace, Index.addAll]
    rw [← h1]
    exact ⟨h3, by rw [h4, h2]⟩

theorem addAll_names_sublist (binOf : Int → Int → Nat) : ∀ (recs : List TRec) (t : TIndex),
    (addAll binOf t recs).1.names.Sublist (t.names ++ recs.map (·.name)) := by
  intro recs
  induction recs with
  | nil => intro t; simp [addAll]
  | cons r rs ih =>
    intro t
    simp only [addAll, List.map_cons]
    have h := ih (add binOf t r).1
    rcases (add_hdr_names binOf t r).2 with hn | hn
    · rw [hn] at h
      exact h.trans (List.Sublist.append_left (List.sublist_cons_self _ _) _)
    · rw [hn, List.append_assoc] at h
      exact h

theorem addAll_hdr (binOf : Int → Int → Nat) : ∀ (recs : List TRec) (t : TIndex),
    (addAll binOf t recs).1.hdr = t.hdr := by
  intro recs
  induction recs with
  | nil => intro t; rfl
  | cons r rs ih => intro t; simp only [addAll]; rw [ih, (add_hdr_names binOf t r).1]

theorem add_names (binOf : Int → Int → Nat) (t : TIndex) (r : TRec) :
    (∀ n id, mapGet t.nameMap n = some id → mapGet (add binOf t r).1.nameMap n = some id) ∧
    ((Index.add t.idx (traceRec binOf t r)).1.refs.length > ridOf t r.name →
      mapGet (add binOf t r).1.nameMap r.name = some (ridOf t r.name)) := by
  rw [add_eq]
  cases h : mapGet t.nameMap r.name with
  | some id =>
    rw [Option.isNone_some, Bool.false_and, if_neg Bool.false_ne_true]
    exact ⟨fun n id' hn => hn, fun _ => by rw [ridOf, h]⟩
  | none =>
    rw [Option.isNone_none, Bool.true_and]
    split
    · refine ⟨fun n id hn => ?_, fun _ => mapGet_mapSet_self _ _ _⟩
      show mapGet (mapSet t.nameMap r.name _) n = some id
      rw [mapGet_mapSet_ne _ _ _ _ (by intro he; subst he; rw [h] at hn; cases hn)]
      exact hn
    · rename_i hg
      exact ⟨fun n id hn => hn, fun hgt => absurd (decide_eq_true hgt) hg⟩

/-- `allOk` is needed: a name is entered only when the inner `Add` has the reference `rid` afterwards (`add_names`), which
`add_refs_length` gives for an accepted placed `Add` only.  The first conjunct is the induction's strengthening. -/
theorem names_final (binOf : Int → Int → Nat) : ∀ (recs : List TRec) (t : TIndex),
    allOk (addAll binOf t recs).2 →
    (∀ n id, mapGet t.nameMap n = some id → mapGet (addAll binOf t recs).1.nameMap n = some id) ∧
    ∀ (k : Nat) (r : TRec), recs[k]? = some r → r.placed = true →
      ∃ t', (trace binOf t recs)[k]? = some (traceRec binOf t' r) ∧
        mapGet (addAll binOf t recs).1.nameMap r.name = some (ridOf t' r.name) := by
  intro recs
  induction recs with
  | nil => intro t _; exact ⟨fun n id h => h, fun k r hk => nomatch hk⟩
  | cons r rs ih =>
    intro t hok
    rw [addAll, allOk_cons] at hok
    obtain ⟨hstab, hown⟩ := add_names binOf t r
    obtain ⟨h1, h2⟩ := ih (add binOf t r).1 hok.2
    refine ⟨fun n id hn => h1 n id (hstab n id hn), ?_⟩
    intro k r' hk hp
    cases k with
    | zero =>
      cases hk
      exact ⟨t, rfl, h1 _ _ (hown ((add_refs_length t.idx (traceRec binOf t r)).2 ((add_idx binOf t r).2 ▸ hok.1) hp))⟩
    | succ k => exact h2 k r' hk hp

end Hts.Model.Tabix
