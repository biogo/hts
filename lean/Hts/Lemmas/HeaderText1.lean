/-
Splitting, decimal and hexadecimal round trips, the generic field loop on
rendered fields.
-/
import Hts.Model.Header
import Hts.Lemmas.Bytes
import Hts.Lemmas.Text
namespace Hts.Model.Header

/-- no tab, line feed or carriage return -/
def Clean (s : Bytes) : Prop := ∀ c ∈ s, c ≠ 9 ∧ c ≠ 10 ∧ c ≠ 13
def CleanTag (t : Tag) : Prop := (t.1 ≠ 9 ∧ t.1 ≠ 10 ∧ t.1 ≠ 13) ∧ (t.2 ≠ 9 ∧ t.2 ≠ 10 ∧ t.2 ≠ 13)
instance (t : Tag) : Decidable (CleanTag t) := by unfold CleanTag; infer_instance

/-- a rendered field without its leading tab -/
def fieldOf (tv : Tag × Bytes) : Bytes := tv.1.1 :: tv.1.2 :: 58 :: tv.2

theorem fieldBytes_eq (tv : Tag × Bytes) : fieldBytes tv = 9 :: fieldOf tv := rfl

/-- The bytes of a string literal without evaluating `String.toList` (UTF-8 encoding and decoding in the kernel):
`rw [str_ofList]` matches a literal and leaves its characters. -/
theorem str_ofList (cs : List Char) : str (String.ofList cs) = cs.map Char.toNat := by rw [str, String.toList_ofList]

open Hts.Lemmas (Sep.splitOn Sep.splitOn_no_sep Sep.splitOn_append_sep Sep.splitOn_flatMap)

theorem splitOn_eq (sep : Nat) (a : Bytes) : splitOn sep a = Sep.splitOn sep a := by
  induction a with
  | nil => rfl
  | cons c cs ih => rw [splitOn, Sep.splitOn, ih]; cases Sep.splitOn sep cs <;> rfl

theorem splitOnce_append (sep : Nat) (b a : Bytes) (h : sep ∉ a) :
    splitOnce sep (a ++ sep :: b) = [a, b] := by
  induction a with
  | nil => simp [splitOnce]
  | cons c cs ih =>
    simp only [List.mem_cons, not_or] at h
    simp [splitOnce, Ne.symm h.1, ih h.2]

theorem splitOn_fields (rec : Bytes) (hrec : 9 ∉ rec) (ts : Tags) (h : ∀ tv ∈ ts, 9 ∉ fieldOf tv) :
    splitOn 9 (rec ++ ts.flatMap fieldBytes) = rec :: ts.map fieldOf := by
  rw [splitOn_eq]
  induction ts generalizing rec with
  | nil => rw [List.flatMap_nil, List.append_nil, Sep.splitOn_no_sep hrec]; rfl
  | cons tv ts ih =>
    rw [List.forall_mem_cons] at h
    rw [List.flatMap_cons, fieldBytes_eq, List.cons_append, Sep.splitOn_append_sep hrec, ih _ h.1 h.2, List.map_cons]

theorem splitOn_lines (ls : List Bytes) (h : ∀ l ∈ ls, 10 ∉ l) :
    splitOn 10 (ls.flatMap (· ++ [10])) = ls ++ [[]] :=
  (splitOn_eq _ _).trans (Sep.splitOn_flatMap h)

theorem parseDigits_snoc (a : Bytes) (c : Nat) : parseDigits (a ++ [c]) = parseDigits a * 10 + (c - 48) := by
  simp [parseDigits, List.foldl_append]

theorem isDigit_add {n : Nat} (h : n < 10) : isDigit (48 + n) = true := by
  simp [isDigit]; omega

theorem decDigitsF_spec (f : Nat) : ∀ (n : Nat), n ≤ f → parseDigits (decDigitsF f n) = n ∧
    (decDigitsF f n).all isDigit = true ∧ ∃ c cs, decDigitsF f n = c :: cs ∧ isDigit c = true := by
  induction f with
  | zero =>
    intro n hn
    obtain rfl : n = 0 := by omega
    exact ⟨rfl, rfl, _, _, rfl, rfl⟩
  | succ f ih =>
    intro n hn
    rw [decDigitsF]
    split
    · next hlt => exact ⟨by simp [parseDigits], by simp [isDigit_add hlt], _, _, rfl, isDigit_add hlt⟩
    · obtain ⟨h1, h2, c, cs, h3, h4⟩ := ih (n / 10) (by omega)
      refine ⟨by rw [parseDigits_snoc, h1]; omega, ?_, c, cs ++ [48 + n % 10], by rw [h3]; rfl, h4⟩
      simp [h2, isDigit_add (Nat.mod_lt n (by decide : 0 < 10))]

theorem decDigits_spec (n : Nat) : parseDigits (decDigits n) = n ∧ (decDigits n).all isDigit = true ∧
    ∃ c cs, decDigits n = c :: cs ∧ isDigit c = true := decDigitsF_spec n n (Nat.le_refl n)

theorem atoi_dec (i : Int) : atoi (dec i) = some i := by
  obtain ⟨h1, h2, c, cs, h3, h4⟩ := decDigits_spec i.natAbs
  have hd : atoiDigits (decDigits i.natAbs) = some i.natAbs := by
    unfold atoiDigits
    rw [h2, h3]; simp only [List.isEmpty_cons, Bool.false_or, Bool.not_true, Bool.false_eq_true, if_false]
    rw [← h3, h1]
  unfold dec
  split
  · next hneg =>
    simp only [atoi, hd]
    show some (-(i.natAbs : Int)) = some i
    congr 1; omega
  · next hpos =>
    have hc1 : c ≠ 45 := by intro e; subst e; simp [isDigit] at h4
    have hc2 : c ≠ 43 := by intro e; subst e; simp [isDigit] at h4
    rw [atoi.eq_3]
    · simp only [hd]
      show some ((i.natAbs : Nat) : Int) = some i
      congr 1; omega
    · intro r e; rw [h3] at e; cases e; exact hc1 rfl
    · intro r e; rw [h3] at e; cases e; exact hc2 rfl

theorem dec_clean (i : Int) : Clean (dec i) := by
  obtain ⟨_, h2, _⟩ := decDigits_spec i.natAbs
  have : ∀ c ∈ decDigits i.natAbs, c ≠ 9 ∧ c ≠ 10 ∧ c ≠ 13 := by
    intro c hc
    have := List.all_eq_true.1 h2 c hc
    simp [isDigit] at this; omega
  unfold dec
  split
  · intro c hc
    rcases List.mem_cons.1 hc with rfl | hc
    · decide
    · exact this c hc
  · exact this

theorem hexVal_hexDigit : ∀ n, n < 16 → hexVal (hexDigit n) = some n := by decide

theorem hexDigit_clean : ∀ n, n < 16 → hexDigit n ≠ 9 ∧ hexDigit n ≠ 10 ∧ hexDigit n ≠ 13 := by decide

theorem hexDecode16_enc : ∀ (bs : Bytes) (n : Nat) (acc : Bytes), (∀ b ∈ bs, b < 256) → n + bs.length ≤ 16 →
    hexDecode16 (hexEnc bs) n acc = .ok (acc.reverse ++ bs) := by
  intro bs
  induction bs with
  | nil => intro n acc _ _; simp [hexEnc, hexDecode16]
  | cons b bs ih =>
    intro n acc hb hn
    rw [List.forall_mem_cons] at hb
    rw [List.length_cons] at hn
    have e : b / 16 % 16 * 16 + b % 16 = b := by
      rw [Nat.mod_eq_of_lt (Nat.div_lt_of_lt_mul hb.1), Nat.div_add_mod']
    rw [show hexEnc (b :: bs) = hexDigit (b / 16 % 16) :: hexDigit (b % 16) :: hexEnc bs from rfl, hexDecode16,
      hexVal_hexDigit _ (Nat.mod_lt _ (by decide)), hexVal_hexDigit _ (Nat.mod_lt _ (by decide))]
    dsimp only
    rw [if_neg (by omega), e, ih (n + 1) (b :: acc) hb.2 (by omega), List.reverse_cons, List.append_assoc]
    rfl

theorem hexEnc_length (bs : Bytes) : (hexEnc bs).length = 2 * bs.length :=
  (Hts.Lemmas.flatMap_length_const _ 2 bs fun _ => rfl).trans (Nat.mul_comm _ 2)

theorem hexEnc_clean (bs : Bytes) : Clean (hexEnc bs) := by
  intro c hc
  simp only [hexEnc, List.mem_flatMap] at hc
  obtain ⟨b, _, hc⟩ := hc
  simp only [List.mem_cons, List.not_mem_nil, or_false] at hc
  rcases hc with rfl | rfl
  · exact hexDigit_clean _ (Nat.mod_lt _ (by omega))
  · exact hexDigit_clean _ (Nat.mod_lt _ (by omega))

/-- the field loop without byte parsing and duplicate check -/
def loopVal {β : Type} (assign : β → Tag → Bytes → PR β) : β → Tags → PR β
  | b, [] => .ok b
  | b, (t, v) :: ts =>
    match assign b t v with
    | .ok b' => loopVal assign b' ts
    | .err => .err
    | .panic => .panic

section
variable {β : Type} {assign : β → Tag → Bytes → PR β} {b b' r : β} {t : Tag} {v : Bytes} {ts : Tags}

theorem loopVal_step (h : assign b t v = .ok b') (hts : loopVal assign b' ts = .ok r) :
    loopVal assign b ((t, v) :: ts) = .ok r := by
  rw [loopVal, h]; exact hts

/-- A field that is written only when `¬ c`: when it is left out, the loop already holds the value that assigning it
would give.  In use `b'` is left to unification of `h` with an equation of `assign`. -/
theorem loopVal_ite {c : Prop} [Decidable c] (h : ¬ c → assign b t v = .ok b') (h0 : c → b' = b)
    (hts : loopVal assign b' ts = .ok r) : loopVal assign b ((if c then [] else [(t, v)]) ++ ts) = .ok r := by
  by_cases hc : c
  · rw [if_pos hc, ← h0 hc]; exact hts
  · rw [if_neg hc]; exact loopVal_step (h hc) hts

end

theorem parseField_fieldOf (tv : Tag × Bytes) : parseField (fieldOf tv) = .ok tv.1 tv.2 := by
  simp [fieldOf, parseField]

theorem fieldLoop_fields {β : Type} (assign : β → Tag → Bytes → PR β) : ∀ (ts : Tags) (b b' : β) (seen : List Tag),
    (ts.map (·.1)).Nodup → (∀ tv ∈ ts, tv.1 ∉ seen) → loopVal assign b ts = .ok b' →
    ∃ seen', fieldLoop assign ⟨b, seen⟩ (ts.map fieldOf) = .ok ⟨b', seen'⟩ := by
  intro ts
  induction ts with
  | nil =>
    intro b b' seen _ _ h
    simp [loopVal] at h
    subst h
    exact ⟨seen, rfl⟩
  | cons tv ts ih =>
    intro b b' seen hnd hns h
    obtain ⟨t, v⟩ := tv
    simp only [List.map_cons, List.nodup_cons] at hnd
    simp only [loopVal] at h
    have hts : t ∉ seen := hns (t, v) List.mem_cons_self
    simp only [List.map_cons, fieldLoop, parseField_fieldOf]
    have : seen.contains t = false := by simpa using hts
    simp only [this, Bool.false_eq_true, if_false]
    cases ha : assign b t v with
    | ok b1 =>
      rw [ha] at h
      refine ih b1 b' (t :: seen) hnd.2 ?_ h
      intro tv' htv' hc
      rcases List.mem_cons.1 hc with e | hc
      · exact hnd.1 (e ▸ List.mem_map_of_mem htv')
      · exact hns tv' (List.mem_cons_of_mem _ htv') hc
    | err => rw [ha] at h; cases h
    | panic => rw [ha] at h; cases h

end Hts.Model.Header
