/-
Enclosure law of the merge strategies in the terms of C17's model (Hts.Model.Merge, offsets (file, block),
`vOff`): on a list sorted by begin every input CHUNK is enclosed by ONE output chunk.  This is stronger
than C17's positional coverage (`covers`): see `enclosed_covers` and `covers_not_enclosed` below.
C04 needs the chunk form (one returned chunk holds the record from its first to its last byte).
-/
import Hts.Lemmas.Merge
namespace Hts.Model.Merge

def encloses (c p : Chunk) : Prop := vOff c.b ≤ vOff p.b ∧ vOff p.e ≤ vOff c.e

def enclosedBy (cs : List Chunk) (p : Chunk) : Prop := ∃ c, c ∈ cs ∧ encloses c p

theorem encloses_mergeInto (l r p : Chunk) (hs : vOff l.b ≤ vOff r.b) (h : encloses l p ∨ encloses r p) :
    encloses (mergeInto l r) p := by
  obtain ⟨hl, hr⟩ := le_mergeInto_e l r
  rcases h with h | h
  · exact ⟨h.1, Int.le_trans h.2 hl⟩
  · exact ⟨Int.le_trans hs h.1, Int.le_trans h.2 hr⟩

theorem mergeLoop_enc (close : Chunk → Chunk → Bool) (l : Chunk) (rs : List Chunk) (hs : SortedB (l :: rs))
    (p : Chunk) (hp : enclosedBy (l :: rs) p) : enclosedBy (mergeLoop close l rs) p := by
  induction rs generalizing l with
  | nil => exact hp
  | cons r rs ih =>
    obtain ⟨x, hx, hxp⟩ := hp
    unfold mergeLoop
    split
    · refine ih _ (sortedB_merge hs) ?_
      rcases List.mem_cons.1 hx with rfl | hx
      · exact ⟨_, List.mem_cons_self, encloses_mergeInto x r p hs.1 (Or.inl hxp)⟩
      · rcases List.mem_cons.1 hx with rfl | hx
        · exact ⟨_, List.mem_cons_self, encloses_mergeInto l x p hs.1 (Or.inr hxp)⟩
        · exact ⟨x, List.mem_cons_of_mem _ hx, hxp⟩
    · rcases List.mem_cons.1 hx with rfl | hx
      · exact ⟨x, List.mem_cons_self, hxp⟩
      · obtain ⟨y, hy, hyp⟩ := ih r hs.2 ⟨x, hx, hxp⟩
        exact ⟨y, List.mem_cons_of_mem _ hy, hyp⟩

theorem encloses_refl (c : Chunk) : encloses c c := ⟨Int.le_refl _, Int.le_refl _⟩

theorem mergeAll_enc (close : Chunk → Chunk → Bool) : ∀ cs : List Chunk, SortedB cs → ∀ c, c ∈ cs →
    enclosedBy (mergeAll close cs) c
  | x :: xs, h, c, hc => mergeLoop_enc close x xs h c ⟨c, hc, encloses_refl c⟩

theorem adjacent_enc (cs : List Chunk) (h : SortedB cs) (c : Chunk) (hc : c ∈ cs) : enclosedBy (adjacent cs) c :=
  mergeAll_enc adjClose cs h c hc

theorem compressor_enc (near : Int) (cs : List Chunk) (h : SortedB cs) (c : Chunk) (hc : c ∈ cs) :
    enclosedBy (compressor near cs) c :=
  mergeAll_enc (nearClose near) cs h c hc

theorem squash_enc (cs : List Chunk) (h : SortedB cs) (c : Chunk) (hc : c ∈ cs) : enclosedBy (squash cs) c := by
  cases cs with
  | nil => cases hc
  | cons x xs =>
    have hm := maxEnd_ge x.e xs
    refine ⟨_, List.mem_singleton.2 rfl, ?_⟩
    rcases List.mem_cons.1 hc with rfl | hc
    · exact ⟨Int.le_refl _, hm.1⟩
    · exact ⟨sortedB_head_le h c hc, hm.2 c hc⟩

theorem identity_enc (cs : List Chunk) (c : Chunk) (hc : c ∈ cs) : enclosedBy (identity cs) c :=
  ⟨c, hc, encloses_refl c⟩

theorem enclosed_covers (s : List Chunk → List Chunk) (cs : List Chunk)
    (h : ∀ c, c ∈ cs → enclosedBy (s cs) c) (p : Int) (hp : covers cs p) : covers (s cs) p := by
  obtain ⟨c, hc, hcp⟩ := hp
  obtain ⟨c', hc', he⟩ := h c hc
  refine ⟨c', hc', ?_⟩
  unfold covers1 encloses at *
  omega

/-- the converse fails: a strategy that cuts a chunk in two keeps every position covered, yet no single output
chunk encloses the input chunk -/
theorem covers_not_enclosed :
    ∃ (s : List Chunk → List Chunk) (cs : List Chunk), SortedB cs ∧ (∀ p, covers cs p → covers (s cs) p) ∧
      ¬ ∀ c, c ∈ cs → enclosedBy (s cs) c := by
  refine ⟨fun _ => [⟨⟨0, 0⟩, ⟨1, 0⟩⟩, ⟨⟨1, 0⟩, ⟨2, 0⟩⟩], [⟨⟨0, 0⟩, ⟨2, 0⟩⟩], trivial, ?_, ?_⟩
  · intro p hp
    obtain ⟨c, hc, h1, h2⟩ := hp
    simp only [List.mem_singleton] at hc
    subst hc
    simp only [vOff] at h1 h2
    by_cases hlt : p < 65536
    · exact ⟨⟨⟨0, 0⟩, ⟨1, 0⟩⟩, by simp, by simp only [covers1, vOff]; omega⟩
    · exact ⟨⟨⟨1, 0⟩, ⟨2, 0⟩⟩, by simp, by simp only [covers1, vOff]; omega⟩
  · intro h
    obtain ⟨c, hc, h1, h2⟩ := h ⟨⟨0, 0⟩, ⟨2, 0⟩⟩ (by simp)
    simp only [List.mem_cons, List.mem_nil_iff, or_false] at hc
    rcases hc with rfl | rfl <;> simp [vOff] at h1 h2

end Hts.Model.Merge
