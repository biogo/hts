/-
Lemmas about the scanner model of `fai.NewIndex` (Model/FaiScan.lean): the tokens of `split` over every
delivery are `lines data`, and `Hts.Model.Fai.scan` is `stepAll` over `lines`.
-/
import Hts.Model.FaiScan
namespace Hts.Lemmas.FaiScanner
open Hts.Model.Fai

theorem notLF_of_ne {x : UInt8} (h : x ≠ LF) : notLF x = true := by
  simp only [notLF, decide_eq_true_eq]
  exact fun e => h (UInt8.toNat_inj.mp e)

theorem lf_cases (bs : Bytes) :
    (∀ x ∈ bs, notLF x = true) ∨
    ∃ l nl rest, bs = l ++ nl :: rest ∧ (∀ x ∈ l, notLF x = true) ∧ notLF nl = false := by
  induction bs with
  | nil => exact .inl nofun
  | cons b bs ih =>
    by_cases hb : notLF b = true
    · rcases ih with h | ⟨l, nl, rest, rfl, hl, hnl⟩
      · exact .inl (List.forall_mem_cons.mpr ⟨hb, h⟩)
      · exact .inr ⟨b :: l, nl, rest, rfl, List.forall_mem_cons.mpr ⟨hb, hl⟩, hnl⟩
    · exact .inr ⟨[], b, bs, rfl, nofun, by simpa using hb⟩

theorem takeWhile_noLF (l : Bytes) (hl : ∀ x ∈ l, notLF x = true) : l.takeWhile notLF = l := by
  have := List.takeWhile_append_of_pos (l₂ := []) hl
  rwa [List.append_nil, List.takeWhile_nil, List.append_nil] at this

theorem dropWhile_all {p : UInt8 → Bool} (l : Bytes) (hl : ∀ x ∈ l, p x = true) : l.dropWhile p = [] := by
  have := List.dropWhile_append_of_pos (l₂ := []) hl
  rwa [List.append_nil, List.dropWhile_nil] at this

theorem takeWhile_line (l : Bytes) (nl : UInt8) (rest : Bytes) (hl : ∀ x ∈ l, notLF x = true)
    (hnl : notLF nl = false) : (l ++ nl :: rest).takeWhile notLF = l := by
  rw [List.takeWhile_append_of_pos hl, List.takeWhile_cons_of_neg (by rw [hnl]; exact Bool.false_ne_true),
    List.append_nil]

theorem takeLine_terminated (l rest : Bytes) (nl : UInt8) (hl : ∀ b ∈ l, notLF b = true) (hnl : notLF nl = false) :
    takeLine (l ++ nl :: rest) = (l ++ [nl], rest) := by
  rw [takeLine, takeWhile_line l nl rest hl hnl, List.dropWhile_append_of_pos hl,
    List.dropWhile_cons_of_neg (by rw [hnl]; exact Bool.false_ne_true)]

theorem takeLine_unterminated (l : Bytes) (hl : ∀ b ∈ l, notLF b = true) : takeLine l = (l, []) := by
  rw [takeLine, dropWhile_all l hl, takeWhile_noLF l hl]

theorem lines_terminated (l : Bytes) (nl : UInt8) (rest : Bytes) (hl : ∀ x ∈ l, notLF x = true)
    (hnl : notLF nl = false) : lines (l ++ nl :: rest) = (l ++ [nl]) :: lines rest := by
  induction l with
  | nil => simp [lines, hnl]
  | cons a l ih =>
    have ha : notLF a = true := hl a (by simp)
    have := ih (fun x hx => hl x (by simp [hx]))
    simp [lines, ha, this]

theorem lines_unterminated (l : Bytes) (hne : l ≠ []) (hl : ∀ x ∈ l, notLF x = true) : lines l = [l] := by
  induction l with
  | nil => exact absurd rfl hne
  | cons a l ih =>
    have ha : notLF a = true := hl a (by simp)
    by_cases hl0 : l = []
    · subst hl0; simp [lines, ha]
    · have := ih hl0 (fun x hx => hl x (by simp [hx]))
      simp [lines, ha, this]

theorem indexLF_noLF (bs : Bytes) (h : ∀ x ∈ bs, notLF x = true) : indexLF bs = none := by
  rw [indexLF, takeWhile_noLF bs h]
  exact if_neg (Nat.lt_irrefl _)

theorem indexLF_line (l : Bytes) (nl : UInt8) (rest : Bytes) (hl : ∀ x ∈ l, notLF x = true)
    (hnl : notLF nl = false) : indexLF (l ++ nl :: rest) = some l.length := by
  rw [indexLF, takeWhile_line l nl rest hl hnl]
  exact if_pos (by rw [List.length_append, List.length_cons]; omega)

theorem split_line (l : Bytes) (nl : UInt8) (rest : Bytes) (e : Bool) (hl : ∀ x ∈ l, notLF x = true)
    (hnl : notLF nl = false) :
    split (l ++ nl :: rest) e = (l.length + 1, some (l ++ [nl])) ∧ (l ++ nl :: rest).drop (l.length + 1) = rest := by
  have h : l ++ nl :: rest = (l ++ [nl]) ++ rest := by rw [List.append_assoc]; rfl
  have hlen : (l ++ [nl]).length = l.length + 1 := List.length_append
  constructor
  · have hne : (l ++ nl :: rest).isEmpty = false := by cases l <;> rfl
    rw [split, indexLF_line l nl rest hl hnl, hne, Bool.and_false]
    show (l.length + 1, some ((l ++ nl :: rest).take (l.length + 1))) = _
    rw [h, ← hlen, List.take_left]
  · rw [h, ← hlen, List.drop_left]

theorem split_noLF_false (bs : Bytes) (h : ∀ x ∈ bs, notLF x = true) : split bs false = (0, none) := by
  rw [split, indexLF_noLF bs h]
  rfl

theorem split_noLF_true (bs : Bytes) (hne : bs ≠ []) (h : ∀ x ∈ bs, notLF x = true) :
    split bs true = (bs.length, some bs) := by
  rw [split, indexLF_noLF bs h]
  cases bs with
  | nil => exact absurd rfl hne
  | cons _ _ => rfl

theorem drainF_true (fuel : Nat) : ∀ (buf : Bytes), buf.length < fuel →
    (drainF split true fuel buf).1 = lines buf := by
  induction fuel with
  | zero => intro buf h; omega
  | succ fuel ih =>
    intro buf hlen
    by_cases hb : buf = []
    · subst hb; simp [drainF, split, lines]
    · rcases lf_cases buf with h | ⟨l, nl, rest, rfl, hl, hnl⟩
      · have hs := split_noLF_true buf hb h
        have hpos : 0 < buf.length := List.length_pos_iff.mpr hb
        -- the unterminated rest went out as the last token: the buffer is empty, EOF is seen, nothing more comes
        have hf : (drainF split true fuel []).1 = [] := by
          cases fuel with
          | zero => rfl
          | succ n => simp [drainF, split]
        simp [drainF, hs, hpos, hf, lines_unterminated buf hb h]
      · obtain ⟨hs, hd⟩ := split_line l nl rest true hl hnl
        rw [List.length_append, List.length_cons] at hlen
        simp only [drainF, hs, hd, ih rest (by omega), lines_terminated l nl rest hl hnl]
        simp

/-- `more` stands for the bytes still to arrive: they complete the LF-free rest left in the buffer. -/
theorem drainF_false (fuel : Nat) : ∀ (buf more : Bytes), buf.length < fuel →
    (drainF split false fuel buf).1 ++ lines ((drainF split false fuel buf).2 ++ more) = lines (buf ++ more) := by
  induction fuel with
  | zero => intro buf more h; omega
  | succ fuel ih =>
    intro buf more hlen
    by_cases hb : buf = []
    · subst hb; simp [drainF]
    · have hne : buf.isEmpty = false := by cases buf <;> simp_all
      rcases lf_cases buf with h | ⟨l, nl, rest, rfl, hl, hnl⟩
      · simp [drainF, split_noLF_false buf h, hne]
      · obtain ⟨hs, hd⟩ := split_line l nl rest false hl hnl
        rw [List.length_append, List.length_cons] at hlen
        have hlines : lines (l ++ nl :: rest ++ more) = (l ++ [nl]) :: lines (rest ++ more) := by
          rw [List.append_assoc, List.cons_append]; exact lines_terminated l nl _ hl hnl
        simp only [drainF, hs, hd, hne, hlines]
        simp [ih rest more (by omega)]

theorem drain_true (buf : Bytes) : (drain split true buf).1 = lines buf :=
  drainF_true _ buf (by omega)

theorem drain_false (buf more : Bytes) :
    (drain split false buf).1 ++ lines ((drain split false buf).2 ++ more) = lines (buf ++ more) :=
  drainF_false _ buf more (by omega)

theorem scanFrom_split (e : Bool) : ∀ (chunks : List Bytes) (buf : Bytes),
    scanFrom split e chunks buf = lines (buf ++ chunks.flatten) := by
  intro chunks
  induction chunks with
  | nil => intro buf; simp [scanFrom, drain_true]
  | cons c cs ih =>
    intro buf
    by_cases h : (cs.isEmpty && e) = true
    · have hcs : cs = [] := by
        cases cs <;> simp_all
      subst hcs
      have he : e = true := by simpa using h
      subst he
      simp [scanFrom, drain_true]
    · simp only [scanFrom, h]
      rw [ih]
      have := drain_false (buf ++ c) cs.flatten
      simpa using this

theorem lines_takeLine (bs : Bytes) (hne : bs ≠ []) :
    lines bs = (takeLine bs).1 :: lines (takeLine bs).2 := by
  rcases lf_cases bs with h | ⟨l, nl, rest, rfl, hl, hnl⟩
  · rw [takeLine_unterminated bs h, lines_unterminated bs hne h]; rfl
  · rw [takeLine_terminated l rest nl hl hnl, lines_terminated l nl rest hl hnl]

theorem scan_eq_stepAll (st : ScanState) (bs : Bytes) : scan st bs = stepAll st (lines bs) := by
  fun_induction scan st bs with
  | case1 st => rfl
  | case2 st b bs' e he => rw [lines_takeLine (b :: bs') (List.cons_ne_nil _ _), stepAll, he]
  | case3 st b bs' st' hst ih => rw [lines_takeLine (b :: bs') (List.cons_ne_nil _ _), stepAll, hst]; exact ih

end Hts.Lemmas.FaiScanner
