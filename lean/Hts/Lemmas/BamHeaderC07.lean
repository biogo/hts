/-
What discharging the header hypothesis of C05's file theorems from C07's model needs (Props.C05.headerFramed_api_header):
the header decoder built from C07's `decodeBinaryR`, and the byte bridge (`hdrDecoder_framed`): C07 models bytes as
naturals (`List Nat`), C05 as `BitVec 8`; `toNats`/`ofNats` convert; the only extra condition is that every element of
the marshalled header IS a byte (`< 256`), which C07's model (strings as lists of unbounded naturals) cannot derive by
itself.
-/
import Hts.Lemmas.BamStream
import Hts.Lemmas.HeaderBin
namespace Hts.Model.Bam
open Hts.Model.Header (World View Ext ApiBuilt UriCanon WInv view marshalBinary marshalText decodeBinaryR pushHeader)

def toNats (bs : List Byte) : List Nat := bs.map BitVec.toNat
def ofNats (ns : List Nat) : List Byte := ns.map (BitVec.ofNat 8)

theorem ofNats_toNats (bs : List Byte) : ofNats (toNats bs) = bs :=
  Hts.Lemmas.map_map_id fun b _ => by simp

theorem toNats_ofNats (ns : List Nat) (h : ∀ n ∈ ns, n < 256) : toNats (ofNats ns) = ns :=
  Hts.Lemmas.map_map_id fun n hn => by simp [Nat.mod_eq_of_lt (h n hn)]

theorem toNats_append (a b : List Byte) : toNats (a ++ b) = toNats a ++ toNats b := by
  simp [toNats]

def hdrOut (n : Nat) : World × Hts.Model.Header.Res × List Nat → Option (View × List Byte)
  | (w', .ok, rest) => some (view w' n, ofNats rest)
  | _ => none

/-- `bam.NewReader`'s header step on C05's bytes, through C07's `decodeBinaryR` (a fresh header pushed onto world `w`):
the values the decoded header exposes, and the unread bytes -/
def hdrDecoder (E : Ext) (w : World) (bs : List Byte) : Option (View × List Byte) :=
  hdrOut w.hdrs.length (decodeBinaryR E (pushHeader w {}) w.hdrs.length (toNats bs))

/-- The hypothesis has the shape of C07's `decodeBinaryR_frame`, `WInv w'` included, which is not needed here. -/
theorem hdrDecoder_framed {E : Ext} {w : World} {ns : List Nat} {v : View} (hbytes : ∀ b ∈ ns, b < 256)
    (hf : ∀ rest, ∃ w', decodeBinaryR E (pushHeader w {}) w.hdrs.length (ns ++ rest) = (w', .ok, rest) ∧ WInv w' ∧
      view w' w.hdrs.length = v) :
    HeaderFramed (hdrDecoder E w) (ofNats ns) v := by
  intro rest
  obtain ⟨w', hd, -, hv⟩ := hf (toNats rest)
  rw [hdrDecoder, toNats_append, toNats_ofNats _ hbytes, hd, hdrOut, hv, ofNats_toNats]

/-- the number of references `Ref`/`MateRef` ids index into -/
def viewRefs (v : View) : Nat := v.refs.length

theorem WF.mono {n m : Nat} {r : Record} (h : WF n r) (hnm : n ≤ m) (hm : m < 2147483648) : WF m r :=
  { h with nrefs_ok := hm
           ref_ok := fun i hi => Nat.lt_of_lt_of_le (h.ref_ok i hi) hnm
           mate_ok := fun i hi => Nat.lt_of_lt_of_le (h.mate_ok i hi) hnm }

end Hts.Model.Bam
