/-
Writer LTS: every step of the repaired protocol preserves `Inv`; every reachable state satisfies it; what
`Inv.order` says while the emitter holds a block (`hold_next`), when nothing is pending (`pend_zero_out`) and when `Close`
is about to return (`at_cRet`).  `Run` ⇒ `Reachable` and back: `run_reachable`, `reachable_run`.
Every compressor has at most one holder (the API goroutine's active compressor, the `waiting` channel, the
`queue` channel, or the emitter) in every reachable state of either protocol variant — so the block buffer and
the gzip buffer of a compressor are never touched by two goroutines.
-/
import Hts.Lemmas.WriterLTS
namespace Hts.Model.WriterLTS

variable {cfg : Cfg} {s t : State} {e : Option Ev}

theorem entry_holds (op : Op) (c : Bool) : apiHolds (entry op c) = 1 := by
  cases op <;> cases c <;> rfl
theorem entry_holding (op : Op) (c : Bool) : apiHolding (entry op c) = false := by
  cases op <;> cases c <;> rfl
theorem entry_pcOp (op : Op) (c : Bool) : pcOp (entry op c) op := by
  cases op <;> cases c <;> simp [entry, pcOp]
theorem entry_at {op : Op} {rest : List Op} (h : Outside s) :
    At { s with script := rest, cur := op, api := entry op s.closed } (entry op s.closed) := by
  cases op <;> cases hc : s.closed <;> simp_all [entry, At, Outside]

@[simp] theorem emHolds_unhold (em : EmPc) : emHolds (unholdEm em) = emHolds em := by cases em <;> rfl
@[simp] theorem emPend_unhold (em : EmPc) : emPend (unholdEm em) = emPend em := by cases em <;> rfl
@[simp] theorem emFailed_unhold (em : EmPc) : emFailed (unholdEm em) = emFailed em := by cases em <;> rfl
@[simp] theorem unholdEm_eq_done (em : EmPc) : unholdEm em = .done ↔ em = .done := by cases em <;> simp [unholdEm]
@[simp] theorem unholdEm_eq_latch (em : EmPc) (it : Item) : unholdEm em = .latch it ↔ em = .latch it := by
  cases em <;> simp [unholdEm]
@[simp] theorem unholdEm_eq_pushx (em : EmPc) (it : Item) : unholdEm em = .pushx it ↔ em = .pushx it := by
  cases em <;> simp [unholdEm]

theorem map_blk_unhold (l : List Item) : (l.map unhold).map (·.blk) = l.map (·.blk) := by
  simp [List.map_map, Function.comp_def, unhold_blk]

theorem order_append {l : List Item} {it : Item} {o sub : Nat}
    (h : l.map (·.blk) = List.range' o l.length ∧ o + l.length = sub) (hb : it.blk = sub) :
    (l ++ [it]).map (·.blk) = List.range' o (l ++ [it]).length ∧ o + (l ++ [it]).length = sub + 1 := by
  obtain ⟨h1, h2⟩ := h
  refine ⟨?_, by simp; omega⟩
  rw [List.map_append, h1, List.length_append, List.length_singleton, List.range'_1_concat]
  simp [hb, h2]

/-- The API rules that change more than the pc: `call` (script, `cur`); `wSub`, `fSwap`, `cEnq` (the active
compressor's block is appended to `queue`, `qwg.Add`); `wTake`, `fSwap`, `cTake` (a compressor leaves `waiting`);
`cComp` (the held block is released, `closed` is set); `cEofFail`, `cEof` (the marker write).  For every other rule
each field that does not read the pc is the hypothesis. -/
theorem api_inv (hi : Inv cfg s) (h : ApiStep cfg s e t) : Inv cfg t where
  pref := by cases h <;> exact hi.pref
  le := by
    have := hi.le
    cases h <;> simp only <;> omega
  order := by
    have h1 := hi.order
    simp only [unwritten, wedged] at h1 ⊢
    cases h
    case wSub | fSwap | cEnq =>
      intro hw
      rw [← List.append_assoc]
      exact order_append (h1 hw) rfl
    case cComp =>
      intro hw
      rw [unwritten_unhold, map_blk_unhold, List.length_map]
      exact h1 (emFailed_unhold _ ▸ hw)
    case cEofFail => intro hw; simp at hw
    all_goals exact h1
  pend := by
    have := hi.pend
    cases h <;> simp only [List.length_append, List.length_cons, List.length_nil, List.length_map, emPend_unhold] <;> omega
  cons := by
    have h1 := hi.cons
    cases h
    case call ha _ => rw [ha] at h1; rw [entry_holds]; exact h1
    all_goals simp [*, apiHolds] at h1 ⊢
    all_goals omega
  held := by
    have h1 := hi.held
    simp only [unwritten] at h1 ⊢
    cases h
    case call ha _ => rw [ha] at h1; rw [entry_holding]; exact h1
    case wSub | fSwap | cEnq =>
      rw [← List.append_assoc]
      simp_all only [apiHolding]
      exact heldOK_append h1 rfl
    case cComp =>
      rw [unwritten_unhold]
      exact heldOK_map_unhold _
    all_goals simp_all [apiHolding]
  atPc := by
    have h1 := hi.atPc
    have h2 := hi.eofClosed
    cases h
    case call ha _ => rw [ha] at h1; exact entry_at h1
    all_goals simp_all [At, Outside]
  emDone := by
    have h1 := hi.emDone
    have h3 := hi.atPc
    cases h
    case wSub | fSwap | cEnq | cComp => intro hd; simp_all [At]
    all_goals exact h1
  rep := by
    have h1 := hi.rep
    cases h
    case cComp => intro it; simpa using h1 it
    all_goals exact h1
  cur := by
    have h1 := hi.cur
    cases h
    case call => exact entry_pcOp _ _
    all_goals first | trivial | simp_all [pcOp]
  eofClosed := by
    have h1 := hi.eofClosed
    have h4 := hi.atPc
    cases h
    case cComp | cEof => simp_all [At]
    all_goals exact h1

structure EmFrame (s t : State) : Prop where
  api : t.api = s.api
  script : t.script = s.script
  cur : t.cur = s.cur
  active : t.active = s.active
  closed : t.closed = s.closed
  submitted : t.submitted = s.submitted
  eof : t.eof = s.eof

theorem em_frame (h : EmStep cfg s e t) : EmFrame s t := by
  cases h <;> constructor <;> rfl

theorem At.of_running {pc : ApiPc} (h : At s pc) (hd : s.em ≠ .done) (hc : t.closed = s.closed)
    (ha : t.active = s.active) (he : t.eof = s.eof) : At t pc := by
  cases pc <;> simp_all [At, Outside]

theorem hold_next (hi : Inv cfg s) {it : Item} (hem : s.em = .hold it) (he : s.err = false) :
    it.blk = s.out.length ∧ s.queue.map (·.blk) = List.range' (s.out.length + 1) s.queue.length ∧
    s.out.length + (s.queue.length + 1) = s.submitted := by
  have := hi.order (by simp [wedged, he, hem, emFailed])
  simpa [unwritten, hem, emUnwritten, List.range'_succ, and_assoc] using this

theorem emPend_zero {em : EmPc} (h : emPend em = 0) (hl : ∀ it, em ≠ .latch it) :
    emUnwritten em = [] ∧ emFailed em = false := by
  cases em <;> simp_all [emPend, emUnwritten, emFailed]

theorem pend_zero_out (hi : Inv cfg s) (hp : s.pending = 0) (he : s.err = false) : s.out.length = s.submitted := by
  have hpend := hi.pend
  have hq : s.queue = [] := List.eq_nil_of_length_eq_zero (by omega)
  obtain ⟨hu, hf⟩ := emPend_zero (em := s.em) (by omega) fun it => (hi.rep it).1
  have := (hi.order (by simp [wedged, he, hf])).2
  simpa [unwritten, hu, hq] using this

theorem at_cRet (hi : Inv cfg s) (ha : s.api = .cRet) :
    s.closed = true ∧ s.em = .done ∧ (s.err = false → s.out.length = s.submitted ∧ s.eof = true) := by
  have hat := hi.atPc
  rw [ha] at hat
  obtain ⟨hc, -, hd, hf⟩ := hat
  refine ⟨hc, hd, fun he => ⟨?_, by rw [hf, he]; rfl⟩⟩
  have := (hi.order (by simp [wedged, he, hd, emFailed])).2
  simpa [unwritten, hd, emUnwritten, (hi.emDone hd).2] using this

theorem em_inv (hr : cfg.repaired = true) (hi : Inv cfg s) (h : EmStep cfg s e t) : Inv cfg t where
  pref := by
    cases h
    case write hem _ _ hne _ =>
      simp only [List.length_append, List.length_singleton, List.range_succ, (hold_next hi hem (hne hr)).1]
      rw [← hi.pref]
    all_goals exact hi.pref
  le := by
    cases h
    case write hem _ _ hne _ =>
      have := (hold_next hi hem (hne hr)).2.2
      simp only [List.length_append, List.length_singleton]; omega
    all_goals exact hi.le
  order := by
    have h3 := hi.order
    cases h
    case write hem _ _ hne _ =>
      obtain ⟨-, h1, h2⟩ := hold_next hi hem (hne hr)
      intro _
      simp only [unwritten, emUnwritten, List.nil_append, List.length_append, List.length_singleton]
      exact ⟨h1, by omega⟩
    all_goals simp_all [unwritten, wedged, emUnwritten, emFailed]
  pend := by
    have := hi.pend
    cases h
    all_goals simp_all [emPend]
    all_goals omega
  cons := by
    have := hi.cons
    rw [(em_frame h).api]
    cases h
    all_goals simp only [emHolds, List.length_append, List.length_cons, List.length_nil, *] at this ⊢
    all_goals omega
  held := by
    have h1 := hi.held
    rw [(em_frame h).api]
    cases h
    case recv hem hq => simpa [unwritten, emUnwritten, hem, hq] using h1
    all_goals simp only [unwritten, emUnwritten, List.nil_append, List.singleton_append, *] at h1 ⊢
    case cfail | cfailOld | skip | wfail | write => exact heldOK_tail h1 (by simp [isHeld, *])
    all_goals exact h1
  atPc := by
    have f := em_frame h
    rw [f.api]
    exact hi.atPc.of_running (by cases h <;> simp [*]) f.closed f.active f.eof
  emDone := by
    have := hi.rep
    cases h
    all_goals simp_all
  rep := by
    have h1 := hi.rep
    cases h
    all_goals simp_all
  cur := by
    rw [(em_frame h).api, (em_frame h).cur]
    exact hi.cur
  eofClosed := by
    rw [(em_frame h).eof, (em_frame h).closed]
    exact hi.eofClosed

theorem finQ_inv (hi : Inv cfg s) {i : Nat} {q : List Item} (h : finishAt i s.queue = some q) :
    Inv cfg { s with queue := q } := by
  obtain ⟨a, it, b, hq, -, hc, rfl⟩ := finishAt_spec h
  have hu : (unwritten { s with queue := a ++ { it with st := .flushed } :: b }).map (·.blk) =
      (unwritten s).map (·.blk) := by simp [unwritten, hq]
  have hul := congrArg List.length hu
  simp only [List.length_map] at hul
  exact { hi with
    order := fun hw => by rw [hu, hul]; exact hi.order hw
    pend := by simpa [hq] using hi.pend
    cons := by simpa [hq] using hi.cons
    held := by
      have := hi.held
      simp only [heldOK, unwritten, hq, List.map_append, List.map_cons, isHeld, hc] at this ⊢
      exact this
    atPc := hi.atPc
    emDone := fun hd => by simp [(hi.emDone hd).2] at hq }

theorem finE_inv (hi : Inv cfg s) {it : Item} (hem : s.em = .hold it) (hc : it.st = .compressing) :
    Inv cfg { s with em := .hold { it with st := .flushed } } :=
  { hi with
    order := fun hw => by
      have := hi.order (by simpa [wedged, hem, emFailed] using hw)
      simpa [unwritten, hem, emUnwritten] using this
    pend := by simpa [hem, emPend] using hi.pend
    cons := by simpa [hem, emHolds] using hi.cons
    held := by
      have := hi.held
      simp only [heldOK, unwritten, hem, emUnwritten, List.map_append, List.map_cons, isHeld, hc] at this ⊢
      exact this
    atPc := hi.atPc.of_running (by simp [hem]) rfl rfl rfl
    emDone := nofun
    rep := fun x => by simp }

theorem inv_init (cfg : Cfg) : Inv cfg (init cfg) := by
  have hn := cfg.n_ge_two
  refine ⟨rfl, Nat.le_refl _, ?_, rfl, ?_, ⟨0, rfl⟩, ?_, ?_, ?_, trivial, ?_⟩
  · intro _; exact ⟨rfl, rfl⟩
  · simp [init, emHolds, apiHolds]; omega
  all_goals simp [init, At, Outside]

theorem inv_trans (hr : cfg.repaired = true) (hi : Inv cfg s) (h : Trans cfg s e t) : Inv cfg t := by
  cases h with
  | api h => exact api_inv hi h
  | em h => exact em_inv hr hi h
  | finQ hq => exact finQ_inv hi hq
  | finE hem hc => exact finE_inv hi hem hc

theorem reachable_inv (hr : cfg.repaired = true) (h : Reachable cfg s) : Inv cfg s :=
  h.induct (inv_init cfg) fun _ hi ht => inv_trans hr hi ht

theorem run_reachable {tr : List Ev} (h : Run cfg tr s) : Reachable cfg s := by
  induction h with
  | init => exact .init
  | step _ hn ih => exact .step ih ⟨_, _, hn⟩

theorem reachable_run (h : Reachable cfg s) : ∃ tr, Run cfg tr s := by
  induction h with
  | init => exact ⟨[], .init⟩
  | step _ hst ih =>
    obtain ⟨tr, hr⟩ := ih
    obtain ⟨l, e, hn⟩ := hst
    exact ⟨_, .step hr hn⟩

def emCid : EmPc → List Nat
  | .hold it => [it.cid]
  | .failed it => [it.cid]
  | .latch it => [it.cid]
  | .rel it => [it.cid]
  | .push it => [it.cid]
  | .pushx it => [it.cid]
  | _ => []

def holders (c : Nat) (s : State) : Nat :=
  s.active.toList.count c + s.waiting.count c + (s.queue.map (·.cid)).count c + (emCid s.em).count c

theorem unhold_cid (it : Item) : (unhold it).cid = it.cid := by
  unfold unhold; split <;> rfl

theorem emCid_unhold (em : EmPc) : emCid (unholdEm em) = emCid em := by
  cases em <;> simp [unholdEm, emCid, unhold_cid]

theorem map_cid_unhold (q : List Item) : (q.map unhold).map (·.cid) = q.map (·.cid) := by
  simp [List.map_map, Function.comp_def, unhold_cid]

theorem trans_holders (c : Nat) (h : Trans cfg s e t) : holders c t ≤ holders c s := by
  cases h with
  | api h =>
    cases h
    case wSub | wTake | fSwap | cEnq | cTake | cComp =>
      simp only [holders, *, Option.toList_some, Option.toList_none, List.map_append, List.map_cons,
        List.map_nil, List.count_append, List.count_cons, List.count_nil, emCid_unhold, map_cid_unhold]
      omega
    all_goals exact Nat.le_refl _
  | em h =>
    cases h
    all_goals simp only [holders, *, emCid, List.map_cons, List.count_append, List.count_cons, List.count_nil]
    all_goals omega
  | finQ hq =>
    obtain ⟨a, it, b, hq', -, -, rfl⟩ := finishAt_spec hq
    simp [holders, hq']
  | finE hem => simp only [holders, hem, emCid]; exact Nat.le_refl _

theorem init_holders (cfg : Cfg) (c : Nat) : holders c (init cfg) ≤ 1 := by
  have hnd : (0 :: List.range' 1 (cfg.n - 1)).Nodup :=
    List.nodup_cons.2 ⟨by simp [List.mem_range'_1], List.nodup_range' ..⟩
  have h1 : (0 :: List.range' 1 (cfg.n - 1)).count c ≤ 1 := by rw [hnd.count]; split <;> omega
  simp only [holders, init, Option.toList_some, List.map_nil, List.count_nil, emCid, List.count_cons] at h1 ⊢
  omega

end Hts.Model.WriterLTS
