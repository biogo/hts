/-
C19: invariants of `NewIndex` / `ReadFrom` on ARBITRARY input (not only well-formed files),
and what `Seq`/`SeqRange` guarantee — together they establish the guard under which `Seq.Read` calls
`endOfLineOffset` (`BasesPerLine > 0`, cursor below `Length`), so the integer division by zero is unreachable for
every index this package builds.

C11 on the same model (`Hts.Model.Fai`, tied to the code by C19's correspondence check): once
`fai.ReadFrom` has accepted a record (`Record.isValid`, the repair fixes/C11-19), neither `Seq.Read`
nor `Position` can reach the division by zero (`RdErr.panicDiv`) or the negative-slice / spinning layout
(`RdErr.badLayout`) that hostile `.fai` text would cause without that check.
-/
import Hts.Lemmas.FaiRead
import Hts.Lemmas.FaiStep
namespace Hts.Lemmas.Fai
open Hts.Model.Fai

def Sane (r : Record) : Prop := r.basesPerLine = 0 → r.length = 0

def SaneState (st : ScanState) : Prop := Sane st.pending ∧ ∀ R ∈ st.idx, Sane R

theorem mem_set (idx : Index) (r x : Record) (h : x ∈ idx.set r) : x = r ∨ x ∈ idx := by
  induction idx with
  | nil => exact .inl (List.mem_singleton.mp h)
  | cons y ys ih =>
    rw [Index.set] at h
    split at h
    · exact (List.mem_cons.mp h).imp_right (List.mem_cons_of_mem _)
    · rcases List.mem_cons.mp h with h | h
      · exact .inr (h ▸ List.mem_cons_self)
      · exact (ih h).imp_right (List.mem_cons_of_mem _)

theorem flush_sane (st : ScanState) (h : SaneState st) :
    Sane (flush st).2 ∧ ∀ R ∈ (flush st).1, Sane R := by
  unfold flush
  split
  · refine ⟨by intro _; rfl, ?_⟩
    intro R hR
    rcases mem_set _ _ _ hR with rfl | hR
    · exact h.1
    · exact h.2 R hR
  · exact h

theorem step_sane (st st' : ScanState) (line : Bytes) (h : SaneState st) (hs : step st line = .ok st') :
    SaneState st' := by
  by_cases h1 : trimSpace line = []
  · rw [step_case_blank st h1] at hs
    cases hs; exact h
  · by_cases h2 : (trimSpace line).head? = some GT
    · by_cases h3 : trimSpace line = [GT]
      · rw [step_case_nameless st h3] at hs; cases hs
      · rw [step_case_header st h3 h2] at hs
        cases (ite_err_ok hs).2
        exact flush_sane st h
    · -- sequence line: the trimmed line is not empty, so BasesPerLine becomes positive
      rw [step_case_seq st h1 h2] at hs
      cases (ite_err_ok (ite_err_ok (ite_err_ok hs).2).2).2
      refine ⟨fun hb => ?_, h.2⟩
      have hlen : (trimSpace line).length ≠ 0 := fun h0 => h1 (List.eq_nil_of_length_eq_zero h0)
      simp only at hb
      split at hb <;> contradiction

theorem scan_sane (bs : Bytes) (st st' : ScanState) : SaneState st → scan st bs = .ok st' → SaneState st' := by
  fun_induction scan st bs with
  | case1 st => intro h hs; cases hs; exact h
  | case2 st b bs' e he => intro _ hs; cases hs
  | case3 st b bs' st1 hst1 ih => intro h hs; exact ih (step_sane _ _ _ h hst1) hs

theorem parseRecord_valid (seen : List RawRecord) (fs : List Bytes) (r : RawRecord)
    (h : parseRecord seen fs = .ok r) : r.isValid = true := by
  unfold parseRecord at h
  split at h
  · split at h
    · cases h
    · split at h
      · split at h
        · cases h; assumption
        · cases h
      · cases h
  · cases h

theorem readLines_valid (ls : List Bytes) :
    ∀ (seen out : List RawRecord), (∀ r ∈ seen, r.isValid = true) → readLines seen ls = .ok out →
      ∀ r ∈ out, r.isValid = true := by
  induction ls with
  | nil =>
    intro seen out hseen h r hr
    cases h
    exact hseen r (List.mem_reverse.mp hr)
  | cons l ls ih =>
    intro seen out hseen h
    simp only [readLines] at h
    split at h
    · cases h
    · split at h
      · cases h
      · rename_i r hr
        exact ih (r :: seen) out (List.forall_mem_cons.mpr ⟨parseRecord_valid _ _ _ hr, hseen⟩) h

theorem valid_sane (r : RawRecord) (h : r.isValid = true) :
    0 ≤ r.length ∧ 0 ≤ r.start ∧ 0 ≤ r.basesPerLine ∧ r.basesPerLine ≤ r.bytesPerLine ∧
      (r.basesPerLine = 0 → r.length = 0) := by
  unfold RawRecord.isValid at h
  split at h
  · cases h
  · rename_i hn
    refine ⟨by omega, by omega, by omega, by omega, ?_⟩
    intro hb
    simp only [hb, if_true, decide_eq_true_eq] at h
    exact h

/-- No hypothesis on the cursor: any number of earlier calls and any `Reset` are covered. -/
theorem read_no_div (file : Bytes) (sq : Seq) (hs : Sane sq.rcd) (hstop : sq.stop ≤ sq.rcd.length) (k : Nat) :
    (sq.read file k).err ≠ .panicDiv := by
  unfold Seq.read
  split
  · nofun
  · split
    · nofun
    · rename_i hc
      -- the segment is not empty, so the record has bases, hence bases per line
      rw [if_neg (fun hb => by have := hs hb; omega)]
      exact readLoopG_err_ne_panicDiv _ _ _ _ _ _ _ _

end Hts.Lemmas.Fai

-- the model's namespace from here on: the statements of Props/C11 name `recordOf` and `Record.Sane` there
namespace Hts.Model.Fai
open Hts.Lemmas.Fai (readLines_valid valid_sane position_lt endOfLineOffset_pos readLoopG_err_ne_badLayout read_no_div
  seqRange_bounds seqWhole_bounds lookup_mem)

/-- the `fai.Record` of an accepted line (all four numbers are non-negative then) -/
def recordOf (r : RawRecord) : Record :=
  ⟨r.name, r.length.toNat, r.start.toNat, r.basesPerLine.toNat, r.bytesPerLine.toNat⟩

/-- what `Seq.Read` needs of a record (`seqRead_ok`): `Sane`, which is all that `NewIndex` gives on arbitrary input
(`scan_sane`), and the order of the two widths -/
structure Record.Sane (R : Record) : Prop where
  le : R.basesPerLine ≤ R.bytesPerLine
  pos : Hts.Lemmas.Fai.Sane R

theorem sane_of_isValid (r : RawRecord) (h : r.isValid = true) : (recordOf r).Sane := by
  obtain ⟨_, _, h3, h4, h5⟩ := valid_sane r h
  refine ⟨Int.toNat_le_toNat h4, fun hb => ?_⟩
  have hb' : r.basesPerLine.toNat = 0 := hb
  show r.length.toNat = 0
  rw [h5 (by omega)]
  rfl

theorem readFrom_valid (text : Bytes) (rs : List RawRecord) (h : readFrom text = .ok rs) :
    ∀ r ∈ rs, r.isValid = true :=
  readLines_valid _ [] rs (List.forall_mem_nil _) h

theorem seqRead_ok (file : Bytes) (s : Seq) (hs : s.rcd.Sane) (hstop : s.stop ≤ s.rcd.length) (k : Nat) :
    (s.read file k).err ≠ .badLayout ∧ (s.read file k).err ≠ .panicDiv := by
  refine ⟨?_, read_no_div file s hs.pos hstop k⟩
  unfold Seq.read
  split
  · nofun
  · split
    · nofun
    · have hb : 0 < s.rcd.basesPerLine := Nat.pos_of_ne_zero fun h0 => by have := hs.pos h0; omega
      rw [if_neg (Nat.ne_of_gt hb)]
      exact readLoopG_err_ne_badLayout _ _ _ _ _ _ _ _
        (fun c hc => ⟨position_lt _ hb hs.le c _ hc, endOfLineOffset_pos _ hb c (by omega)⟩) (by omega)

theorem seq_handle (idx : Index) (name : Bytes) (s : Seq) (a b : Int)
    (h : seqWhole idx name = .ok s ∨ seqRange idx name a b = .ok s) : s.rcd ∈ idx ∧ s.stop ≤ s.rcd.length := by
  have hb := h.elim (fun h => (seqWhole_bounds idx name s h).2) fun h => (seqRange_bounds idx name a b s h).2
  exact ⟨lookup_mem idx name s.rcd hb.2, hb.1⟩

end Hts.Model.Fai
