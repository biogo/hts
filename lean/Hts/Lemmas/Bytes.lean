/-
The bit operations of the translated Go code on single bytes (an `ult` test against a literal, a mask, a prefix OR-ed
on) as arithmetic on `toNat`, and a run of stores into a slice as one list.  `byte_forall` hands a statement about all
bytes to the kernel as 256 cases (`by decide +kernel`).  Then what the lemma files of several formats share: the
base-256 digits of a number (`digits2`, `digits4`), two's complement (`signed_wrap`), the length of a `flatMap` of
equally long pieces, and `ite_err_ok` for a guard in front of an `Except` value.
-/
namespace Hts.Lemmas

theorem byte_forall (p : BitVec 8 → Prop) (h : ∀ n : Fin 256, p (BitVec.ofFin n)) : ∀ x, p x :=
  fun x => by simpa using h x.toFin

/-- As a `simp` lemma (with `Nat.reducePow`, `Nat.reduceLT` for the side condition) this turns the
`ult` tests of the Go code into `<` on `toNat`. -/
theorem ult_lit {w : Nat} (v : BitVec w) (k : Nat) (hk : k < 2 ^ w) :
    v.ult (BitVec.ofNat w k) = true ↔ v.toNat < k := by
  rw [BitVec.ult_iff_lt, BitVec.lt_def, BitVec.toNat_ofNat, Nat.mod_eq_of_lt hk]

theorem low_mask (x : BitVec 8) (p : Nat) (hp : p ≤ 8) :
    (x &&& BitVec.ofNat 8 (2 ^ p - 1)).toNat = x.toNat % 2 ^ p := by
  have : 2 ^ p ≤ 2 ^ 8 := Nat.pow_le_pow_right (by decide) hp
  rw [BitVec.toNat_and, BitVec.toNat_ofNat, Nat.mod_eq_of_lt (by omega), Nat.and_two_pow_sub_one_eq_mod]

theorem or_shl (a b k : Nat) (h : a < 2 ^ k) : a ||| b <<< k = a + b * 2 ^ k := by
  rw [Nat.or_comm, ← Nat.shiftLeft_add_eq_or_of_lt h, Nat.shiftLeft_eq]; omega

/-- `p` payload bits under the prefix `q * 2 ^ p` of a first byte: the OR is a sum -/
theorem mask_or (x : BitVec 8) (p q : Nat) (hp : p ≤ 8 := by decide) (hq : q * 2 ^ p < 256 := by decide) :
    (x &&& BitVec.ofNat 8 (2 ^ p - 1) ||| BitVec.ofNat 8 (q * 2 ^ p)).toNat = q * 2 ^ p + x.toNat % 2 ^ p := by
  rw [BitVec.toNat_or, low_mask x p hp, BitVec.toNat_ofNat, Nat.mod_eq_of_lt hq, ← Nat.shiftLeft_eq,
    or_shl _ _ p (Nat.mod_lt _ (Nat.pow_pos (by decide))), Nat.shiftLeft_eq, Nat.add_comm]

-- the instances at the literals of the models, given by name to `simp only`
theorem mask_or_3f (x : BitVec 8) : (x &&& 0x3f#8 ||| 0x80#8).toNat = 0x80 + x.toNat % 64 := mask_or x 6 2
theorem mask_or_1f (x : BitVec 8) : (x &&& 0x1f#8 ||| 0xc0#8).toNat = 0xc0 + x.toNat % 32 := mask_or x 5 6
theorem mask_or_0f (x : BitVec 8) : (x &&& 0x0f#8 ||| 0xe0#8).toNat = 0xe0 + x.toNat % 16 := mask_or x 4 14
theorem mask_or_07 (x : BitVec 8) : (x &&& 0x07#8 ||| 0xf0#8).toNat = 0xf0 + x.toNat % 8 := mask_or x 3 30
theorem mask_or_03 (x : BitVec 8) : (x &&& 0x03#8 ||| 0xf8#8).toNat = 0xf8 + x.toNat % 4 := mask_or x 2 62
theorem mask_or_01 (x : BitVec 8) : (x &&& 0x01#8 ||| 0xfc#8).toNat = 0xfc + x.toNat % 2 := mask_or x 1 126
theorem or_f0 (x : BitVec 8) (h : x.toNat < 16) : (x ||| 0xf0#8).toNat = 0xf0 + x.toNat :=
  (or_shl x.toNat 15 4 h).trans (Nat.add_comm _ _)

theorem getD_of_lt {α : Type} {l : List α} {i : Nat} (h : i < l.length) {d : α} : l.getD i d = l[i] := by
  rw [List.getD_eq_getElem?_getD, List.getElem?_eq_getElem h, Option.getD_some]

theorem digits2 (n : Nat) : n % 256 + 256 * (n / 256 % 256) = n % 65536 :=
  (Nat.mod_mul (a := 256) (b := 256)).symm

theorem digits4 (n : Nat) :
    n % 256 + 256 * (n / 256 % 256) + 65536 * (n / 65536 % 256) + 16777216 * (n / 16777216 % 256) = n % 4294967296 := by
  have h : n % (256 * (256 * (256 * 256))) = n % 4294967296 := rfl
  rw [← h, Nat.mod_mul, Nat.mod_mul, Nat.mod_mul]
  simp only [Nat.div_div_eq_div_mul, Nat.mul_add, ← Nat.mul_assoc, Nat.add_assoc]

/-- Two's complement in `2 * M` values.  With a numeral for `M` the two parts are, up to evaluating `2 * M`, what the
models' `toI32`, `signed32`, `signed64` say, so each instance is stated where it is used and proved by this term. -/
theorem signed_wrap {M : Nat} {x : Int} (lo : -(M : Int) ≤ x) (hi : x < M) :
    let u := (x % ((2 * M : Nat) : Int)).toNat
    u < 2 * M ∧ (if u < M then (u : Int) else (u : Int) - ((2 * M : Nat) : Int)) = x := by
  obtain ⟨u, hu⟩ : ∃ u : Nat, x % ((2 * M : Nat) : Int) = u :=
    ⟨_, (Int.toNat_of_nonneg (Int.emod_nonneg _ (by omega))).symm⟩
  rw [hu, Int.toNat_natCast]
  by_cases h0 : 0 ≤ x
  · rw [Int.emod_eq_of_lt h0 (by omega)] at hu
    exact ⟨by omega, by rw [if_pos (by omega)]; exact hu.symm⟩
  · rw [← Int.add_emod_right, Int.emod_eq_of_lt (by omega) (by omega)] at hu
    exact ⟨by omega, by rw [if_neg (by omega)]; omega⟩

theorem flatMap_length_const {α β : Type} (f : α → List β) (w : Nat) (l : List α) (h : ∀ x, (f x).length = w) :
    (l.flatMap f).length = l.length * w := by
  induction l with
  | nil => exact (Nat.zero_mul w).symm
  | cons x l ih => rw [List.flatMap_cons, List.length_append, h x, ih, List.length_cons, Nat.succ_mul, Nat.add_comm]

/-- the stores `b[i] = x₀; b[i+1] = x₁; …` of the translated Go code (`List.set`, which like the
translation does nothing beyond the end of `b`) -/
def storeAt {α : Type} (b : List α) (i : Nat) : List α → List α
  | [] => b
  | x :: l => storeAt (b.set i x) (i + 1) l

theorem storeAt_eq {α : Type} : ∀ (l b : List α) (i : Nat), i + l.length ≤ b.length →
    storeAt b i l = b.take i ++ l ++ b.drop (i + l.length)
  | [], b, i, _ => by rw [storeAt, List.append_nil, List.length_nil, Nat.add_zero, List.take_append_drop]
  | x :: l, b, i, h => by
    rw [List.length_cons] at h
    rw [storeAt, storeAt_eq l _ _ (by rw [List.length_set]; omega), List.drop_set_of_lt (by omega),
      List.take_add_one, List.take_set_of_le (Nat.le_refl i), List.getElem?_set_self (by omega), List.length_cons]
    simp only [Option.toList, List.append_assoc, List.singleton_append, Nat.add_assoc, Nat.add_comm 1]

theorem storeAt_zero {α : Type} (l b : List α) (h : l.length ≤ b.length) :
    storeAt b 0 l = l ++ b.drop l.length := by
  rw [storeAt_eq l b 0 (by omega), List.take_zero, List.nil_append, Nat.zero_add]

theorem ite_err_ok {ε α : Type} {c : Prop} [Decidable c] {e : ε} {x : Except ε α} {v : α}
    (h : (if c then .error e else x) = .ok v) : ¬ c ∧ x = .ok v := by
  by_cases hc : c
  · rw [if_pos hc] at h; cases h
  · rw [if_neg hc] at h; exact ⟨hc, h⟩

theorem map_map_id {α β} {f : α → β} {g : β → α} {l : List α} (h : ∀ x ∈ l, g (f x) = x) :
    (l.map f).map g = l := by
  rw [List.map_map]; exact (List.map_congr_left h).trans (List.map_id _)

end Hts.Lemmas
