/-
Add*: what it does, as case rules (`addNew_cases`, `addUniq_cases`, `addReference_cases`: it fails and nothing changes, an
object with a new name is appended, a reference takes the slot of the one that has its name), and from them that it keeps
the invariant and does not panic.
-/
import Hts.Lemmas.HeaderBase
namespace Hts.Model.Header
variable {α : Type}

theorem addNewU_heap {α : Type} {k : KW α} {h o : Nat} {x : Obj α} {t : Tab}
    (hx : k.heap[o]? = some x) (ht : k.tabs[h]? = some t) (q : Nat) :
    (k.addNewU h o).heap[q]? =
      if o = q then some { x with owner := some h, id := (t.items.length : Int) } else k.heap[q]? := by
  simp only [KW.addNewU, hx, ht]; rw [set_get _ _ _ _ _ hx]

theorem addNewU_tabs {α : Type} {k : KW α} {h o : Nat} {x : Obj α} {t : Tab}
    (hx : k.heap[o]? = some x) (ht : k.tabs[h]? = some t) (h' : Nat) :
    (k.addNewU h o).tabs[h']? =
      if h = h' then some { items := t.items ++ [o], seen := insert t.seen x.name (t.items.length : Int) }
      else k.tabs[h']? := by
  simp only [KW.addNewU, hx, ht]; rw [set_get _ _ _ _ _ ht]

theorem replace_heap {α : Type} {k : KW α} {h eo o : Nat} {s : Int} {r er : Obj α} {t : Tab} (d : α)
    (hr : k.heap[o]? = some r) (her : k.heap[eo]? = some er) (ht : k.tabs[h]? = some t) (hne : o ≠ eo) (q : Nat) :
    (k.replace h s eo o d).heap[q]? =
      if eo = q then some { er with owner := none, id := -1 }
      else if o = q then some { r with owner := some h, id := s, dat := d } else k.heap[q]? := by
  have her1 : (k.heap.set o { r with owner := some h, id := s, dat := d })[eo]? = some er := by
    rw [set_get _ _ _ _ _ hr, if_neg hne]; exact her
  simp only [KW.replace, hr, her, ht]
  rw [set_get _ _ _ _ _ her1, set_get _ _ _ _ _ hr]

theorem replace_tabs {α : Type} {k : KW α} {h eo o : Nat} {s : Int} {r er : Obj α} {t : Tab} (d : α)
    (hr : k.heap[o]? = some r) (her : k.heap[eo]? = some er) (ht : k.tabs[h]? = some t) (h' : Nat) :
    (k.replace h s eo o d).tabs[h']? =
      if h = h' then some { t with items := t.items.set s.toNat o } else k.tabs[h']? := by
  simp only [KW.replace, hr, her, ht]
  rw [set_get _ _ _ _ _ ht]

theorem addNewU_other {k : KW α} {h o : Nat} {x : Obj α} {t : Tab} (hx : k.heap[o]? = some x)
    (ht : k.tabs[h]? = some t) (hfree : x.owner = none) (q : Nat) (y : Obj α) (s : Nat) (hys : y.owner = some s)
    (hs : s ≠ h) : (k.addNewU h o).heap[q]? = some y ↔ k.heap[q]? = some y := by
  rw [addNewU_heap hx ht]
  split
  · next e =>
    subst e
    exact iff_of_false (fun e' => by cases e'; cases hys; exact hs rfl)
      fun e' => by cases hx.symm.trans e'; cases hfree.symm.trans hys
  · rfl

theorem replace_other {k : KW α} {h eo o : Nat} {v : Int} {r er : Obj α} {t : Tab} (d : α)
    (hr : k.heap[o]? = some r) (her : k.heap[eo]? = some er) (ht : k.tabs[h]? = some t) (hne : o ≠ eo)
    (hfree : r.owner = none) (hown : er.owner = some h) (q : Nat) (y : Obj α) (s : Nat) (hys : y.owner = some s)
    (hs : s ≠ h) : (k.replace h v eo o d).heap[q]? = some y ↔ k.heap[q]? = some y := by
  rw [replace_heap d hr her ht hne]
  split
  · next e =>
    subst e
    exact iff_of_false (fun e' => (by cases e'; cases hys))
      fun e' => by cases her.symm.trans e'; cases hown.symm.trans hys; exact hs rfl
  · split
    · next e =>
      subst e
      exact iff_of_false (fun e' => by cases e'; cases hys; exact hs rfl)
        fun e' => by cases hr.symm.trans e'; cases hfree.symm.trans hys
    · rfl

theorem kinv_addNewU {k : KW α} (hk : KInv k) {h o : Nat} {x : Obj α} {t : Tab}
    (hx : k.heap[o]? = some x) (ht : k.tabs[h]? = some t) (hfree : x.owner = none)
    (hnew : lookup t.seen x.name = none) : Keeps k (k.addNewU h o) := by
  have hget := addNewU_heap hx ht
  refine hk.update (t' := ⟨t.items ++ [o], insert t.seen x.name t.items.length⟩) ht
    (by simp only [KW.addNewU, hx, ht]) ?_ ?_ ?_
  · -- `o` is listed nowhere, so the old table stands; then `o` is appended
    refine ((hk.tab h t ht).frame _ fun i o' hi => ?_).snoc (x := { x with owner := some h, id := t.items.length })
      ((hget o).trans (if_pos rfl)) rfl rfl hnew
    exact (hget o').trans (if_neg fun e => hk.free_unlisted hx hfree ht (e ▸ hi))
  · exact addNewU_other hx ht hfree
  · intro q y hy hys
    rw [hget] at hy
    split at hy
    · next e => cases hy; exact ⟨t.items.length, rfl, by simp [e]⟩
    · obtain ⟨t', i, ht', hid, hi⟩ := hk.obj q y h hy hys
      cases ht.symm.trans ht'
      exact ⟨i, hid, append_get_some _ hi⟩

theorem addNew_cases (k : KW α) (h o : Nat) (P : KW α × Res → Prop) (fail : P (k, .err) ∧ P (k, .skip))
    (new : ∀ x, k.heap[o]? = some x → x.owner = none → P (k.addNewU h o, .ok)) : P (k.addNew h o) := by
  unfold KW.addNew
  split
  · next x hx =>
    refine ite_ind P (fun _ => fail.1) fun hc => new x hx ?_
    cases ho : x.owner with
    | none => rfl
    | some _ => simp [ho] at hc
  · exact fail.2

theorem addUniq_cases (k : KW α) (h o : Nat) (P : KW α × Res → Prop) (fail : P (k, .err) ∧ P (k, .skip))
    (new : ∀ x t, k.heap[o]? = some x → k.tabs[h]? = some t → x.owner = none → lookup t.seen x.name = none →
      P (k.addNewU h o, .ok)) : P (k.addUniq h o) := by
  unfold KW.addUniq
  split
  · next x t hx ht =>
    refine ite_ind P (fun _ => fail.1) fun hc => addNew_cases k h o P fail fun x' hx' hf => ?_
    cases hx.symm.trans hx'
    exact new x t hx ht hf (Option.not_isSome_iff_eq_none.1 hc)
  · exact fail.2

theorem kinv_addUniq {k : KW α} (hk : KInv k) (h o : Nat) : Keeps k (k.addUniq h o).1 :=
  addUniq_cases k h o (Keeps k ·.1) ⟨.refl hk, .refl hk⟩ fun _ _ => kinv_addNewU hk

theorem addUniq_no_panic (k : KW α) (h o : Nat) : (k.addUniq h o).2 ≠ .panic :=
  addUniq_cases k h o (·.2 ≠ .panic) ⟨nofun, nofun⟩ fun _ _ _ _ _ _ => nofun

theorem kinv_replace {k : KW α} (hk : KInv k) {h eo o i : Nat} {r er : Obj α} {t : Tab} (d : α)
    (ht : k.tabs[h]? = some t) (hi : t.items[i]? = some eo) (hr : k.heap[o]? = some r)
    (her : k.heap[eo]? = some er) (hfree : r.owner = none) (hname : r.name = er.name) :
    Keeps k (k.replace h (i : Int) eo o d) := by
  have T := hk.tab h t ht
  have hne : o ≠ eo := fun e => hk.free_unlisted hr hfree ht (e ▸ hi)
  have hget := replace_heap (s := i) d hr her ht hne
  obtain ⟨hown, hid⟩ := T.listed hi her
  refine hk.update (t' := { t with items := t.items.set i o }) ht
    (by simp only [KW.replace, hr, her, ht, Int.toNat_natCast]) ?_ ?_ ?_
  · -- slot `i` now holds `o`, which has the id and name of `eo`; the other items are untouched
    refine T.copy List.length_set fun j o' y hj hy => ?_
    rw [set_get _ _ _ _ _ hi]
    by_cases e : i = j
    · subst e; cases hi.symm.trans hj; cases her.symm.trans hy
      exact ⟨o, { r with owner := some h, id := i, dat := d }, if_pos rfl,
        by rw [hget, if_neg hne.symm, if_pos rfl], rfl, hid.symm, hname⟩
    · have h1 : eo ≠ o' := fun e' => e (T.inj hi (e' ▸ hj))
      have h2 : o ≠ o' := fun e' => hk.free_unlisted hr hfree ht (e' ▸ hj)
      exact ⟨o', y, (if_neg e).trans hj, by rw [hget, if_neg h1, if_neg h2, hy], (T.listed hj hy).1, rfl, rfl⟩
  · exact replace_other d hr her ht hne hfree hown
  · intro q y hy hys
    rw [hget] at hy
    split at hy
    · cases hy; cases hys
    · next h1 =>
      split at hy
      · next e => cases hy; exact ⟨i, rfl, by rw [set_get _ _ _ _ _ hi, if_pos rfl, e]⟩
      · obtain ⟨t', j, ht', hid', hj⟩ := hk.obj q y h hy hys
        cases ht.symm.trans ht'
        have hij : i ≠ j := fun e => by subst e; cases hi.symm.trans hj; exact h1 rfl
        exact ⟨j, hid', by rw [set_get _ _ _ _ _ hi, if_neg hij]; exact hj⟩

theorem equalRefs_name_len {a b : Obj RefD} (h : equalRefs false a b = true) :
    a.name = b.name ∧ a.dat.len = b.dat.len := by
  unfold equalRefs at h
  simp only [Bool.false_eq_true, if_false] at h
  split at h
  · cases h
  · next hc =>
    simp only [not_or] at hc
    exact ⟨Decidable.not_not.1 hc.2.1, Decidable.not_not.1 hc.2.2.1⟩

/-- What `AddReference` does under the invariant: it fails and changes nothing; or the header has a reference `er` of
this name and length already, and nothing changes or the free reference takes its slot; or the reference is appended. -/
theorem addReference_cases {k : KW RefD} (hk : KInv k) (h o : Nat) (P : KW RefD × Res → Prop)
    (fail : P (k, .err) ∧ P (k, .skip))
    (dup : ∀ r t (i : Nat) eo er, k.heap[o]? = some r → k.tabs[h]? = some t → t.items[i]? = some eo →
      k.heap[eo]? = some er → er.name = r.name → er.dat.len = r.dat.len →
      P (k, .ok) ∧ (r.owner = none → P (k.replace h i eo o (inherit r.dat er.dat), .ok)))
    (new : ∀ r t, k.heap[o]? = some r → k.tabs[h]? = some t → r.owner = none → lookup t.seen r.name = none →
      P (k.addNewU h o, .ok)) : P (addReference k h o) := by
  unfold addReference
  split
  · next r t hr ht =>
    split
    · next v hl =>
      obtain ⟨eo, he⟩ := (hk.tab h t ht).lookup_idx hl
      obtain ⟨i, er, rfl, hi, her, hn, _⟩ := (hk.tab h t ht).lookup_item hl he
      simp only [he, her]
      have D := dup r t i eo er hr ht hi her hn
      refine ite_ind P (fun heq => (D ?_).1) fun _ => ite_ind P (fun _ => fail.1) fun hb =>
        ite_ind P (fun _ => fail.1) fun hown => (D ?_).2 (by simpa using hown)
      · by_cases e : eo = o
        · subst e; cases hr.symm.trans her; rfl
        · rw [beq_false_of_ne e] at heq; exact (equalRefs_name_len heq).2
      · exact (equalRefs_name_len (b := bareRef (-1) er.name er.dat.len) (by simpa using hb)).2.symm
    · next hl =>
      refine addNew_cases k h o P fail fun r' hr' hf => ?_
      cases hr.symm.trans hr'
      exact new r t hr ht hf hl
  · exact fail.2

theorem kinv_addReference {k : KW RefD} (hk : KInv k) (h o : Nat) : Keeps k (addReference k h o).1 :=
  addReference_cases hk h o (Keeps k ·.1) ⟨.refl hk, .refl hk⟩
    (fun _ _ _ _ _ hr ht hi her hn _ => ⟨.refl hk, fun hf => kinv_replace hk _ ht hi hr her hf hn.symm⟩)
    fun _ _ => kinv_addNewU hk

theorem addReference_no_panic {k : KW RefD} (hk : KInv k) (h o : Nat) : (addReference k h o).2 ≠ .panic :=
  addReference_cases hk h o (·.2 ≠ .panic) ⟨nofun, nofun⟩ (fun _ _ _ _ _ _ _ _ _ _ _ => ⟨nofun, fun _ => nofun⟩)
    fun _ _ _ _ _ _ => nofun

end Hts.Model.Header
