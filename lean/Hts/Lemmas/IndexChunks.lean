/-
Completeness of `internal.Index.Chunks` (model: Hts.Model.Index): from what a reference index knows
about its records (`RefCover`) to "the answer contains a chunk that encloses the record's chunk".
Contains `sorted_tiles_le`, the reason why the linear-index pruning stays safe although `sort()`
reorders the tile array.  First the order lemmas of the three sorts (`leOff`, `leChunk`, `leBin`: transitive, total),
`sortChunks_sorted` and `mem_sortChunks`, which the serialisation files (Hts.Lemmas.IndexIO) take from here; CSI's `leCBin`
ones are in Hts.Lemmas.IndexIOCsi.
-/
import Hts.Lemmas.IndexAddAll
namespace Hts.Model.Index

theorem leOff_trans (a b c : Int) : leOff a b = true → leOff b c = true → leOff a c = true := by
  simp only [leOff, decide_eq_true_eq]; omega
theorem leOff_total (a b : Int) : (leOff a b || leOff b a) = true := by
  simp only [leOff, Bool.or_eq_true, decide_eq_true_eq]; omega
theorem leChunk_trans (a b c : Chunk) : leChunk a b = true → leChunk b c = true → leChunk a c = true := by
  simp only [leChunk, decide_eq_true_eq]; omega
theorem leChunk_total (a b : Chunk) : (leChunk a b || leChunk b a) = true := by
  simp only [leChunk, Bool.or_eq_true, decide_eq_true_eq]; omega
theorem leBin_trans (a b c : Bin) : leBin a b = true → leBin b c = true → leBin a c = true := by
  simp only [leBin, decide_eq_true_eq]; omega
theorem leBin_total (a b : Bin) : (leBin a b || leBin b a) = true := by
  simp only [leBin, Bool.or_eq_true, decide_eq_true_eq]; omega

/-- sorted by begin (what `sort.Sort(byBeginOffset(…))` establishes) -/
def SortedB (cs : List Chunk) : Prop := cs.Pairwise (fun a b => a.b ≤ b.b)

theorem sortChunks_sorted (cs : List Chunk) : SortedB (sortChunks cs) :=
  (List.pairwise_mergeSort leChunk_trans leChunk_total cs).imp of_decide_eq_true

theorem mem_sortChunks {cs : List Chunk} {c : Chunk} : c ∈ sortChunks cs ↔ c ∈ cs :=
  (List.mergeSort_perm cs leChunk).mem_iff

theorem sorted_le_of_lt_countP (B : Int) : ∀ (s : List Int) (k : Nat), s.Pairwise (fun a b => a ≤ b) →
    k < s.countP (fun x => decide (x ≤ B)) → ∀ v, s[k]? = some v → v ≤ B := by
  intro s
  induction s with
  | nil => intro k _ hk; cases hk
  | cons a t ih =>
    intro k hs hk v hv
    rw [List.pairwise_cons] at hs
    by_cases ha : a ≤ B
    · cases k with
      | zero => cases hv; exact ha
      | succ k =>
        rw [List.countP_cons_of_pos (p := fun x => decide (x ≤ B)) (decide_eq_true ha)] at hk
        exact ih k hs.2 (Nat.lt_of_succ_lt_succ hk) v hv
    · rw [List.countP_cons_of_neg (p := fun x => decide (x ≤ B)) (by simpa using ha), List.countP_eq_zero.2
        (fun x hx => by have := hs.1 x hx; simp only [decide_eq_true_eq]; omega)] at hk
      cases hk

theorem countP_le_of_prefix (B : Int) : ∀ (l : List Int) (k : Nat), k < l.length →
    (∀ j v, j ≤ k → l[j]? = some v → v ≤ B) → k < l.countP (fun x => decide (x ≤ B)) := by
  intro l
  induction l with
  | nil => intro k hk; cases hk
  | cons a t ih =>
    intro k hk hpre
    rw [List.countP_cons_of_pos (p := fun x => decide (x ≤ B)) (decide_eq_true (hpre 0 a (Nat.zero_le k) rfl))]
    cases k with
    | zero => exact Nat.succ_pos _
    | succ k =>
      exact Nat.succ_lt_succ (ih k (Nat.lt_of_succ_lt_succ hk)
        (fun j v hj hv => hpre (j + 1) v (Nat.succ_le_succ hj) hv))

/-- `sort()` moves the zero entries of sparse tiles to the front and so shifts every recorded offset to a later
tile; an entry can only get smaller at its position: the array has more than `k` entries that are at most `B`,
and sorting keeps their number and puts them first. -/
theorem sorted_tiles_le (l : List Int) (k : Nat) (B : Int) (hk : k < l.length)
    (hpre : ∀ j v, j ≤ k → l[j]? = some v → v ≤ B) :
    ∀ v, (l.mergeSort leOff)[k]? = some v → v ≤ B := by
  refine sorted_le_of_lt_countP B _ k
    ((List.pairwise_mergeSort leOff_trans leOff_total l).imp of_decide_eq_true) ?_
  rw [(List.mergeSort_perm l leOff).countP_eq]
  exact countP_le_of_prefix B l k hk hpre

theorem find?_ge_sorted {α : Type} (key : α → Nat) (x : α) : ∀ L : List α, L.Pairwise (fun a b => key a ≤ key b) →
    (L.map key).Nodup → x ∈ L → L.find? (fun y => decide (key y ≥ key x)) = some x := by
  intro L
  induction L with
  | nil => intro _ _ hx; cases hx
  | cons y ys ih =>
    intro hs hn hx
    rw [List.pairwise_cons] at hs
    rw [List.map_cons, List.nodup_cons] at hn
    rcases List.mem_cons.1 hx with rfl | hx
    · exact List.find?_cons_of_pos (decide_eq_true (Nat.le_refl _))
    · have hlt : ¬ key y ≥ key x := fun hge =>
        hn.1 (List.mem_map.2 ⟨x, hx, Nat.le_antisymm hge (hs.1 x hx)⟩)
      rw [List.find?_cons_of_neg (by simpa using hlt)]
      exact ih hs.2 hn.2 hx

theorem find?_mergeSort_map {α : Type} (key : α → Nat) (f : α → α) (hf : ∀ a, key (f a) = key a) (l : List α)
    (hn : (l.map key).Nodup) (x : α) (hx : x ∈ l) :
    ((l.mergeSort (fun a b => decide (key a ≤ key b))).map f).find? (fun y => decide (key y ≥ key x)) =
      some (f x) := by
  have hperm := List.mergeSort_perm l (fun a b => decide (key a ≤ key b))
  have hsorted : (l.mergeSort (fun a b => decide (key a ≤ key b))).Pairwise (fun a b => key a ≤ key b) :=
    (List.pairwise_mergeSort (le := fun a b => decide (key a ≤ key b))
      (fun a b c h1 h2 => decide_eq_true (Nat.le_trans (of_decide_eq_true h1) (of_decide_eq_true h2)))
      (fun a b => by simp only [Bool.or_eq_true, decide_eq_true_eq]; exact Nat.le_total _ _) l).imp of_decide_eq_true
  have hkey : (fun a => key (f a)) = key := funext hf
  rw [← hf x]
  refine find?_ge_sorted key (f x) _ ?_ ?_ (List.mem_map.2 ⟨x, hperm.mem_iff.2 hx, rfl⟩)
  · rw [List.pairwise_map]; simpa only [hf] using hsorted
  · rw [List.map_map, show key ∘ f = key from hkey]; exact (hperm.map _).nodup_iff.2 hn

theorem sortRef_bins_spec (ref : RefIndex) (hn : (ref.bins.map (·.bin)).Nodup) (bn : Bin) (hb : bn ∈ ref.bins) :
    findBin (sortRef ref).bins bn.bin = some ⟨bn.bin, sortChunks bn.chunks⟩ := by
  unfold findBin
  rw [show (sortRef ref).bins.find? _ = _ from
    find?_mergeSort_map (·.bin) (fun b => { b with chunks := sortChunks b.chunks }) (fun _ => rfl) ref.bins hn bn hb]
  exact if_pos rfl

theorem tileHit_first (ivs : List Int) (beg stop : Int) (ce t : Int) (hb : 0 ≤ beg) (hq : beg ≤ stop)
    (ht : ivs[tileOf beg]? = some t) (hce : ce > t) : tileHit ivs (tileOf beg) beg stop ce = true := by
  obtain ⟨hlt, hget⟩ := List.getElem?_eq_some_iff.1 ht
  have hw : ((tileOf beg : Nat) : Int) * (tileWidth : Nat) ≤ beg ∧
      beg ≤ ((tileOf beg : Nat) : Int) * (tileWidth : Nat) + (tileWidth : Nat) := by
    rw [tileOf_eq]; unfold tileWidth; omega
  rw [tileHit, List.drop_eq_getElem_cons hlt, hget, tileLoop, Bool.false_and, if_neg Bool.false_ne_true, if_pos]
  simp only [Bool.and_eq_true, decide_eq_true_eq]
  exact ⟨⟨hw.2, Int.le_trans hw.1 hq⟩, hce⟩

/-- what completeness needs to know about a reference index (kept by `MergeChunks`) -/
structure RefCover (ref : RefIndex) (h : List Rec) : Prop where
  bins : ∀ r, r ∈ h → ∃ bn, bn ∈ ref.bins ∧ bn.bin = r.bin ∧ coveredBy bn.chunks r.chunk
  nodup : (ref.bins.map (·.bin)).Nodup
  tilesLen : ∀ r, r ∈ h → lastTile r.start r.stop < ref.intervals.length
  tilesLe : ∀ r, r ∈ h → ∀ k v, k ≤ lastTile r.start r.stop → ref.intervals[k]? = some v → v ≤ r.chunk.b

theorem RefInv.cover {ref : RefIndex} {h : List Rec} (inv : RefInv ref h) : RefCover ref h :=
  { bins := by
      intro r hr
      obtain ⟨bn, h1, h2, h3⟩ := inv.bins r hr
      exact ⟨bn, h1, h2, r.chunk, h3, Int.le_refl _, Int.le_refl _⟩
    nodup := inv.nodup
    tilesLen := inv.tilesLen
    tilesLe := inv.tilesLe }

theorem candidates_complete (ref : RefIndex) (h : List Rec) (cov : RefCover ref h) (r : Rec) (hr : r ∈ h)
    (hce : r.chunk.b < r.chunk.e) (hne : r.start < r.stop)
    (beg stop : Int) (bins : List Nat) (hb : 0 ≤ beg) (hq : beg < stop) (hov : beg < r.stop)
    (hbin : r.bin ∈ bins) :
    tileOf beg < (sortRef ref).intervals.length ∧
      coveredBy (candidates (sortRef ref) (tileOf beg) beg stop bins) r.chunk := by
  have hiv : tileOf beg ≤ lastTile r.start r.stop := by
    rw [lastTile, if_pos hne]
    exact tileOf_mono (by omega)
  have hlen : tileOf beg < ref.intervals.length := Nat.lt_of_le_of_lt hiv (cov.tilesLen r hr)
  have hslen : (sortRef ref).intervals.length = ref.intervals.length :=
    (List.mergeSort_perm ref.intervals leOff).length_eq
  rw [hslen]
  refine ⟨hlen, ?_⟩
  obtain ⟨bn, hbn, hbb, c, hc, hc1, hc2⟩ := cov.bins r hr
  obtain ⟨t, ht⟩ : ∃ t, (sortRef ref).intervals[tileOf beg]? = some t :=
    ⟨_, List.getElem?_eq_getElem (hslen ▸ hlen)⟩
  have htle := sorted_tiles_le ref.intervals (tileOf beg) r.chunk.b hlen
    (fun j v hj hv => cov.tilesLe r hr j v (Nat.le_trans hj hiv) hv) t ht
  refine ⟨c, List.mem_flatMap.2 ⟨r.bin, hbin, ?_⟩, hc1, hc2⟩
  rw [← hbb, sortRef_bins_spec ref cov.nodup bn hbn]
  exact List.mem_filter.2 ⟨mem_sortChunks.2 hc,
    tileHit_first _ beg stop c.e _ hb (Int.le_of_lt hq) ht (by omega)⟩

structure IdxCover (i : Index) (hist : List Rec) : Prop where
  flag : i.isSorted = false
  refs : RefsInv Rec.rid Rec.start RefCover i.refs i.lastRecord hist

theorem IdxInv.cover {i : Index} {hist : List Rec} (inv : IdxInv i hist) : IdxCover i hist :=
  ⟨inv.flag, inv.refs.mono fun _ _ => RefInv.cover⟩

theorem chunks_complete_cover (i : Index) (hist : List Rec) (cov : IdxCover i hist) (r : Rec) (hr : r ∈ hist)
    (hce : r.chunk.b < r.chunk.e) (hne : r.start < r.stop)
    (beg stop : Int) (bins : List Nat) (hb : 0 ≤ beg) (hq : beg < stop) (hov : beg < r.stop)
    (hbin : r.bin ∈ bins) :
    ∃ cs, chunks i r.rid beg stop bins = .ok cs ∧ SortedB cs ∧ coveredBy cs r.chunk := by
  obtain ⟨h0, hlt⟩ := cov.refs.ridLt r hr
  obtain ⟨ref, href, hcov, hmem⟩ := cov.refs.get hr
  obtain ⟨hlen, c, hc, henc⟩ := candidates_complete _ _ hcov r hmem hce hne beg stop bins hb hq hov hbin
  have hsort : (sort i).refs[r.rid.toNat]? = some (sortRef ref) := by
    rw [sort, if_neg (by rw [cov.flag]; exact Bool.false_ne_true), List.getElem?_map, href]; rfl
  have htd : beg.tdiv (tileWidth : Nat) = ((tileOf beg : Nat) : Int) :=
    (Int.toNat_of_nonneg (Int.tdiv_nonneg hb (by decide))).symm
  refine ⟨_, ?_, sortChunks_sorted _, c, mem_sortChunks.2 hc, henc⟩
  unfold chunks
  -- the three exits of `Chunks`: no such reference (`h0`, `hlt`), tile beyond the array (`hlen`), negative tile (`htd`)
  rw [if_neg (by omega), hsort]
  simp only [htd, Int.toNat_natCast]
  rw [if_neg (by omega), if_neg (by omega)]

end Hts.Model.Index
