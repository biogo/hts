/-
The item lists a header exposes (`Refs()`, `RGs()`, `Progs()`; `items`, and `objsOf` for the objects behind them:
`items_eq_map`), under the invariant: what is at an index, and what allocation, appending and replacement do to them.
-/
import Hts.Lemmas.HeaderAdd
namespace Hts.Model.Header
variable {α : Type}

def KindInv (k : KW α) (h : Nat) : Prop := ∃ t, k.tabs[h]? = some t ∧ TabInv k.heap h t

theorem kindInv_of {k : KW α} (hk : KInv k) {h : Nat} (hh : h < k.tabs.length) : KindInv k h :=
  ⟨k.tabs[h], List.getElem?_eq_getElem hh, hk.tab h _ (List.getElem?_eq_getElem hh)⟩

theorem items_eq_map (k : KW α) (h : Nat) : items k h = (objsOf k h).map fun x => (x.id, x.name, x.dat) := by
  unfold items objsOf
  split
  · rw [List.map_filterMap]
  · rfl

theorem objsOf_mem {k : KW α} {s : Nat} {x : Obj α} (hx : x ∈ objsOf k s) : ∃ (o : Nat), k.heap[o]? = some x := by
  unfold objsOf at hx
  split at hx
  · obtain ⟨o, _, ho⟩ := List.mem_filterMap.1 hx; exact ⟨o, ho⟩
  · cases hx

theorem objsOf_get {k : KW α} {h : Nat} {t : Tab} (ht : k.tabs[h]? = some t) (T : TabInv k.heap h t) (i : Nat)
    (x : Obj α) : (objsOf k h)[i]? = some x ↔ ∃ o, t.items[i]? = some o ∧ k.heap[o]? = some x := by
  unfold objsOf
  simp only [ht]
  rw [filterMap_get _ _ _ fun o ho => ?_, Option.bind_eq_some_iff]
  obtain ⟨j, hj⟩ := List.mem_iff_getElem?.1 ho
  obtain ⟨y, hy, _⟩ := T.own j o hj
  rw [hy]; rfl

theorem objsOf_congr {k k' : KW RefD} {s : Nat} (hk : KInv k) (ht : k'.tabs[s]? = k.tabs[s]?)
    (hh : ∀ (q : Nat) (y : Obj RefD), k.heap[q]? = some y → y.owner = some s → k'.heap[q]? = some y) :
    objsOf k' s = objsOf k s := by
  unfold objsOf
  rw [ht]
  split
  · next t ht =>
    refine filterMap_congr' _ _ _ fun o ho => ?_
    obtain ⟨i, hi⟩ := List.mem_iff_getElem?.1 ho
    obtain ⟨y, hy, hown, _⟩ := (hk.tab s t ht).own i o hi
    rw [hh o y hy hown, hy]
  · rfl

theorem items_get {k : KW α} {h : Nat} {t : Tab} (ht : k.tabs[h]? = some t) (T : TabInv k.heap h t) (i : Nat)
    (e : Int × Bytes × α) :
    (items k h)[i]? = some e ↔ ∃ (o : Nat) (x : Obj α), t.items[i]? = some o ∧ k.heap[o]? = some x ∧
      e = (x.id, x.name, x.dat) := by
  rw [items_eq_map, List.getElem?_map, Option.map_eq_some_iff]
  constructor
  · rintro ⟨x, hx, rfl⟩
    obtain ⟨o, hi, hx⟩ := (objsOf_get ht T i x).1 hx
    exact ⟨o, x, hi, hx, rfl⟩
  · rintro ⟨o, x, hi, hx, rfl⟩
    exact ⟨x, (objsOf_get ht T i x).2 ⟨o, hi, hx⟩, rfl⟩

theorem items_mem {k : KW α} {s : Nat} {e : Int × Bytes × α} (he : e ∈ items k s) :
    ∃ (o : Nat) (x : Obj α), k.heap[o]? = some x ∧ e = (x.id, x.name, x.dat) := by
  rw [items_eq_map, List.mem_map] at he
  obtain ⟨x, hx, rfl⟩ := he
  exact (objsOf_mem hx).elim fun o ho => ⟨o, x, ho, rfl⟩

theorem items_length {k : KW α} {h : Nat} {t : Tab} (ht : k.tabs[h]? = some t) (T : TabInv k.heap h t) :
    (items k h).length = t.items.length := by
  unfold items; simp only [ht]
  apply List.filterMap_length_eq_length.2
  intro o ho
  obtain ⟨j, hj⟩ := List.mem_iff_getElem?.1 ho
  obtain ⟨x, hx, _⟩ := T.own j o hj
  simp [hx]

theorem items_ids {k : KW α} {h : Nat} {t : Tab} (ht : k.tabs[h]? = some t) (T : TabInv k.heap h t)
    (i : Nat) (x : Int × Bytes × α) (hx : (items k h)[i]? = some x) : x.1 = (i : Int) := by
  obtain ⟨o, y, hi, hy, e⟩ := (items_get ht T i x).1 hx
  subst e; exact (T.listed hi hy).2

theorem items_name_inj {k : KW α} {h : Nat} {t : Tab} (ht : k.tabs[h]? = some t) (T : TabInv k.heap h t) {i j : Nat}
    {x y : Int × Bytes × α} (hi : (items k h)[i]? = some x) (hj : (items k h)[j]? = some y) (e : x.2.1 = y.2.1) : i = j := by
  obtain ⟨o, xo, h1, h2, rfl⟩ := (items_get ht T i x).1 hi
  obtain ⟨o', xo', h3, h4, rfl⟩ := (items_get ht T j y).1 hj
  exact T.name_inj h1 h3 h2 h4 e

theorem items_names_nodup {k : KW α} {h : Nat} {t : Tab} (ht : k.tabs[h]? = some t)
    (T : TabInv k.heap h t) : ((items k h).map (·.2.1)).Nodup := by
  refine nodup_of_inj _ fun a b n ha hb => ?_
  obtain ⟨x, hx, rfl⟩ := getElem?_map_some ha
  obtain ⟨y, hy, e⟩ := getElem?_map_some hb
  exact items_name_inj ht T hx hy e.symm

theorem lookup_none_of_names {k : KW α} {h : Nat} {t : Tab} (ht : k.tabs[h]? = some t)
    (T : TabInv k.heap h t) {n : Bytes} (hn : n ∉ (items k h).map (fun x => x.2.1)) : lookup t.seen n = none := by
  cases hl : lookup t.seen n with
  | none => rfl
  | some v =>
    obtain ⟨i, o, x, hi, hx, hxn, _⟩ := T.only n v hl
    exfalso; apply hn
    have := (items_get ht T i (x.id, x.name, x.dat)).2 ⟨o, x, hi, hx, rfl⟩
    exact List.mem_map.2 ⟨_, List.mem_iff_getElem?.2 ⟨i, this⟩, hxn⟩

theorem items_newTab (k : KW α) : items k.newTab k.tabs.length = [] := by
  simp [items, KW.newTab]

theorem items_alloc {k : KW α} (hk : KInv k) (x : Obj α) (h : Nat) : items (k.alloc x).1 h = items k h := by
  have e : (k.alloc x).1.tabs[h]? = k.tabs[h]? := rfl
  unfold items
  rw [e]
  cases ht : k.tabs[h]? with
  | none => rfl
  | some t =>
    apply filterMap_congr'
    intro o ho
    obtain ⟨j, hj⟩ := List.mem_iff_getElem?.1 ho
    obtain ⟨y, hy, _⟩ := (hk.tab h t ht).own j o hj
    rw [alloc_old k x hy, hy]

/-- allocating a new item and appending it to header `h` -/
def install (k : KW α) (h : Nat) (name : Bytes) (d : α) : KW α :=
  (k.alloc { owner := none, id := -1, name := name, dat := d }).1.addNewU h
    (k.alloc { owner := none, id := -1, name := name, dat := d }).2

theorem items_install {k : KW α} (hk : KInv k) {h : Nat} {t : Tab} (ht : k.tabs[h]? = some t)
    (name : Bytes) (d : α) :
    items (install k h name d) h = items k h ++ [(((items k h).length : Int), name, d)] := by
  have T := hk.tab h t ht
  have hx : (k.alloc { owner := none, id := -1, name := name, dat := d }).1.heap[k.heap.length]? =
      some { owner := none, id := -1, name := name, dat := d } := alloc_heap k _
  have ht1 : (k.alloc { owner := none, id := -1, name := name, dat := d }).1.tabs[h]? = some t := ht
  rw [items_length ht T]
  unfold items install
  have e2 : (k.alloc { owner := none, id := -1, name := name, dat := d }).2 = k.heap.length := rfl
  rw [e2, addNewU_tabs hx ht1, if_pos rfl, ht]
  simp only [List.filterMap_append]
  congr 1
  · apply filterMap_congr'
    intro o ho
    obtain ⟨j, hj⟩ := List.mem_iff_getElem?.1 ho
    obtain ⟨y, hy, _⟩ := T.own j o hj
    have hne : k.heap.length ≠ o := by have := get_lt hy; omega
    rw [addNewU_heap hx ht1, if_neg hne]
    show ((k.heap ++ [_])[o]?).map _ = _
    rw [append_get_some _ hy, hy]
  · simp only [List.filterMap_cons, List.filterMap_nil]
    rw [addNewU_heap hx ht1, if_pos rfl]
    rfl

theorem items_replace_same {k : KW RefD} (hk : KInv k) {h eo o i : Nat} {r er : Obj RefD} {t : Tab}
    (ht : k.tabs[h]? = some t) (hi : t.items[i]? = some eo) (hr : k.heap[o]? = some r)
    (her : k.heap[eo]? = some er) (hfree : r.owner = none) (hname : r.name = er.name) :
    items (k.replace h (i : Int) eo o er.dat) h = items k h := by
  have T := hk.tab h t ht
  have hne : o ≠ eo := fun e => hk.free_unlisted hr hfree ht (e ▸ hi)
  have ht' : (k.replace h (i : Int) eo o er.dat).tabs[h]? = some { t with items := t.items.set i o } := by
    rw [replace_tabs _ hr her ht, if_pos rfl]; simp
  have T' := (kinv_replace hk er.dat ht hi hr her hfree hname).1.tab h _ ht'
  have hid := (T.listed hi her).2
  apply List.ext_getElem?
  intro j
  apply Option.ext
  intro e
  rw [items_get ht' T' j e, items_get ht T j e]
  simp only [replace_heap _ hr her ht hne, set_get _ _ _ _ _ hi]
  by_cases hij : i = j
  · subst hij
    simp only [if_true]
    constructor
    · rintro ⟨o', x', ho', hx', rfl⟩
      cases ho'
      simp only [hne.symm, if_false, if_true] at hx'; cases hx'
      exact ⟨eo, er, hi, her, by simp [hname, hid]⟩
    · rintro ⟨o', x', ho', hx', rfl⟩
      rw [hi] at ho'; cases ho'; rw [her] at hx'; cases hx'
      exact ⟨o, { r with owner := some h, id := (i : Int), dat := er.dat }, rfl, by simp only [hne.symm, if_false, if_true], by simp [hname, hid]⟩
  · simp only [hij, if_false]
    -- another slot: its object is neither of the two that changed
    have key : ∀ o', t.items[j]? = some o' → eo ≠ o' ∧ o ≠ o' := fun o' ho' =>
      ⟨fun e' => hij (T.inj hi (e' ▸ ho')), fun e' => hk.free_unlisted hr hfree ht (e' ▸ ho')⟩
    constructor
    · rintro ⟨o', x', ho', hx', rfl⟩
      simp only [(key o' ho').1, (key o' ho').2, if_false] at hx'
      exact ⟨o', x', ho', hx', rfl⟩
    · rintro ⟨o', x', ho', hx', rfl⟩
      exact ⟨o', x', ho', by simp only [(key o' ho').1, (key o' ho').2, if_false]; exact hx', rfl⟩

end Hts.Model.Header
