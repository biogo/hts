/-
Aux field codec: every well-formed aux field written by `buildAux` is read back as itself by one turn of the
`parseAux` loop (one lemma per family: fixed width, NUL-terminated, array), hence the aux list round trip.
The well-formed fields are taken apart once (`AuxShape`).  Also the two errors of the hex decoder (`hexDec_err`,
`decodeHex_err`), for the totality of `parseAux` on arbitrary bytes (Lemmas/BamStream).
-/
import Hts.Lemmas.BamBytes
import Hts.Lemmas.BamWF
namespace Hts.Model.Bam

theorem unhex_hexDigit : ∀ n, n < 16 → unhex (hexDigit n) = some n := by decide

theorem hexDigit_ne_zero : ∀ n, n < 16 → (0#8 == hexDigit n) = false := by decide

theorem hexEnc_length (v : List Byte) : (hexEnc v).length = 2 * v.length := by
  induction v with
  | nil => rfl
  | cons b bs ih => simp only [hexEnc, List.length_cons, ih]; omega

theorem hexEnc_noZero (v : List Byte) : (hexEnc v).contains 0#8 = false := by
  induction v with
  | nil => rfl
  | cons b bs ih =>
    have hb := b.isLt
    simp only [hexEnc, List.contains_cons, ih, Bool.or_false,
      hexDigit_ne_zero (b.toNat / 16) (by omega), hexDigit_ne_zero (b.toNat % 16) (by omega)]

theorem hexDec_hexEnc (v : List Byte) : hexDec (hexEnc v) = .ok v := by
  induction v with
  | nil => rfl
  | cons b bs ih =>
    have hb := b.isLt
    simp only [hexEnc, hexDec, unhex_hexDigit (b.toNat / 16) (by omega), unhex_hexDigit (b.toNat % 16) (by omega),
      ih, byteOf, ofNat_nibbles]

theorem hexDec_err (l : List Byte) (e : Fault) : hexDec l = .error e → e = .errAuxHexDigit := by
  fun_induction hexDec l
  case case1 hf ih => rintro ⟨⟩; exact ih hf
  all_goals rintro ⟨⟩
  rfl

theorem decodeHex_err (f : List Byte) (e : Fault) : decodeHex f = .error e →
    e = .errAuxHexOdd ∨ e = .errAuxHexDigit := by
  fun_cases decodeHex f
  case case2 he => rintro ⟨⟩; exact .inr (hexDec_err _ _ he)
  all_goals rintro ⟨⟩
  exact .inl rfl

theorem decodeHex_hexEnc (t0 t1 t : Byte) (v : List Byte) :
    decodeHex (t0 :: t1 :: t :: hexEnc v) = .ok (t0 :: t1 :: t :: v) := by
  have hodd : ((hexEnc v).length % 2 == 1) = false := by
    rw [hexEnc_length, beq_eq_false_iff_ne]; omega
  simp [decodeHex, hodd, hexDec_hexEnc]

/-- one aux field as written (`encAuxT` on the field's own type byte) -/
def encAux (a : List Byte) : List Byte := encAuxT (a.getD 2 0#8) a

theorem encAux_H (t0 t1 : Byte) (v : List Byte) :
    encAux (t0 :: t1 :: 72#8 :: v) = t0 :: t1 :: 72#8 :: (hexEnc v ++ [0#8]) := by
  simp [encAux, encAuxT]

theorem encAux_Z (t0 t1 : Byte) (v : List Byte) :
    encAux (t0 :: t1 :: 90#8 :: v) = t0 :: t1 :: 90#8 :: (v ++ [0#8]) := by
  simp [encAux, encAuxT]

theorem encAux_other (t0 t1 t : Byte) (v : List Byte) (h : isZH t = false) :
    encAux (t0 :: t1 :: t :: v) = t0 :: t1 :: t :: v := by
  simp only [isZH, Bool.or_eq_false_iff] at h
  simp [encAux, encAuxT, h.1, h.2]

def encAuxAll (as : List (List Byte)) : List Byte := as.flatMap encAux

theorem auxOK_length {a : List Byte} (h : auxOK a = true) : 3 ≤ a.length := by
  match a, h with
  | _ :: _ :: _ :: _, _ => simp

theorem buildAux_ok (as : List (List Byte)) (h : ∀ a ∈ as, auxOK a = true) :
    buildAux as = .ok (encAuxAll as) := by
  induction as with
  | nil => rfl
  | cons a as ih =>
    obtain ⟨ha, has⟩ := List.forall_mem_cons.mp h
    match a, ha with
    | t0 :: t1 :: t :: v, _ =>
      simp [buildAux, ih has, encAuxAll, encAux]

theorem elemWidth_cases {t : Byte} {w : Nat} (h : elemWidth t = some w) {P : Byte → Nat → Prop}
    (c : P 99#8 1) (C : P 67#8 1) (s : P 115#8 2) (S : P 83#8 2) (i : P 105#8 4) (I : P 73#8 4) (f : P 102#8 4) :
    P t w := by
  simp only [elemWidth, Bool.or_eq_true, beq_iff_eq] at h
  split at h
  · rename_i hc; cases h
    rcases hc with rfl | rfl <;> assumption
  split at h
  · rename_i hc; cases h
    rcases hc with rfl | rfl <;> assumption
  split at h
  · rename_i hc; cases h
    rcases hc with (rfl | rfl) | rfl <;> assumption
  · cases h

theorem elemWidth_facts {t : Byte} {w : Nat} (h : elemWidth t = some w) :
    jumps t = (w : Int) ∧ 0 < w ∧ isZH t = false ∧ isElemType t = true := by
  apply elemWidth_cases h <;> exact ⟨rfl, by decide, rfl, rfl⟩

theorem auxOK_num {t : Byte} {w : Nat} (hw : elemWidth t = some w) (t0 t1 : Byte) (v : List Byte) :
    auxOK (t0 :: t1 :: t :: v) = (v.length == w) := by
  apply elemWidth_cases hw <;> rfl

theorem auxOK_arr {sub : Byte} {w : Nat} (hw : elemWidth sub = some w) (t0 t1 n0 n1 n2 n3 : Byte) (elems : List Byte) :
    auxOK (t0 :: t1 :: 66#8 :: sub :: n0 :: n1 :: n2 :: n3 :: elems) = (elems.length == getU32 n0 n1 n2 n3 * w) := by
  apply elemWidth_cases hw <;> rfl

/-- the shapes of a well-formed in-memory aux field, by type letter -/
inductive AuxShape : List Byte → Prop
  | char (t0 t1 c : Byte) : AuxShape [t0, t1, 65#8, c]
  | str (t0 t1 : Byte) (v : List Byte) (h : (t0 :: t1 :: 90#8 :: v).contains 0#8 = false) :
      AuxShape (t0 :: t1 :: 90#8 :: v)
  | hex (t0 t1 : Byte) (v : List Byte) (h0 : t0 ≠ 0#8) (h1 : t1 ≠ 0#8) : AuxShape (t0 :: t1 :: 72#8 :: v)
  | arr (t0 t1 sub n0 n1 n2 n3 : Byte) (elems : List Byte) (w : Nat) (hw : elemWidth sub = some w)
      (h : elems.length = getU32 n0 n1 n2 n3 * w) :
      AuxShape (t0 :: t1 :: 66#8 :: sub :: n0 :: n1 :: n2 :: n3 :: elems)
  | num (t0 t1 t : Byte) (v : List Byte) (w : Nat) (hw : elemWidth t = some w) (h : v.length = w) :
      AuxShape (t0 :: t1 :: t :: v)

theorem auxShape_of_auxOK {a : List Byte} : auxOK a = true → AuxShape a := by
  fun_cases auxOK a
  case case1 t0 t1 t v ht =>
    cases beq_iff_eq.mp ht
    intro h
    match v, h with
    | [c], _ => exact .char t0 t1 c
  case case2 t0 t1 t v _ ht =>
    cases beq_iff_eq.mp ht
    exact fun h => .str t0 t1 v (by simpa using h)
  case case3 t0 t1 t v _ _ ht =>
    cases beq_iff_eq.mp ht
    intro h
    simp only [Bool.and_eq_true, bne_iff_ne, ne_eq] at h
    exact .hex t0 t1 v h.1 h.2
  case case4 t0 t1 t _ _ _ ht sub n0 n1 n2 n3 elems w hw =>
    cases beq_iff_eq.mp ht
    exact fun h => .arr t0 t1 sub n0 n1 n2 n3 elems w hw (by simpa using h)
  case case7 t0 t1 t v _ _ _ _ w hw => exact fun h => .num t0 t1 t v w hw (by simpa using h)
  all_goals exact nofun

theorem indexZero_append (a rest : List Byte) (h : a.contains 0#8 = false) :
    indexZero (a ++ 0#8 :: rest) = some a.length := by
  induction a with
  | nil => simp [indexZero]
  | cons x xs ih =>
    simp only [List.contains_cons, Bool.or_eq_false_iff] at h
    simp [indexZero, BEq.comm.trans h.1, ih h.2]

theorem parse_fixed (fuel : Nat) (t0 t1 t : Byte) (v rest : List Byte) (acc : List (List Byte)) (w : Nat)
    (hj : jumps t = (w : Int)) (hw : 0 < w) (hv : v.length = w) :
    parseAuxFuel (fuel + 1) (t0 :: t1 :: t :: (v ++ rest)) acc = parseAuxFuel fuel rest ((t0 :: t1 :: t :: v) :: acc) := by
  have hpos : jumps t > 0 := by omega
  have hn : (jumps t).toNat + 3 = w + 3 := by omega
  have hl : (t0 :: t1 :: t :: v).length = w + 3 := by simp only [List.length_cons, hv]
  have hlen : ¬ ((t0 :: t1 :: t :: (v ++ rest)).length < w + 3) := by
    simp only [List.length_cons, List.length_append]; omega
  simp only [parseAuxFuel, hpos, ↓reduceIte, hn, hlen]
  -- the data is `field ++ rest` again once the conses are folded back
  simp only [← List.cons_append, List.drop_left' hl, List.take_left' hl]

theorem parse_nul (fuel : Nat) (t0 t1 t : Byte) (f rest : List Byte) (acc : List (List Byte))
    (ht : t = 90#8 ∨ t = 72#8) (hz : (t0 :: t1 :: t :: f).contains 0#8 = false) :
    parseAuxFuel (fuel + 1) (t0 :: t1 :: t :: (f ++ [0#8]) ++ rest) acc =
      if t == 72#8 then
        match decodeHex (t0 :: t1 :: t :: f) with
        | .error e => .error e
        | .ok a => parseAuxFuel fuel rest (a :: acc)
      else parseAuxFuel fuel rest ((t0 :: t1 :: t :: f) :: acc) := by
  have hj : jumps t = -1 := by rcases ht with rfl | rfl <;> rfl
  have hzh : isZH t = true := by rcases ht with rfl | rfl <;> rfl
  have hi := indexZero_append (t0 :: t1 :: t :: f) rest hz
  simp only [List.cons_append] at hi
  rw [List.cons_append, List.cons_append, List.cons_append, List.append_assoc, List.singleton_append]
  have hk : ¬ ((t0 :: t1 :: t :: f).length < 3) := by simp
  simp only [parseAuxFuel, hj, hzh, hi, hk]
  simp only [← List.cons_append, List.drop_length_add_append, List.take_left' rfl]
  rfl

theorem parse_b (fuel : Nat) (t0 t1 sub n0 n1 n2 n3 : Byte) (elems rest : List Byte) (acc : List (List Byte)) (w : Nat)
    (hw : elemWidth sub = some w) (hl : elems.length = getU32 n0 n1 n2 n3 * w) :
    parseAuxFuel (fuel + 1) (t0 :: t1 :: 66#8 :: sub :: n0 :: n1 :: n2 :: n3 :: (elems ++ rest)) acc
      = parseAuxFuel fuel rest ((t0 :: t1 :: 66#8 :: sub :: n0 :: n1 :: n2 :: n3 :: elems) :: acc) := by
  obtain ⟨hj, _, _, he⟩ := elemWidth_facts hw
  have hjv : (getU32 n0 n1 n2 n3 : Int) * jumps sub + 8 = ((elems.length + 8 : Nat) : Int) := by
    rw [hj, ← Int.natCast_mul, ← hl]; omega
  have hB : ¬ jumps 66#8 > 0 ∧ jumps 66#8 < 0 ∧ ¬ isZH 66#8 = true := by decide
  have hneg : ¬ ((elems.length + 8 : Nat) : Int) < 0 := by omega
  have hlen : ¬ ((t0 :: t1 :: 66#8 :: sub :: n0 :: n1 :: n2 :: n3 :: (elems ++ rest)).length : Int)
      < ((elems.length + 8 : Nat) : Int) := by
    simp only [List.length_cons, List.length_append]; omega
  have hf : (t0 :: t1 :: 66#8 :: sub :: n0 :: n1 :: n2 :: n3 :: elems).length = elems.length + 8 := rfl
  simp only [parseAuxFuel, hB, he, hjv, hneg, hlen, ↓reduceIte, Bool.not_true, Bool.false_eq_true, decide_false,
    Bool.or_false, Int.toNat_natCast]
  simp only [← List.cons_append, List.drop_left' hf, List.take_left' hf]

/-- A new type letter needs a case here (through `AuxShape`) and in `parseAuxFuel_error`, Lemmas/BamStream. -/
theorem parse_step (fuel : Nat) (a rest : List Byte) (acc : List (List Byte)) (h : auxOK a = true) :
    parseAuxFuel (fuel + 1) (encAux a ++ rest) acc = parseAuxFuel fuel rest (a :: acc) := by
  cases auxShape_of_auxOK h with
  | char t0 t1 c =>
    rw [encAux_other _ _ _ _ rfl]
    exact parse_fixed fuel t0 t1 65#8 [c] rest acc 1 rfl (by omega) rfl
  | str t0 t1 v hz =>
    rw [encAux_Z]
    exact parse_nul fuel t0 t1 90#8 v rest acc (.inl rfl) hz
  | hex t0 t1 v h0 h1 =>
    have hz : (t0 :: t1 :: 72#8 :: hexEnc v).contains 0#8 = false := by
      simp only [List.contains_cons, hexEnc_noZero, Bool.or_false, Bool.or_eq_false_iff, beq_eq_false_iff_ne, ne_eq]
      exact ⟨Ne.symm h0, Ne.symm h1, by decide⟩
    rw [encAux_H]
    exact (parse_nul fuel t0 t1 72#8 _ rest acc (.inr rfl) hz).trans (by rw [decodeHex_hexEnc]; rfl)
  | arr t0 t1 sub n0 n1 n2 n3 elems w hw hl =>
    rw [encAux_other _ _ _ _ rfl]
    exact parse_b fuel t0 t1 sub n0 n1 n2 n3 elems rest acc w hw hl
  | num t0 t1 t v w hw hv =>
    obtain ⟨hj, hw0, hz, _⟩ := elemWidth_facts hw
    rw [encAux_other _ _ _ _ hz]
    exact parse_fixed fuel t0 t1 t v rest acc w hj hw0 hv

theorem encAux_length (a : List Byte) (h : 3 ≤ a.length) : (encAux a).length = auxSize1 a := by
  match a, h with
  | t0 :: t1 :: t :: v, _ =>
    have hg : (t0 :: t1 :: t :: v).getD 2 0#8 = t := rfl
    simp only [encAux, encAuxT, auxSize1, hg]
    split
    · simp [hexEnc_length]; omega
    · split <;> simp

theorem encAuxAll_length (as : List (List Byte)) (h : ∀ a ∈ as, auxOK a = true) :
    (encAuxAll as).length = auxSize as := by
  induction as with
  | nil => rfl
  | cons a as ih =>
    obtain ⟨ha, has⟩ := List.forall_mem_cons.mp h
    have ih' := ih has
    simp only [encAuxAll, List.flatMap_cons, List.length_append, auxSize, List.map_cons, List.sum_cons] at *
    rw [ih', encAux_length a (auxOK_length ha)]

theorem parseAuxFuel_encAuxAll (as : List (List Byte)) (h : ∀ a ∈ as, auxOK a = true) :
    ∀ (fuel : Nat) (acc : List (List Byte)), (encAuxAll as).length < fuel →
      parseAuxFuel fuel (encAuxAll as) acc = .ok (acc.reverse ++ as) := by
  induction as with
  | nil =>
    intro fuel acc hf
    match fuel, hf with
    | f + 1, _ => simp [encAuxAll, parseAuxFuel]
  | cons a as ih =>
    intro fuel acc hf
    match fuel, hf with
    | f + 1, hf =>
      obtain ⟨ha, has⟩ := List.forall_mem_cons.mp h
      -- a turn of the loop costs one unit of fuel and a field is written as at least one byte: fuel above the number of
      -- bytes lasts
      have hpos : 0 < (encAux a).length := by
        rw [encAux_length a (auxOK_length ha), auxSize1]
        have := auxOK_length ha
        split
        · omega
        · split <;> omega
      have e : encAuxAll (a :: as) = encAux a ++ encAuxAll as := rfl
      rw [e, List.length_append] at hf
      rw [e, parse_step f a _ acc ha, ih has f (a :: acc) (by omega)]
      simp

theorem parseAux_encAuxAll (as : List (List Byte)) (h : ∀ a ∈ as, auxOK a = true) :
    parseAux (encAuxAll as) = .ok as := by
  simpa [parseAux] using parseAuxFuel_encAuxAll as h _ [] (Nat.lt_succ_self _)

end Hts.Model.Bam
