/-
The repaired reader model (Model/BgzfReader64.lean) coincides with the model of C02 on files whose payloads are
shorter than 65536 bytes.
`readLoop64`, `read64`, `readByte64`, `step64`, `run64` are hand copies of the functions of Model/BgzfReader.lean (a
fourth copy of the loops beside `FReader.*` and `g*`, see the head of Lemmas/ReaderOverLTS.lean): after a change there,
`readLoop64_eq` is redone along the new cases of `fun_induction Reader.readLoop` (its binders are positional).
Where `Reader.setEnd64_small` is given `(by exact hb)`, the argument's type is `{ r with cur := b, … }.cur.data.length < 65536`,
which is `hb`'s only after unfolding the record.
-/
import Hts.Model.BgzfReader64
import Hts.Lemmas.ReaderBasic
namespace Hts.Model.Bgzf
open Hts.Spec.Flat (Offset Chunk Op)

/-- Every payload the reader can meet is shorter than 65536 bytes. -/
def Small (r : Reader) : Prop := r.cur.data.length < 65536 ∧ ∀ m ∈ r.file, m.data.length < 65536

theorem Block.txOffset_small {b : Block} (h : b.data.length < 65536) : b.txOffset = b.tx := by
  unfold Block.txOffset
  rw [if_neg]
  rintro ⟨_, _, h3⟩
  omega

theorem Reader.setEnd64_small {r : Reader} (h : r.cur.data.length < 65536) : r.setEnd64 = r.setEnd := by
  simp only [Reader.setEnd64, Reader.setEnd, Block.txOffset_small h]

theorem small_load {f : File} (hf : ∀ m ∈ f, m.data.length < 65536) (b : Block) (base : Nat) :
    (Block.load f b base).1.data.length < 65536 := by
  unfold Block.load
  cases hm : memberAt f base with
  | ok m => exact hf m (memberAt_mem hm)
  | eof => simp [Block.failed]
  | bad => simp [Block.failed]

theorem Block.read_data (b : Block) (n : Nat) : (b.read n).2.2.data = b.data := by
  unfold Block.read; split <;> rfl

theorem Block.readByte_data (b : Block) : b.readByte.2.2.data = b.data := by
  unfold Block.readByte; split <;> rfl

theorem small_nextBlock {r : Reader} (h : Small r) : Small r.nextBlock.1 :=
  ⟨small_load h.2 r.cur r.cur.nextBase, h.2⟩

theorem small_skipEmpty (fuel : Nat) (r : Reader) (h : Small r) : Small (r.skipEmpty fuel) := by
  induction fuel generalizing r with
  | zero => exact h
  | succ fuel ih =>
    simp only [Reader.skipEmpty]
    split
    · have hn := small_nextBlock h
      rcases hnb : r.nextBlock with ⟨r', e⟩
      rw [hnb] at hn
      cases e with
      | some e => exact hn
      | none => exact ih _ hn
    · exact h

theorem small_of_read {r : Reader} (h : Small r) {want : Nat} {out : List UInt8} {eof : Bool} {b : Block}
    (hrd : r.cur.read want = (out, eof, b)) : b.data.length < 65536 := by
  have := Block.read_data r.cur want
  rw [hrd] at this
  exact this ▸ h.1

/-- The two copy loops differ in `setEnd64`/`setEnd` only, which agree on every state the loop passes through. -/
theorem readLoop64_eq (fuel : Nat) (r : Reader) (want : Nat) (h : Small r) :
    r.readLoop64 fuel want = r.readLoop fuel want ∧ Small (r.readLoop fuel want).1 := by
  fun_induction Reader.readLoop fuel r want with
  | case1 r x => exact ⟨rfl, h⟩  -- out of fuel
  | case2 fuel r want hc out b hrd r' rest e hrec ih =>
    -- `block.Read` returned bytes: round again
    have ⟨i1, i2⟩ := ih ⟨small_of_read h hrd, h.2⟩
    rw [hrec] at i1 i2
    rw [Reader.readLoop64, if_pos hc]
    simp only [hrd, i1]
    exact ⟨trivial, i2⟩
  | case3 fuel r want hc out b hrd r1 h0 r2 =>
    -- the block is at its end and nothing more is wanted: `setEnd`
    have hb := small_of_read h hrd
    rw [Reader.readLoop64, if_pos hc]
    simp only [hrd, h0, if_true]
    exact ⟨by rw [Reader.setEnd64_small (by exact hb)], hb, h.2⟩
  | case4 fuel r want hc out b hrd r1 h0 hbl =>
    -- the block is at its end, Blocked: `setEnd`, `io.EOF`
    have hb := small_of_read h hrd
    rw [Reader.readLoop64, if_pos hc]
    simp only [hrd, h0, if_false]
    rw [if_pos hbl]
    exact ⟨by rw [Reader.setEnd64_small (by exact hb)], hb, h.2⟩
  | case5 fuel r want hc out b hrd r1 h0 hbl r' e hnb r'' =>
    -- the block is at its end and `nextBlock` fails: `setEnd` on the failed block
    have hn : Small r' := by have := small_nextBlock (r := r1) ⟨small_of_read h hrd, h.2⟩; rwa [hnb] at this
    rw [Reader.readLoop64, if_pos hc]
    simp only [hrd, h0, if_false]
    rw [if_neg hbl]
    simp only [r1] at hnb
    simp only [hnb]
    exact ⟨by rw [Reader.setEnd64_small (by exact hn.1)], hn⟩
  | case6 fuel r want hc out b hrd r1 h0 hbl r' hnb r'' rest e hrec ih =>
    -- the block is at its end and the next one is loaded: round again
    have hn : Small r' := by have := small_nextBlock (r := r1) ⟨small_of_read h hrd, h.2⟩; rwa [hnb] at this
    have ⟨i1, i2⟩ := ih hn
    rw [hrec] at i1 i2
    rw [Reader.readLoop64, if_pos hc]
    simp only [hrd, h0, if_false]
    rw [if_neg hbl]
    simp only [r1] at hnb
    simp only [hnb, i1]
    exact ⟨trivial, i2⟩
  | case7 fuel r want hc =>
    -- nothing wanted, or an error pending: `setEnd`
    rw [Reader.readLoop64, if_neg hc, Reader.setEnd64_small h.1]
    exact ⟨rfl, h⟩

theorem read64_eq (r : Reader) (n : Nat) (h : Small r) :
    r.read64 n = r.read n ∧ Small (r.read n).1 := by
  simp only [Reader.read64, Reader.read]
  cases he : r.err with
  | some e => exact ⟨rfl, h⟩
  | none =>
    simp only
    have hs := small_skipEmpty r.skipFuel r h
    generalize r.skipEmpty r.skipFuel = r1 at hs ⊢
    cases he1 : r1.err with
    | some e => exact ⟨rfl, hs⟩
    | none =>
      simp only [Block.txOffset_small hs.1]
      exact readLoop64_eq _ _ n hs

theorem readByte64_eq (r : Reader) (h : Small r) :
    r.readByte64 = r.readByte ∧ Small r.readByte.1 := by
  simp only [Reader.readByte64, Reader.readByte]
  cases he : r.err with
  | some e => exact ⟨rfl, h⟩
  | none =>
    simp only
    have hs := small_skipEmpty r.skipFuel r h
    generalize r.skipEmpty r.skipFuel = r1 at hs ⊢
    cases he1 : r1.err with
    | some e => exact ⟨rfl, hs⟩
    | none =>
      simp only [Block.txOffset_small hs.1]
      have hd : r1.cur.readByte.2.2.data = r1.cur.data := Block.readByte_data r1.cur
      rcases hrd : r1.cur.readByte with ⟨c, eof, b⟩
      rw [hrd] at hd
      simp only at hd
      have hb : b.data.length < 65536 := by rw [hd]; exact hs.1
      cases eof with
      | false =>
        simp only
        rw [Reader.setEnd64_small (by exact hb)]
        exact ⟨rfl, hb, hs.2⟩
      | true =>
        simp only
        cases hbl : r1.blocked with
        | true =>
          simp only [if_true]
          rw [Reader.setEnd64_small (by exact hb)]
          exact ⟨rfl, hb, hs.2⟩
        | false =>
          simp only [Bool.false_eq_true, if_false]
          have hn := small_nextBlock (r := { r1 with cur := b, lastChunk := ⟨r1.cur.tx, r1.lastChunk.fin⟩, err := some Err.eof }) ⟨hb, hs.2⟩
          rw [Reader.setEnd64_small (by exact hn.1)]
          exact ⟨rfl, hn⟩
theorem small_seek (r : Reader) (o : Offset) (h : Small r) : Small (r.seek o).1 := by
  simp only [Reader.seek]
  split
  · have hl := small_load h.2 r.cur o.file
    rcases hld : Block.load r.file r.cur o.file with ⟨b, e⟩
    rw [hld] at hl
    cases e with
    | some e => exact ⟨hl, h.2⟩
    | none => exact ⟨hl, h.2⟩
  · exact ⟨h.1, h.2⟩

theorem step64_eq (r : Reader) (op : Op) (h : Small r) :
    r.step64 op = r.step op ∧ Small (r.step op).1 := by
  cases op with
  | read n =>
    have := read64_eq r n h
    simp only [Reader.step64, Reader.step, this.1]; exact ⟨trivial, this.2⟩
  | readByte =>
    have := readByte64_eq r h
    simp only [Reader.step64, Reader.step, this.1]; exact ⟨trivial, this.2⟩
  | seek o => exact ⟨rfl, small_seek r o h⟩
  | setBlocked b => exact ⟨rfl, h⟩

theorem run64_eq_run : ∀ (ops : List Op) (r : Reader), Small r → r.run64 ops = r.run ops := by
  intro ops
  induction ops with
  | nil => intro r _; rfl
  | cons op ops ih =>
    intro r h
    have := step64_eq r op h
    simp only [Reader.run64, Reader.run, this.1, ih _ this.2]

theorem small_new {f : File} (hwf : WF f) {r0 : Reader} (h0 : Reader.new f = .ok r0) : Small r0 := by
  obtain ⟨m, post, rfl, rfl⟩ := Reader.new_ok h0
  exact ⟨(hwf m (.head _)).2, fun m hm => (hwf m hm).2⟩

end Hts.Model.Bgzf
