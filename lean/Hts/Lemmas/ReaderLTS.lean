/-
The read-ahead protocol (Model/ReaderLTS.lean) in the form the invariants are proved over. The step functions of
the two threads are restated as inductive relations, sound and complete for `apiStep` and `wkStep`, so that a
proof by cases on a step gets one named case per branch with its guards as hypotheses; what a step of either thread
leaves alone (`ApiStep.worker`, `ApiStep.script`, `WkStep.frame`) is read off them here. Beside them, the notions
the invariants are stated in: blocks as results of loads (`WFBlk`, `Blocks`), positions along the file (`adv`),
the deliveries to come as a chain (`ChainFrom`).
The decision tree of `apiStep`/`wkStep` is mirrored by hand four times: the rules `ApiStep`/`WkStep`, `apiStep_sound`/
`wkStep_sound`, `ApiStep.complete`/`WkStep.complete` (here), and `inv_progress` with `wk_fires` (ReaderLTSMain).  Functions
and proofs with a default case, which take a new constructor of `Cons`/`Worker` silently: `Worker.committed`, `natural`,
`holds`, `Cons.holds` (Model/ReaderLTS.lean), `AtPc` with `Inv.atPc` and the last case of `ApiStep.inv` (ReaderLTSInv),
`ApiStep.script`, `ApiStep.blocks`, `WkStep.blocks` (here), `ApiStep.weight` (ReaderLTSMain); `consWeight` and
`workerWeight` have none.
-/
import Hts.Model.ReaderLTS
namespace Hts.Model.ReadAhead

/-- split a hypothesis `h : xxxStep … = some (e, t)` (already unfolded) into its branches -/
macro "step_cases" h:ident : tactic =>
  `(tactic| (repeat' (split at $h:ident)) <;>
      first
        | (cases $h:ident; done)
        | (simp only [Option.some.injEq, Prod.mk.injEq] at $h:ident; obtain ⟨h1, h2⟩ := $h:ident; subst h1 h2)
        | skip)

/-- A block is what a load at its base can return: the member there, or a failure. -/
def WFBlk (chain : Chain) (b : Blk) : Prop :=
  match b.base with
  | some t => b.next = chain t ∨ b.next = none
  | none => b.next = none

variable {cfg : Cfg} {s t : State} {ev : Option Ev}

theorem doLoad_blk {tgt : Option Nat} {fail : Bool} {b : Blk} {h : Option Nat} {e : Ev}
    (hl : doLoad cfg s tgt fail = some (b, h, e)) :
    b.base = tgt ∧ (b.next = tgt.bind cfg.chain ∨ b.next = none ∧ cfg.faults = true) := by
  unfold doLoad at hl
  cases tgt with
  | none => cases (Option.ite_none_left_eq_some.1 hl).2; exact ⟨rfl, .inl rfl⟩
  | some t =>
    simp only at hl
    by_cases hf : fail = true
    · rw [if_pos hf] at hl
      by_cases hq : cfg.faults = true
      · rw [if_pos hq] at hl; cases hl; exact ⟨rfl, .inr ⟨rfl, hq⟩⟩
      · rw [if_neg hq] at hl; cases hl
    · rw [if_neg hf] at hl
      cases hc : cfg.chain t with
      | some nx | none => rw [hc] at hl; cases hl; exact ⟨rfl, .inl hc.symm⟩

theorem doLoad_spec {tgt : Option Nat} {fail : Bool} {b : Blk} {h : Option Nat} {e : Ev}
    (hl : doLoad cfg s tgt fail = some (b, h, e)) : b.base = tgt ∧ WFBlk cfg.chain b := by
  obtain ⟨rfl, hn⟩ := doLoad_blk hl
  refine ⟨rfl, ?_⟩
  unfold WFBlk
  cases hb : b.base with
  | none => exact hn.elim (by simp [hb]) (·.1)
  | some t => exact hn.imp (by simp [hb]) (·.1)

theorem doLoad_enabled (cfg : Cfg) (s : State) (tgt : Option Nat) : ∃ r, doLoad cfg s tgt false = some r := by
  unfold doLoad
  cases tgt with
  | none => exact ⟨_, rfl⟩
  | some t => simp only [Bool.false_eq_true, if_false]; split <;> exact ⟨_, rfl⟩

/-- The consumer's transitions, one constructor per branch of `apiStep`: from program counter `pc` in state
`s` (so `pc = s.cons`) to state `t`, with the event of the step. -/
inductive ApiStep (cfg : Cfg) (s : State) : Cons → Option Ev → State → Prop
  | nextsDone {rest} : s.script = .nexts :: rest →
      ApiStep cfg s .idle none { s with script := rest }
  | nextsMore {rest e} : s.script = .nexts :: rest → s.cur.next = some e →
      ApiStep cfg s .idle none { s with cons := .scan e 0 }
  | next {rest e} : s.script = .next :: rest → s.cur.next = some e →
      ApiStep cfg s .idle (some (.call .next)) { s with script := rest, cons := .scan e 0 }
  | nextFailed {rest} : s.script = .next :: rest → s.cur.next = none →
      ApiStep cfg s .idle (some (.call .next)) { s with script := rest, cons := .ret false }
  | seekFast {rest off} : s.script = .seek off :: rest → s.cur.base = some off ∧ good s.cur →
      ApiStep cfg s .idle (some (.call (.seek off))) { s with script := rest, cons := .ret true }
  | seek {rest off} : s.script = .seek off :: rest → ¬ (s.cur.base = some off ∧ good s.cur) →
      ApiStep cfg s .idle (some (.call (.seek off))) { s with script := rest, cons := .sel off }
  | close {rest} : s.script = .close :: rest →
      ApiStep cfg s .idle (some (.call .close)) { s with script := rest, ctlClosed := true, cons := .closeW }
  | note {rest id} : s.script = .note id :: rest →
      ApiStep cfg s .idle (some (.call (.note id))) { s with script := rest }
  | scanHit {e i b rest} : s.working = b :: rest → b.base = some e →
      ApiStep cfg s (.scan e i) none
        { s with working := rest, waiting := s.waiting + 1, cur := b, cons := .ret (good b) }
  | scanFailed {e i b rest} : s.working = b :: rest → b.base ≠ some e → b.next = none →
      ApiStep cfg s (.scan e i) none { s with working := rest, cons := .fetch e }
  | scanPanic {e i b rest} : s.working = b :: rest → b.base ≠ some e → b.next ≠ none → i + 1 = cfg.rd →
      ApiStep cfg s (.scan e i) none { s with working := rest, waiting := s.waiting + 1, cons := .panicked }
  | scanSkip {e i b rest} : s.working = b :: rest → b.base ≠ some e → b.next ≠ none → i + 1 ≠ cfg.rd →
      ApiStep cfg s (.scan e i) none
        { s with working := rest, waiting := s.waiting + 1, cons := .scan e (i + 1) }
  | fetch {e f b h ev} : doLoad cfg s (some e) f = some (b, h, ev) →
      ApiStep cfg s (.fetch e) (some ev) { s with cur := b, head := h, cons := .drain e }
  | selHit {off b rest} : s.working = b :: rest → good b ∧ b.base = some off →
      ApiStep cfg s (.sel off) none { s with working := rest, cur := b, cons := .drain off }
  | selStale {off b rest} : s.working = b :: rest → ¬ (good b ∧ b.base = some off) →
      ApiStep cfg s (.sel off) none { s with working := rest, cons := .sync off }
  | selIdle {off} : 0 < s.waiting →
      ApiStep cfg s (.sel off) none { s with waiting := s.waiting - 1, cons := .sync off }
  | sync {off f b h ev} : doLoad cfg s (some off) f = some (b, h, ev) →
      ApiStep cfg s (.sync off) (some ev) { s with cur := b, head := h, cons := .drain off }
  | drain {w} : ApiStep cfg s (.drain w) none { s with control := none, cons := .send w }
  | send {w} : s.control = none →
      ApiStep cfg s (.send w) none
        { s with control := some s.cur.next, waiting := s.waiting + 1, cons := .ret (good s.cur) }
  | ret {ok} : ApiStep cfg s (.ret ok) (some (.ret ok)) { s with cons := .idle }
  | closeW : ApiStep cfg s .closeW none { s with wtClosed := true, cons := .join }
  | join {held} : s.worker = .exited held →
      ApiStep cfg s .join (some (.ret true)) { s with cons := .closed }

theorem apiStep_sound {c f : Bool} (h : apiStep cfg s c f = some (ev, t)) : ApiStep cfg s s.cons ev t := by
  unfold apiStep at h
  split at h
  next hc =>
    replace h := (Option.ite_none_left_eq_some.1 h).2
    split at h
    next => cases h
    next rest hs =>
      by_cases hch : c = true
      · rw [if_pos hch] at h
        cases h
        have h := ApiStep.nextsDone (cfg := cfg) hs
        rwa [← hc] at h
      rw [if_neg hch] at h
      split at h
      next e he => cases h; exact hc ▸ ApiStep.nextsMore hs he
      next => cases h
    next rest hs =>
      replace h := (Option.ite_none_left_eq_some.1 h).2
      split at h
      next e he => cases h; exact hc ▸ ApiStep.next hs he
      next he => cases h; exact hc ▸ ApiStep.nextFailed hs he
    next off rest hs =>
      replace h := (Option.ite_none_left_eq_some.1 h).2
      by_cases hf : s.cur.base = some off ∧ good s.cur = true
      · rw [if_pos hf] at h; cases h; exact hc ▸ ApiStep.seekFast hs hf
      · rw [if_neg hf] at h; cases h; exact hc ▸ ApiStep.seek hs hf
    next rest hs =>
      cases (Option.ite_none_left_eq_some.1 h).2; exact hc ▸ ApiStep.close hs
    next id rest hs =>
      cases (Option.ite_none_left_eq_some.1 h).2; have h := ApiStep.note (cfg := cfg) hs; rwa [← hc] at h
  next e i hc =>
    replace h := (Option.ite_none_left_eq_some.1 h).2
    split at h
    next => cases h
    next b rest hw =>
      by_cases hb : b.base = some e
      · rw [if_pos hb] at h; cases h; exact hc ▸ ApiStep.scanHit hw hb
      rw [if_neg hb] at h
      by_cases hn : b.next = none
      · rw [if_pos hn] at h; cases h; exact hc ▸ ApiStep.scanFailed hw hb hn
      rw [if_neg hn] at h
      by_cases hi : i + 1 = cfg.rd
      · rw [if_pos hi] at h; cases h; exact hc ▸ ApiStep.scanPanic hw hb hn hi
      · rw [if_neg hi] at h; cases h; exact hc ▸ ApiStep.scanSkip hw hb hn hi
  next e hc =>
    replace h := (Option.ite_none_left_eq_some.1 h).2
    split at h
    next b hd e' hl => cases h; exact hc ▸ ApiStep.fetch hl
    next => cases h
  next off hc =>
    replace h := (Option.ite_none_left_eq_some.1 h).2
    by_cases hch : c = true
    · rw [if_pos hch] at h
      split at h
      next => cases h
      next b rest hw =>
        by_cases hg : good b = true ∧ b.base = some off
        · rw [if_pos hg] at h; cases h; exact hc ▸ ApiStep.selHit hw hg
        · rw [if_neg hg] at h; cases h; exact hc ▸ ApiStep.selStale hw hg
    · rw [if_neg hch] at h
      by_cases hp : 0 < s.waiting
      · rw [if_pos hp] at h; cases h; exact hc ▸ ApiStep.selIdle hp
      · rw [if_neg hp] at h; cases h
  next off hc =>
    replace h := (Option.ite_none_left_eq_some.1 h).2
    split at h
    next b hd e' hl => cases h; exact hc ▸ ApiStep.sync hl
    next => cases h
  next w hc => cases (Option.ite_none_left_eq_some.1 h).2; exact hc ▸ ApiStep.drain
  next w hc =>
    replace h := (Option.ite_none_left_eq_some.1 h).2
    split at h
    next hctl => cases h; exact hc ▸ ApiStep.send hctl
    next => cases h
  next ok hc => cases (Option.ite_none_left_eq_some.1 h).2; exact hc ▸ ApiStep.ret
  next hc => cases (Option.ite_none_left_eq_some.1 h).2; exact hc ▸ ApiStep.closeW
  next hc =>
    replace h := (Option.ite_none_left_eq_some.1 h).2
    split at h
    next held hw => cases h; exact hc ▸ ApiStep.join hw
    next => cases h
  next => cases h
  next => cases h

/-- The worker's transitions, one constructor per branch of `wkStep`, from program counter `pc = s.worker`. -/
inductive WkStep (cfg : Cfg) (s : State) : Worker → Option Ev → State → Prop
  | take {nx} : 0 < s.waiting →
      WkStep cfg s (.idle nx) none { s with waiting := s.waiting - 1, worker := .have nx }
  | exitIdle {nx} : s.waiting = 0 → s.wtClosed = true →
      WkStep cfg s (.idle nx) none { s with worker := .exited false }
  | stay : s.control = some none →
      WkStep cfg s (.have none) none { s with control := none }
  | redirect {nx v} : s.control = some v → ¬ (nx = none ∧ v = none) →
      WkStep cfg s (.have nx) none { s with control := none, worker := .load v }
  | exitHeld {nx} : s.control = none → s.ctlClosed = true →
      WkStep cfg s (.have nx) none { s with worker := .exited true }
  | goOn {b} : s.control = none → s.ctlClosed = false →
      WkStep cfg s (.have (some b)) none { s with worker := .load (some b) }
  | load {tgt f b h e} : doLoad cfg s tgt f = some (b, h, e) →
      WkStep cfg s (.load tgt) (some e) { s with head := h, worker := .push b }
  | push {b} : s.working.length < cfg.rd →
      WkStep cfg s (.push b) none { s with working := s.working ++ [b], worker := .idle b.next }

theorem wkStep_sound {f : Bool} (h : wkStep cfg s f = some (ev, t)) : WkStep cfg s s.worker ev t := by
  unfold wkStep at h
  split at h
  next nx hw =>
    replace h := (Option.ite_none_left_eq_some.1 h).2
    by_cases hp : 0 < s.waiting
    · rw [if_pos hp] at h; cases h; exact hw ▸ WkStep.take hp
    rw [if_neg hp] at h
    by_cases hc : s.wtClosed = true
    · rw [if_pos hc] at h; cases h; exact hw ▸ WkStep.exitIdle (by omega) hc
    · rw [if_neg hc] at h; cases h
  next nx hw =>
    replace h := (Option.ite_none_left_eq_some.1 h).2
    split at h
    next v hc =>
      by_cases hn : nx = none ∧ v = none
      · rw [if_pos hn] at h; cases h; obtain ⟨rfl, rfl⟩ := hn
        have h := WkStep.stay (cfg := cfg) hc; rwa [← hw] at h
      · rw [if_neg hn] at h; cases h; exact hw ▸ WkStep.redirect hc hn
    next hc =>
      by_cases hcl : s.ctlClosed = true
      · rw [if_pos hcl] at h; cases h; exact hw ▸ WkStep.exitHeld hc hcl
      rw [if_neg hcl] at h
      split at h
      next b => cases h; exact hw ▸ WkStep.goOn hc (by simpa using hcl)
      next => cases h
  next tgt hw =>
    split at h
    next b hd e hl => cases h; exact hw ▸ WkStep.load hl
    next => cases h
  next b hw =>
    replace h := (Option.ite_none_left_eq_some.1 h).2
    by_cases hl : s.working.length < cfg.rd
    · rw [if_pos hl] at h; cases h; exact hw ▸ WkStep.push hl
    · rw [if_neg hl] at h; cases h
  next => cases h

theorem next_sound {l : Label} (h : next cfg s l = some (ev, t)) :
    ApiStep cfg s s.cons ev t ∨ WkStep cfg s s.worker ev t := by
  cases l with
  | api c f => exact .inl (apiStep_sound h)
  | wk f => exact .inr (wkStep_sound h)

theorem ApiStep.worker {pc : Cons} (h : ApiStep cfg s pc ev t) : t.worker = s.worker := by
  cases h <;> rfl

theorem WkStep.frame {pc : Worker} (h : WkStep cfg s pc ev t) :
    t.cons = s.cons ∧ t.cur = s.cur ∧ t.ctlClosed = s.ctlClosed ∧ t.wtClosed = s.wtClosed ∧
    t.script = s.script ∧ (s.control = none → t.control = none) := by
  cases h with
  | stay | redirect => exact ⟨rfl, rfl, rfl, rfl, rfl, fun _ => rfl⟩
  | _ => exact ⟨rfl, rfl, rfl, rfl, rfl, id⟩

theorem ApiStep.script {pc : Cons} (h : ApiStep cfg s pc ev t) :
    t.script = s.script ∨ (pc = .idle ∧ ∃ op, s.script = op :: t.script) := by
  cases h with
  | nextsDone hs | next hs | nextFailed hs | seekFast hs | seek hs | close hs | note hs => exact .inr ⟨rfl, _, hs⟩
  | _ => exact .inl rfl

theorem next_script {l : Label} (h : next cfg s l = some (ev, t)) :
    t.script = s.script ∨ (s.cons = .idle ∧ ∃ op, s.script = op :: t.script) :=
  (next_sound h).elim (·.script) (.inl ·.frame.2.2.2.2.1)

/-- `P` holds of every block there is in state `s`. -/
def Blocks (P : Blk → Prop) (s : State) : Prop :=
  P s.cur ∧ (∀ b ∈ s.working, P b) ∧ ∀ b, s.worker = .push b → P b

variable {P : Blk → Prop}

theorem WkStep.blocks {pc : Worker} (h : WkStep cfg s pc ev t) (hw : s.worker = pc)
    (hl : ∀ {tgt f b hd e}, doLoad cfg s tgt f = some (b, hd, e) → P b) (hs : Blocks P s) : Blocks P t := by
  obtain ⟨h1, h2, h3⟩ := hs
  cases h with
  | load hld => exact ⟨h1, h2, fun _ hb => by cases hb; exact hl hld⟩
  | push =>
    refine ⟨h1, fun b hb => ?_, nofun⟩
    rcases List.mem_append.mp hb with hb | hb
    · exact h2 b hb
    · exact List.mem_singleton.mp hb ▸ h3 _ hw
  | stay => exact ⟨h1, h2, h3⟩
  | _ => exact ⟨h1, h2, nofun⟩

theorem ApiStep.blocks {pc : Cons} (h : ApiStep cfg s pc ev t)
    (hl : ∀ {tgt f b hd e}, doLoad cfg s tgt f = some (b, hd, e) → P b) (hs : Blocks P s) : Blocks P t := by
  obtain ⟨h1, h2, h3⟩ := hs
  have hp := h.worker ▸ h3
  cases h with
  | fetch hld | sync hld => exact ⟨hl hld, h2, hp⟩
  | scanHit hw | selHit hw => exact ⟨h2 _ (hw ▸ .head _), fun b hb => h2 b (hw ▸ .tail _ hb), hp⟩
  | scanFailed hw | scanPanic hw | scanSkip hw | selStale hw => exact ⟨h1, fun b hb => h2 b (hw ▸ .tail _ hb), hp⟩
  | _ => exact ⟨h1, h2, hp⟩

theorem WkStep.complete {pc : Worker} (h : WkStep cfg s pc ev t) (hw : s.worker = pc) :
    ∃ f, wkStep cfg s f = some (ev, t) := by
  cases h with
  | @load _ f _ _ _ hl => exact ⟨f, by simp only [wkStep, hw, hl]⟩
  | take h1 | stay h1 | push h1 => exact ⟨false, by simp [wkStep, hw, h1]⟩
  | exitIdle h1 h2 | redirect h1 h2 | exitHeld h1 h2 | goOn h1 h2 => exact ⟨false, by simp [wkStep, hw, h1, h2]⟩

theorem ApiStep.complete {pc : Cons} (h : ApiStep cfg s pc ev t) (hc : s.cons = pc) :
    ∃ c f, apiStep cfg s c f = some (ev, t) := by
  cases h with
  | nextsDone hs => exact ⟨true, false, by simp [apiStep, hc, hs]⟩
  | selHit hw hg => exact ⟨true, false, by simp [apiStep, hc, hw, hg]⟩
  | selStale hw hg => exact ⟨true, false, by simp only [apiStep, hc, hw, hg]; simp⟩
  | seek hs hf => exact ⟨false, false, by simp only [apiStep, hc, hs, hf]; simp⟩
  | @fetch _ f _ _ _ hl | @sync _ f _ _ _ hl => exact ⟨false, f, by simp [apiStep, hc, hl]⟩
  | drain | ret | closeW => exact ⟨false, false, by simp [apiStep, hc]⟩
  | close h1 | note h1 | selIdle h1 | send h1 | join h1 => exact ⟨false, false, by simp [apiStep, hc, h1]⟩
  | nextsMore h1 h2 | next h1 h2 | nextFailed h1 h2 | seekFast h1 h2 | scanHit h1 h2 =>
    exact ⟨false, false, by simp [apiStep, hc, h1, h2]⟩
  | scanFailed h1 h2 h3 => exact ⟨false, false, by simp [apiStep, hc, h1, h2, h3]⟩
  | scanPanic h1 h2 h3 h4 | scanSkip h1 h2 h3 h4 => exact ⟨false, false, by simp [apiStep, hc, h1, h2, h3, h4]⟩

/-- `d` members further along the file. -/
def adv (chain : Chain) : Nat → Option Nat → Option Nat
  | 0, T => T
  | d + 1, T => match T with
    | some t => adv chain d (chain t)
    | none => none

/-- Member sizes are positive: the next base is larger. -/
def Mono (chain : Chain) : Prop := ∀ b b', chain b = some b' → b < b'

theorem adv_none (chain : Chain) (d : Nat) : adv chain d none = none := by
  cases d <;> rfl

theorem adv_succ (chain : Chain) (d : Nat) (T : Option Nat) :
    adv chain (d + 1) T = (adv chain d T).bind chain := by
  induction d generalizing T with
  | zero => cases T <;> rfl
  | succ d ih =>
    cases T with
    | none => simp [adv]
    | some t => simp only [adv] at ih ⊢; exact ih (chain t)

theorem adv_ge {chain : Chain} (hm : Mono chain) : ∀ (d t e : Nat), adv chain d (some t) = some e →
    t ≤ e ∧ (0 < d → t < e) := by
  intro d
  induction d with
  | zero => intro t e h; simp [adv] at h; omega
  | succ d ih =>
    intro t e h
    simp only [adv] at h
    cases hc : chain t with
    | none => rw [hc, adv_none] at h; cases h
    | some t' =>
      rw [hc] at h
      have := ih t' e h
      have := hm t t' hc
      omega

/-- `ChainFrom chain T new wn`: `new` is a run of consecutive members starting at `T`; a failed load ends it; `wn`
is what the worker reads after it.  The last element may be a load the worker is committed to. -/
def ChainFrom (chain : Chain) : Option Nat → List Slot → Option Nat → Prop
  | T, [], wn => wn = T
  | T, .blk b :: rest, wn => b.base = T ∧ WFBlk chain b ∧ ChainFrom chain b.next rest wn
  | T, [.tgt x], _ => x = T
  | _, .tgt _ :: _ :: _, _ => False

theorem chainFrom_append_tgt {chain : Chain} {T : Option Nat} {new : List Slot} {x : Option Nat}
    (h : ChainFrom chain T new x) (hl : ∀ y, Slot.tgt y ∉ new) (wn : Option Nat) :
    ChainFrom chain T (new ++ [.tgt x]) wn := by
  induction new generalizing T with
  | nil => simp only [ChainFrom] at h; subst h; simp [ChainFrom]
  | cons a rest ih =>
    cases a with
    | blk b =>
      simp only [ChainFrom, List.cons_append] at h ⊢
      exact ⟨h.1, h.2.1, ih h.2.2 (fun y hy => hl y (by simp [hy]))⟩
    | tgt y => exact absurd (by simp) (hl y)

theorem chainFrom_load {chain : Chain} {T : Option Nat} {pre : List Slot} {x : Option Nat} {b : Blk}
    {wn : Option Nat} (h : ChainFrom chain T (pre ++ [.tgt x]) wn) (hb : b.base = x) (hw : WFBlk chain b) :
    ChainFrom chain T (pre ++ [.blk b]) b.next := by
  induction pre generalizing T with
  | nil => simp only [List.nil_append, ChainFrom] at h ⊢; exact ⟨hb.trans h, hw, trivial⟩
  | cons a rest ih =>
    cases a with
    | blk c =>
      simp only [ChainFrom, List.cons_append] at h ⊢
      exact ⟨h.1, h.2.1, ih h.2.2⟩
    | tgt y => cases rest <;> simp [ChainFrom] at h

end Hts.Model.ReadAhead
