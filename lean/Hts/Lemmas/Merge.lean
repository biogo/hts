/-
C17: the merge loop of Hts.Model.Merge for any `close` test.  Its result begins where the left neighbour began
(`mergeLoop_head`), which carries sortedness by begin through the loop; and when `close` sees its right chunk only
through the begin (`CloseB`), no two neighbours of the result are `close`, so the loop is idempotent.  `mergeAll close` is
what `adjacent` and `compressor near` both are (by `rfl`); sortedness, separation, idempotence and enclosure of the strategies
are stated for it (`mergeLoop_offsets` and `mergeLoop_adj_covers_only`, one user each, for the loop).
-/
import Hts.Model.Merge
namespace Hts.Model.Merge

def CloseB (close : Chunk → Chunk → Bool) : Prop :=
  ∀ l r r', r.b = r'.b → close l r = close l r'

theorem adjClose_closeB : CloseB adjClose := by
  intro l r r' h; simp [adjClose, h]

theorem nearClose_closeB (near : Int) : CloseB (nearClose near) := by
  intro l r r' h; simp [nearClose, h]

/-- no two neighbours are `close` -/
def NoClose (close : Chunk → Chunk → Bool) : List Chunk → Prop
  | [] => True
  | [_] => True
  | a :: b :: rest => close a b = false ∧ NoClose close (b :: rest)

theorem le_mergeInto_e (l r : Chunk) :
    vOff l.e ≤ vOff (mergeInto l r).e ∧ vOff r.e ≤ vOff (mergeInto l r).e := by
  unfold mergeInto
  simp only
  split
  · exact ⟨Int.le_refl _, by omega⟩
  · exact ⟨by omega, Int.le_refl _⟩

theorem mergeLoop_head (close) (l : Chunk) (rs : List Chunk) :
    ∃ h tl, mergeLoop close l rs = h :: tl ∧ h.b = l.b := by
  induction rs generalizing l with
  | nil => exact ⟨l, [], rfl, rfl⟩
  | cons r rs ih =>
    unfold mergeLoop
    split
    · obtain ⟨h, tl, e, hb⟩ := ih (mergeInto l r)
      exact ⟨h, tl, e, hb⟩
    · exact ⟨l, _, rfl, rfl⟩

theorem sortedB_tail {a : Chunk} {l : List Chunk} (h : SortedB (a :: l)) : SortedB l := by
  cases l with
  | nil => trivial
  | cons b rest => exact h.2

theorem sortedB_cons_of_head {a b : Chunk} {l : List Chunk} (hb : a.b = b.b) (h : SortedB (b :: l)) :
    SortedB (a :: l) := by
  cases l with
  | nil => trivial
  | cons c rest => exact ⟨hb ▸ h.1, h.2⟩

theorem sortedB_head_le {a : Chunk} {l : List Chunk} (h : SortedB (a :: l)) :
    ∀ c, c ∈ l → vOff a.b ≤ vOff c.b := by
  induction l generalizing a with
  | nil => exact List.forall_mem_nil _
  | cons b rest ih => exact List.forall_mem_cons.2 ⟨h.1, fun c hc => Int.le_trans h.1 (ih h.2 c hc)⟩

theorem sortedB_merge {l r : Chunk} {rs : List Chunk} (h : SortedB (l :: r :: rs)) :
    SortedB (mergeInto l r :: rs) := by
  cases rs with
  | nil => trivial
  | cons r2 rest =>
    exact ⟨Int.le_trans h.1 h.2.1, h.2.2⟩

theorem mergeLoop_sorted (close) (l : Chunk) (rs : List Chunk) (h : SortedB (l :: rs)) :
    SortedB (mergeLoop close l rs) := by
  induction rs generalizing l with
  | nil => trivial
  | cons r rs ih =>
    unfold mergeLoop
    split
    · exact ih _ (sortedB_merge h)
    · obtain ⟨hd, tl, e, hb⟩ := mergeLoop_head close r rs
      have := ih r h.2
      rw [e] at this ⊢
      exact ⟨hb ▸ h.1, this⟩

theorem covers_cons (c : Chunk) (cs : List Chunk) (p : Int) :
    covers (c :: cs) p ↔ covers1 c p ∨ covers cs p := by
  simp only [covers, List.mem_cons, exists_eq_or_imp]

theorem covers1_mergeInto_adj (l r : Chunk) (p : Int) (hc : adjClose l r = true)
    (h : covers1 (mergeInto l r) p) : covers1 l p ∨ covers1 r p := by
  unfold covers1 mergeInto adjClose at *
  simp only [decide_eq_true_eq] at hc
  simp only at h
  split at h
  · left; omega
  · by_cases hp : p < vOff l.e
    · left; omega
    · right; omega

theorem mergeLoop_adj_covers_only (l : Chunk) (rs : List Chunk) (p : Int)
    (h : covers (mergeLoop adjClose l rs) p) : covers (l :: rs) p := by
  induction rs generalizing l with
  | nil => exact h
  | cons r rs ih =>
    unfold mergeLoop at h
    rw [covers_cons, covers_cons]
    split at h
    · rename_i hc
      rcases (covers_cons ..).1 (ih _ h) with h1 | h1
      · exact (covers1_mergeInto_adj l r p hc h1).imp_right Or.inl
      · exact Or.inr (Or.inr h1)
    · exact ((covers_cons ..).1 h).imp_right fun h => (covers_cons ..).1 (ih _ h)

theorem mergeLoop_noClose (close) (hcb : CloseB close) (l : Chunk) (rs : List Chunk) :
    NoClose close (mergeLoop close l rs) := by
  induction rs generalizing l with
  | nil => trivial
  | cons r rs ih =>
    unfold mergeLoop
    split
    · exact ih _
    · rename_i hc
      obtain ⟨hd, tl, e, hb⟩ := mergeLoop_head close r rs
      have := ih r
      rw [e] at this ⊢
      exact ⟨(hcb l hd r hb).trans (Bool.eq_false_iff.2 hc), this⟩

theorem mergeLoop_id_of_noClose (close) (l : Chunk) (rs : List Chunk) (h : NoClose close (l :: rs)) :
    mergeLoop close l rs = l :: rs := by
  induction rs generalizing l with
  | nil => rfl
  | cons r rs ih =>
    unfold mergeLoop
    rw [h.1, ih r h.2]
    rfl

/-- `adjacent` and every `compressor near`, as one function of the closeness test -/
def mergeAll (close : Chunk → Chunk → Bool) : List Chunk → List Chunk
  | [] => []
  | c :: cs => mergeLoop close c cs

theorem adjacent_eq : adjacent = mergeAll adjClose := rfl
theorem compressor_eq (near : Int) : compressor near = mergeAll (nearClose near) := rfl

theorem mergeAll_sorted (close) : ∀ cs : List Chunk, SortedB cs → SortedB (mergeAll close cs)
  | [], _ => trivial
  | c :: cs, h => mergeLoop_sorted close c cs h

theorem mergeAll_noClose (close) (hcb : CloseB close) : ∀ cs : List Chunk, NoClose close (mergeAll close cs)
  | [] => trivial
  | c :: cs => mergeLoop_noClose close hcb c cs

theorem mergeAll_idem (close) (hcb : CloseB close) : ∀ cs : List Chunk,
    mergeAll close (mergeAll close cs) = mergeAll close cs
  | [] => rfl
  | c :: cs => by
    obtain ⟨hd, tl, e, _⟩ := mergeLoop_head close c cs
    show mergeAll close (mergeLoop close c cs) = mergeLoop close c cs
    rw [e]
    exact mergeLoop_id_of_noClose close hd tl (e ▸ mergeLoop_noClose close hcb c cs)

theorem wrap64_id (x : Int) (h1 : -(2 ^ 63) ≤ x) (h2 : x < 2 ^ 63) : wrap64 x = x := by
  unfold wrap64; omega

theorem mergeLoop_offsets (P : Offset → Prop) (close) (l : Chunk) (rs : List Chunk)
    (h : ∀ y, y ∈ l :: rs → P y.b ∧ P y.e) : ∀ x, x ∈ mergeLoop close l rs → P x.b ∧ P x.e := by
  induction rs generalizing l with
  | nil => exact h
  | cons r rs ih =>
    obtain ⟨hl, hrs⟩ := List.forall_mem_cons.1 h
    obtain ⟨hr, hrs'⟩ := List.forall_mem_cons.1 hrs
    unfold mergeLoop
    split
    · refine ih _ (List.forall_mem_cons.2 ⟨⟨hl.1, ?_⟩, hrs'⟩)
      unfold mergeInto
      split
      · exact hl.2
      · exact hr.2
    · exact List.forall_mem_cons.2 ⟨hl, ih r hrs⟩

theorem noClose_congr (c1 c2 : Chunk → Chunk → Bool) (P : Chunk → Prop)
    (h : ∀ a b, P a → P b → c1 a b = c2 a b) :
    ∀ L : List Chunk, (∀ x, x ∈ L → P x) → NoClose c1 L → NoClose c2 L
  | [], _, _ => trivial
  | [_], _, _ => trivial
  | a :: b :: rest, hall, hn => by
    obtain ⟨ha, hall⟩ := List.forall_mem_cons.1 hall
    exact ⟨h a b ha (hall b List.mem_cons_self) ▸ hn.1, noClose_congr c1 c2 P h (b :: rest) hall hn.2⟩

theorem maxEnd_ge (right : Offset) (cs : List Chunk) :
    vOff right ≤ vOff (maxEnd right cs) ∧ ∀ c, c ∈ cs → vOff c.e ≤ vOff (maxEnd right cs) := by
  induction cs generalizing right with
  | nil => exact ⟨Int.le_refl _, fun c hc => by cases hc⟩
  | cons c cs ih =>
    unfold maxEnd
    split
    · have := ih c.e
      exact ⟨by omega, List.forall_mem_cons.2 this⟩
    · have := ih right
      exact ⟨this.1, List.forall_mem_cons.2 ⟨by omega, this.2⟩⟩

theorem maxEnd_mem (right : Offset) (cs : List Chunk) :
    maxEnd right cs = right ∨ ∃ c, c ∈ cs ∧ maxEnd right cs = c.e := by
  induction cs generalizing right with
  | nil => exact Or.inl rfl
  | cons c cs ih =>
    unfold maxEnd
    split
    · rcases ih c.e with h | ⟨x, hx, hxe⟩
      · exact Or.inr ⟨c, List.mem_cons_self, h⟩
      · exact Or.inr ⟨x, List.mem_cons_of_mem _ hx, hxe⟩
    · exact (ih right).imp_right fun ⟨x, hx, hxe⟩ => ⟨x, List.mem_cons_of_mem _ hx, hxe⟩

end Hts.Model.Merge
