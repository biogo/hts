/-
Writer LTS: what no step undoes (`Mono`); what an observable event says about the step that emitted it; the trace
invariant `RInv` (durability after Wait/Close, error latch, wedging after a failed write) along every run (`run_inv`),
and the two durability bridges for `Wait`, `wait_durable`, `out_take_of_wait_ok` (that for `Close` is read off `RInv.closeOK`,
`closeRet` in Props/C12 `close_durable`).  `At.joined`: after Close has returned the emitter is done.  `TrOK` (the counts recorded by returns never
decrease along the trace) is needed by `wait_durable` alone.  Defined here, used in property statements: `isApiEv`.
-/
import Hts.Lemmas.WriterLTSInv
namespace Hts.Model.WriterLTS

variable {cfg : Cfg} {s t : State} {e : Option Ev}

structure Mono (s t : State) : Prop where
  out : s.out.length ≤ t.out.length
  sub : s.submitted ≤ t.submitted
  err : s.err = true → t.err = true
  closed : s.closed = true → t.closed = true
  eof : s.eof = true → t.eof = true

theorem trans_mono (h : Trans cfg s e t) : Mono s t := by
  cases h with
  | api h => cases h <;> constructor <;> simp <;> omega
  | em h => cases h <;> constructor <;> simp
  | finQ => constructor <;> simp
  | finE => constructor <;> simp

/-- the pcs that can occur once `Close` has returned -/
def apiAfterCloseRet : ApiPc → Bool
  | .idle => true
  | .retClosed => true
  | .wtChk => true
  | .wtBlock => true
  | .cRet => true
  | _ => false

theorem At.joined {pc : ApiPc} (h : At s pc) (hc : s.closed = true) (ha : apiAfterCloseRet pc = true) :
    s.em = .done := by
  -- between calls and inside `Wait` (`Outside`), or at `cRet`; `apiAfterCloseRet` excludes every other pc
  cases pc <;> first | exact (h.2 hc).1 | exact h.2.2.1 | cases ha

theorem ret_eq {op : Op} {r : Res} {m : Nat} (h : Trans cfg s (some (.ret op r m)) t) :
    t = { s with api := .idle } ∧ op = s.cur ∧ m = s.submitted ∧ s.api ≠ .idle := by
  cases h with
  | api h => cases h <;> simp_all
  | em h => cases h

theorem ret_res {op : Op} {r : Res} {m : Nat} (h : Trans cfg s (some (.ret op r m)) t) :
    (r = .err → s.err = true) ∧ (r = .ok → s.err = false) := by
  cases h with
  | api h => cases h <;> simp_all [resOf]
  | em h => cases h

theorem run_err_of_ret {tr : List Ev} (h : Run cfg tr s) {op : Op} {m : Nat} (hmem : .ret op .err m ∈ tr) :
    s.err = true := by
  induction h with
  | init => cases hmem
  | @step tr0 s0 l e t0 hrun hn ih =>
    have ht := next_trans hn
    cases e with
    | none => exact (trans_mono ht).err (ih hmem)
    | some ev =>
      rcases List.mem_cons.1 hmem with rfl | hm
      · have := (ret_res ht).1 rfl
        obtain ⟨rfl, -, -, -⟩ := ret_eq ht
        exact this
      · exact (trans_mono ht).err (ih hm)

theorem ret_pc (hi : Inv cfg s) {op : Op} {r : Res} {m : Nat} (h : Trans cfg s (some (.ret op r m)) t) :
    (op = .wait → r = .ok → s.pending = 0 ∧ s.err = false) ∧ (op = .close → s.api = .cRet ∧ r = resOf s.err) := by
  have hcur := hi.cur
  cases h with
  | api h => cases h <;> refine ⟨fun ho hr => ?_, fun ho => ?_⟩ <;> simp_all [pcOp, resOf]
  | em h => cases h

theorem close_ret_step (hi : Inv cfg s) {r : Res} {m : Nat} (h : Trans cfg s (some (.ret .close r m)) t) :
    t = { s with api := .idle } ∧ m = s.submitted ∧ r = resOf s.err ∧ s.closed = true ∧ s.em = .done ∧
      (s.err = false → s.out.length = s.submitted ∧ s.eof = true) := by
  obtain ⟨ha, hres⟩ := (ret_pc hi h).2 rfl
  obtain ⟨ht, -, hm, -⟩ := ret_eq h
  exact ⟨ht, hm, hres, at_cRet hi ha⟩

theorem uw_step (hr : cfg.repaired = true) (hi : Inv cfg s) {b : Option Nat} {ok : Bool}
    (h : Trans cfg s (some (.uw b ok)) t) : wedged s = false ∧ (ok = false → wedged t = true) := by
  cases h with
  | api h =>
    have hat := hi.atPc
    cases h <;> simp_all [wedged, emFailed, At]
  | em h => cases h <;> simp_all [wedged, emFailed]

theorem wedged_mono (h : Trans cfg s e t) (hw : wedged s = true) : wedged t = true := by
  cases h with
  | api h =>
    cases h
    case cComp => simpa [wedged] using hw
    case cEofFail => rfl
    all_goals exact hw
  | em h => cases h <;> simp_all [wedged, emFailed]
  | finQ => exact hw
  | finE => simp_all [wedged, emFailed]

theorem call_step {op : Op} (h : Trans cfg s (some (.call op)) t) :
    ∃ rest, s.api = .idle ∧ s.script = op :: rest ∧
      t = { s with script := rest, cur := op, api := entry op s.closed } := by
  cases h with
  | api h => cases h; exact ⟨_, ‹_›, ‹_›, rfl⟩
  | em h => cases h

theorem afterCloseRet_step (hc : s.closed = true) (ha : apiAfterCloseRet s.api = true) (h : Trans cfg s e t) :
    apiAfterCloseRet t.api = true ∧ t.submitted = s.submitted := by
  cases h with
  | api h =>
    cases h
    case call op _ _ _ => cases op <;> simp [hc, entry, apiAfterCloseRet]
    all_goals simp_all [apiAfterCloseRet]
  | em h =>
    rw [(em_frame h).api, (em_frame h).submitted]
    exact ⟨ha, rfl⟩
  | finQ => exact ⟨ha, rfl⟩
  | finE => exact ⟨ha, rfl⟩

/-- the `submitted` counts recorded by return events are non-decreasing in time (the trace is newest first)
    and bounded by `b` -/
def TrOK : List Ev → Nat → Prop
  | [], _ => True
  | .ret _ _ m :: tr, b => m ≤ b ∧ TrOK tr m
  | .call _ :: tr, b => TrOK tr b
  | .uw _ _ :: tr, b => TrOK tr b

theorem TrOK_mono : ∀ {tr : List Ev} {b b' : Nat}, TrOK tr b → b ≤ b' → TrOK tr b'
  | [], _, _, _, _ => trivial
  | .ret _ _ _ :: _, _, _, h, hb => ⟨Nat.le_trans h.1 hb, h.2⟩
  | .call _ :: tr, _, _, h, hb => TrOK_mono (tr := tr) h hb
  | .uw _ _ :: tr, _, _, h, hb => TrOK_mono (tr := tr) h hb

/-- what the events emitted so far (`tr`, newest first) say about the present state.  The fields are of three strengths:
    `trok` and `errRet` are kept by every step of either protocol without `Inv` (`errRet` alone is `run_err_of_ret`); `waitOK`,
    `closeOK`, `closeRet` need `Inv` at the step that emits the event; `failed` needs `Inv` and `cfg.repaired = true`. -/
structure RInv (cfg : Cfg) (tr : List Ev) (s : State) : Prop where
  trok : TrOK tr s.submitted
  waitOK : ∀ m, .ret .wait .ok m ∈ tr → m ≤ s.out.length
  closeOK : ∀ m, .ret .close .ok m ∈ tr → m ≤ s.out.length ∧ s.eof = true
  /-- after `Close` has returned nothing is submitted any more; the pc is carried so that `m = s.submitted` survives
      later steps without `Inv` (`afterCloseRet_step`) -/
  closeRet : ∀ r m, .ret .close r m ∈ tr → s.closed = true ∧ apiAfterCloseRet s.api = true ∧ m = s.submitted
  /-- a failed underlying write wedges the writer for good -/
  failed : ∀ b, .uw b false ∈ tr → wedged s = true
  errRet : ∀ op m, .ret op .err m ∈ tr → s.err = true

theorem rinv_tau {tr : List Ev} (hR : RInv cfg tr s) (h : Trans cfg s e t) : RInv cfg tr t where
  trok := TrOK_mono hR.trok (trans_mono h).sub
  waitOK m hmem := Nat.le_trans (hR.waitOK m hmem) (trans_mono h).out
  closeOK m hmem :=
    have := hR.closeOK m hmem
    ⟨Nat.le_trans this.1 (trans_mono h).out, (trans_mono h).eof this.2⟩
  closeRet r m hmem := by
    obtain ⟨h1, h2, h3⟩ := hR.closeRet r m hmem
    have := afterCloseRet_step h1 h2 h
    exact ⟨(trans_mono h).closed h1, this.1, by omega⟩
  failed b hmem := wedged_mono h (hR.failed b hmem)
  errRet op m hmem := (trans_mono h).err (hR.errRet op m hmem)

theorem RInv.cons {tr : List Ev} {ev : Ev} (hT : RInv cfg tr t) (h0 : TrOK (ev :: tr) t.submitted)
    (h1 : ∀ m, .ret .wait .ok m = ev → m ≤ t.out.length)
    (h2 : ∀ m, .ret .close .ok m = ev → m ≤ t.out.length ∧ t.eof = true)
    (h3 : ∀ r m, .ret .close r m = ev → t.closed = true ∧ apiAfterCloseRet t.api = true ∧ m = t.submitted)
    (h4 : ∀ b, .uw b false = ev → wedged t = true)
    (h5 : ∀ op m, .ret op .err m = ev → t.err = true) : RInv cfg (ev :: tr) t where
  trok := h0
  waitOK m hm := (List.mem_cons.1 hm).elim (h1 m) (hT.waitOK m)
  closeOK m hm := (List.mem_cons.1 hm).elim (h2 m) (hT.closeOK m)
  closeRet r m hm := (List.mem_cons.1 hm).elim (h3 r m) (hT.closeRet r m)
  failed b hm := (List.mem_cons.1 hm).elim (h4 b) (hT.failed b)
  errRet op m hm := (List.mem_cons.1 hm).elim (h5 op m) (hT.errRet op m)

theorem rinv_step (hr : cfg.repaired = true) (hi : Inv cfg s) {tr : List Ev} (hR : RInv cfg tr s)
    (h : Trans cfg s e t) : RInv cfg (e.toList ++ tr) t := by
  have hT := rinv_tau hR h
  cases e with
  | none => exact hT
  | some ev =>
    refine hT.cons ?_ ?_ ?_ ?_ ?_ ?_
    · cases ev with
      | ret op r m =>
        obtain ⟨rfl, -, rfl, -⟩ := ret_eq h
        exact ⟨Nat.le_refl _, hR.trok⟩
      | call op => exact hT.trok
      | uw b ok => exact hT.trok
    · rintro m rfl
      obtain ⟨hp, he⟩ := (ret_pc hi h).1 rfl rfl
      obtain ⟨rfl, -, rfl, -⟩ := ret_eq h
      exact Nat.le_of_eq (pend_zero_out hi hp he).symm
    · rintro m rfl
      obtain ⟨rfl, rfl, -, -, -, hlen⟩ := close_ret_step hi h
      have := hlen ((ret_res h).2 rfl)
      exact ⟨Nat.le_of_eq this.1.symm, this.2⟩
    · rintro r m rfl
      obtain ⟨rfl, rfl, -, hc, -, -⟩ := close_ret_step hi h
      exact ⟨hc, rfl, rfl⟩
    · rintro b rfl
      exact (uw_step hr hi h).2 rfl
    · rintro op m rfl
      have := (ret_res h).1 rfl
      obtain ⟨rfl, -, -, -⟩ := ret_eq h
      exact this

theorem run_inv (hr : cfg.repaired = true) {tr : List Ev} (h : Run cfg tr s) : Inv cfg s ∧ RInv cfg tr s := by
  induction h with
  | init => exact ⟨inv_init cfg, trivial, nofun, nofun, nofun, nofun, nofun⟩
  | step _ hn ih => exact ⟨inv_trans hr ih.1 (next_trans hn), rinv_step hr ih.1 ih.2 (next_trans hn)⟩

theorem run_split {tr : List Ev} (h : Run cfg tr s) {post mid : List Ev} {ev : Ev} (htr : tr = post ++ ev :: mid) :
    ∃ s0 t0, Run cfg mid s0 ∧ Trans cfg s0 (some ev) t0 := by
  induction h generalizing post with
  | init => simp at htr
  | @step tr0 s0 l e t0 hrun hn ih =>
    cases e with
    | none => exact ih htr
    | some ev' =>
      cases post with
      | nil =>
        obtain ⟨rfl, rfl⟩ := List.cons.inj htr
        exact ⟨s0, t0, hrun, next_trans hn⟩
      | cons x post => exact ih (List.cons.inj htr).2

theorem run_split_after {tr : List Ev} (h : Run cfg tr s) {post mid : List Ev} {ev ev' : Ev}
    (htr : tr = post ++ ev :: mid) (hmem : ev' ∈ post) :
    ∃ tr0 s0 t0, Run cfg tr0 s0 ∧ ev ∈ tr0 ∧ Trans cfg s0 (some ev') t0 := by
  obtain ⟨a, c, rfl⟩ := List.append_of_mem hmem
  obtain ⟨s0, t0, hrun, hst⟩ := run_split h (post := a) (by rw [htr, List.append_assoc]; rfl)
  exact ⟨_, s0, t0, hrun, by simp, hst⟩

def isApiEv : Ev → Bool
  | .uw _ _ => false
  | _ => true

theorem TrOK_filter : ∀ {tr : List Ev} {b : Nat}, TrOK tr b → TrOK (tr.filter isApiEv) b
  | [], _, _ => trivial
  | .ret _ _ _ :: _, _, h => ⟨h.1, TrOK_filter h.2⟩
  | .call _ :: tr, _, h => TrOK_filter (tr := tr) h
  | .uw _ _ :: tr, _, h => TrOK_filter (tr := tr) h

theorem TrOK_suffix : ∀ {a l : List Ev} {b : Nat}, TrOK (a ++ l) b → ∃ b', TrOK l b'
  | [], _, b, h => ⟨b, h⟩
  | .ret _ _ _ :: a, _, _, h => TrOK_suffix (a := a) h.2
  | .call _ :: a, l, b, h => TrOK_suffix (a := a) (l := l) (b := b) h
  | .uw _ _ :: a, l, b, h => TrOK_suffix (a := a) (l := l) (b := b) h

theorem TrOK_mem {op : Op} {r : Res} {m : Nat} : ∀ {tr : List Ev} {b : Nat}, TrOK tr b → .ret op r m ∈ tr → m ≤ b
  | .ret _ _ _ :: _, _, h, hm => by
    rcases List.mem_cons.1 hm with hm | hm
    · cases hm; exact h.1
    · exact Nat.le_trans (TrOK_mem h.2 hm) h.1
  | .call _ :: tr, _, h, hm => TrOK_mem (tr := tr) h (by simpa using hm)
  | .uw _ _ :: tr, _, h, hm => TrOK_mem (tr := tr) h (by simpa using hm)

theorem take_of_prefix {out : List Nat} {m : Nat} (hp : out = List.range out.length) (hm : m ≤ out.length) :
    out.take m = List.range m := by
  rw [hp, List.take_range, Nat.min_eq_left hm]

theorem wait_durable (hr : cfg.repaired = true) {tr : List Ev} (h : Run cfg tr s)
    {post mid pre : List Ev} {op : Op} {r : Res} {m m' : Nat}
    (htr : tr.filter isApiEv = post ++ .ret .wait .ok m' :: (mid ++ .ret op r m :: pre)) :
    s.out.take m = List.range m := by
  obtain ⟨hi, hR⟩ := run_inv hr h
  have hmem : Ev.ret .wait .ok m' ∈ tr.filter isApiEv := by rw [htr]; simp
  have h1 := TrOK_filter hR.trok
  rw [htr] at h1
  obtain ⟨b', h2⟩ := TrOK_suffix h1
  exact take_of_prefix hi.pref
    (Nat.le_trans (TrOK_mem (op := op) (r := r) h2.2 (by simp)) (hR.waitOK m' (List.mem_filter.1 hmem).1))

theorem out_take_of_wait_ok (hr : cfg.repaired = true) {tr : List Ev} {m : Nat} (h : Run cfg tr s)
    (hmem : .ret .wait .ok m ∈ tr) : s.out.take m = List.range m :=
  take_of_prefix (run_inv hr h).1.pref ((run_inv hr h).2.waitOK m hmem)

end Hts.Model.WriterLTS
