/-
Lemmas for Hts.Model.CramDec: no partial operation of the CRAM readers yields `panic`.  A `_spec` has one of two shapes:
`∃ …, f … = ok …` for the `errorReader` methods (they cannot return an error: the flag is sticky) and for `Slice.readFrom`
(`readSliceHdr_spec`: it reads through those methods only), `Sat` for the other `readFrom`s.
The conjuncts of `blockHeader_spec` and `readBlock_spec` beyond what the next reader needs serve other theorems of Props/C11
(`cramBlock_make_bound`, `cramBlock_value_ready`), as the lower bound of `NumDec.Good.range` serves `cramNum_total`.
-/
import Hts.Model.CramDec
import Hts.Lemmas.Decoders
import Hts.Lemmas.Itf8Kernel
namespace Hts.Model.CramDec
open Hts.Model.Decoders
open Hts.Model.Decoders.Outcome (ok err Sat)

theorem bind_noPanic {α β} (x : Outcome α) (f : α → Outcome β) (hx : x.isPanic = false)
    (hf : ∀ v, x = ok v → (f v).isPanic = false) : (x >>= f).isPanic = false := by
  cases x with
  | ok v => exact hf v rfl
  | err => rfl
  | panic s => cases hx

theorem bind_eq_ok {α β} (x : Outcome α) (f : α → Outcome β) (w : β) (h : (x >>= f) = ok w) :
    ∃ v, x = ok v ∧ f v = ok w := by
  cases x with
  | ok v => exact ⟨v, rfl, h⟩
  | err => cases h
  | panic s => cases h

@[simp] theorem err_bind {α β} (f : α → Outcome β) : ((err : Outcome α) >>= f) = err := rfl

theorem exists_ok_bind {α β} {x : Outcome α} {f : α → Outcome β} (hx : ∃ v, x = ok v)
    (hf : ∀ v, ∃ w, f v = ok w) : ∃ w, (x >>= f) = ok w := by
  obtain ⟨v, rfl⟩ := hx
  exact hf v

theorem readFull_spec (r : St) (n : Nat) : (readFull r n).2.1.length ≤ n ∧
    ((readFull r n).2.2 = true → (readFull r n).2.1.length = n ∧ (readFull r n).1.failed = r.failed) := by
  unfold readFull
  split
  · exact ⟨Nat.zero_le _, fun _ => ⟨‹n = 0›.symm, rfl⟩⟩
  split
  · exact ⟨Nat.zero_le _, nofun⟩
  split
  · exact ⟨List.length_take_le .., fun _ => ⟨List.length_take_of_le ‹_›, rfl⟩⟩
  · exact ⟨Nat.le_of_not_le ‹_›, nofun⟩

theorem readFull_le {r : St} {n : Nat} {r' : St} {got : Bytes} {b : Bool} (h : readFull r n = (r', got, b)) :
    got.length ≤ n := by
  have := (readFull_spec r n).1
  rwa [h] at this

theorem readFull_len {r : St} {n : Nat} {r' : St} {got : Bytes} (h : readFull r n = (r', got, true)) :
    got.length = n := by
  have := (readFull_spec r n).2
  rw [h] at this
  exact (this rfl).1

theorem readFull_failed (r : St) (n : Nat) (r' : St) (got : Bytes) (h : readFull r n = (r', got, true))
    (hf : r.failed = false) : r'.failed = false := by
  have := (readFull_spec r n).2
  rw [h] at this
  exact (this rfl).2.trans hf

theorem pad_length {n : Nat} {got : Bytes} (h : got.length ≤ n) : (pad n got).length = n := by
  unfold pad
  rw [List.length_append, List.length_replicate]; omega

theorem uint32LE_of_le {site : String} {b : Bytes} (h : 4 ≤ b.length) : uint32LE site b = ok (u32le b) :=
  if_neg (Nat.not_lt.mpr h)

theorem uint32LE_pad {site : String} {got : Bytes} (h : got.length ≤ 4) :
    uint32LE site (pad 4 got) = ok (u32le (pad 4 got)) :=
  uint32LE_of_le (Nat.le_of_eq (pad_length h).symm)

theorem sliceI_ok {α} {site : String} {l : List α} {lo hi : Int} (h0 : 0 ≤ lo) (h1 : lo ≤ hi)
    (h2 : hi ≤ l.length) : sliceI site l lo hi = ok ((l.take hi.toNat).drop lo.toNat) := by
  unfold sliceI
  rw [if_neg (by omega)]
  exact slice_of_le (by omega) (by omega)

/-- what `readNum` needs of a codec: a one-byte input that does not decode announces a width between 1
and the size of the array; every value lies in `[lo, hi)` -/
structure NumDec.Good (D : NumDec) (lo hi : Int) : Prop where
  buf : 1 ≤ D.bufLen
  width : ∀ b : List (BitVec 8), b.length = 1 → (D.dec b).2.2 = false → 1 ≤ (D.dec b).2.1 ∧ (D.dec b).2.1 ≤ D.bufLen
  range : ∀ b, lo ≤ (D.dec b).1 ∧ (D.dec b).1 < hi
  zero : lo ≤ 0 ∧ 0 < hi

theorem readNum_spec {D : NumDec} {lo hi : Int} (hD : D.Good lo hi) (r : St) :
    ∃ r' v, readNum D r = ok (r', v) ∧ lo ≤ v ∧ v < hi := by
  unfold readNum
  split
  · -- the first byte could not be read: 0
    exact ⟨_, 0, rfl, hD.zero⟩
  rename_i r1 got h1
  have hbuf := hD.buf
  have hr {X i n k} (e : D.dec X = (i, n, k)) : lo ≤ i ∧ i < hi := by
    have := hD.range X
    rwa [e] at this
  have hbl : (pad D.bufLen got).length = D.bufLen := pad_length (by rw [readFull_len h1]; exact hbuf)
  dsimp only
  split
  · -- the first byte is the whole number
    exact ⟨_, _, rfl, hr ‹_›⟩
  -- it announces `n` bytes: `buf[1:n]` is in bounds by `hD.width`
  rename_i n h2
  have ht : (bv ((pad D.bufLen got).take 1)).length = 1 := by
    unfold bv
    rw [List.length_map, List.length_take, hbl]
    omega
  have hw := hD.width _ ht (by rw [h2])
  rw [h2] at hw
  dsimp only at hw
  rw [sliceI_ok (by omega) hw.1 (by rw [hbl]; exact hw.2)]
  dsimp only
  split
  · -- the other `n - 1` bytes could not be read: 0
    exact ⟨_, 0, rfl, hD.zero⟩
  -- they were read: `buf[:n]` is in bounds since `more` has `n - 1` bytes; the value decoded is in range either way
  rename_i r2 more h3
  have hm := readFull_len h3
  rw [List.length_drop, List.length_take, hbl] at hm
  rw [sliceI_ok (Int.le_refl 0) (by omega) (by
    rw [List.length_append, List.length_append, List.length_take, List.length_drop, hbl, hm]
    simp only [Int.toNat_one]
    omega)]
  dsimp only
  split <;> exact ⟨_, _, rfl, hr ‹_›⟩

theorem readNum_ok {D : NumDec} {lo hi : Int} (hD : D.Good lo hi) (r : St) : ∃ v, readNum D r = ok v :=
  let ⟨_, _, e, _⟩ := readNum_spec hD r; ⟨_, e⟩

theorem readNum_sat {D : NumDec} {lo hi : Int} (hD : D.Good lo hi) (r : St) :
    (readNum D r).Sat fun rv => lo ≤ rv.2 ∧ rv.2 < hi :=
  let ⟨_, _, e, h⟩ := readNum_spec hD r; e ▸ h

theorem readNum_total (D : NumDec) (lo hi : Int) (hD : D.Good lo hi) (r : St) : (readNum D r).isPanic = false :=
  (readNum_sat hD r).isPanic

theorem itf8Dec_good : itf8Dec.Good (-2147483648) 2147483648 where
  buf := by decide
  width
    | [x], _, _ => (congrArg Prod.fst (Itf8.decode_snd x []) : _ = Itf8.width x) ▸ Itf8.width_range x
  range b := by
    have h1 := BitVec.toInt_lt (x := (Hts.Model.Itf8.decode b).1)
    have h2 := BitVec.le_toInt (x := (Hts.Model.Itf8.decode b).1)
    simp only [itf8Dec]
    omega
  zero := by omega

theorem ltf8Dec_good : ltf8Dec.Good (-9223372036854775808) 9223372036854775808 where
  buf := by decide
  width
    | [x], _, _ => (congrArg Prod.fst (Ltf8.decode_snd x []) : _ = Ltf8.width x) ▸ Ltf8.width_range x
  range b := by
    have h1 := BitVec.toInt_lt (x := (Hts.Model.Ltf8.decode b).1)
    have h2 := BitVec.le_toInt (x := (Hts.Model.Ltf8.decode b).1)
    simp only [ltf8Dec]
    omega
  zero := by omega

theorem sliceCount_spec (r : St) :
    ∃ r' o, sliceCount r = ok (r', o) ∧ ∀ n, o = some n → 0 < n ∧ n < 2147483648 := by
  unfold sliceCount
  obtain ⟨r1, v, h, hlo, hhi⟩ := readNum_spec itf8Dec_good r
  rw [h]
  dsimp only
  split
  · exact ⟨_, none, rfl, nofun⟩
  split
  · exact ⟨_, none, rfl, nofun⟩
  split
  · exact ⟨_, none, rfl, nofun⟩
  rw [makeLen_of_nonneg (by omega)]
  refine ⟨_, some v.toNat, rfl, fun n hn => ?_⟩
  cases hn
  omega

theorem sliceLoop_spec : ∀ (k n i : Nat) (r : St) (acc : List Int), i + k ≤ n →
    ∃ v, sliceLoop k n i r acc = ok v
  | 0, _, _, _, _, _ => ⟨_, rfl⟩
  | k + 1, n, i, r, acc, hk => by
    unfold sliceLoop
    obtain ⟨⟨r1, v⟩, h⟩ := readNum_ok itf8Dec_good r
    rw [h]
    dsimp only
    unfold indexLen
    rw [if_pos (by omega)]
    dsimp only
    split
    · unfold sliceLenTo
      rw [if_pos (by omega)]
      exact ⟨_, rfl⟩
    · exact sliceLoop_spec k n (i + 1) r1 (acc ++ [v]) (by omega)

theorem readSlice32_spec (r : St) : ∃ v, readSlice32 r = ok v := by
  unfold readSlice32
  obtain ⟨r1, o, h, _⟩ := sliceCount_spec r
  rw [h]
  cases o with
  | none => exact ⟨_, rfl⟩
  | some n => exact sliceLoop_spec n n 0 r1 [] (by omega)

theorem readSlice32_sat (r : St) : (readSlice32 r).Sat fun _ => True :=
  let ⟨_, e⟩ := readSlice32_spec r; e ▸ trivial

theorem readDefinition_spec (s : Bytes) : (readDefinition s).Sat fun _ => True := by
  unfold readDefinition
  rcases h : readFull { src := s } 26 with ⟨r1, got, b⟩
  cases b
  · trivial
  · have hg := readFull_len h
    dsimp only
    rw [slice_of_le (by omega) (by rw [List.length_take]; omega)]
    exact .ite_err fun _ => trivial

theorem readContainer_spec (crc32 : Bytes → Nat) (s : Bytes) : (readContainer crc32 s).Sat fun _ => True := by
  unfold readContainer
  -- Go ignores the error of this first `io.ReadFull` (the model matches `(r0, got, _)`): `got` may be short, `pad` keeps
  -- `Uint32` in range
  rcases h0 : readFull { src := s } 4 with ⟨r0, got, b⟩
  refine .bind_eq (uint32LE_pad (readFull_le h0)) ?_
  refine (readNum_sat itf8Dec_good _).bind fun _ _ => (readNum_sat itf8Dec_good _).bind fun _ _ => ?_
  refine (readNum_sat itf8Dec_good _).bind fun _ _ => (readNum_sat itf8Dec_good _).bind fun _ _ => ?_
  refine (readNum_sat ltf8Dec_good _).bind fun _ _ => (readNum_sat ltf8Dec_good _).bind fun _ _ => ?_
  refine (readNum_sat itf8Dec_good _).bind fun _ _ => (readSlice32_sat _).bind fun r8 _ => ?_
  dsimp only
  rcases h9 : readFull r8.1 4 with ⟨r9, got2, b⟩
  cases b
  · trivial
  · refine .bind_eq (uint32LE_pad (Nat.le_of_eq (readFull_len h9))) ?_
    exact .ite_err fun _ => .ite_err fun _ => trivial

theorem blockHeader_spec (s : Bytes) :
    (blockHeader s).Sat fun rh => 0 ≤ rh.2.compressedSize ∧ rh.2.compressedSize < 2147483648 ∧
      (rh.2.method = 0 → rh.2.compressedSize = rh.2.rawSize) := by
  unfold blockHeader
  -- as in `readContainer_spec`: the error of the first `io.ReadFull` is ignored, `pad` keeps `buf[0]`, `buf[1]` in range
  rcases h0 : readFull { src := s } 2 with ⟨r0, got, b⟩
  have hp : (pad 4 got).length = 4 := pad_length (Nat.le_trans (readFull_le h0) (by decide))
  refine .bind_eq (index_of_lt (by omega)) <| .bind_eq (index_of_lt (by omega)) ?_
  refine (readNum_sat itf8Dec_good _).bind fun _ _ => (readNum_sat itf8Dec_good _).bind fun v2 h2 => ?_
  refine (readNum_sat itf8Dec_good _).bind fun v3 _ => ?_
  refine .ite_err fun hne => .ite_err fun h0 => ⟨Int.not_lt.mp h0, h2.2, fun hm => ?_⟩
  exact Decidable.by_contra fun hq => hne ⟨hm, hq⟩

theorem readBlock_spec (crc32 : Bytes → Nat) (s : Bytes) :
    (readBlock crc32 s).Sat fun br => (br.1.data.length : Int) = br.1.compressedSize ∧
      br.1.compressedSize < 2147483648 := by
  unfold readBlock
  refine (blockHeader_spec s).bind fun rh ⟨h0, h1, _⟩ => ?_
  refine .bind_eq (makeLen_of_nonneg h0) ?_
  dsimp only
  rcases h4 : readFull rh.1 rh.2.compressedSize.toNat with ⟨r4, data, b⟩
  cases b
  · trivial
  dsimp only
  rcases h5 : readFull r4 4 with ⟨r5, got, b⟩
  cases b
  · trivial
  refine .bind_eq (uint32LE_pad (Nat.le_of_eq (readFull_len h5))) <| .ite_err fun _ => ⟨?_, h1⟩
  have := readFull_len h4
  exact show (data.length : Int) = rh.2.compressedSize by omega

theorem readSliceHdr_spec (s : Bytes) : ∃ h, readSliceHdr s = ok h := by
  have hi := readNum_ok itf8Dec_good
  have hl := readNum_ok ltf8Dec_good
  unfold readSliceHdr
  refine exists_ok_bind (hi _) fun _ => exists_ok_bind (hi _) fun _ => exists_ok_bind (hi _) fun _ =>
    exists_ok_bind (hi _) fun _ => exists_ok_bind (hl _) fun _ => exists_ok_bind (hi _) fun _ =>
    exists_ok_bind (readSlice32_spec _) fun _ => exists_ok_bind (hi _) fun _ => ?_
  dsimp only
  split <;> exact ⟨_, rfl⟩

theorem expandBlockdata_spec (X : Expanders) (m : Nat) (d : Bytes) :
    (expandBlockdata X m d).Sat fun e => e = d ∨ X.expand m d = some e := by
  unfold expandBlockdata
  refine .ite (fun _ => .inl rfl) fun _ => .ite (fun _ => ?_) fun _ => trivial
  split
  · exact .inr ‹_›
  · trivial

theorem blockValue_total (X : Expanders) (b : Block) : (blockValue X b).isPanic = false := by
  refine Sat.isPanic (Q := fun _ => True) ?_
  unfold blockValue
  refine .ite (fun _ => ?_) fun _ => .ite (fun _ => ?_) fun _ => .ite (fun _ => ?_) fun _ => trivial
  · refine (expandBlockdata_spec ..).bind fun e _ => .ite_err fun h4 => ?_
    refine .bind_eq (sliceTo_of_le (by omega)) <| .bind_eq (uint32LE_of_le (by rw [List.length_take]; omega)) ?_
    exact .ite_err fun he => .bind_eq (slice_of_le (by omega) (by omega)) trivial
  · obtain ⟨h, e⟩ := readSliceHdr_spec b.data
    exact .bind_eq e trivial
  · exact (expandBlockdata_spec ..).bind fun _ _ => trivial

end Hts.Model.CramDec
