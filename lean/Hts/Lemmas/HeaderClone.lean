/-
The invariant is kept by Clone (of an object, of a header's table).
-/
import Hts.Lemmas.HeaderView
namespace Hts.Model.Header
variable {α : Type}

theorem kinv_cloneObj {k : KW α} (hk : KInv k) (o : Nat) (f : α → α) : Keeps k (k.cloneObj o f).1 := by
  unfold KW.cloneObj
  split
  · exact ⟨kinv_alloc hk _ rfl, rfl⟩
  · exact .refl hk

theorem cloneItems_spec (hn : Nat) : ∀ (os : List Nat) (heap : List (Obj α)), (∀ o ∈ os, o < heap.length) →
    (KW.cloneItems hn heap os).2 = List.range' heap.length os.length ∧
    (KW.cloneItems hn heap os).1.length = heap.length + os.length ∧
    (∀ (q : Nat) (x : Obj α), heap[q]? = some x → (KW.cloneItems hn heap os).1[q]? = some x) ∧
    (∀ (j o : Nat) (x : Obj α), os[j]? = some o → heap[o]? = some x →
      (KW.cloneItems hn heap os).1[heap.length + j]? = some { x with owner := some hn }) := by
  intro os
  induction os with
  | nil => intro heap _; exact ⟨rfl, rfl, fun _ _ h => h, nofun⟩
  | cons o os ih =>
    intro heap hlt
    obtain ⟨x, hx⟩ : ∃ x, heap[o]? = some x := ⟨_, List.getElem?_eq_getElem (hlt o List.mem_cons_self)⟩
    obtain ⟨h1, h2, h3, h5⟩ := ih (heap ++ [{ x with owner := some hn }]) fun o' ho' => by
      rw [List.length_append]; exact Nat.lt_add_right _ (hlt o' (List.mem_cons_of_mem _ ho'))
    rw [List.length_append, List.length_singleton] at h1 h2 h5
    simp only [KW.cloneItems, hx]
    refine ⟨by rw [h1]; rfl, by rw [h2, List.length_cons]; omega, fun q y hy => h3 q y (append_get_some _ hy), ?_⟩
    intro j o' x' hj hx'
    cases j with
    | zero =>
      cases hj; cases hx.symm.trans hx'
      exact h3 heap.length _ (by simp)
    | succ j =>
      rw [← h5 j o' x' hj (append_get_some _ hx')]; congr 1; omega

theorem cloneTab_some {k : KW α} (hk : KInv k) {h : Nat} {t : Tab} (ht : k.tabs[h]? = some t) :
    ∃ heap', k.cloneTab h = ⟨heap', k.tabs ++ [⟨List.range' k.heap.length t.items.length, t.seen⟩]⟩ ∧
      heap'.length = k.heap.length + t.items.length ∧
      (∀ (q : Nat) (x : Obj α), k.heap[q]? = some x → heap'[q]? = some x) ∧
      (∀ (j o : Nat) (x : Obj α), t.items[j]? = some o → k.heap[o]? = some x →
        heap'[k.heap.length + j]? = some { x with owner := some k.tabs.length }) := by
  obtain ⟨h1, h2⟩ := cloneItems_spec k.tabs.length t.items k.heap fun o ho => by
    obtain ⟨i, hi⟩ := List.mem_iff_getElem?.1 ho
    obtain ⟨x, hx, _⟩ := (hk.tab h t ht).own i o hi
    exact get_lt hx
  exact ⟨_, by simp only [KW.cloneTab, ht, ← h1], h2⟩

theorem kinv_cloneTab {k : KW α} (hk : KInv k) (h : Nat) : KInv (k.cloneTab h) := by
  cases ht : k.tabs[h]? with
  | none => simp only [KW.cloneTab, ht]; exact kinv_newTab hk
  | some t =>
  have T := hk.tab h t ht
  obtain ⟨heap', e, h2, h3, h5⟩ := cloneTab_some hk ht
  rw [e]
  have hitem : ∀ {j}, j < t.items.length → (List.range' k.heap.length t.items.length)[j]? = some (k.heap.length + j) :=
    fun hj => by rw [List.getElem?_range' hj, Nat.one_mul]
  constructor
  · intro h' t' ht'
    rcases snoc_get ht' with ht' | ⟨rfl, rfl⟩
    · refine (hk.tab h' t' ht').frame _ fun i o hi => ?_
      obtain ⟨x, hx, _⟩ := (hk.tab h' t' ht').own i o hi
      rw [h3 o x hx, hx]
    · exact T.copy List.length_range' fun i o x hi hx =>
        ⟨_, _, hitem (get_lt hi), h5 i o x hi hx, rfl, rfl, rfl⟩
  · intro q y h' hy ho
    by_cases hq : q < k.heap.length
    · rw [h3 q _ (List.getElem?_eq_getElem hq)] at hy; cases hy
      obtain ⟨t', i, ht', hid, hi⟩ := hk.obj q _ h' (List.getElem?_eq_getElem hq) ho
      exact ⟨t', i, append_get_some _ ht', hid, hi⟩
    · obtain ⟨j, rfl⟩ : ∃ j, q = k.heap.length + j := ⟨q - k.heap.length, by omega⟩
      have hj : j < t.items.length := by have := h2 ▸ get_lt hy; omega
      obtain ⟨x, hx, _, hid⟩ := T.own j _ (List.getElem?_eq_getElem hj)
      rw [h5 j _ x (List.getElem?_eq_getElem hj) hx] at hy; cases hy; cases ho
      exact ⟨⟨_, t.seen⟩, j, by simp, hid, hitem hj⟩

@[simp] theorem alloc_tabs_len (k : KW α) (x : Obj α) : (k.alloc x).1.tabs.length = k.tabs.length := rfl
@[simp] theorem newTab_tabs_len (k : KW α) : k.newTab.tabs.length = k.tabs.length + 1 := by simp [KW.newTab]
@[simp] theorem cloneTab_tabs_len (k : KW α) (h : Nat) : (k.cloneTab h).tabs.length = k.tabs.length + 1 := by
  unfold KW.cloneTab; split <;> simp

end Hts.Model.Header
