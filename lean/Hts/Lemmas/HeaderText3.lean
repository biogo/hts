/-
The bytes and the tags of a serialised line.
-/
import Hts.Lemmas.HeaderText2
namespace Hts.Model.Header

/-- a header line without its line feed -/
def lineB (rec : String) (ts : Tags) : Bytes := str rec ++ ts.flatMap fieldBytes

theorem line_eq (rec : String) (ts : Tags) : line rec ts = lineB rec ts ++ [10] := rfl

theorem clean_no9 {s : Bytes} (h : Clean s) : 9 ∉ s := fun hc => (h 9 hc).1 rfl
theorem clean_no10 {s : Bytes} (h : Clean s) : 10 ∉ s := fun hc => (h 10 hc).2.1 rfl
theorem clean_no13 {s : Bytes} (h : Clean s) : 13 ∉ s := fun hc => (h 13 hc).2.2 rfl

def CleanTags (ts : Tags) : Prop := ∀ tv ∈ ts, CleanTag tv.1 ∧ Clean tv.2

theorem not_ctl {c : Nat} (hc : c = 9 ∨ c = 10 ∨ c = 13) (h : c ≠ 9 ∧ c ≠ 10 ∧ c ≠ 13) : False := by
  rcases hc with rfl | rfl | rfl
  · exact h.1 rfl
  · exact h.2.1 rfl
  · exact h.2.2 rfl

theorem fieldOf_no (c : Nat) (hc : c = 9 ∨ c = 10 ∨ c = 13) {tv : Tag × Bytes} (h : CleanTag tv.1 ∧ Clean tv.2) :
    c ∉ fieldOf tv := by
  intro hm
  simp only [fieldOf, List.mem_cons] at hm
  rcases hm with rfl | rfl | rfl | e
  · exact not_ctl hc h.1.1
  · exact not_ctl hc h.1.2
  · exact not_ctl hc (by decide)
  · exact not_ctl hc (h.2 c e)

theorem lineB_split (rec : String) (hrec : 9 ∉ str rec) (ts : Tags) (hc : CleanTags ts) :
    splitOn 9 (lineB rec ts) = str rec :: ts.map fieldOf :=
  splitOn_fields _ hrec ts (fun tv h => fieldOf_no 9 (Or.inl rfl) (hc tv h))

theorem fieldLoop_lineB {β : Type} (assign : β → Tag → Bytes → PR β) {rec : String} (hrec : 9 ∉ str rec) {ts : Tags}
    (hc : CleanTags ts) (hnd : (ts.map (·.1)).Nodup) {b v : β} (hv : loopVal assign b ts = .ok v) :
    ∃ seen', splitOn 9 (lineB rec ts) = str rec :: ts.map fieldOf ∧
      fieldLoop assign ⟨b, []⟩ (ts.map fieldOf) = .ok ⟨v, seen'⟩ :=
  (fieldLoop_fields assign ts b v [] hnd (fun _ _ h => nomatch h) hv).imp fun _ h => ⟨lineB_split rec hrec ts hc, h⟩

theorem lineB_no (c : Nat) (hc : c = 10 ∨ c = 13) (rec : String) (hrec : c ∉ str rec) (ts : Tags) (h : CleanTags ts) :
    c ∉ lineB rec ts := by
  intro hm
  simp only [lineB, List.mem_append, List.mem_flatMap, fieldBytes_eq, List.mem_cons] at hm
  rcases hm with hm | ⟨tv, htv, rfl | hm⟩
  · exact hrec hm
  · omega
  · exact fieldOf_no c (Or.inr hc) (h tv htv) hm

theorem dropCR_id {l : Bytes} (h : 13 ∉ l) : dropCR l = l := by
  unfold dropCR
  split
  · next hl => exact absurd (List.mem_of_getLast? hl) h
  · rfl

/-! `TagsOf K ts`: the values of the fields `ts` are clean and their tags are some of `K`, in that order.  One pass over
the segments of `refTags` / `rgTags` / `pgTags` / `hdTags` gives both what splitting needs (no tab, line feed or
carriage return) and what the duplicate check needs (distinct tags). -/

def TagsOf (K : List Tag) (ts : Tags) : Prop := (∀ tv ∈ ts, Clean tv.2) ∧ (ts.map (·.1)).Sublist K

section
variable {K : List Tag} {ts : Tags} {t : Tag} {v : Bytes}

theorem tagsOf_cons (hv : Clean v) (h : TagsOf K ts) : TagsOf (t :: K) ((t, v) :: ts) :=
  ⟨List.forall_mem_cons.2 ⟨hv, h.1⟩, h.2.cons_cons t⟩

theorem tagsOf_ite {c : Prop} [Decidable c] (hv : Clean v) (h : TagsOf K ts) :
    TagsOf (t :: K) ((if c then [] else [(t, v)]) ++ ts) := by
  split
  · exact ⟨h.1, h.2.cons t⟩
  · exact tagsOf_cons hv h

theorem tagsOf_other {known : List Tag} (wf : WFOther known ts) : TagsOf (ts.map (·.1)) ts :=
  ⟨fun tv h => (wf.clean tv h).2, .refl _⟩

end

section
variable {known : List Tag} {other ts : Tags} (h : TagsOf (known ++ other.map (·.1)) ts) (wf : WFOther known other)
include h wf

theorem TagsOf.clean (hk : ∀ t ∈ known, CleanTag t) : CleanTags ts := by
  refine fun tv htv => ⟨?_, h.1 tv htv⟩
  rcases List.mem_append.1 (h.2.subset (List.mem_map_of_mem htv)) with hm | hm
  · exact hk _ hm
  · obtain ⟨tv', h', e⟩ := List.mem_map.1 hm
    exact e ▸ (wf.clean tv' h').1

theorem TagsOf.nodup (hk : known.Nodup) : (ts.map (·.1)).Nodup := by
  refine List.Nodup.sublist h.2 (List.nodup_append.2 ⟨hk, wf.nodup, ?_⟩)
  intro a ha b hb e
  obtain ⟨tv, htv, rfl⟩ := List.mem_map.1 hb
  exact wf.unknown tv htv (e ▸ ha)

end

theorem refTags_spec {E : Ext} {name : Bytes} {d : RefD} (wf : WFRef E name d) :
    TagsOf (knownRef ++ d.other.map (·.1)) (refTags name d) := by
  have hu : TagsOf (TAG "UR" :: d.other.map (·.1)) (uriTags d.uri ++ d.other) := by
    cases hu : d.uri with
    | none => exact ⟨(tagsOf_other wf.other).1, .cons _ (.refl _)⟩
    | some pu => exact tagsOf_cons (wf.uri _ _ hu).1 (tagsOf_other wf.other)
  simp only [refTags, opt, List.append_assoc, List.cons_append, List.nil_append]
  exact tagsOf_cons wf.name <| tagsOf_cons (dec_clean _) <| tagsOf_ite (hexEnc_clean _) <| tagsOf_ite wf.asm <|
    tagsOf_ite wf.sp hu

theorem rgTags_spec {E : Ext} {name : Bytes} {d : RgD} (wf : WFRg E name d) :
    TagsOf (knownRg ++ d.other.map (·.1)) (rgTags name d) := by
  have hdt : Clean d.dt := by
    rcases wf.dt with e | h
    · rw [e]; exact fun _ h => nomatch h
    · exact h.1
  simp only [rgTags, opt, List.append_assoc, List.cons_append, List.nil_append]
  exact tagsOf_cons wf.name <| tagsOf_ite wf.cn <| tagsOf_ite wf.ds <| tagsOf_ite hdt <| tagsOf_ite wf.fo <|
    tagsOf_ite wf.ks <| tagsOf_ite wf.lb <| tagsOf_ite wf.pg <| tagsOf_ite (dec_clean _) <| tagsOf_ite wf.pl <|
    tagsOf_ite wf.pu <| tagsOf_ite wf.sm <| tagsOf_other wf.other

theorem pgTags_spec {name : Bytes} {d : PgD} (wf : WFPg name d) :
    TagsOf (knownPg ++ d.other.map (·.1)) (pgTags name d) := by
  simp only [pgTags, opt, List.append_assoc, List.cons_append, List.nil_append]
  exact tagsOf_cons wf.name <| tagsOf_ite wf.pn <| tagsOf_ite wf.cl <| tagsOf_ite wf.pp <| tagsOf_ite wf.vn <|
    tagsOf_other wf.other

theorem refTags_head (name : Bytes) (d : RefD) :
    ∃ ts, refTags name d = (TAG "SN", name) :: (TAG "LN", dec d.len) :: ts :=
  ⟨_, by simp only [refTags, List.append_assoc, List.cons_append, List.nil_append]; rfl⟩

theorem rgTags_head (name : Bytes) (d : RgD) : ∃ ts, rgTags name d = (TAG "ID", name) :: ts :=
  ⟨_, by simp only [rgTags, List.append_assoc, List.cons_append, List.nil_append]; rfl⟩

theorem pgTags_head (name : Bytes) (d : PgD) : ∃ ts, pgTags name d = (TAG "ID", name) :: ts :=
  ⟨_, by simp only [pgTags, List.append_assoc, List.cons_append, List.nil_append]; rfl⟩

theorem knownRef_ok : knownRef.Nodup ∧ ∀ t ∈ knownRef, CleanTag t := by decide +kernel
theorem knownRg_ok : knownRg.Nodup ∧ ∀ t ∈ knownRg, CleanTag t := by decide +kernel
theorem knownPg_ok : knownPg.Nodup ∧ ∀ t ∈ knownPg, CleanTag t := by decide +kernel

theorem refTags_clean {E : Ext} {name : Bytes} {d : RefD} (wf : WFRef E name d) : CleanTags (refTags name d) :=
  (refTags_spec wf).clean wf.other knownRef_ok.2

theorem rgTags_clean {E : Ext} {name : Bytes} {d : RgD} (wf : WFRg E name d) : CleanTags (rgTags name d) :=
  (rgTags_spec wf).clean wf.other knownRg_ok.2

theorem pgTags_clean {name : Bytes} {d : PgD} (wf : WFPg name d) : CleanTags (pgTags name d) :=
  (pgTags_spec wf).clean wf.other knownPg_ok.2

theorem refTags_nodup {E : Ext} {name : Bytes} {d : RefD} (wf : WFRef E name d) :
    ((refTags name d).map (·.1)).Nodup :=
  (refTags_spec wf).nodup wf.other knownRef_ok.1

theorem rgTags_nodup {E : Ext} {name : Bytes} {d : RgD} (wf : WFRg E name d) :
    ((rgTags name d).map (·.1)).Nodup :=
  (rgTags_spec wf).nodup wf.other knownRg_ok.1

theorem pgTags_nodup {name : Bytes} {d : PgD} (wf : WFPg name d) : ((pgTags name d).map (·.1)).Nodup :=
  (pgTags_spec wf).nodup wf.other knownPg_ok.1

end Hts.Model.Header
