/-
What a well-formed item is (`WFOther`, `WFRef`, `WFRg`, `WFPg`: what the API builds and the text can carry); on the
fields the serialisers write from one, the field loops of the @SQ / @RG / @PG parsers give back what was written.
-/
import Hts.Lemmas.HeaderText1
namespace Hts.Model.Header

def knownRef : List Tag := [TAG "SN", TAG "LN", TAG "M5", TAG "AS", TAG "SP", TAG "UR"]
def knownRg : List Tag :=
  [TAG "ID", TAG "CN", TAG "DS", TAG "DT", TAG "FO", TAG "KS", TAG "LB", TAG "PG", TAG "PI", TAG "PL", TAG "PU", TAG "SM"]
def knownPg : List Tag := [TAG "ID", TAG "PN", TAG "CL", TAG "PP", TAG "VN"]
def knownHd : List Tag := [TAG "VN", TAG "SO", TAG "GO"]

/-- extra tags as the API builds them: distinct, none of the tags the library has a field for, clean -/
structure WFOther (known : List Tag) (ts : Tags) : Prop where
  nodup : (ts.map (·.1)).Nodup
  unknown : ∀ tv ∈ ts, tv.1 ∉ known
  clean : ∀ tv ∈ ts, CleanTag tv.1 ∧ Clean tv.2

structure WFRef (E : Ext) (name : Bytes) (d : RefD) : Prop where
  name : Clean name
  len : validLen d.len = true
  md5 : d.md5 = [] ∨ (d.md5.length = 16 ∧ ∀ b ∈ d.md5, b < 256)
  asm : Clean d.asm
  sp : Clean d.sp
  /-- the URI is in the form the parser produces (http/ftp/file scheme) -/
  uri : ∀ p u, d.uri = some (p, u) → Clean u ∧ E.parseUri u = some u
  other : WFOther knownRef d.other

structure WFRg (E : Ext) (name : Bytes) (d : RgD) : Prop where
  name : Clean name
  cn : Clean d.cn
  ds : Clean d.ds
  /-- the date is a canonical text (what `Format` prints), or absent -/
  dt : d.dt = [] ∨ (Clean d.dt ∧ E.parseDate d.dt = some d.dt)
  fo : Clean d.fo
  ks : Clean d.ks
  lb : Clean d.lb
  pg : Clean d.pg
  pi : validInt32 d.pi = true
  pl : Clean d.pl
  pu : Clean d.pu
  sm : Clean d.sm
  other : WFOther knownRg d.other

structure WFPg (name : Bytes) (d : PgD) : Prop where
  name : Clean name
  pn : Clean d.pn
  cl : Clean d.cl
  pp : Clean d.pp
  vn : Clean d.vn
  other : WFOther knownPg d.other

@[simp] theorem TAG_SN : TAG "SN" = (83, 78) := by decide +kernel
@[simp] theorem TAG_LN : TAG "LN" = (76, 78) := by decide +kernel
@[simp] theorem TAG_M5 : TAG "M5" = (77, 53) := by decide +kernel
@[simp] theorem TAG_AS : TAG "AS" = (65, 83) := by decide +kernel
@[simp] theorem TAG_SP : TAG "SP" = (83, 80) := by decide +kernel
@[simp] theorem TAG_UR : TAG "UR" = (85, 82) := by decide +kernel
@[simp] theorem TAG_ID : TAG "ID" = (73, 68) := by decide +kernel
@[simp] theorem TAG_CN : TAG "CN" = (67, 78) := by decide +kernel
@[simp] theorem TAG_DS : TAG "DS" = (68, 83) := by decide +kernel
@[simp] theorem TAG_DT : TAG "DT" = (68, 84) := by decide +kernel
@[simp] theorem TAG_FO : TAG "FO" = (70, 79) := by decide +kernel
@[simp] theorem TAG_KS : TAG "KS" = (75, 83) := by decide +kernel
@[simp] theorem TAG_LB : TAG "LB" = (76, 66) := by decide +kernel
@[simp] theorem TAG_PG : TAG "PG" = (80, 71) := by decide +kernel
@[simp] theorem TAG_PI : TAG "PI" = (80, 73) := by decide +kernel
@[simp] theorem TAG_PL : TAG "PL" = (80, 76) := by decide +kernel
@[simp] theorem TAG_PU : TAG "PU" = (80, 85) := by decide +kernel
@[simp] theorem TAG_SM : TAG "SM" = (83, 77) := by decide +kernel
@[simp] theorem TAG_PN : TAG "PN" = (80, 78) := by decide +kernel
@[simp] theorem TAG_CL : TAG "CL" = (67, 76) := by decide +kernel
@[simp] theorem TAG_PP : TAG "PP" = (80, 80) := by decide +kernel
@[simp] theorem TAG_VN : TAG "VN" = (86, 78) := by decide +kernel
@[simp] theorem TAG_SO : TAG "SO" = (83, 79) := by decide +kernel
@[simp] theorem TAG_GO : TAG "GO" = (71, 79) := by decide +kernel
@[simp] theorem TAG_HD : TAG "HD" = (72, 68) := by decide +kernel
@[simp] theorem TAG_SQ : TAG "SQ" = (83, 81) := by decide +kernel
@[simp] theorem TAG_RG : TAG "RG" = (82, 71) := by decide +kernel
@[simp] theorem TAG_CO : TAG "CO" = (67, 79) := by decide +kernel

/-- tags the parser has no field for are appended to the extra tags (`app a l`: `a` with `l` appended to them) -/
theorem loopVal_other {β : Type} {assign : β → Tag → Bytes → PR β} {known : List Tag} (app : β → Tags → β)
    (h0 : ∀ a, app a [] = a) (h2 : ∀ a l l', app (app a l) l' = app a (l ++ l'))
    (h : ∀ a t v, t ∉ known → assign a t v = .ok (app a [(t, v)])) (ts : Tags) (a : β)
    (hts : ∀ tv ∈ ts, tv.1 ∉ known) : loopVal assign a ts = .ok (app a ts) := by
  induction ts generalizing a with
  | nil => rw [h0]; rfl
  | cons tv ts ih =>
    rw [List.forall_mem_cons] at hts
    exact loopVal_step (h a tv.1 tv.2 hts.1) ((ih _ hts.2).trans (by rw [h2]; rfl))

section
variable (E : Ext) (p : Nat) (a : RefV) (v : Bytes)

theorem refAssign_SN : refAssign E p a (TAG "SN") v = .ok { a with name := v, nok := true } := by
  simp [refAssign]

theorem refAssign_LN {l : Int} (h : atoi v = some l) (hl : validLen l = true) :
    refAssign E p a (TAG "LN") v = .ok { a with d := { a.d with len := l }, lok := true } := by
  simp [refAssign, h, hl]

theorem refAssign_M5 {bs : Bytes} (hv : v.length = 32) (h : hexDecode16 v 0 [] = .ok bs) (hb : bs.length = 16) :
    refAssign E p a (TAG "M5") v = .ok { a with d := { a.d with md5 := bs } } := by
  simp [refAssign, hv, h, hb]

theorem refAssign_AS : refAssign E p a (TAG "AS") v = .ok { a with d := { a.d with asm := v } } := by
  simp [refAssign]

theorem refAssign_SP : refAssign E p a (TAG "SP") v = .ok { a with d := { a.d with sp := v } } := by
  simp [refAssign]

theorem refAssign_UR {u : Bytes} (h : E.parseUri v = some u) :
    refAssign E p a (TAG "UR") v = .ok { a with d := { a.d with uri := some (p, u) } } := by
  simp [refAssign, h]

end

theorem ref_other (E : Ext) (p : Nat) : ∀ (ts : Tags) (a : RefV), (∀ tv ∈ ts, tv.1 ∉ knownRef) →
    loopVal (refAssign E p) a ts = .ok { a with d := { a.d with other := a.d.other ++ ts } } :=
  loopVal_other (fun (a : RefV) l => { a with d := { a.d with other := a.d.other ++ l } }) (by simp) (by simp)
    fun a t v ht => by
      simp only [knownRef, List.mem_cons, List.not_mem_nil, or_false, not_or] at ht
      simp only [refAssign, ht, if_false]

theorem ref_loop (E : Ext) (p : Nat) (name : Bytes) (d : RefD) (wf : WFRef E name d) :
    loopVal (refAssign E p) {} (refTags name d) =
      .ok { name := name, d := { d with uri := d.uri.map fun u => (p, u.2) }, nok := true, lok := true } := by
  obtain ⟨len, md5, asm, sp, uri, other⟩ := d
  have hm (a : RefV) (h : ¬ md5 = []) :
      refAssign E p a (TAG "M5") (hexEnc md5) = .ok { a with d := { a.d with md5 := md5 } } := by
    obtain ⟨hl, hb⟩ := wf.md5.resolve_left h
    dsimp only at hl hb
    exact refAssign_M5 _ _ _ _ (by rw [hexEnc_length, hl]) (hexDecode16_enc md5 0 [] hb (by omega)) hl
  simp only [refTags, opt, List.append_assoc, List.cons_append, List.nil_append]
  refine loopVal_step (refAssign_SN ..) (loopVal_step (refAssign_LN _ _ _ _ (atoi_dec len) wf.len) ?_)
  refine loopVal_ite (hm _) (by rintro rfl; rfl) ?_
  refine loopVal_ite (fun _ => refAssign_AS ..) (by rintro rfl; rfl) ?_
  refine loopVal_ite (fun _ => refAssign_SP ..) (by rintro rfl; rfl) ?_
  cases uri with
  | none => exact (ref_other E p other _ wf.other.unknown).trans rfl
  | some qu =>
    exact loopVal_step (refAssign_UR _ _ _ _ (wf.uri _ _ rfl).2) ((ref_other E p other _ wf.other.unknown).trans rfl)

section
variable {E : Ext} {known : Bytes → Bool} {a : RgV} {v : Bytes}

theorem rgAssign_ID (h : known v = false) :
    rgAssign E known a (TAG "ID") v = .ok { a with name := v, idok := true } := by
  simp [rgAssign, h]

theorem rgAssign_set {t : Tag} {d : RgD} (hne : t ≠ TAG "ID") (h : rgSet E a.d t v = some d) :
    rgAssign E known a t v = .ok { a with d := d } := by
  simp only [rgAssign, hne, if_false, h]

theorem rgAssign_CN : rgAssign E known a (TAG "CN") v = .ok { a with d := { a.d with cn := v } } :=
  rgAssign_set (by decide +kernel) (by simp [rgSet])
theorem rgAssign_DS : rgAssign E known a (TAG "DS") v = .ok { a with d := { a.d with ds := v } } :=
  rgAssign_set (by decide +kernel) (by simp [rgSet])
theorem rgAssign_DT {x : Bytes} (h : E.parseDate v = some x) :
    rgAssign E known a (TAG "DT") v = .ok { a with d := { a.d with dt := x } } :=
  rgAssign_set (by decide +kernel) (by simp [rgSet, h])
theorem rgAssign_FO : rgAssign E known a (TAG "FO") v = .ok { a with d := { a.d with fo := v } } :=
  rgAssign_set (by decide +kernel) (by simp [rgSet])
theorem rgAssign_KS : rgAssign E known a (TAG "KS") v = .ok { a with d := { a.d with ks := v } } :=
  rgAssign_set (by decide +kernel) (by simp [rgSet])
theorem rgAssign_LB : rgAssign E known a (TAG "LB") v = .ok { a with d := { a.d with lb := v } } :=
  rgAssign_set (by decide +kernel) (by simp [rgSet])
theorem rgAssign_PG : rgAssign E known a (TAG "PG") v = .ok { a with d := { a.d with pg := v } } :=
  rgAssign_set (by decide +kernel) (by simp [rgSet])
theorem rgAssign_PI {i : Int} (h : atoi v = some i) (hi : validInt32 i = true) :
    rgAssign E known a (TAG "PI") v = .ok { a with d := { a.d with pi := i } } :=
  rgAssign_set (by decide +kernel) (by simp [rgSet, h, hi])
theorem rgAssign_PL : rgAssign E known a (TAG "PL") v = .ok { a with d := { a.d with pl := v } } :=
  rgAssign_set (by decide +kernel) (by simp [rgSet])
theorem rgAssign_PU : rgAssign E known a (TAG "PU") v = .ok { a with d := { a.d with pu := v } } :=
  rgAssign_set (by decide +kernel) (by simp [rgSet])
theorem rgAssign_SM : rgAssign E known a (TAG "SM") v = .ok { a with d := { a.d with sm := v } } :=
  rgAssign_set (by decide +kernel) (by simp [rgSet])

end

theorem rg_other (E : Ext) (known : Bytes → Bool) : ∀ (ts : Tags) (a : RgV), (∀ tv ∈ ts, tv.1 ∉ knownRg) →
    loopVal (rgAssign E known) a ts = .ok { a with d := { a.d with other := a.d.other ++ ts } } :=
  loopVal_other (fun (a : RgV) l => { a with d := { a.d with other := a.d.other ++ l } }) (by simp) (by simp)
    fun a t v ht => by
      simp only [knownRg, List.mem_cons, List.not_mem_nil, or_false, not_or] at ht
      simp only [rgAssign, rgSet, ht, if_false]

theorem rg_loop (E : Ext) (known : Bytes → Bool) (name : Bytes) (d : RgD) (wf : WFRg E name d)
    (hk : known name = false) :
    loopVal (rgAssign E known) {} (rgTags name d) = .ok { name := name, d := d, idok := true } := by
  obtain ⟨cn, ds, dt, fo, ks, lb, pg, pi, pl, pu, sm, other⟩ := d
  simp only [rgTags, opt, List.append_assoc, List.cons_append, List.nil_append]
  refine loopVal_step (rgAssign_ID hk) ?_
  refine loopVal_ite (fun _ => rgAssign_CN) (by rintro rfl; rfl) ?_
  refine loopVal_ite (fun _ => rgAssign_DS) (by rintro rfl; rfl) ?_
  refine loopVal_ite (fun h => rgAssign_DT (wf.dt.resolve_left h).2) (by rintro rfl; rfl) ?_
  refine loopVal_ite (fun _ => rgAssign_FO) (by rintro rfl; rfl) ?_
  -- the value so far is a tower of projections of the earlier values: flatten it
  dsimp only
  refine loopVal_ite (fun _ => rgAssign_KS) (by rintro rfl; rfl) ?_
  refine loopVal_ite (fun _ => rgAssign_LB) (by rintro rfl; rfl) ?_
  refine loopVal_ite (fun _ => rgAssign_PG) (by rintro rfl; rfl) ?_
  dsimp only
  refine loopVal_ite (fun _ => rgAssign_PI (atoi_dec pi) wf.pi) (by rintro rfl; rfl) ?_
  refine loopVal_ite (fun _ => rgAssign_PL) (by rintro rfl; rfl) ?_
  refine loopVal_ite (fun _ => rgAssign_PU) (by rintro rfl; rfl) ?_
  refine loopVal_ite (fun _ => rgAssign_SM) (by rintro rfl; rfl) ?_
  exact (rg_other E known other _ wf.other.unknown).trans rfl

section
variable {known : Bytes → Bool} {a : PgV} {v : Bytes}

theorem pgAssign_ID (h : known v = false) : pgAssign known a (TAG "ID") v = .ok { a with name := v, idok := true } := by
  simp [pgAssign, h]

theorem pgAssign_set {t : Tag} {d : PgD} (hne : t ≠ TAG "ID") (h : pgSet a.d t v = d) :
    pgAssign known a t v = .ok { a with d := d } := by
  simp only [pgAssign, hne, if_false, h]

theorem pgAssign_PN : pgAssign known a (TAG "PN") v = .ok { a with d := { a.d with pn := v } } :=
  pgAssign_set (by decide +kernel) (by simp [pgSet])
theorem pgAssign_CL : pgAssign known a (TAG "CL") v = .ok { a with d := { a.d with cl := v } } :=
  pgAssign_set (by decide +kernel) (by simp [pgSet])
theorem pgAssign_PP : pgAssign known a (TAG "PP") v = .ok { a with d := { a.d with pp := v } } :=
  pgAssign_set (by decide +kernel) (by simp [pgSet])
theorem pgAssign_VN : pgAssign known a (TAG "VN") v = .ok { a with d := { a.d with vn := v } } :=
  pgAssign_set (by decide +kernel) (by simp [pgSet])

end

theorem pg_other (known : Bytes → Bool) : ∀ (ts : Tags) (a : PgV), (∀ tv ∈ ts, tv.1 ∉ knownPg) →
    loopVal (pgAssign known) a ts = .ok { a with d := { a.d with other := a.d.other ++ ts } } :=
  loopVal_other (fun (a : PgV) l => { a with d := { a.d with other := a.d.other ++ l } }) (by simp) (by simp)
    fun a t v ht => by
      simp only [knownPg, List.mem_cons, List.not_mem_nil, or_false, not_or] at ht
      simp only [pgAssign, pgSet, ht, if_false]

theorem pg_loop (known : Bytes → Bool) (name : Bytes) (d : PgD) (wf : WFPg name d) (hk : known name = false) :
    loopVal (pgAssign known) {} (pgTags name d) = .ok { name := name, d := d, idok := true } := by
  obtain ⟨pn, cl, pp, vn, other⟩ := d
  simp only [pgTags, opt, List.append_assoc, List.cons_append, List.nil_append]
  refine loopVal_step (pgAssign_ID hk) ?_
  refine loopVal_ite (fun _ => pgAssign_PN) (by rintro rfl; rfl) ?_
  refine loopVal_ite (fun _ => pgAssign_CL) (by rintro rfl; rfl) ?_
  refine loopVal_ite (fun _ => pgAssign_PP) (by rintro rfl; rfl) ?_
  refine loopVal_ite (fun _ => pgAssign_VN) (by rintro rfl; rfl) ?_
  exact (pg_other known other _ wf.other.unknown).trans rfl

end Hts.Model.Header
