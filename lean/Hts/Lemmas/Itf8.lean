/-
`decode ∘ encode = id` for ITF-8 and LTF-8 is put together from the comparison of both functions with the arithmetic
specification and the specification's own round trip, once for both codecs (`Hts.Lemmas.Codec`); so is "only the
announced bytes are read" (`decode_take`), which therefore rests on `decode_is_spec` as well.
-/
import Hts.Model.Itf8
import Hts.Model.Ltf8
import Hts.Lemmas.Itf8Spec

namespace Hts.Lemmas.Codec

/-! What "only the announced bytes are read" and `Decode ∘ Encode = id` need of a codec: the width and the
failure report of `dec`, its value and `enc` against a specification `sEnc`/`sWd`/`sVal`, and that
specification's own round trip. -/
section
variable {W : Nat} {dec : List (BitVec 8) → BitVec W × Int × Bool} {wd : BitVec 8 → Int}
  {sVal : List Nat → Option Nat}
  (hsnd : ∀ b0 t, (dec (b0 :: t)).2 = (wd b0, decide (wd b0 ≤ ((t.length + 1 : Nat) : Int))))
  (hpos : ∀ b0, 1 ≤ wd b0)
  (hval : ∀ b0 t, wd b0 ≤ ((t.length + 1 : Nat) : Int) →
    sVal (((b0 :: t).take (wd b0).toNat).map BitVec.toNat) = some (dec (b0 :: t)).1.toNat)
include hsnd hpos hval

theorem decode_take (b0 : BitVec 8) (t : List (BitVec 8)) (h : wd b0 ≤ ((t.length + 1 : Nat) : Int)) :
    dec ((b0 :: t).take (wd b0).toNat) = dec (b0 :: t) := by
  obtain ⟨w, hw⟩ := Kernel.width_succ (hpos b0)
  have hl : (t.take w).length = w := List.length_take_of_le (by omega)
  have h' : wd b0 ≤ (((t.take w).length + 1 : Nat) : Int) := by omega
  -- both inputs have the same announced prefix, so the same specified value
  have e1 := hval b0 t h
  have e2 := hval b0 (t.take w) h'
  rw [hw, Int.toNat_natCast, List.take_succ_cons] at e1 e2 ⊢
  rw [List.take_take, Nat.min_self, e1] at e2
  refine Prod.ext (BitVec.eq_of_toNat_eq (Option.some.inj e2).symm) ?_
  rw [hsnd, hsnd, decide_eq_true h, decide_eq_true h']

variable {enc : BitVec W → List (BitVec 8)} {len : BitVec W → Int} {sEnc : Nat → List Nat} {sWd : Nat → Nat}
  (hwd : ∀ b0, wd b0 = (sWd b0.toNat : Nat)) (henc : ∀ v, (enc v).map BitVec.toNat = sEnc v.toNat)
  (hlen : ∀ v, ((enc v).length : Int) = len v)
  (hcomp : ∀ u, u < 2 ^ W → (sEnc u).length = sWd ((sEnc u).headD 0) ∧ sVal (sEnc u) = some u)
include hwd henc hlen hcomp

theorem decode_encode (v : BitVec W) : dec (enc v) = (v, len v, true) := by
  obtain ⟨hl, hv⟩ := hcomp v.toNat v.isLt
  have hn := hlen v
  rw [← henc v] at hl hv
  cases he : enc v with
  | nil =>
    -- an empty encoding would announce width `sWd 0 = 0`
    have h0 := hpos 0#8
    rw [he, List.map_nil, List.length_nil, List.headD_nil] at hl
    rw [hwd, show (0#8).toNat = 0 from rfl, ← hl] at h0
    cases h0
  | cons b0 t =>
    rw [he] at hl hv hn
    rw [List.map_cons, List.headD_cons, List.length_cons, List.length_map] at hl
    have hw : wd b0 = ((t.length + 1 : Nat) : Int) := by rw [hwd, hl]
    have hd := hval b0 t (Int.le_of_eq hw)
    rw [hw, Int.toNat_natCast, List.take_succ_cons, List.take_length, hv] at hd
    refine Prod.ext (BitVec.eq_of_toNat_eq (Option.some.inj hd).symm) ?_
    rw [hsnd, hw, decide_eq_true (Int.le_refl _), ← hn, List.length_cons]

end
end Hts.Lemmas.Codec

namespace Hts.Model.Itf8
theorem width_1 (b : Byte) (h : b.ult 0x80#8 = true) : width b = 1 := by simp [width, h]
theorem width_2 (b : Byte) (h0 : b.ult 0x80#8 = false) (h : b.ult 0xc0#8 = true) : width b = 2 := by simp [width, h0, h]
theorem width_3 (b : Byte) (h0 : b.ult 0x80#8 = false) (h1 : b.ult 0xc0#8 = false) (h : b.ult 0xe0#8 = true) : width b = 3 := by simp [width, h0, h1, h]
theorem width_4 (b : Byte) (h0 : b.ult 0x80#8 = false) (h1 : b.ult 0xc0#8 = false) (h2 : b.ult 0xe0#8 = false) (h : b.ult 0xf0#8 = true) : width b = 4 := by simp [width, h0, h1, h2, h]
theorem width_5 (b : Byte) (h0 : b.ult 0x80#8 = false) (h1 : b.ult 0xc0#8 = false) (h2 : b.ult 0xe0#8 = false) (h3 : b.ult 0xf0#8 = false) : width b = 5 := by simp [width, h0, h1, h2, h3]

theorem encode_length (v : BitVec 32) : ((encode v).length : Int) = len v := by
  unfold encode len
  simp only [apply_ite (fun l : List Byte => (l.length : Int))]
  rfl

theorem decode_nil : decode [] = (0#32, 0, false) := rfl

theorem decode_take (b0 : Byte) (t : List Byte) (h : width b0 ≤ ((t.length + 1 : Nat) : Int)) :
    decode ((b0 :: t).take (width b0).toNat) = decode (b0 :: t) :=
  Hts.Lemmas.Codec.decode_take decode_snd width_pos decode_is_spec b0 t h

theorem decode_encode (v : BitVec 32) : decode (encode v) = (v, len v, true) :=
  Hts.Lemmas.Codec.decode_encode decode_snd width_pos decode_is_spec width_is_spec encode_is_spec
    encode_length Hts.Spec.Itf8.encode_complete v

end Hts.Model.Itf8

namespace Hts.Model.Ltf8
theorem width_1 (b : Byte) (h : b.ult 0x80#8 = true) : width b = 1 := by simp [width, h]
theorem width_2 (b : Byte) (h0 : b.ult 0x80#8 = false) (h : b.ult 0xc0#8 = true) : width b = 2 := by simp [width, h0, h]
theorem width_3 (b : Byte) (h0 : b.ult 0x80#8 = false) (h1 : b.ult 0xc0#8 = false) (h : b.ult 0xe0#8 = true) : width b = 3 := by simp [width, h0, h1, h]
theorem width_4 (b : Byte) (h0 : b.ult 0x80#8 = false) (h1 : b.ult 0xc0#8 = false) (h2 : b.ult 0xe0#8 = false) (h : b.ult 0xf0#8 = true) : width b = 4 := by simp [width, h0, h1, h2, h]
theorem width_5 (b : Byte) (h0 : b.ult 0x80#8 = false) (h1 : b.ult 0xc0#8 = false) (h2 : b.ult 0xe0#8 = false) (h3 : b.ult 0xf0#8 = false) (h : b.ult 0xf8#8 = true) : width b = 5 := by simp [width, h0, h1, h2, h3, h]
theorem width_6 (b : Byte) (h0 : b.ult 0x80#8 = false) (h1 : b.ult 0xc0#8 = false) (h2 : b.ult 0xe0#8 = false) (h3 : b.ult 0xf0#8 = false) (h4 : b.ult 0xf8#8 = false) (h : b.ult 0xfc#8 = true) : width b = 6 := by simp [width, h0, h1, h2, h3, h4, h]
theorem width_7 (b : Byte) (h0 : b.ult 0x80#8 = false) (h1 : b.ult 0xc0#8 = false) (h2 : b.ult 0xe0#8 = false) (h3 : b.ult 0xf0#8 = false) (h4 : b.ult 0xf8#8 = false) (h5 : b.ult 0xfc#8 = false) (h : b.ult 0xfe#8 = true) : width b = 7 := by simp [width, h0, h1, h2, h3, h4, h5, h]
theorem width_8 (b : Byte) (h0 : b.ult 0x80#8 = false) (h1 : b.ult 0xc0#8 = false) (h2 : b.ult 0xe0#8 = false) (h3 : b.ult 0xf0#8 = false) (h4 : b.ult 0xf8#8 = false) (h5 : b.ult 0xfc#8 = false) (h6 : b.ult 0xfe#8 = false) (h : b.ult 0xff#8 = true) : width b = 8 := by simp [width, h0, h1, h2, h3, h4, h5, h6, h]
theorem width_9 (b : Byte) (h0 : b.ult 0x80#8 = false) (h1 : b.ult 0xc0#8 = false) (h2 : b.ult 0xe0#8 = false) (h3 : b.ult 0xf0#8 = false) (h4 : b.ult 0xf8#8 = false) (h5 : b.ult 0xfc#8 = false) (h6 : b.ult 0xfe#8 = false) (h7 : b.ult 0xff#8 = false) : width b = 9 := by simp [width, h0, h1, h2, h3, h4, h5, h6, h7]

theorem encode_length (v : BitVec 64) : ((encode v).length : Int) = len v := by
  unfold encode len
  simp only [apply_ite (fun l : List Byte => (l.length : Int))]
  rfl

theorem decode_nil : decode [] = (0#64, 0, false) := rfl

theorem decode_take (b0 : Byte) (t : List Byte) (h : width b0 ≤ ((t.length + 1 : Nat) : Int)) :
    decode ((b0 :: t).take (width b0).toNat) = decode (b0 :: t) :=
  Hts.Lemmas.Codec.decode_take decode_snd width_pos decode_is_spec b0 t h

theorem decode_encode (v : BitVec 64) : decode (encode v) = (v, len v, true) :=
  Hts.Lemmas.Codec.decode_encode decode_snd width_pos decode_is_spec width_is_spec encode_is_spec
    encode_length Hts.Spec.Ltf8.encode_complete v

end Hts.Model.Ltf8

namespace Hts.Lemmas.Kernel
theorem Itf8K.decode_encode (v : BitVec 32) :
    Hts.Model.Itf8.decode (Hts.Model.Itf8.encode v) = (v, Hts.Model.Itf8.len v, true) :=
  Hts.Model.Itf8.decode_encode v
theorem Ltf8K.decode_encode (v : BitVec 64) :
    Hts.Model.Ltf8.decode (Hts.Model.Ltf8.encode v) = (v, Hts.Model.Ltf8.len v, true) :=
  Hts.Model.Ltf8.decode_encode v
end Hts.Lemmas.Kernel
