/-
Facts about the flat specification alone (`Hts.Spec.Flat`): the offsets it reports translate back to the
logical positions, and they are ordered like the positions; `read` case by case (`flat_read_*`).
-/
import Hts.Spec.FlatFile
namespace Hts.Spec.Flat

/-- Well-formed layout: positive member sizes, block lengths below 2^16. -/
def LWF (L : Layout) : Prop := ∀ b ∈ L, 0 < b.csize ∧ b.len < 65536

theorem LWF.cons {b : BlockInfo} {L : Layout} (h : LWF (b :: L)) : 0 < b.csize ∧ b.len < 65536 ∧ LWF L :=
  ⟨(h b (by simp)).1, (h b (by simp)).2, fun x hx => h x (by simp [hx])⟩

theorem vOffset_lt_iff {o o' : Offset} (h : o.block < 65536) (h' : o'.block < 65536) :
    vOffset o < vOffset o' ↔ o.file < o'.file ∨ (o.file = o'.file ∧ o.block < o'.block) := by
  simp only [vOffset]; omega

theorem vOffset_le_iff {o o' : Offset} (h : o.block < 65536) (h' : o'.block < 65536) :
    vOffset o ≤ vOffset o' ↔ o.file < o'.file ∨ (o.file = o'.file ∧ o.block ≤ o'.block) := by
  simp only [vOffset]; omega

theorem Offset.shift_mk (f b c : Nat) : (Offset.mk f b).shift c = ⟨f + c, b⟩ := rfl

theorem vOffset_shift (o : Offset) (c : Nat) : vOffset (o.shift c) = vOffset o + c * 65536 := by
  simp only [vOffset, Offset.shift, Nat.add_mul, Nat.add_right_comm]

theorem offBefore_cons_lt {b : BlockInfo} {L : Layout} {p : Nat} (h : p < b.len) :
    offBefore (b :: L) p = ⟨0, p⟩ := by simp [offBefore, h]

theorem offBefore_cons_ge {b : BlockInfo} {L : Layout} {p : Nat} (h : b.len ≤ p) :
    offBefore (b :: L) p = (offBefore L (p - b.len)).shift b.csize := by
  simp [offBefore, Nat.not_lt.mpr h]

theorem offAfter_cons_le {b : BlockInfo} {L : Layout} {q : Nat} (h : q ≤ b.len) :
    offAfter (b :: L) q = ⟨0, q⟩ := by simp [offAfter, h]

theorem offAfter_cons_gt {b : BlockInfo} {L : Layout} {q : Nat} (h : b.len < q) :
    offAfter (b :: L) q = (offAfter L (q - b.len)).shift b.csize := by
  simp [offAfter, Nat.not_le.mpr h]

theorem blockRem_cons_lt {b : BlockInfo} {L : Layout} {p : Nat} (h : p < b.len) :
    blockRem (b :: L) p = b.len - p := by simp [blockRem, h]

theorem blockRem_cons_ge {b : BlockInfo} {L : Layout} {p : Nat} (h : b.len ≤ p) :
    blockRem (b :: L) p = blockRem L (p - b.len) := by simp [blockRem, Nat.not_lt.mpr h]

theorem seekTarget_shift (b : BlockInfo) (L : Layout) (o : Offset) (h : 0 < b.csize) :
    seekTarget (b :: L) (o.shift b.csize) = (seekTarget L o).map (· + b.len) := by
  simp only [seekTarget, Offset.shift]
  have h1 : ¬ (o.file + b.csize = 0) := by omega
  have h2 : ¬ (o.file + b.csize < b.csize) := by omega
  simp only [h1, h2, if_false, Nat.add_sub_cancel]

theorem seekTarget_offBefore {L : Layout} (hL : LWF L) {p : Nat} (hp : p < total L) :
    seekTarget L (offBefore L p) = some p := by
  induction L generalizing p with
  | nil => simp [total] at hp
  | cons b L ih =>
    have ⟨hc, _, hL'⟩ := hL.cons
    by_cases h : p < b.len
    · simp [offBefore_cons_lt h, seekTarget, Nat.le_of_lt h]
    · have h := Nat.not_lt.mp h
      rw [offBefore_cons_ge h, seekTarget_shift b L _ hc, ih hL' (Nat.sub_lt_left_of_lt_add h hp)]
      simp [Nat.sub_add_cancel h]

theorem seekTarget_offAfter {L : Layout} (hL : LWF L) {q : Nat} (hq0 : 0 < q) (hq : q ≤ total L) :
    seekTarget L (offAfter L q) = some q := by
  induction L generalizing q with
  | nil => simp [total] at hq; omega
  | cons b L ih =>
    have ⟨hc, _, hL'⟩ := hL.cons
    by_cases h : q ≤ b.len
    · simp [offAfter_cons_le h, seekTarget, h]
    · have h := Nat.not_le.mp h
      rw [offAfter_cons_gt h, seekTarget_shift b L _ hc, ih hL' (Nat.sub_pos_of_lt h) (Nat.sub_le_iff_le_add'.mpr hq)]
      simp [Nat.sub_add_cancel (Nat.le_of_lt h)]

theorem seekTarget_fileLen {L : Layout} (hL : LWF L) : seekTarget L ⟨fileLen L, 0⟩ = none := by
  induction L with
  | nil => simp [seekTarget]
  | cons b L ih =>
    have ⟨hc, _, hL'⟩ := hL.cons
    have := seekTarget_shift b L ⟨fileLen L, 0⟩ hc
    rw [ih hL'] at this
    simpa [Offset.shift, fileLen, Nat.add_comm] using this

theorem toLogical_fileLen {L : Layout} (hL : LWF L) : toLogical L ⟨fileLen L, 0⟩ = some (total L) := by
  simp [toLogical, seekTarget_fileLen hL]

theorem toLogical_of_seekTarget {L : Layout} {o : Offset} {p : Nat} (h : seekTarget L o = some p) :
    toLogical L o = some p := by
  simp [toLogical, h]

theorem blockRem_bounds (L : Layout) (p : Nat) (hp : p < total L) :
    0 < blockRem L p ∧ blockRem L p ≤ total L - p := by
  induction L generalizing p with
  | nil => simp [total] at hp
  | cons b L ih =>
    simp only [total] at hp ⊢
    by_cases h : p < b.len
    · rw [blockRem_cons_lt h]; omega
    · have h := Nat.not_lt.mp h
      rw [blockRem_cons_ge h]
      have := ih (p - b.len) (by omega)
      omega

theorem offBefore_block_lt {L : Layout} (hL : LWF L) (p : Nat) : (offBefore L p).block < 65536 := by
  induction L generalizing p with
  | nil => simp [offBefore]
  | cons b L ih =>
    have ⟨_, hl, hL'⟩ := hL.cons
    by_cases h : p < b.len
    · rw [offBefore_cons_lt h]; exact Nat.lt_trans h hl
    · rw [offBefore_cons_ge (Nat.not_lt.mp h)]; exact ih hL' _

theorem offAfter_block_lt {L : Layout} (hL : LWF L) (q : Nat) : (offAfter L q).block < 65536 := by
  induction L generalizing q with
  | nil => simp [offAfter]
  | cons b L ih =>
    have ⟨_, hl, hL'⟩ := hL.cons
    by_cases h : q ≤ b.len
    · rw [offAfter_cons_le h]; exact Nat.lt_of_le_of_lt h hl
    · rw [offAfter_cons_gt (Nat.not_le.mp h)]; exact ih hL' _

theorem offAfter_succ {L : Layout} {p : Nat} (hp : p < total L) :
    offAfter L (p + 1) = ⟨(offBefore L p).file, (offBefore L p).block + 1⟩ := by
  induction L generalizing p with
  | nil => simp [total] at hp
  | cons b L ih =>
    by_cases h : p < b.len
    · rw [offAfter_cons_le h, offBefore_cons_lt h]
    · have h := Nat.not_lt.mp h
      rw [offAfter_cons_gt (Nat.lt_succ_of_le h), offBefore_cons_ge h, Nat.succ_sub h,
        ih (Nat.sub_lt_left_of_lt_add h hp)]
      rfl

theorem vOffset_before_lt_before {L : Layout} (hL : LWF L) {p p' : Nat} (h : p < p') (hp : p' < total L) :
    vOffset (offBefore L p) < vOffset (offBefore L p') := by
  induction L generalizing p p' with
  | nil => simp [total] at hp
  | cons b L ih =>
    have ⟨hc, hl, hL'⟩ := hL.cons
    by_cases h1 : p' < b.len
    · rw [offBefore_cons_lt h1, offBefore_cons_lt (Nat.lt_trans h h1)]
      simpa [vOffset] using h
    · have h1 := Nat.not_lt.mp h1
      rw [offBefore_cons_ge h1, vOffset_shift]
      by_cases h2 : p < b.len
      · rw [offBefore_cons_lt h2]
        simp only [vOffset]; omega
      · have h2 := Nat.not_lt.mp h2
        rw [offBefore_cons_ge h2, vOffset_shift]
        exact Nat.add_lt_add_right (ih hL' (by omega) (Nat.sub_lt_left_of_lt_add h1 hp)) _

theorem vOffset_offAfter_succ {L : Layout} {p : Nat} (hp : p < total L) :
    vOffset (offAfter L (p + 1)) = vOffset (offBefore L p) + 1 := by
  rw [offAfter_succ hp]; exact (Nat.add_assoc _ _ 1).symm

theorem vOffset_before_lt_after {L : Layout} (hL : LWF L) {p q : Nat} (hpq : p < q) (hq : q ≤ total L) :
    vOffset (offBefore L p) < vOffset (offAfter L q) := by
  obtain ⟨q, rfl⟩ : ∃ q', q = q' + 1 := ⟨q - 1, by omega⟩
  rw [vOffset_offAfter_succ hq]
  rcases Nat.eq_or_lt_of_le (Nat.le_of_lt_succ hpq) with rfl | h
  · exact Nat.lt_succ_self _
  · exact Nat.lt_succ_of_lt (vOffset_before_lt_before hL h hq)

/-- Also at a block boundary, where the `End` of the one read is `(base, len)` and the `Begin` of the next
`(next base, 0)`. -/
theorem vOffset_after_le_before {L : Layout} (hL : LWF L) {p q : Nat} (hqp : q ≤ p) (hp : p < total L) :
    vOffset (offAfter L q) ≤ vOffset (offBefore L p) := by
  cases q with
  | zero =>
    cases L with
    | nil => simp [total] at hp
    | cons b L => rw [offAfter_cons_le (Nat.zero_le _)]; exact Nat.zero_le _
  | succ q =>
    rw [vOffset_offAfter_succ (Nat.lt_trans hqp hp)]
    exact vOffset_before_lt_before hL hqp hp

theorem vOffset_after_lt_after {L : Layout} (hL : LWF L) {q1 q2 : Nat} (h1 : q1 < q2) (h2 : q2 ≤ total L) :
    vOffset (offAfter L q1) < vOffset (offAfter L q2) := by
  obtain ⟨q2, rfl⟩ : ∃ q', q2 = q' + 1 := ⟨q2 - 1, by omega⟩
  exact Nat.lt_of_le_of_lt (vOffset_after_le_before hL (Nat.le_of_lt_succ h1) h2)
    (vOffset_before_lt_after hL (Nat.lt_succ_self q2) h2)

structure FlatFile.WF (F : FlatFile) : Prop where
  length : F.bytes.length = total F.layout
  layout : LWF F.layout

/-- What a read can take: the rest of the block in Blocked mode, of the data otherwise. -/
def State.rem (F : FlatFile) (s : State) : Nat :=
  if s.blocked then blockRem F.layout s.pos else total F.layout - s.pos

theorem State.rem_bounds (F : FlatFile) (s : State) (h : s.pos < total F.layout) :
    0 < s.rem F ∧ s.rem F ≤ total F.layout - s.pos := by
  unfold State.rem
  split
  · exact blockRem_bounds _ _ h
  · omega

theorem flat_read_data (F : FlatFile) (s : State) (n : Nat) (h : s.pos < total F.layout) :
    read F s n = ⟨(F.bytes.drop s.pos).take (min n (s.rem F)), decide (s.rem F < n),
      { s with pos := s.pos + min n (s.rem F),
               last := ⟨offBefore F.layout s.pos,
                 if n = 0 then offBefore F.layout s.pos
                 else if s.rem F < n ∧ !s.blocked then ⟨fileLen F.layout, 0⟩
                 else offAfter F.layout (s.pos + min n (s.rem F))⟩ }⟩ := by
  simp only [read, Nat.not_le.mpr h, if_false, State.rem]
  rfl

theorem flat_read_eof (F : FlatFile) (s : State) (n : Nat) (h : total F.layout ≤ s.pos) :
    read F s n = ⟨[], true, s⟩ := by
  simp [read, h]

theorem flat_read_blocked (F : FlatFile) (s : State) (n : Nat) :
    (read F s n).st.blocked = s.blocked := by
  by_cases h : total F.layout ≤ s.pos
  · rw [flat_read_eof F s n h]
  · rw [flat_read_data F s n (Nat.not_le.mp h)]

theorem flat_read_ok_lt (F : FlatFile) (s : State) (n : Nat)
    (hok : (read F s n).eof = false ∨ (read F s n).bytes ≠ []) : s.pos < total F.layout := by
  by_cases hp : total F.layout ≤ s.pos
  · simp [flat_read_eof F s n hp] at hok
  · omega

/-- The state on the left is spelt as `sim_seek` leaves it, so that its user can rewrite with this. -/
theorem flat_read_replay (F : FlatFile) (s : State) (n : Nat) (l : Chunk) (hlt : s.pos < total F.layout) :
    read F { (read F s n).st with pos := s.pos, last := l } n = read F s n := by
  show read F ⟨s.pos, (read F s n).st.blocked, l⟩ n = _
  rw [flat_read_blocked]
  simp only [read, Nat.not_le.mpr hlt, if_false]

theorem flat_read_zero (F : FlatFile) (s : State) (h : s.pos < total F.layout) :
    read F s 0 = ⟨[], false,
      ⟨s.pos, s.blocked, ⟨offBefore F.layout s.pos, offBefore F.layout s.pos⟩⟩⟩ := by
  simp [read, Nat.not_le.mpr h]

theorem flat_read_enough (F : FlatFile) (s : State) (n : Nat) (hb : s.blocked = false) (hn : 0 < n)
    (h : s.pos + n ≤ total F.layout) :
    read F s n = ⟨(F.bytes.drop s.pos).take n, false,
      ⟨s.pos + n, false, ⟨offBefore F.layout s.pos, offAfter F.layout (s.pos + n)⟩⟩⟩ := by
  have h1 : ¬ (total F.layout ≤ s.pos) := by omega
  have h2 : min n (total F.layout - s.pos) = n := by omega
  have h3 : ¬ (total F.layout - s.pos < n) := by omega
  have h4 : ¬ (n = 0) := by omega
  simp [read, h1, hb, h2, h3, h4]

end Hts.Spec.Flat
