/-
Chunk-restricted reading (`SetChunk`, the limit test, `Iterator`) over the flat specification.
-/
import Hts.Lemmas.BamSim
namespace Hts.Model.Bgzf
open Hts.Spec.Flat

variable {F : File} {br : BamReader} {s : State} {c : Chunk}

/-- A span of records to ask for: the records `M` (at least one) that start at logical position `p`, followed by `B`. -/
structure RecSpan where
  p : Nat
  M : List (List UInt8)
  B : List (List UInt8)

/-- `[Begin of the first record of M, End of its last record]`, as the sequential pass reports them. -/
def RecSpan.chunk (L : Layout) (sp : RecSpan) : Chunk :=
  ⟨offBefore L sp.p, offAfter L (sp.p + recSize sp.M)⟩

structure RecSpan.Valid (F : File) (sp : RecSpan) : Prop where
  nonempty : sp.M ≠ []
  recs : RecAt F sp.p (sp.M ++ sp.B)
  le : sp.p ≤ flatLen F

/-- The reader is restricted to chunk `c` and stands before the records `R` of it (`B` follow the chunk). -/
structure InChunk (F : File) (br : BamReader) (s : State) (c : Chunk) (R B : List (List UInt8)) : Prop where
  bsim : BSim F br s
  hc : br.c = some c
  recs : RecAt F s.pos (R ++ B)
  le : s.pos ≤ flatLen F
  fin : c.fin = offAfter (layoutOf F) (s.pos + recSize R)
  /-- right after `SetChunk` the last `End` is the offset before the first record, after a record the offset after
  it; the two differ at a block end, and it is this `End` that the limit test of `Read` compares with `c.fin` -/
  last : (R ≠ [] ∧ s.last.fin = offBefore (layoutOf F) s.pos) ∨
         (0 < s.pos ∧ s.last.fin = offAfter (layoutOf F) s.pos)

theorem recSize_pos {b : List UInt8} {R : List (List UInt8)} : 0 < recSize (b :: R) := by
  simp [recSize]; omega

theorem inchunk_read_record (hwf : WF F)
    {b : List UInt8} {R B : List (List UInt8)} (h : InChunk F br s c (b :: R) B) :
    ∃ br', br.read = (br', .ok b) ∧
      br'.lastChunk = ⟨offBefore (layoutOf F) s.pos, offAfter (layoutOf F) (s.pos + (4 + b.length))⟩ ∧
      InChunk F br' ⟨s.pos + (4 + b.length), false,
        ⟨offBefore (layoutOf F) (s.pos + 4), offAfter (layoutOf F) (s.pos + (4 + b.length))⟩⟩ c R B := by
  have hL := lwf_of_wf hwf
  have hrec : RecAt F s.pos (b :: (R ++ B)) := by simpa using h.recs
  have htot := hrec.total h.le
  have hsz : recSize (b :: (R ++ B)) = 4 + b.length + recSize (R ++ B) := rfl
  have hszR : recSize (b :: R) = 4 + b.length + recSize R := rfl
  have hRB : recSize R ≤ recSize (R ++ B) := by rw [recSize_append]; omega
  have hlim : ∀ c', br.c = some c' → vOffset s.last.fin < vOffset c'.fin := by
    intro c' hc'
    rw [h.hc] at hc'; cases hc'
    rw [h.fin]
    rcases h.last with ⟨_, hl⟩ | ⟨hp0, hl⟩
    · rw [hl]; exact vOffset_before_lt_after hL (by omega) (by simp; omega)
    · rw [hl]; exact vOffset_after_lt_after hL (by omega) (by simp; omega)
  obtain ⟨br', e1, e2, e3, e4⟩ := read_record hwf h.bsim hrec h.le hlim
  refine ⟨br', e1, e3, e4, e2.trans h.hc, ?_, by simp only []; omega, ?_, Or.inr ⟨by simp only []; omega, rfl⟩⟩
  · simpa using hrec.tail
  · rw [h.fin, hszR]; simp only []; congr 1; omega

theorem inchunk_read_end {B : List (List UInt8)} (h : InChunk F br s c [] B) : br.read = (br, .error .eof) := by
  apply read_limit h.bsim c h.hc
  rw [h.fin]
  rcases h.last with ⟨hne, _⟩ | ⟨_, hl⟩
  · exact absurd rfl hne
  · rw [hl]; simp [recSize]

theorem inchunk_setChunk (hwf : WF F) (h : BSim F br s) (sp : RecSpan) (hv : sp.Valid F) :
    ∃ br', br.setChunk (some (sp.chunk (layoutOf F))) = (br', none) ∧
      InChunk F br' ⟨sp.p, false, ⟨offBefore (layoutOf F) sp.p, offBefore (layoutOf F) sp.p⟩⟩
        (sp.chunk (layoutOf F)) sp.M sp.B := by
  obtain ⟨b, M', hM⟩ := List.exists_cons_of_ne_nil hv.nonempty
  have htot := hv.recs.total hv.le
  have hlt : sp.p < total (layoutOf F) := by
    rw [hM] at htot; simp [recSize] at htot ⊢; omega
  obtain ⟨r', hsc, hbs⟩ := bsim_setChunk hwf h (sp.chunk (layoutOf F)) _ (seekTarget_offBefore (lwf_of_wf hwf) hlt)
  exact ⟨_, hsc, hbs, rfl, hv.recs, hv.le, rfl, Or.inl ⟨hv.nonempty, rfl⟩⟩

theorem readN_inchunk (hwf : WF F) {R B : List (List UInt8)} (h : InChunk F br s c R B) :
    (br.readN (R.length + 1)).2 = (R.zip (recChunks (layoutOf F) s.pos R), some .eof) := by
  induction R generalizing br s with
  | nil =>
    rw [List.length_nil, readN_succ_err 0 (inchunk_read_end h)]; rfl
  | cons b R ih =>
    obtain ⟨br', hrd, e2, e3⟩ := inchunk_read_record hwf h
    rw [List.length_cons, readN_succ_ok _ hrd, ih e3]
    simp [recChunks, e2]

theorem next_ok {br br' : BamReader} {rec : List UInt8} (chunks : List Chunk) (h : br.read = (br', .ok rec)) :
    (Iterator.mk br chunks none).next = (⟨br', chunks, none⟩, some rec) := by
  cases chunks <;> simp [Iterator.next, Iterator.nextAux, h]

theorem next_eof_nil {br br' : BamReader} (h : br.read = (br', .error .eof)) :
    (Iterator.mk br [] none).next = (⟨br', [], some .eof⟩, none) := by
  simp [Iterator.next, Iterator.nextAux, h]

theorem next_eof_cons {br br' br'' : BamReader} (rest : List Chunk)
    (h : br.read = (br', .error .eof)) (hs : br'.setChunk (some c) = (br'', none)) :
    (Iterator.mk br (c :: rest) none).next = (Iterator.mk br'' rest none).next := by
  simp [Iterator.next, Iterator.nextAux, h, hs]

theorem collect_succ_some {it it' : Iterator} {rec : List UInt8} (k : Nat) (h : it.next = (it', some rec)) :
    it.collect (k + 1) = ((it'.collect k).1, rec :: (it'.collect k).2) := by
  simp [Iterator.collect, h]

theorem collect_succ_none {it it' : Iterator} (k : Nat) (h : it.next = (it', none)) :
    it.collect (k + 1) = (it', []) := by
  simp [Iterator.collect, h]

theorem collect_records (hwf : WF F) (chunks : List Chunk) {R B : List (List UInt8)} (k : Nat)
    (h : InChunk F br s c R B) :
    ∃ br' s', InChunk F br' s' c [] B ∧
      (Iterator.mk br chunks none).collect (R.length + k) =
        (((Iterator.mk br' chunks none).collect k).1, R ++ ((Iterator.mk br' chunks none).collect k).2) := by
  induction R generalizing br s with
  | nil => exact ⟨br, s, h, by simp⟩
  | cons b R ih =>
    obtain ⟨br1, hrd, _, h1⟩ := inchunk_read_record hwf h
    obtain ⟨br', s', h', heq⟩ := ih h1
    refine ⟨br', s', h', ?_⟩
    rw [List.length_cons, Nat.add_right_comm, collect_succ_some _ (next_ok chunks hrd), heq]; rfl

theorem collect_inchunk (hwf : WF F) {spans : List RecSpan} (hv : ∀ sp ∈ spans, sp.Valid F)
    {R B : List (List UInt8)} {fuel : Nat} (h : InChunk F br s c R B)
    (hf : R.length + (spans.flatMap (·.M)).length < fuel) :
    ((Iterator.mk br (spans.map (·.chunk (layoutOf F))) none).collect fuel).2 = R ++ spans.flatMap (·.M) ∧
    ((Iterator.mk br (spans.map (·.chunk (layoutOf F))) none).collect fuel).1.error = none := by
  induction spans generalizing R B br s c fuel with
  | nil =>
    obtain ⟨k, rfl⟩ : ∃ k, fuel = R.length + (k + 1) := ⟨fuel - R.length - 1, by omega⟩
    obtain ⟨br', s', h', heq⟩ := collect_records hwf [] (k + 1) h
    rw [List.map_nil, heq, collect_succ_none _ (next_eof_nil (inchunk_read_end h'))]
    exact ⟨rfl, rfl⟩
  | cons sp rest ih =>
    obtain ⟨k, rfl⟩ : ∃ k, fuel = R.length + (k + 1) := ⟨fuel - R.length - 1, by omega⟩
    obtain ⟨br', s', h', heq⟩ := collect_records hwf _ (k + 1) h
    -- at the end of the chunk the next one is set, and the loop is the loop on the remaining requests
    obtain ⟨br1, hsc, h1⟩ := inchunk_setChunk hwf h'.bsim sp (hv sp (by simp))
    have hstep : (Iterator.mk br' ((sp :: rest).map (·.chunk (layoutOf F))) none).collect (k + 1) =
        (Iterator.mk br1 (rest.map (·.chunk (layoutOf F))) none).collect (k + 1) := by
      simp only [Iterator.collect, List.map_cons, next_eof_cons _ (inchunk_read_end h') hsc]
    have := ih (fun x hx => hv x (by simp [hx])) h1 (by simp at hf ⊢; omega)
    rw [heq, hstep]
    simpa using this

theorem iterator_spans (hwf : WF F) (h : BSim F br s)
    (sp : RecSpan) (rest : List RecSpan) (hv : ∀ x ∈ sp :: rest, x.Valid F) (fuel : Nat)
    (hf : ((sp :: rest).flatMap (·.M)).length < fuel) :
    ∃ it, Iterator.new br ((sp :: rest).map (·.chunk (layoutOf F))) = .ok it ∧
      (it.collect fuel).2 = (sp :: rest).flatMap (·.M) ∧ (it.collect fuel).1.error = none := by
  obtain ⟨br1, hsc, h1⟩ := inchunk_setChunk hwf h sp (hv sp (by simp))
  refine ⟨⟨br1, rest.map (·.chunk (layoutOf F)), none⟩, by simp [Iterator.new, hsc], ?_⟩
  have := collect_inchunk hwf (spans := rest) (fun x hx => hv x (by simp [hx])) h1
    (by simpa using hf)
  simpa using this

end Hts.Model.Bgzf
