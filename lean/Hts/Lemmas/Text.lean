/-
Text inside byte strings: splitting at a separator (`bytes.Split`), and numbers in positional notation.  The models
each have their own `splitOn` and their own number printers, over `UInt8`, `BitVec 8` or `Nat`; a model's `splitOn` is
brought here by one equation (`splitOn_eq`, for tabix `splitNul_eq`, in its lemma file), a printer by one instance of
`Radix`.  `splitOn` stands in `Hts.Lemmas.Sep`, not in `Hts.Lemmas`: inside `namespace Hts.Lemmas.Fai` a name of
`Hts.Lemmas` is found before the model's name of an opened namespace.
-/
namespace Hts.Lemmas.Sep

/-- `bytes.Split(s, [sep])`: the pieces of `s` between the occurrences of `sep` -/
def splitOn {α : Type} [DecidableEq α] (sep : α) : List α → List (List α)
  | [] => [[]]
  | c :: cs => if c = sep then [] :: splitOn sep cs else
    match splitOn sep cs with
    | [] => [[c]]
    | f :: fs => (c :: f) :: fs

variable {α : Type} [DecidableEq α] {sep : α}

theorem splitOn_ne_nil (sep : α) (s : List α) : splitOn sep s ≠ [] := by
  cases s with
  | nil => exact List.cons_ne_nil _ _
  | cons c cs =>
    unfold splitOn
    split
    · exact List.cons_ne_nil _ _
    · split <;> exact List.cons_ne_nil _ _

theorem splitOn_no_sep {a : List α} (h : sep ∉ a) : splitOn sep a = [a] := by
  induction a with
  | nil => rfl
  | cons c a ih => rw [splitOn, if_neg (List.ne_of_not_mem_cons h).symm, ih (List.not_mem_of_not_mem_cons h)]

theorem splitOn_append_sep {a : List α} (h : sep ∉ a) (rest : List α) :
    splitOn sep (a ++ sep :: rest) = a :: splitOn sep rest := by
  induction a with
  | nil => rw [List.nil_append, splitOn, if_pos rfl]
  | cons c a ih =>
    rw [List.cons_append, splitOn, if_neg (List.ne_of_not_mem_cons h).symm, ih (List.not_mem_of_not_mem_cons h)]

theorem splitOn_flatMap {ls : List (List α)} (h : ∀ l ∈ ls, sep ∉ l) :
    splitOn sep (ls.flatMap (· ++ [sep])) = ls ++ [[]] := by
  induction ls with
  | nil => rfl
  | cons l ls ih =>
    rw [List.forall_mem_cons] at h
    rw [List.flatMap_cons, List.append_assoc, List.singleton_append, splitOn_append_sep h.1, ih h.2, List.cons_append]

theorem splitOn_mem_no_sep (s : List α) : ∀ w, w ∈ splitOn sep s → sep ∉ w := by
  induction s with
  | nil => intro w hw; rw [splitOn, List.mem_singleton] at hw; subst hw; exact List.not_mem_nil
  | cons c cs ih =>
    intro w hw
    rw [splitOn] at hw
    split at hw
    · rcases List.mem_cons.1 hw with rfl | hw
      · exact List.not_mem_nil
      · exact ih w hw
    · rename_i hc
      cases hs : splitOn sep cs with
      | nil => exact absurd hs (splitOn_ne_nil sep cs)
      | cons f fs =>
        rw [hs] at hw ih
        rcases List.mem_cons.1 hw with rfl | hw
        · intro hm
          rcases List.mem_cons.1 hm with e | hm
          · exact hc e.symm
          · exact ih f List.mem_cons_self hm
        · exact ih w (List.mem_cons_of_mem _ hw)

theorem flatMap_splitOn (s : List α) : (splitOn sep s).flatMap (· ++ [sep]) = s ++ [sep] := by
  induction s with
  | nil => rfl
  | cons c cs ih =>
    rw [splitOn]
    split
    · rename_i hc; subst hc
      rw [List.flatMap_cons, ih]; rfl
    · cases hs : splitOn sep cs with
      | nil => exact absurd hs (splitOn_ne_nil sep cs)
      | cons f fs =>
        rw [hs] at ih
        simp only [List.flatMap_cons, List.cons_append] at ih ⊢
        rw [ih]

end Hts.Lemmas.Sep

namespace Hts.Lemmas

/-- `S` writes numbers in base `b` with the digit symbols `dig`, most significant digit first -/
structure Radix {α : Type} (b : Nat) (dig : Nat → α) (S : Nat → List α) : Prop where
  base : 2 ≤ b
  eq : ∀ n, S n = if n < b then [dig n] else S (n / b) ++ [dig (n % b)]

namespace Radix
variable {α : Type} {b : Nat} {dig : Nat → α} {S : Nat → List α} (H : Radix b dig S)
include H

theorem pos : 0 < b := Nat.zero_lt_of_lt H.base

theorem induction {P : Nat → List α → Prop} (one : ∀ n, n < b → P n [dig n])
    (more : ∀ n, b ≤ n → P (n / b) (S (n / b)) → P n (S (n / b) ++ [dig (n % b)])) (n : Nat) : P n (S n) := by
  induction n using Nat.strongRecOn with
  | _ n ih =>
    rw [H.eq]
    split
    · exact one n ‹_›
    · have hn : b ≤ n := Nat.le_of_not_lt ‹_›
      exact more n hn (ih _ (Nat.div_lt_self (Nat.lt_of_lt_of_le H.pos hn) H.base))

theorem forall_mem {Q : α → Prop} (hQ : ∀ d, d < b → Q (dig d)) (n : Nat) : ∀ c ∈ S n, Q c :=
  H.induction (P := fun _ s => ∀ c ∈ s, Q c)
    (fun n hn _ hc => List.mem_singleton.mp hc ▸ hQ n hn)
    (fun _ _ ih c hc => (List.mem_append.mp hc).elim (ih c)
      fun hc => List.mem_singleton.mp hc ▸ hQ _ (Nat.mod_lt _ H.pos)) n

theorem ne_nil (n : Nat) : S n ≠ [] := by
  rw [H.eq]; split <;> simp

/-- A reader that goes through the text from the left with an accumulator (`app`) and on a digit multiplies by the
base and adds (`one`) reads `S n` as `n`. -/
theorem read {R : List α → Nat → Option Nat} (app : ∀ xs ys acc, R (xs ++ ys) acc = (R xs acc).bind (R ys))
    (one : ∀ d acc, d < b → R [dig d] acc = some (acc * b + d)) (n : Nat) : R (S n) 0 = some n :=
  H.induction (P := fun n s => R s 0 = some n)
    (fun n hn => by rw [one n 0 hn, Nat.zero_mul, Nat.zero_add])
    (fun n _ ih => by rw [app, ih, Option.bind_some, one _ _ (Nat.mod_lt _ H.pos), Nat.div_add_mod']) n

end Radix

/-- a printer with fuel, `F (n + 1) n`, each of whose turns writes one digit -/
theorem Radix.of_fuel {α : Type} {b : Nat} {dig : Nat → α} {F : Nat → Nat → List α} (base : 2 ≤ b)
    (step : ∀ f n, F (f + 1) n = if n < b then [dig n] else F f (n / b) ++ [dig (n % b)]) :
    Radix b dig fun n => F (n + 1) n := by
  have fuel : ∀ f g n, n < f → n < g → F f n = F g n := by
    intro f
    induction f with
    | zero => intro g n h; cases h
    | succ f ih =>
      intro g n h hg
      obtain ⟨g, rfl⟩ := Nat.exists_eq_add_of_le' (Nat.zero_lt_of_lt hg)
      rw [step, step]
      split
      · rfl
      · have hlt : n / b < n := Nat.div_lt_self (by omega) base
        rw [ih g (n / b) (Nat.lt_of_lt_of_le hlt (Nat.le_of_lt_succ h)) (Nat.lt_of_lt_of_le hlt (Nat.le_of_lt_succ hg))]
  refine ⟨base, fun n => ?_⟩
  rw [step]
  split
  · rfl
  · rw [fuel n (n / b + 1) (n / b) (Nat.div_lt_self (by omega) base) (Nat.lt_succ_self _)]

end Hts.Lemmas
