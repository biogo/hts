/-
The @HD line; the lines of a serialised header; the text round trip of a whole view.
-/
import Hts.Lemmas.HeaderText4
namespace Hts.Model.Header

instance (s : Bytes) : Decidable (Clean s) := by unfold Clean; infer_instance

theorem hdFields_other : ∀ (ts : Tags) (f : HdrF), (∀ tv ∈ ts, tv.1 ∉ knownHd) →
    hdFields f (ts.map fieldOf) = ({ f with other := f.other ++ ts }, .ok) := by
  intro ts
  induction ts with
  | nil => intro f _; simp [hdFields]
  | cons tv ts ih =>
    intro f h
    obtain ⟨t, v⟩ := tv
    rw [List.forall_mem_cons] at h
    have ht := h.1
    simp only [knownHd, List.mem_cons, List.not_mem_nil, or_false, not_or] at ht
    simp only [List.map_cons, hdFields, parseField_fieldOf, ht, if_false]
    rw [ih _ h.2]
    simp

theorem sortOrder_rt (so : Int) (h : 0 ≤ so ∧ so ≤ 3) : sortOrderOf (sortOrderStr so) = so ∧ Clean (sortOrderStr so) := by
  have : ∀ s ∈ ([0, 1, 2, 3] : List Int), sortOrderOf (sortOrderStr s) = s ∧ Clean (sortOrderStr s) := by
    decide +kernel
  exact this so (by simp only [List.mem_cons, List.not_mem_nil, or_false]; omega)

theorem groupOrder_rt (g : Int) (h : 1 ≤ g ∧ g ≤ 3) : groupOrderOf (groupOrderStr g) = g ∧ Clean (groupOrderStr g) := by
  have : ∀ s ∈ ([1, 2, 3] : List Int), groupOrderOf (groupOrderStr s) = s ∧ Clean (groupOrderStr s) := by
    decide +kernel
  exact this g (by simp only [List.mem_cons, List.not_mem_nil, or_false]; omega)

/-- the header fields an API-built header may hold -/
structure WFHd (f : HdrF) : Prop where
  /-- a version is present whenever any @HD field is set (the format has nowhere else to store them) -/
  hd : f.version = [] → f.so = 0 ∧ f.go = 0 ∧ f.other = []
  ver : Clean f.version
  so : 0 ≤ f.so ∧ f.so ≤ 3
  go : 0 ≤ f.go ∧ f.go ≤ 3
  other : WFOther knownHd f.other
  live : f.dead = false
  comments : ∀ c ∈ f.comments, 10 ∉ c ∧ 13 ∉ c

theorem hdTags_clean {f : HdrF} (wf : WFHd f) : CleanTags (hdTags f) := by
  have h : TagsOf (knownHd ++ f.other.map (·.1)) (hdTags f) := by
    simp only [hdTags, List.cons_append, List.nil_append]
    refine tagsOf_cons wf.ver <| tagsOf_cons (sortOrder_rt _ wf.so).2 ?_
    by_cases hg : f.go = 0
    · rw [if_pos hg]; exact ⟨(tagsOf_other wf.other).1, .cons _ (.refl _)⟩
    · rw [if_neg hg]
      exact tagsOf_cons (groupOrder_rt _ ⟨by have := wf.go.1; omega, wf.go.2⟩).2 (tagsOf_other wf.other)
  exact h.clean wf.other (by decide +kernel)

theorem parseLine_hd (E : Ext) {w : World} {hn : Nat} (hf : w.hdrs[hn]? = some {}) (f : HdrF) (wf : WFHd f)
    (hver : f.version ≠ []) :
    parseLine E w hn (lineB "@HD" (hdTags f)) =
      (setHdr w hn { version := f.version, so := f.so, go := f.go, other := f.other }, .ok) := by
  have hsplit := lineB_split "@HD" (notin_str_at 9 (Or.inl rfl) _ (Or.inr (Or.inr (Or.inr rfl)))) _ (hdTags_clean wf)
  have hh : headerLine {} (lineB "@HD" (hdTags f)) =
      ({ version := f.version, so := f.so, go := f.go, other := f.other }, .ok) := by
    rw [headerLine, hsplit]
    by_cases hg : f.go = 0
    · simp [hdTags, hdFields, parseField_fieldOf, (sortOrder_rt _ wf.so).1, hg, hdFields_other _ _ wf.other.unknown, hver]
    · simp [hdTags, hdFields, parseField_fieldOf, (sortOrder_rt _ wf.so).1, hg, hdFields_other _ _ wf.other.unknown, hver,
        (groupOrder_rt _ ⟨by have := wf.go.1; omega, wf.go.2⟩).1]
  rw [parseLine_hdLine E hf, hh]

theorem view_hd (E : Ext) {w : World} {hn : Nat} {v : View} (s : Shows w hn v) (hv : v.f = {}) {f : HdrF}
    (wf : WFHd f) (hver : f.version ≠ []) :
    ∃ w', parseLine E w hn (lineB "@HD" (hdTags f)) = (w', .ok) ∧
      Shows w' hn { v with f := { version := f.version, so := f.so, go := f.go, other := f.other } } := by
  exact ⟨_, parseLine_hd E (hv ▸ s.hdr) f wf hver, shows_setHdr s _⟩

theorem shows_pushHeader {w : World} (hw : WInv w) : Shows (pushHeader w {}) w.hdrs.length ⟨{}, [], [], []⟩ := by
  have e1 := items_newTab w.refs
  have e2 := items_newTab w.rgs
  have e3 := items_newTab w.pgs
  rw [hw.lr] at e1; rw [hw.lg] at e2; rw [hw.lp] at e3
  exact ⟨winv_pushHeader hw {}, by simp [pushHeader], by simp [view, pushHeader, e1, e2, e3]⟩

def allLines (v : View) : List Bytes :=
  (if v.f.version = [] then [] else [lineB "@HD" (hdTags v.f)]) ++
    v.refs.map (fun x => lineB "@SQ" (refTags x.2.1 x.2.2)) ++
    v.rgs.map (fun x => lineB "@RG" (rgTags x.2.1 x.2.2)) ++
    v.pgs.map (fun x => lineB "@PG" (pgTags x.2.1 x.2.2)) ++
    v.f.comments.map (fun c => str "@CO\t" ++ c)

theorem marshalView_lines (v : View) : marshalView v = (allLines v).flatMap (· ++ [10]) := by
  unfold marshalView allLines
  simp only [List.flatMap_append, List.flatMap_map, line_eq]
  split <;> simp

/-- the well-formedness of everything a header exposes (`E`: date and URI parsing) -/
structure WFView (E : Ext) (v : View) : Prop where
  hd : WFHd v.f
  refs : ∀ r ∈ v.refs, WFRef E r.2.1 r.2.2 ∧ normRef r.2.2 = r.2.2
  rgs : ∀ r ∈ v.rgs, WFRg E r.2.1 r.2.2
  pgs : ∀ r ∈ v.pgs, WFPg r.2.1 r.2.2
  idr : ∀ (i : Nat) r, v.refs[i]? = some r → r.1 = (i : Int)
  idg : ∀ (i : Nat) r, v.rgs[i]? = some r → r.1 = (i : Int)
  idp : ∀ (i : Nat) r, v.pgs[i]? = some r → r.1 = (i : Int)
  ndr : (v.refs.map (·.2.1)).Nodup
  ndg : (v.rgs.map (·.2.1)).Nodup
  ndp : (v.pgs.map (·.2.1)).Nodup

theorem lines_no10 {E : Ext} {v : View} (wf : WFView E v) : ∀ l ∈ allLines v, 10 ∉ l := by
  intro l hl
  unfold allLines at hl
  simp only [List.mem_append, List.mem_map] at hl
  rcases hl with (((hl | ⟨x, hx, rfl⟩) | ⟨x, hx, rfl⟩) | ⟨x, hx, rfl⟩) | ⟨c, hc, rfl⟩
  · split at hl
    · cases hl
    · rw [List.mem_singleton.1 hl]
      exact lineB_no_at 10 (Or.inl rfl) (Or.inr (Or.inr (Or.inr rfl))) (hdTags_clean wf.hd)
  · exact lineB_no_at 10 (Or.inl rfl) (Or.inl rfl) (refTags_clean (wf.refs x hx).1)
  · exact lineB_no_at 10 (Or.inl rfl) (Or.inr (Or.inl rfl)) (rgTags_clean (wf.rgs x hx))
  · exact lineB_no_at 10 (Or.inl rfl) (Or.inr (Or.inr (Or.inl rfl))) (pgTags_clean (wf.pgs x hx))
  · exact coLine_no (Or.inl rfl) (wf.hd.comments c hc).1

theorem lineB_ok {rec : String} (h : rec = "@SQ" ∨ rec = "@RG" ∨ rec = "@PG" ∨ rec = "@HD") {ts : Tags}
    (hc : CleanTags ts) : 13 ∉ lineB rec ts ∧ lineB rec ts ≠ [] := by
  refine ⟨lineB_no_at 13 (Or.inr rfl) h hc, fun e => ?_⟩
  have : str rec ≠ [] := by rcases h with rfl | rfl | rfl | rfl <;> decide +kernel
  exact this (List.append_eq_nil_iff.1 e).1

theorem notin_take_of_nodup {β γ : Type} {f : β → γ} {l : List β} (h : (l.map f).Nodup) {i : Nat} {b : β}
    (hb : l[i]? = some b) : f b ∉ (l.take i).map f := by
  obtain ⟨hi, rfl⟩ := List.getElem?_eq_some_iff.1 hb
  rw [← List.take_append_drop i l, List.drop_eq_getElem_cons hi, List.map_append, List.map_cons,
    List.nodup_append] at h
  exact fun hm => h.2.2 _ hm _ List.mem_cons_self rfl

theorem take_succ_ids {β : Type} {l : List (Int × β)} (hid : ∀ (i : Nat) x, l[i]? = some x → x.1 = (i : Int))
    {i : Nat} {b : Int × β} (hb : l[i]? = some b) :
    l.take (i + 1) = l.take i ++ [(((l.take i).length : Int), b.2)] := by
  rw [List.take_add_one, hb, List.length_take_of_le (Nat.le_of_lt (get_lt hb)), ← hid i b hb]
  rfl

theorem text_roundtrip_view (E : Ext) (w : World) (hw : WInv w) (v : View) (wf : WFView E v) :
    ∃ w', unmarshalText E (pushHeader w {}) w.hdrs.length (marshalView v) = (w', .ok) ∧ WInv w' ∧
      view w' w.hdrs.length = v ∧ w'.hdrs.length = w.hdrs.length + 1 := by
  suffices ∃ w', unmarshalText E (pushHeader w {}) w.hdrs.length (marshalView v) = (w', .ok) ∧
      Shows w' w.hdrs.length v by
    obtain ⟨w', h, s⟩ := this
    have := parseLines_hdrs_len E w.hdrs.length (splitOn 10 (marshalView v)) (pushHeader w {})
    rw [← unmarshalText, h] at this
    exact ⟨w', h, s.inv, s.view, by simpa [pushHeader] using this⟩
  have s1 := shows_pushHeader hw
  generalize pushHeader w {} = w1 at s1 ⊢
  generalize w.hdrs.length = hn at s1 ⊢
  rw [unmarshalText, marshalView_lines, splitOn_lines _ (lines_no10 wf), allLines]
  simp only [List.append_assoc]
  -- picked up by the two `simp_all` below (`dead = false`): a dead header would parse back live
  have hlive := wf.hd.live
  -- the @HD line, if the view has a version: the header then shows the @HD fields of `v` and no item or comment yet
  obtain ⟨w2, p2, s2⟩ : ∃ w2, (∀ R, parseLines E w1 hn
      ((if v.f.version = [] then [] else [lineB "@HD" (hdTags v.f)]) ++ R) = parseLines E w2 hn R) ∧
      Shows w2 hn ⟨{ v.f with comments := [] }, [], [], []⟩ := by
    by_cases hv : v.f.version = []
    · refine ⟨w1, fun R => by rw [if_pos hv]; rfl, ?_⟩
      obtain ⟨h1, h2, h3⟩ := wf.hd.hd hv
      have : ({ v.f with comments := [] } : HdrF) = {} := by cases hf : v.f; simp_all
      rwa [this]
    · obtain ⟨w2, hp, s2⟩ := view_hd E s1 rfl wf.hd hv
      have hok := lineB_ok (Or.inr (Or.inr (Or.inr rfl))) (hdTags_clean wf.hd)
      refine ⟨w2, fun R => by rw [if_neg hv]; exact parseLines_cons_ok E _ hok.1 hok.2 hp, ?_⟩
      have : ({ v.f with comments := [] } : HdrF) =
          { version := v.f.version, so := v.f.so, go := v.f.go, other := v.f.other } := by
        cases hf : v.f; simp_all
      rwa [this]
  rw [p2]
  -- the @SQ lines: after `i` of them the header shows the first `i` references (`take i`); the name of the next one is
  -- not among them, and its id is `i`.  The @RG and the @PG lines go the same way.
  obtain ⟨w3, p3, s3⟩ := parseLines_steps E hn _ (fun x => lineB "@SQ" (refTags x.2.1 x.2.2)) v.refs
    (fun i w => Shows w hn ⟨{ v.f with comments := [] }, v.refs.take i, [], []⟩) (by
      intro i b w hb s
      obtain ⟨wfb, hnorm⟩ := wf.refs b (List.mem_of_getElem? hb)
      obtain ⟨w', hp, s'⟩ := view_sq E s wfb (notin_take_of_nodup wf.ndr hb)
      rw [hnorm] at s'
      exact ⟨lineB_ok (Or.inl rfl) (refTags_clean wfb), w', hp, take_succ_ids wf.idr hb ▸ s'⟩) s2
  rw [p3, List.take_length] at *
  obtain ⟨w4, p4, s4⟩ := parseLines_steps E hn _ (fun x => lineB "@RG" (rgTags x.2.1 x.2.2)) v.rgs
    (fun i w => Shows w hn ⟨{ v.f with comments := [] }, v.refs, v.rgs.take i, []⟩) (by
      intro i b w hb s
      have wfb := wf.rgs b (List.mem_of_getElem? hb)
      obtain ⟨w', hp, s'⟩ := view_rg E s wfb (notin_take_of_nodup wf.ndg hb)
      exact ⟨lineB_ok (Or.inr (Or.inl rfl)) (rgTags_clean wfb), w', hp, take_succ_ids wf.idg hb ▸ s'⟩) s3
  rw [p4, List.take_length] at *
  obtain ⟨w5, p5, s5⟩ := parseLines_steps E hn _ (fun x => lineB "@PG" (pgTags x.2.1 x.2.2)) v.pgs
    (fun i w => Shows w hn ⟨{ v.f with comments := [] }, v.refs, v.rgs, v.pgs.take i⟩) (by
      intro i b w hb s
      have wfb := wf.pgs b (List.mem_of_getElem? hb)
      obtain ⟨w', hp, s'⟩ := view_pg E s wfb (notin_take_of_nodup wf.ndp hb)
      exact ⟨lineB_ok (Or.inr (Or.inr (Or.inl rfl))) (pgTags_clean wfb), w', hp,
        take_succ_ids wf.idp hb ▸ s'⟩) s4
  rw [p5, List.take_length] at *
  -- the @CO lines, and after them the empty piece that `bytes.Split` leaves behind the last line feed
  obtain ⟨w6, p6, s6⟩ := parseLines_steps E hn [[]] (fun c => str "@CO\t" ++ c) v.f.comments
    (fun i w => Shows w hn ⟨{ v.f with comments := v.f.comments.take i }, v.refs, v.rgs, v.pgs⟩) (by
      intro i c w hc s
      obtain ⟨w', hp, s'⟩ := view_co E s c
      have h13 := coLine_no (Or.inr rfl) (wf.hd.comments c (List.mem_of_getElem? hc)).2
      refine ⟨⟨h13, by rw [str_ofList]; exact List.cons_ne_nil _ _⟩, w', hp, ?_⟩
      rw [List.take_add_one, hc]; exact s') s5
  rw [p6, List.take_length] at *
  exact ⟨w6, by rw [parseLines, if_pos (show dropCR [] = [] from rfl), parseLines], s6⟩

end Hts.Model.Header
