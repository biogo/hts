/-
Parsing clean lines keeps the data invariant; the clean sub-language `CleanOp`.
-/
import Hts.Lemmas.HeaderClean1
namespace Hts.Model.Header
variable {E : Ext}

theorem LineOut.dh {α : Type} {Q : Obj α → Prop} {P : Bytes → α → Prop} {k : KW α} {h : Nat} {out : KW α × Res}
    (s : LineOut Q k h out) (hd : DH P k.heap) (hq : ∀ x, Q x → P x.name x.dat) : DH P out.1.heap := by
  cases s with
  | same => exact hd
  | inst t x hx => exact dh_addNewU (dh_alloc hd x (hq x hx)) _ _
  | repl t x v eo er hx =>
    refine dh_replace (dh_alloc hd x (hq x hx)) _ _ _ _ _ fun r hr => ?_
    cases (alloc_heap k x).symm.trans hr
    exact hq x hx

/-- a line written from a well-formed item (or a comment without LF/CR) -/
inductive CleanLine (E : Ext) : Bytes → Prop where
  | sq (name : Bytes) (d : RefD) (wf : WFRef E name d) : CleanLine E (lineB "@SQ" (refTags name d))
  | rg (name : Bytes) (d : RgD) (wf : WFRg E name d) : CleanLine E (lineB "@RG" (rgTags name d))
  | pg (name : Bytes) (d : PgD) (wf : WFPg name d) : CleanLine E (lineB "@PG" (pgTags name d))
  | co (c : Bytes) (h10 : 10 ∉ c) (h13 : 13 ∉ c) : CleanLine E (str "@CO\t" ++ c)

theorem cleanLine_no {l : Bytes} (c : CleanLine E l) {x : Nat} (hx : x = 10 ∨ x = 13) : x ∉ l := by
  cases c with
  | sq name d wf => exact lineB_no_at x hx (Or.inl rfl) (refTags_clean wf)
  | rg name d wf => exact lineB_no_at x hx (Or.inr (Or.inl rfl)) (rgTags_clean wf)
  | pg name d wf => exact lineB_no_at x hx (Or.inr (Or.inr (Or.inl rfl))) (pgTags_clean wf)
  | co c h10 h13 => exact coLine_no hx (by rcases hx with rfl | rfl <;> assumption)

theorem fieldLoop_lineB_val {β : Type} (assign : β → Tag → Bytes → PR β) {rec : String} (hrec : 9 ∉ str rec) {ts : Tags}
    (hc : CleanTags ts) (hnd : (ts.map (·.1)).Nodup) {b v : β} (hv : loopVal assign b ts = .ok v) {hd : Bytes}
    {xs : List Bytes} (hs : splitOn 9 (lineB rec ts) = hd :: xs) {acc : FAcc β}
    (hacc : fieldLoop assign ⟨b, []⟩ xs = .ok acc) : acc.val = v := by
  obtain ⟨seen', hsplit, hloop⟩ := fieldLoop_lineB assign hrec hc hnd hv
  rw [hsplit] at hs
  rw [← (List.cons.inj hs).2, hloop] at hacc
  cases hacc
  rfl

theorem dinv_parseLine_sq {w : World} (hk : KInv w.refs) (d : DInv E w) {h : Nat} {f : HdrF} (hf : w.hdrs[h]? = some f)
    {name : Bytes} {dd : RefD} (wf : WFRef E name dd) : DInv E (parseLine E w h (lineB "@SQ" (refTags name dd))).1 := by
  rw [parseLine_sqLine E hf]
  refine ⟨?_, d.rgs, d.pgs, d.hdrs⟩
  -- reduce `{ w with refs := _ }.refs` first; unification would unfold the line parser on the whole line instead
  dsimp only
  refine (referenceLine_out E hk ..).dh d.refs ?_
  rintro _ ⟨hd, xs, acc, hs, hacc, rfl⟩
  rw [fieldLoop_lineB_val _ (notin_str_at 9 (Or.inl rfl) _ (Or.inl rfl)) (refTags_clean wf) (refTags_nodup wf)
    (ref_loop E w.nextUri name dd wf) hs hacc]
  exact wfRef_ptr _ wf

theorem dinv_parseLine_rg {w : World} (d : DInv E w) {h : Nat} {f : HdrF} (hf : w.hdrs[h]? = some f)
    {name : Bytes} {dd : RgD} (wf : WFRg E name dd) : DInv E (parseLine E w h (lineB "@RG" (rgTags name dd))).1 := by
  rw [parseLine_rgLine E hf]
  refine ⟨d.refs, ?_, d.pgs, d.hdrs⟩
  dsimp only
  refine (readGroupLine_out ..).dh d.rgs ?_
  rintro _ ⟨t, _, hd, xs, acc, hs, hacc, rfl⟩
  cases hkn : (lookup t.seen name).isSome with
  | false =>
    rw [fieldLoop_lineB_val _ (notin_str_at 9 (Or.inl rfl) _ (Or.inr (Or.inl rfl))) (rgTags_clean wf) (rgTags_nodup wf)
      (rg_loop E _ name dd wf hkn) hs hacc]
    exact wf
  | true =>
    -- a known ID is rejected at the first field
    rw [lineB_split "@RG" (notin_str_at 9 (Or.inl rfl) _ (Or.inr (Or.inl rfl))) _ (rgTags_clean wf)] at hs
    obtain ⟨ts, hts⟩ := rgTags_head name dd
    rw [← (List.cons.inj hs).2, hts, List.map_cons, fieldLoop, parseField_fieldOf] at hacc
    simp [rgAssign, hkn] at hacc

theorem dinv_parseLine_pg {w : World} (d : DInv E w) {h : Nat} {f : HdrF} (hf : w.hdrs[h]? = some f)
    {name : Bytes} {dd : PgD} (wf : WFPg name dd) : DInv E (parseLine E w h (lineB "@PG" (pgTags name dd))).1 := by
  rw [parseLine_pgLine E hf]
  refine ⟨d.refs, d.rgs, ?_, d.hdrs⟩
  dsimp only
  refine (programLine_out ..).dh d.pgs ?_
  rintro _ ⟨t, _, hd, xs, acc, hs, hacc, rfl⟩
  cases hkn : (lookup t.seen name).isSome with
  | false =>
    rw [fieldLoop_lineB_val _ (notin_str_at 9 (Or.inl rfl) _ (Or.inr (Or.inr (Or.inl rfl)))) (pgTags_clean wf) (pgTags_nodup wf)
      (pg_loop _ name dd wf hkn) hs hacc]
    exact wf
  | true =>
    rw [lineB_split "@PG" (notin_str_at 9 (Or.inl rfl) _ (Or.inr (Or.inr (Or.inl rfl)))) _ (pgTags_clean wf)] at hs
    obtain ⟨ts, hts⟩ := pgTags_head name dd
    rw [← (List.cons.inj hs).2, hts, List.map_cons, fieldLoop, parseField_fieldOf] at hacc
    simp [pgAssign, hkn] at hacc

theorem dinv_parseLine_clean {w : World} (hk : KInv w.refs) (d : DInv E w) (h : Nat) {l : Bytes} (c : CleanLine E l) :
    DInv E (parseLine E w h l).1 := by
  cases hf : w.hdrs[h]? with
  | none => rw [parseLine_none E hf]; exact d
  | some f =>
    cases c with
    | sq name dd wf => exact dinv_parseLine_sq hk d hf wf
    | rg name dd wf => exact dinv_parseLine_rg d hf wf
    | pg name dd wf => exact dinv_parseLine_pg d hf wf
    | co c h10 h13 =>
      rw [parseLine_co E hf c]
      exact dinv_setHdr d _ _ (hdOk_comment (d.hdrs h f hf) ⟨h10, h13⟩)

def CleanText (E : Ext) (text : Bytes) : Prop := ∃ ls : List Bytes, (∀ l ∈ ls, CleanLine E l) ∧ text = ls.flatMap (· ++ [10])

/-- `hw` is needed because the @SQ parser looks names up in the table. -/
theorem dinv_unmarshalText_clean {w : World} (hw : WInv w) (d : DInv E w) (h : Nat) {text : Bytes} (c : CleanText E text) :
    DInv E (unmarshalText E w h text).1 := by
  obtain ⟨ls, hls, rfl⟩ := c
  unfold unmarshalText
  rw [splitOn_lines ls (fun l hl => cleanLine_no (hls l hl) (Or.inl rfl))]
  refine (parseLines_inv E h (fun o => WInv o.1 ∧ DInv E o.1) _ w (fun l hl w hne hwd => ?_) ⟨hw, d⟩).2
  refine ⟨(parseLine_safe E hwd.1 h _).1, dinv_parseLine_clean hwd.1.refs hwd.2 h ?_⟩
  rcases List.mem_append.1 hl with hl | hl
  · rw [dropCR_id (cleanLine_no (hls l hl) (Or.inr rfl))]; exact hls l hl
  · cases List.mem_singleton.1 hl; exact absurd rfl hne

theorem dinv_newHeader_clean {w : World} (hw : WInv w) (d : DInv E w) {text : Bytes} (c : CleanText E text)
    (refs : List Nat) : DInv E (newHeader E w text refs).1 := by
  have d1 := dinv_pushHeader d {} hdOk_empty
  have d3 := fun hus => dinv_unmarshalText_clean (winv_newHeader_refs hw hus)
    ⟨dh_foldl_addNewU _ refs _ d1.refs, d1.rgs, d1.pgs, d1.hdrs⟩ w.hdrs.length c
  fun_cases newHeader E w text refs
  · exact dinv_markDead d1 _
  · next hus _ _ hu => exact fst_of_eq hu ▸ d3 (by simpa using hus)
  · next hus _ _ _ _ hu => exact dinv_markDead (fst_of_eq hu ▸ d3 (by simpa using hus)) _

theorem cleanText_nil (E : Ext) : CleanText E [] := ⟨[], forall_nil, rfl⟩

theorem dinv_newHeader_nil {E : Ext} {w : World} (d : DInv E w) (refs : List Nat) : DInv E (newHeader E w [] refs).1 := by
  have d1 := dinv_pushHeader d {} hdOk_empty
  unfold newHeader
  dsimp only
  rw [unmarshalText_nil]
  exact ite_fst (fun _ => dinv_markDead d1 _) fun _ => ⟨dh_foldl_addNewU _ refs _ d1.refs, d1.rgs, d1.pgs, d1.hdrs⟩

/-- the clean operations: construction and editing through the API with well-formed arguments.  Parsing is covered for texts
made of clean lines (@SQ/@RG/@PG lines as the serialisers write them from well-formed items, @CO lines without LF/CR).
Left out: `de` (DecodeBinary), @HD lines and lines in any other form, and `Header.Set` (`hs`). -/
def CleanOp (E : Ext) : Op → Prop
  | .h0 => True
  | .hd text _ => CleanText E text
  | .pa text => CleanText E text
  | .um _ text => CleanText E text
  | .co _ c => 10 ∉ c ∧ 13 ∉ c
  | .sh _ ver so go => ver ≠ [] ∧ Clean ver ∧ (0 ≤ so ∧ so ≤ 3) ∧ (0 ≤ go ∧ go ≤ 3)
  | .nr name d => WFRef E name d
  | .ng name d => WFRg E name d
  | .np name d => WFPg name d
  | .sr _ n => Clean n
  | .sg _ n => Clean n
  | .sp _ n => Clean n
  | .ar _ _ | .rr _ _ | .gr _ _ | .cr _ => True
  | .ag _ _ | .rg _ _ | .gg _ _ | .cg _ => True
  | .ap _ _ | .rp _ _ | .gp _ _ | .cp _ => True
  | .cl _ => True
  | .mg _ => True
  | .de _ | .hs _ _ _ => False

theorem dinv_step (E : Ext) {w : World} (hw : WInv w) (d : DInv E w) (op : Op) (hc : CleanOp E op) :
    DInv E (step E w op).w := by
  cases op with
  | de b | hs h t v => exact hc.elim
  | h0 => exact dinv_pushHeader d _ hdOk_empty
  | hd text ps =>
    dsimp only [step]; split
    · exact dinv_newHeader_clean hw d hc _
    · exact dinv_pushHeader d _ hdOk_dead
  | pa text => exact dinv_unmarshalText_clean (winv_pushHeader hw _) (dinv_pushHeader d _ hdOk_empty) _ hc
  | um h text =>
    dsimp only [step]; split
    · exact dinv_unmarshalText_clean hw d _ hc
    · exact d
  | co h c =>
    dsimp only [step]; split
    · next f hf _ => exact dinv_setHdr d _ _ (hdOk_comment (d.hdrs h f hf) hc)
    · exact d
  | sh h v so go =>
    dsimp only [step]; split
    · next f hf _ =>
      have := d.hdrs h f hf
      exact dinv_setHdr d _ _ ⟨fun e => absurd e hc.1, hc.2.1, hc.2.2.1, hc.2.2.2, this.other, this.comments⟩
    · exact d
  | nr name dd => exact ⟨dh_alloc d.refs _ (wfRef_ptr _ hc), d.rgs, d.pgs, d.hdrs⟩
  | ng name dd => exact ⟨d.refs, dh_alloc d.rgs ⟨none, -1, name, dd⟩ hc, d.pgs, d.hdrs⟩
  | np name dd => exact ⟨d.refs, d.rgs, dh_alloc d.pgs ⟨none, -1, name, dd⟩ hc, d.hdrs⟩
  | ar h p =>
    dsimp only [step]; split
    · exact ⟨dh_addReference d.refs _ _, d.rgs, d.pgs, d.hdrs⟩
    · exact d
  | rr h p =>
    dsimp only [step]; split
    · exact ⟨dh_remove d.refs _ _, d.rgs, d.pgs, d.hdrs⟩
    · exact d
  | sr p n =>
    dsimp only [step]; split
    · exact ⟨dh_setName d.refs _ _ (fun _ _ => wfRef_rename hc), d.rgs, d.pgs, d.hdrs⟩
    · exact d
  | cr p =>
    dsimp only [step]; split
    · exact ⟨dh_cloneObj d.refs _ _ (fun _ _ => wfRef_ptr _), d.rgs, d.pgs, d.hdrs⟩
    · exact ⟨d.refs, d.rgs, d.pgs, d.hdrs⟩
  | ag h p =>
    dsimp only [step]; split
    · exact ⟨d.refs, dh_addUniq d.rgs _ _, d.pgs, d.hdrs⟩
    · exact d
  | rg h p =>
    dsimp only [step]; split
    · exact ⟨d.refs, dh_remove d.rgs _ _, d.pgs, d.hdrs⟩
    · exact d
  | sg p n =>
    dsimp only [step]; split
    · exact ⟨d.refs, dh_setName d.rgs _ _ (fun _ _ => wfRg_rename hc), d.pgs, d.hdrs⟩
    · exact d
  | cg p =>
    dsimp only [step]; split
    · exact ⟨d.refs, dh_cloneObj d.rgs _ _ (fun _ _ h => h), d.pgs, d.hdrs⟩
    · exact ⟨d.refs, d.rgs, d.pgs, d.hdrs⟩
  | ap h p =>
    dsimp only [step]; split
    · exact ⟨d.refs, d.rgs, dh_addUniq d.pgs _ _, d.hdrs⟩
    · exact d
  | rp h p =>
    dsimp only [step]; split
    · exact ⟨d.refs, d.rgs, dh_remove d.pgs _ _, d.hdrs⟩
    · exact d
  | sp p n =>
    dsimp only [step]; split
    · exact ⟨d.refs, d.rgs, dh_setName d.pgs _ _ (fun _ _ => wfPg_rename hc), d.hdrs⟩
    · exact d
  | cp p =>
    dsimp only [step]; split
    · exact ⟨d.refs, d.rgs, dh_cloneObj d.pgs _ _ (fun _ _ h => h), d.hdrs⟩
    · exact ⟨d.refs, d.rgs, d.pgs, d.hdrs⟩
  | gr h i | gg h i | gp h i => dsimp only [step]; split <;> exact ⟨d.refs, d.rgs, d.pgs, d.hdrs⟩
  | cl h =>
    dsimp only [step]; split
    · exact dinv_cloneHeader d _
    · exact dinv_pushHeader d _ hdOk_dead
  | mg hs =>
    dsimp only [step]; split
    · exact dinv_mergeHeaders d _
    · exact dinv_pushHeader d _ hdOk_dead

theorem dinv_run (E : Ext) : ∀ (ops : List Op) (w : World), WInv w → DInv E w → (∀ op ∈ ops, CleanOp E op) →
    DInv E (run E w ops) := by
  intro ops
  induction ops with
  | nil => intro w _ d _; exact d
  | cons op ops ih =>
    intro w hw d hc
    exact ih _ (step_safe E hw op).1 (dinv_step E hw d op (hc op List.mem_cons_self))
      fun o ho => hc o (List.mem_cons_of_mem _ ho)

theorem step_pa_hdrs_len (E : Ext) (w : World) (text : Bytes) :
    (step E w (.pa text)).w.hdrs.length = w.hdrs.length + 1 :=
  (parseLines_hdrs_len E _ _ _).trans (by simp [pushHeader])

def exCleanText : Bytes :=
  [lineB "@SQ" (refTags (str "d") { len := 40 }), lineB "@RG" (rgTags (str "g3") {}), str "@CO\t" ++ str "x\ty"].flatMap (· ++ [10])

theorem exCleanText_clean : CleanText goExt exCleanText := by
  refine ⟨_, ?_, rfl⟩
  simp only [List.forall_mem_cons]
  exact ⟨.sq _ _ (wfRef_bare _ (by decide +kernel) (by decide +kernel)), .rg _ _ (wfRg_empty (by decide +kernel)),
    .co _ (by decide +kernel) (by decide +kernel), forall_nil⟩

/-- a clean history: references, read groups and programs added, removed and renamed, additional lines parsed, a
comment with a TAB, a clone and a merge -/
def exClean : List Op :=
  [.h0, .sh 0 (str "1.6") 3 1,
   .nr (str "a") { len := 10 }, .nr (str "b") { len := 20 }, .nr (str "c") { len := 30 },
   .ar 0 0, .ar 0 1, .ar 0 2, .rr 0 1, .um 0 exCleanText,
   .ng (str "g1") {}, .ng (str "g2") {}, .ag 0 0, .ag 0 1, .sg 0 (str "x"),
   .np (str "p1") {}, .np (str "p2") {}, .ap 0 0, .ap 0 1,
   .co 0 (str "a\tb"), .cl 0, .mg [0, 1]]

theorem exClean_clean : ∀ op ∈ exClean, CleanOp goExt op := by
  simp only [exClean, List.forall_mem_cons]
  exact ⟨trivial, show _ ∧ _ by decide +kernel,
    wfRef_bare _ (by decide +kernel) (by decide +kernel), wfRef_bare _ (by decide +kernel) (by decide +kernel), wfRef_bare _ (by decide +kernel) (by decide +kernel),
    trivial, trivial, trivial, trivial, exCleanText_clean,
    wfRg_empty (by decide +kernel), wfRg_empty (by decide +kernel), trivial, trivial, show Clean _ by decide +kernel,
    wfPg_empty (by decide +kernel), wfPg_empty (by decide +kernel), trivial, trivial,
    show _ ∧ _ by decide +kernel, trivial, trivial, forall_nil⟩

end Hts.Model.Header
