/-
The Go-shaped models of the bin functions (Int positions, explicit uint32 arithmetic, running level
offset) equal the specification's closed forms on the indexable range: proved for the CSI loops at every
geometry; BAI's unrolled functions are the CSI ones at (14, 5).

For a start position in [-1, 2^(minShift + 3·depth)) and any end whatsoever, an empty or reversed interval included,
the bin number of `csi.reg2bin` is still below the first bin of the level after the deepest (depth ≤ 10,
`reg2bin_lt_any`): `-1 >> s = -1` gives the last bin of the level above (`int_shr_bounds`, `u32_add_lt`).

Queries of any extent to `csi.reg2bins` (repair C04-6): the limits put before its bin loops, and termination
of its `uint32` loops (Go's `for i := b; i <= e; i++` never exits when `e = 2^32-1`).
-/
import Hts.Lemmas.Bins
namespace Hts.Model.Coord
open Hts.Spec.Coord (levelOffset reg2binAux levelBins levelOffset_succ levelOffset_mono levelOffset_add_lt shift_mono
  pow8_pos pow8_eq shr_lt_pow8)

theorem int_shr_nat (n s : Nat) : ((n : Int) >>> s) = ((n >>> s : Nat) : Int) := rfl

theorem two_pow_cast (n : Nat) : ((2 ^ n : Nat) : Int) = (2 : Int) ^ n := by
  rw [Int.natCast_pow]; rfl

theorem int_shr_bounds (beg : Int) (s k : Nat) (h0 : -1 ≤ beg) (h1 : beg < (2 : Int) ^ (s + k)) :
    -1 ≤ beg >>> s ∧ beg >>> s < (2 : Int) ^ k := by
  rw [Int.shiftRight_eq_div_pow]
  have hp : (0 : Int) < ((2 ^ s : Nat) : Int) := by
    have := Nat.pow_pos (n := s) (show 0 < 2 by omega)
    omega
  constructor
  · apply Int.le_ediv_of_mul_le hp
    omega
  · apply Int.ediv_lt_of_lt_mul hp
    rw [two_pow_cast, ← Int.pow_add, Nat.add_comm]
    exact h1

theorem u32_nat (n : Nat) (h : n < 4294967296) : u32 (n : Int) = n := by
  rw [u32, Int.emod_eq_of_lt (Int.natCast_nonneg n) (by omega), Int.toNat_natCast]

theorem u32_add_lt (t n : Nat) (x : Int) (ht : 0 < t) (h0 : -1 ≤ x) (h1 : x < n) :
    (t + u32 x) % 4294967296 < t + n := by
  unfold u32
  omega

theorem add_u32_mod (k m : Nat) (h : k + m < 4294967296) : (k + u32 (m : Int)) % 4294967296 = k + m := by
  rw [u32_nat m (by omega), Nat.mod_eq_of_lt h]

theorem rangeIncl_eq (off b e : Nat) (h : b ≤ e) :
    rangeIncl (off + b) (off + e) = (List.range (e - b + 1)).map (fun i => off + b + i) := by
  unfold rangeIncl
  rw [if_pos (by omega), show off + e - (off + b) = e - b by omega]

theorem rangeIncl_levelBins (b e ms d l : Nat) (h : b ≤ e) :
    rangeIncl (levelOffset l + b >>> (ms + 3 * (d - l))) (levelOffset l + e >>> (ms + 3 * (d - l))) =
      levelBins b e ms d l :=
  rangeIncl_eq _ _ _ (shift_mono h _)

theorem levelOffset_lt (l : Nat) (h : l ≤ 11) : levelOffset l < 4294967296 :=
  Nat.lt_of_le_of_lt (levelOffset_mono h) (by decide)

/-- `2^32 - 1`, not `2^32`: below it Go's `uint32` loop over the bins of level `l` exits (`goRangeIncl`). -/
theorem level_lt (e ms d l : Nat) (hd : d ≤ 10) (hl : l ≤ d) (he : e < 2 ^ (ms + 3 * d)) :
    levelOffset l + e >>> (ms + 3 * (d - l)) < 4294967295 :=
  Nat.lt_of_lt_of_le
    (levelOffset_add_lt (shr_lt_pow8 (by rwa [show ms + 3 * (d - l) + 3 * l = ms + 3 * d by omega])))
    (Nat.le_of_lt_succ (levelOffset_lt (l + 1) (by omega)))

/-! With depth ≤ 10 every bin number is below 2^32 (`levelOffset 11 < 2^32`, `levelOffset 12` is not): that is the
hypothesis `d ≤ 10` under which the `uint32` arithmetic of the CSI loops does not wrap. -/

theorem shl1u32_eq (l : Nat) (h : l ≤ 10) : shl1u32 (l * 3) = 8 ^ l := by
  unfold shl1u32
  rw [if_pos (by omega), pow8_eq, Nat.mul_comm]

/-- `t += 1 << (level*3)` of `csi.reg2bins` -/
theorem levelOffset_succ_u32 (l : Nat) (h : l ≤ 10) :
    (levelOffset l + shl1u32 (l * 3)) % 4294967296 = levelOffset (l + 1) := by
  rw [shl1u32_eq l h, ← levelOffset_succ, Nat.mod_eq_of_lt (levelOffset_lt _ (by omega))]

/-- `t -= 1 << ((level-1)*3)` of `csi.reg2bin` -/
theorem levelOffset_pred_u32 (l : Nat) (h : l ≤ 10) :
    (levelOffset (l + 1) + 4294967296 - shl1u32 (l * 3)) % 4294967296 = levelOffset l := by
  rw [shl1u32_eq l h, levelOffset_succ, Nat.add_right_comm, Nat.add_sub_cancel, Nat.add_mod_right,
    Nat.mod_eq_of_lt (levelOffset_lt l (by omega))]

theorem csiT0_eq (d : Nat) (h : d ≤ 10) : csiT0 d = levelOffset d := by
  have hp := pow8_pos d
  have hlt : 8 ^ d ≤ 8 ^ 10 := Nat.pow_le_pow_right (by decide) h
  rw [csiT0, shl1u32_eq d h, show 8 ^ d + 4294967295 = 8 ^ d - 1 + 4294967296 by omega, Nat.add_mod_right,
    Nat.mod_eq_of_lt (by omega)]
  rfl

theorem reg2binLoop_spec (b e : Nat) : ∀ level s, level ≤ 10 → b < 2 ^ (s + 3 * level) →
    reg2binLoop b e level s (levelOffset level) = reg2binAux b e s level := by
  intro level
  induction level with
  | zero => intro _ _ _; rfl
  | succ level ih =>
    intro s hl hb
    have hx : levelOffset (level + 1) + b >>> s < 4294967296 :=
      Nat.lt_trans (levelOffset_add_lt (shr_lt_pow8 hb)) (levelOffset_lt _ (by omega))
    rw [reg2binLoop, reg2binAux, int_shr_nat, int_shr_nat, add_u32_mod _ _ hx, levelOffset_pred_u32 level (by omega),
      ih (s + 3) (by omega) (by rwa [show s + 3 + 3 * level = s + 3 * (level + 1) by omega])]
    simp only [Int.natCast_inj]

theorem reg2bin_spec (beg end_ ms d : Nat) (hd : d ≤ 10) (h1 : beg < end_) (h2 : end_ ≤ 2 ^ (ms + 3 * d)) :
    reg2bin beg end_ ms d = Hts.Spec.Coord.reg2bin beg end_ ms d := by
  have he : ((end_ : Int) - 1) = ((end_ - 1 : Nat) : Int) := by omega
  unfold reg2bin Hts.Spec.Coord.reg2bin
  rw [he, csiT0_eq d hd]
  exact reg2binLoop_spec beg (end_ - 1) d ms hd (by omega)

theorem reg2binLoop_lt_any (beg e : Int) (h0 : -1 ≤ beg) : ∀ level s, level ≤ 10 →
    beg < (2 : Int) ^ (s + 3 * level) →
    reg2binLoop beg e level s (levelOffset level) < levelOffset (level + 1) := by
  intro level
  induction level with
  | zero => intro s _ _; exact Nat.lt_of_lt_of_eq Nat.zero_lt_one (by decide)
  | succ level ih =>
    intro s hl hb
    have hsucc := levelOffset_succ (level + 1)
    have hpos : 0 < levelOffset (level + 1) :=
      levelOffset_succ level ▸ Nat.lt_of_lt_of_le (pow8_pos level) (Nat.le_add_left _ _)
    obtain ⟨hx0, hx1⟩ := int_shr_bounds beg s (3 * (level + 1)) h0 hb
    rw [← two_pow_cast, ← pow8_eq] at hx1
    unfold reg2binLoop
    split
    · rw [hsucc]
      exact u32_add_lt _ _ _ hpos hx0 hx1
    · rw [levelOffset_pred_u32 level (Nat.le_of_succ_le hl)]
      have := ih (s + 3) (Nat.le_of_succ_le hl) (by rwa [show s + 3 + 3 * level = s + 3 * (level + 1) by omega])
      exact Nat.lt_trans this (hsucc ▸ Nat.lt_add_of_pos_right (pow8_pos (level + 1)))

theorem reg2bin_lt_any (ms d : Nat) (hd : d ≤ 10) (start stop : Int) (h0 : -1 ≤ start)
    (h1 : start < (2 : Int) ^ (ms + 3 * d)) : reg2bin start stop ms d < levelOffset (d + 1) := by
  unfold reg2bin
  rw [csiT0_eq d hd]
  exact reg2binLoop_lt_any start (stop - 1) h0 d ms hd h1

theorem goRangeIncl_of_lt (lo hi : Nat) (h : hi < 4294967295) : goRangeIncl lo hi = some (rangeIncl lo hi) := by
  unfold goRangeIncl
  rw [if_neg (by omega)]

theorem goRangeIncl_some {lo hi : Nat} {l : List Nat} (h : goRangeIncl lo hi = some l) : rangeIncl lo hi = l := by
  unfold goRangeIncl at h
  split at h
  · cases h
  · exact Option.some.inj h

theorem reg2binsLoop_of_go (b e : Int) : ∀ (n level : Nat) (s : Int) (t : Nat) (l : List Nat),
    reg2binsLoopGo b e n level s t = some l → reg2binsLoop b e n level s t = l := by
  intro n
  induction n with
  | zero => intro _ _ _ _ h; exact Option.some.inj h
  | succ n ih =>
    intro level s t l h
    rw [reg2binsLoopGo] at h
    split at h
    · cases h
    · rename_i l1 h1
      obtain ⟨l2, h2, rfl⟩ := Option.map_eq_some_iff.1 h
      rw [reg2binsLoop, goRangeIncl_some h1, ih _ _ _ l2 h2]

theorem reg2binsLoopGo_spec (b e ms d : Nat) (hd : d ≤ 10) (hbe : b ≤ e) (he : e < 2 ^ (ms + 3 * d)) :
    ∀ n level, level + n = d + 1 →
      reg2binsLoopGo b e n level ((ms + 3 * (d - level) : Nat) : Int) (levelOffset level) =
        some ((List.range' level n).flatMap (levelBins b e ms d)) := by
  intro n
  induction n with
  | zero => intro _ _; rfl
  | succ n ih =>
    intro level hn
    have hl : level ≤ 10 := by omega
    have hy := level_lt e ms d level hd (by omega) he
    have hx : levelOffset level + b >>> (ms + 3 * (d - level)) < 4294967295 :=
      Nat.lt_of_le_of_lt (Nat.add_le_add_left (shift_mono hbe _) _) hy
    rw [reg2binsLoopGo, Int.toNat_natCast, int_shr_nat, int_shr_nat, add_u32_mod _ _ (Nat.lt_succ_of_lt hx),
      add_u32_mod _ _ (Nat.lt_succ_of_lt hy), goRangeIncl_of_lt _ _ hy, rangeIncl_levelBins b e ms d level hbe,
      levelOffset_succ_u32 level hl, List.range'_succ, List.flatMap_cons]
    -- after the last level `s - 3` may be negative (minShift < 3), so not the cast of a `Nat`: the call with `n = 0` never reads it
    cases n with
    | zero => rfl
    | succ n =>
      rw [show ((ms + 3 * (d - level) : Nat) : Int) - 3 = ((ms + 3 * (d - (level + 1)) : Nat) : Int) by omega,
        ih (level + 1) (by omega)]
      rfl

theorem reg2binsCoreGo_spec (beg end_ ms d : Nat) (hd : d ≤ 10) (h1 : beg < end_) (h2 : end_ ≤ 2 ^ (ms + 3 * d)) :
    reg2binsCoreGo beg end_ ms d = some (Hts.Spec.Coord.reg2bins beg end_ ms d) := by
  have := reg2binsLoopGo_spec beg (end_ - 1) ms d hd (by omega) (by omega) (d + 1) 0 (by omega)
  rwa [Nat.sub_zero, Nat.mul_comm, ← List.range_eq_range',
    show ((end_ - 1 : Nat) : Int) = (end_ : Int) - 1 by omega] at this

/-- the value of the pure loop is read off the Go loop's: one induction (`reg2binsLoopGo_spec`) serves termination and value -/
theorem reg2binsCore_spec (beg end_ ms d : Nat) (hd : d ≤ 10) (h1 : beg < end_) (h2 : end_ ≤ 2 ^ (ms + 3 * d)) :
    reg2binsCore beg end_ ms d = Hts.Spec.Coord.reg2bins beg end_ ms d :=
  reg2binsLoop_of_go _ _ _ _ _ _ _ (reg2binsCoreGo_spec beg end_ ms d hd h1 h2)

theorem reg2bins_eq_core (beg end_ : Int) (ms d : Nat) (h0 : 0 ≤ beg) (h1 : beg < end_)
    (h2 : end_ ≤ (2 : Int) ^ (ms + d * 3)) : reg2bins beg end_ ms d = reg2binsCore beg end_ ms d := by
  unfold reg2bins csiClampBeg csiClampEnd
  rw [if_neg (by omega), if_neg (by omega), if_neg (by omega)]

theorem reg2bins_spec (beg end_ ms d : Nat) (hd : d ≤ 10) (h1 : beg < end_) (h2 : end_ ≤ 2 ^ (ms + 3 * d)) :
    reg2bins beg end_ ms d = Hts.Spec.Coord.reg2bins beg end_ ms d := by
  rw [reg2bins_eq_core _ _ _ _ (by omega) (by omega) (by rw [Nat.mul_comm, ← two_pow_cast]; omega)]
  exact reg2binsCore_spec beg end_ ms d hd h1 h2

theorem add_u32 (k : Nat) (x : Int) : (k + u32 x) % 4294967296 = u32 (k + x) := by
  unfold u32
  obtain ⟨n, hn⟩ := Int.eq_ofNat_of_zero_le (Int.emod_nonneg x (by decide : (4294967296 : Int) ≠ 0))
  rw [← Int.add_emod_emod, hn]
  exact (Int.toNat_natCast _).symm

theorem binFor_eq_reg2bin (beg end_ : Int) : binFor beg end_ = reg2bin beg end_ 14 5 := by
  simp only [reg2bin, reg2binLoop, add_u32, binFor]
  rfl

theorem binFor_spec (beg end_ : Nat) (h1 : beg < end_) (h2 : end_ ≤ 2 ^ 29) :
    binFor beg end_ = Hts.Spec.Coord.reg2bin beg end_ 14 5 := by
  rw [binFor_eq_reg2bin, reg2bin_spec beg end_ 14 5 (by decide) h1 h2]

theorem overlappingBinsFor_eq_core (beg end_ : Int) (h : end_ ≤ 536870912) :
    overlappingBinsFor beg end_ = overlappingBinsForCore beg end_ := by
  unfold overlappingBinsFor
  rw [if_neg (by omega)]

theorem overlappingBinsFor_clamp (beg end_ : Int) (h : 536870912 < end_) :
    overlappingBinsFor beg end_ = overlappingBinsFor beg 536870912 := by
  unfold overlappingBinsFor
  rw [if_pos (by omega), if_neg (by omega)]

theorem shr_eq_zero (x : Int) (s : Nat) (h0 : 0 ≤ x) (h1 : x < 2 ^ s) : x >>> s = 0 := by
  rw [Int.shiftRight_eq_div_pow]
  exact Int.ediv_eq_zero_of_lt h0 (by exact_mod_cast h1)

theorem overlappingBinsForCore_eq (beg end_ : Int) (h0 : 0 ≤ beg) (h1 : beg < end_) (h2 : end_ ≤ 536870912) :
    overlappingBinsForCore beg end_ = reg2binsCore beg end_ 14 5 := by
  simp only [reg2binsCore, reg2binsLoop, add_u32, overlappingBinsForCore, baiLevels, List.flatMap_cons, List.flatMap_nil]
  -- level 0 of the CSI loop: both ends lie in bin 0, which BAI lists without a loop; the five deeper levels are `baiLevels`
  show _ = rangeIncl (u32 (0 + beg >>> 29)) (u32 (0 + (end_ - 1) >>> 29)) ++ _
  rw [shr_eq_zero beg 29 h0 (by omega), shr_eq_zero (end_ - 1) 29 (by omega) (by omega)]
  rfl

theorem overlappingBinsFor_spec (beg end_ : Nat) (h1 : beg < end_) (h2 : end_ ≤ 2 ^ 29) :
    overlappingBinsFor beg end_ = Hts.Spec.Coord.reg2bins beg end_ 14 5 := by
  have h2' : end_ ≤ 536870912 := h2
  rw [overlappingBinsFor_eq_core _ _ (by omega), overlappingBinsForCore_eq _ _ (by omega) (by omega) (by omega),
    reg2binsCore_spec beg end_ 14 5 (by decide) h1 h2]

theorem csiClampBeg_eq (beg : Int) : csiClampBeg beg = (beg.toNat : Int) := by
  unfold csiClampBeg
  split <;> omega

theorem csiClampEnd_eq (end_ : Int) (s : Nat) (hs : s ≤ 62) :
    csiClampEnd end_ s = min end_ ((2 ^ s : Nat) : Int) := by
  unfold csiClampEnd
  rw [two_pow_cast]
  split <;> omega

theorem csiClamp_nat (beg end_ : Int) (ms d : Nat) (hs : ms + 3 * d ≤ 62)
    (h : ¬ csiClampBeg beg ≥ csiClampEnd end_ (ms + d * 3)) :
    ∃ b e : Nat, csiClampBeg beg = b ∧ csiClampEnd end_ (ms + d * 3) = e ∧ b < e ∧ e ≤ 2 ^ (ms + 3 * d) := by
  rw [Nat.mul_comm d 3] at h ⊢
  rw [csiClampBeg_eq, csiClampEnd_eq _ _ hs] at h ⊢
  exact ⟨beg.toNat, (min end_ ((2 ^ (ms + 3 * d) : Nat) : Int)).toNat, rfl, by omega, by omega, by omega⟩

theorem reg2bins_any_query (beg end_ : Int) (ms d : Nat) (hd : d ≤ 10) (hs : ms + 3 * d ≤ 62) :
    reg2bins beg end_ ms d =
      if csiClampBeg beg ≥ csiClampEnd end_ (ms + d * 3) then []
      else Hts.Spec.Coord.reg2bins (csiClampBeg beg).toNat (csiClampEnd end_ (ms + d * 3)).toNat ms d := by
  refine ite_congr rfl (fun _ => rfl) (fun h => ?_)
  obtain ⟨b, e, hb, he, hlt, hle⟩ := csiClamp_nat beg end_ ms d hs h
  rw [hb, he, Int.toNat_natCast, Int.toNat_natCast]
  exact reg2binsCore_spec b e ms d hd hlt hle

theorem reg2bins_any_query_min (beg end_ : Int) (ms d : Nat) (hd : d ≤ 10) (hs : ms + 3 * d ≤ 62) :
    reg2bins beg end_ ms d =
      if (beg.toNat : Int) ≥ min end_ ((2 ^ (ms + 3 * d) : Nat) : Int) then []
      else Hts.Spec.Coord.reg2bins beg.toNat (min end_ ((2 ^ (ms + 3 * d) : Nat) : Int)).toNat ms d := by
  rw [reg2bins_any_query beg end_ ms d hd hs, csiClampBeg_eq, Nat.mul_comm d 3, csiClampEnd_eq _ _ hs, Int.toNat_natCast]

theorem reg2bin_mem_reg2bins (s e beg stop : Int) (ms d : Nat) (hd : d ≤ 10) (hs : ms + 3 * d ≤ 62) (h0 : 0 ≤ s)
    (h1 : s < e) (hr : e ≤ (2 : Int) ^ (ms + 3 * d)) (hq : beg < stop) (hov1 : s < stop) (hov2 : beg < e) :
    reg2bin s e ms d ∈ reg2bins beg stop ms d := by
  rw [← two_pow_cast] at hr
  obtain ⟨s, rfl⟩ := Int.eq_ofNat_of_zero_le h0
  obtain ⟨e, rfl⟩ := Int.eq_ofNat_of_zero_le (Int.le_trans h0 (Int.le_of_lt h1))
  rw [reg2bin_spec s e ms d hd (by omega) (by omega), reg2bins_any_query_min beg stop ms d hd hs, if_neg (by omega)]
  -- side goals, over `b := beg.toNat`, `e' := (min stop ↑(2^(ms+3·d))).toNat`: `s < e`, `b < e'`, `s < e'`, `b < e`, `b < 2^(ms+3·d)`
  exact Hts.Spec.Coord.bin_in_bins s e _ _ ms d (by omega) (by omega) (by omega) (by omega) (by omega)

/-- `hb` is needed: `overlappingBinsFor 2^29 (2^29+1) = [0]`, where `reg2bins` at (14, 5) gives `[]` -/
theorem overlappingBinsFor_eq_reg2bins (beg end_ : Int) (h0 : 0 ≤ beg) (h1 : beg < end_) (hb : beg < 536870912) :
    overlappingBinsFor beg end_ = reg2bins beg end_ 14 5 := by
  by_cases h : end_ ≤ 536870912
  · rw [overlappingBinsFor_eq_core _ _ h, overlappingBinsForCore_eq _ _ h0 h1 h, reg2bins_eq_core _ _ _ _ h0 h1 (by omega)]
  · rw [overlappingBinsFor_clamp _ _ (by omega), overlappingBinsFor_eq_core _ _ (by omega),
      overlappingBinsForCore_eq _ _ h0 (by omega) (by omega), ← reg2bins_eq_core _ _ _ _ h0 (by omega) (by omega)]
    -- both limits of the end are 2^29
    have hc : csiClampEnd end_ (14 + 5 * 3) = csiClampEnd 536870912 (14 + 5 * 3) := by
      unfold csiClampEnd
      rw [if_pos ⟨by decide, by omega⟩, if_neg (by omega)]
      rfl
    unfold reg2bins
    rw [hc]

theorem binFor_mem_overlappingBinsFor (s e beg stop : Int) (h0 : 0 ≤ s) (h1 : s < e) (hr : e ≤ 536870912)
    (hb : 0 ≤ beg) (hq : beg < stop) (hov1 : s < stop) (hov2 : beg < e) : binFor s e ∈ overlappingBinsFor beg stop := by
  rw [binFor_eq_reg2bin, overlappingBinsFor_eq_reg2bins beg stop hb hq (by omega)]
  exact reg2bin_mem_reg2bins s e beg stop 14 5 (by decide) (by decide) h0 h1 hr hq hov1 hov2

end Hts.Model.Coord
