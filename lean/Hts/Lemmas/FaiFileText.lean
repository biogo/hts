/-
C19: the index of a well-formed file is representable in the .fai text form and already ordered by start
(`file_entries_valid`, `file_indexOK`: what `index_records_valid` and `fai_roundtrip_partial` start from).
-/
import Hts.Lemmas.FaiIndex
import Hts.Lemmas.FaiText
namespace Hts.Lemmas.Fai
open Hts.Model.Fai
open Hts.Spec.Fasta (isGraphic isBase isDescByte isBlankByte Rec Eol Entry seqLines terminate blankLines
  entriesFrom recsWf namesDistinct descOK)

/-- `+ eol.length` on the right: the last of the `length / w` full lines may lack its terminator. -/
theorem body_length (w : Nat) (eol : Bytes) (fin : Bool) (hw : 1 ≤ w) (bs : Bytes) (hne : bs ≠ []) :
    bs.length ≤ (body w eol fin bs).length ∧
      bs.length / w * (w + eol.length) ≤ (body w eol fin bs).length + eol.length := by
  apply seqLines_induction ?_ ?_ hw bs hne
  · intro bs hne hlen
    rw [body_single w eol fin bs hne hlen, List.length_append]
    refine ⟨Nat.le_add_right .., ?_⟩
    by_cases heq : bs.length = w
    · rw [heq, Nat.div_self hw, Nat.one_mul]; omega
    · rw [Nat.div_eq_of_lt (by omega), Nat.zero_mul]; omega
  · intro bs hlen htl hL ih
    rw [body_multi w eol fin bs hw hlen, List.length_append, List.length_append, htl, hL,
      Nat.add_div_left _ hw, Nat.succ_mul]
    omega

theorem body_first_line (w : Nat) (eol : Bytes) (fin : Bool) (hw : 1 ≤ w) (bs : Bytes) (hne : bs ≠ []) :
    (bs.take w).length + (if bs.length ≤ w ∧ fin = false then 0 else eol.length) ≤
      (body w eol fin bs).length := by
  by_cases hlen : bs.length ≤ w
  · rw [body_single w eol fin bs hne hlen, List.take_of_length_le hlen, List.length_append, lastEol_length]
    simp only [hlen, true_and, Nat.le_refl]
  · rw [body_multi w eol fin bs hw (by omega), List.length_append, List.length_append, if_neg (fun h => hlen h.1)]
    omega

/-- The last three conjuncts are what `Record.isValid` checks (`isValid_of_nat`); in the last, `start + basesPerLine`
and the offset of the last line are each bounded by the end of the record, the latter up to one terminator (2 bytes). -/
theorem entry_bounds {r : Rec} (hw : 1 ≤ r.width) (o : Nat) (R : Record)
    (hR : R = ofEntry (r.entry o)) :
    o < R.start ∧ R.start ≤ o + r.render.length ∧ R.length ≤ r.render.length ∧
    R.bytesPerLine ≤ r.render.length ∧ R.basesPerLine ≤ R.bytesPerLine ∧ (R.basesPerLine = 0 → R.length = 0) ∧
    R.start + R.basesPerLine + R.length / R.basesPerLine * R.bytesPerLine ≤ 2 * (o + r.render.length) + 2 := by
  have hH : 1 ≤ r.headerLine.length := Nat.succ_le_succ (Nat.zero_le _)
  by_cases hb : r.bases = []
  · rw [entry_of_no_bases r o hb] at hR
    rw [hR, render_of_no_bases r hb]
    dsimp only
    repeat rw [List.length_append]
    exact ⟨by omega, by omega, Nat.zero_le _, Nat.zero_le _, Nat.le_refl _, fun _ => rfl, by omega⟩
  · obtain ⟨hb1, hb3⟩ := body_length r.width r.eol.bytes r.finalNewline hw r.bases hb
    have hb2 := body_first_line r.width r.eol.bytes r.finalNewline hw r.bases hb
    have hlen : 1 ≤ r.bases.length := List.length_pos_iff.mpr hb
    have he2 : r.eol.bytes.length ≤ 2 := by cases r.eol <;> decide
    -- the offset of the last line: `length / basesPerLine` full lines after the start
    have hlast : r.bases.length / (r.bases.take r.width).length * ((r.bases.take r.width).length +
        if r.bases.length ≤ r.width ∧ r.finalNewline = false then 0 else r.eol.bytes.length) ≤
        (body r.width r.eol.bytes r.finalNewline r.bases).length + r.eol.bytes.length := by
      by_cases hl : r.bases.length ≤ r.width
      · rw [List.take_of_length_le hl] at hb2 ⊢
        rw [Nat.div_self hlen, Nat.one_mul]
        exact Nat.le_trans hb2 (Nat.le_add_right ..)
      · rw [List.length_take, Nat.min_eq_left (Nat.le_of_not_le hl), if_neg (fun h' => hl h'.1)]
        exact hb3
    have hpos : 1 ≤ (r.bases.take r.width).length := by
      rw [List.length_take]; exact Nat.le_min.mpr ⟨hw, hlen⟩
    clear hw  -- not needed below, and each `omega` would take it up
    rw [entry_of_bases r o hb] at hR
    rw [hR, render_of_bases r hb]
    dsimp only
    repeat rw [List.length_append]
    -- conjunct 1 from `hH`, 3 from `hb1`, 4 from `hb2`, 6 from `hpos`, 7 from `hlast`, `hb2`, `he2`
    exact ⟨by omega, by omega, by omega, by omega, Nat.le_add_right .., fun h0 => by omega, by omega⟩

theorem entries_bounds (recs : List Rec) (hwf : recsWf recs = true) :
    ∀ o E, o + (recs.map Rec.render).flatten.length ≤ E →
      (∀ R ∈ (entriesFrom o recs).map ofEntry,
        o < R.start ∧ R.start ≤ E ∧ R.length ≤ E ∧ R.bytesPerLine ≤ E ∧
        R.basesPerLine ≤ R.bytesPerLine ∧ (R.basesPerLine = 0 → R.length = 0) ∧
        R.start + R.basesPerLine + R.length / R.basesPerLine * R.bytesPerLine ≤ 2 * E + 2) ∧
      ((entriesFrom o recs).map ofEntry).Pairwise (fun a b => a.start < b.start) := by
  induction recs with
  | nil => intro o E _; exact ⟨nofun, List.Pairwise.nil⟩
  | cons r rs ih =>
    intro o E hE
    obtain ⟨hok, hrs⟩ := recsWf_cons hwf
    obtain ⟨b1, b2, b3, b4, b5, b6, b7⟩ := entry_bounds hok.width o _ rfl
    rw [List.map_cons, List.flatten_cons, List.length_append, ← Nat.add_assoc] at hE
    obtain ⟨ih1, ih2⟩ := ih hrs (o + r.render.length) E hE
    have hr : o + r.render.length ≤ E := Nat.le_trans (Nat.le_add_right ..) hE
    simp only [entriesFrom, List.map_cons, List.mem_cons, List.pairwise_cons]
    refine ⟨?_, fun R hR => Nat.lt_of_le_of_lt b2 (ih1 R hR).1, ih2⟩
    rintro R (rfl | hR)
    · exact ⟨b1, Nat.le_trans b2 hr, Nat.le_trans b3 (Nat.le_trans (Nat.le_add_left ..) hr),
        Nat.le_trans b4 (Nat.le_trans (Nat.le_add_left ..) hr), b5, b6, Nat.le_trans b7 (by omega)⟩
    · obtain ⟨c1, c⟩ := ih1 R hR
      exact ⟨Nat.lt_of_le_of_lt (Nat.le_add_right ..) c1, c⟩

theorem isValid_of_nat (R : Record) (h1 : R.basesPerLine ≤ R.bytesPerLine)
    (h2 : R.basesPerLine = 0 → R.length = 0)
    (h3 : R.start + R.basesPerLine + R.length / R.basesPerLine * R.bytesPerLine < 2 ^ 63) :
    R.toRaw.isValid = true := by
  unfold RawRecord.isValid Record.toRaw
  have hneg : ¬ ((R.length : Int) < 0 ∨ (R.start : Int) < 0 ∨ (R.basesPerLine : Int) < 0 ∨
      (R.bytesPerLine : Int) < (R.basesPerLine : Int)) := by omega
  simp only [hneg, if_false]
  by_cases hb : R.basesPerLine = 0
  · have : (R.basesPerLine : Int) = 0 := by omega
    have hl : (R.length : Int) = 0 := by have := h2 hb; omega
    simp [this, hl]
  · have hb' : ¬ ((R.basesPerLine : Int) = 0) := by omega
    simp only [hb', if_false, decide_eq_true_eq]
    have hnn : (0 : Int) ≤ maxInt64 - (R.start : Int) - (R.basesPerLine : Int) := by
      unfold maxInt64; omega
    rw [Int.natCast_tdiv_eq_ediv, Int.tdiv_eq_ediv_of_nonneg hnn]
    apply Int.le_ediv_of_mul_le (by omega)
    have h3' : ((R.start + R.basesPerLine + R.length / R.basesPerLine * R.bytesPerLine : Nat) : Int) <
        ((2 ^ 63 : Nat) : Int) := Int.ofNat_lt.mpr h3
    simp only [Int.natCast_add, Int.natCast_mul, Int.natCast_ediv] at h3'
    unfold maxInt64
    have e : ((2 ^ 63 : Nat) : Int) = 2 ^ 63 := by decide
    rw [e] at h3'
    omega

theorem nodup_of_namesDistinct (recs : List Rec) (h : namesDistinct recs = true) :
    (recs.map (·.name)).Nodup := by
  induction recs with
  | nil => simp
  | cons r rs ih =>
    obtain ⟨h1, h2⟩ := namesDistinct_cons h
    simp only [List.map_cons, List.nodup_cons, List.mem_map, not_exists, not_and]
    exact ⟨h1, ih h2⟩

theorem nameOK_of_graphic (name : Bytes) (h : ∀ b ∈ name, isGraphic b = true) (hq : DQ ∉ name) :
    NameOK name := by
  refine ⟨?_, ?_, hq⟩
  · intro hm
    have := h _ hm
    revert this; decide
  · intro hm
    have := h _ hm
    revert this; decide

theorem file_entries_valid (f : Hts.Spec.Fasta.File) (h : f.WF) (hsz : 2 * f.render.length + 2 < 2 ^ 63) :
    ((f.entries.map ofEntry).Pairwise fun a b => a.start < b.start) ∧
      ∀ R ∈ f.entries.map ofEntry, Small R ∧ R.toRaw.isValid = true := by
  obtain ⟨hb, hp⟩ := entries_bounds f.recs h.2.1 f.leading.length f.render.length
    (by rw [Hts.Spec.Fasta.File.render, List.length_append]; exact Nat.le_refl _)
  refine ⟨hp, fun R hR => ?_⟩
  obtain ⟨_, b2, b3, b4, v1, v2, v3⟩ := hb R hR
  exact ⟨⟨by omega, by omega, by omega, by omega⟩, isValid_of_nat R v1 v2 (by omega)⟩

theorem file_indexOK (f : Hts.Spec.Fasta.File) (h : f.WF) (hq : ∀ r ∈ f.recs, DQ ∉ r.name)
    (hsz : 2 * f.render.length + 2 < 2 ^ 63) :
    IndexOK (f.entries.map ofEntry) ∧ sortByStart (f.entries.map ofEntry) = f.entries.map ofEntry := by
  obtain ⟨hp, hv⟩ := file_entries_valid f h hsz
  refine ⟨⟨?_, ?_, fun R hR => (hv R hR).1, fun R hR => (hv R hR).2⟩, sortByStart_of_sorted _ hp⟩
  · rw [Hts.Spec.Fasta.File.entries, entries_names]
    exact nodup_of_namesDistinct _ h.2.2.1
  · intro R hR
    have hn : R.name ∈ f.recs.map (·.name) := by
      rw [← entries_names f.leading.length f.recs]
      exact List.mem_map_of_mem hR
    obtain ⟨r, hr, hre⟩ := List.mem_map.mp hn
    obtain ⟨last, hok⟩ := recOK_of_mem h hr
    rw [← hre]
    exact nameOK_of_graphic r.name hok.name_g (hq r hr)

end Hts.Lemmas.Fai
