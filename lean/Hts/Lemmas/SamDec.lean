/-
Decimal and hexadecimal text: `showNat`/`showInt`/`showHex` are read back by the model of
strconv.ParseUint / ParseInt / Atoi (base 10 and base 0).  `NoSep`: bytes without TAB, LF and CR, which the
printed numbers are and the line and field splitters ask for.
-/
import Hts.Model.SamText
import Hts.Lemmas.Text
namespace Hts.Model.SamText

theorem digitsLoop_append (base : Nat) (b0 : Bool) (xs ys : Bytes) : ∀ acc,
    digitsLoop base b0 (xs ++ ys) acc = (digitsLoop base b0 xs acc).bind (digitsLoop base b0 ys) := by
  induction xs with
  | nil => intro acc; rfl
  | cons c rest ih =>
    intro acc
    simp only [List.cons_append, digitsLoop]
    split
    · exact ih acc
    · split
      · rfl
      · split
        · rfl
        · exact ih _

theorem digitVal_underscore : digitVal 95 = none := by decide

theorem digitsLoop_single (base : Nat) (b0 : Bool) (c : UInt8) (d acc : Nat) (hc : digitVal c = some d)
    (hd : d < base) : digitsLoop base b0 [c] acc = some (acc * base + d) := by
  have h95 : c ≠ 95 := fun e => by rw [e, digitVal_underscore] at hc; cases hc
  simp only [digitsLoop, h95, false_and, if_false, hc, Nat.not_le.mpr hd]

open Hts.Lemmas (Radix)

theorem showNat_radix : Radix 10 digitChar showNat := .of_fuel (by decide) fun _ _ => rfl

theorem showNat_unfold (n : Nat) :
    showNat n = if n < 10 then [digitChar n] else showNat (n / 10) ++ [digitChar (n % 10)] :=
  showNat_radix.eq n

theorem showNat_ne_nil (n : Nat) : showNat n ≠ [] := showNat_radix.ne_nil n

theorem coreDigit : ∀ d, d < 10 → UInt8.ofNat (Nat.digitChar d).toNat = digitChar d := by decide

theorem showNat_eq_toDigits (n : Nat) : showNat n = (Nat.toDigits 10 n).map fun c => UInt8.ofNat c.toNat :=
  showNat_radix.induction (P := fun n s => s = (Nat.toDigits 10 n).map fun c => UInt8.ofNat c.toNat)
    (fun n hn => by rw [Nat.toDigits_of_lt_base hn, List.map_singleton, coreDigit n hn])
    (fun n hn ih => by
      rw [Nat.toDigits_of_base_le (by decide) hn, List.map_append, List.map_singleton, ← ih,
        coreDigit _ (Nat.mod_lt _ (by decide))]) n

theorem digitChar_table : ∀ d, d < 10 →
    digitVal (digitChar d) = some d ∧ isDec (digitChar d) = true ∧ (digitChar d = 48 ↔ d = 0) := by decide

theorem showNat_isDec (n : Nat) : ∀ c ∈ showNat n, isDec c = true :=
  showNat_radix.forall_mem (fun d hd => (digitChar_table d hd).2.1) n

theorem ne_of_isDec {c k : UInt8} (h : isDec c = true) (hk : isDec k = false) : c ≠ k :=
  fun e => by rw [e, hk] at h; cases h

theorem digitsLoop_showNat (b0 : Bool) (n : Nat) : digitsLoop 10 b0 (showNat n) 0 = some n :=
  showNat_radix.read (digitsLoop_append 10 b0)
    (fun d acc hd => digitsLoop_single 10 b0 _ d acc (digitChar_table d hd).1 hd) n

theorem showNat_head (n : Nat) (hn : n ≠ 0) : ∃ c rest, showNat n = c :: rest ∧ c ≠ 48 := by
  refine showNat_radix.induction (P := fun n s => n ≠ 0 → ∃ c rest, s = c :: rest ∧ c ≠ 48) ?_ ?_ n hn
  · exact fun n h hn => ⟨_, [], rfl, fun e => hn ((digitChar_table n h).2.2.mp e)⟩
  · intro n h ih _
    obtain ⟨c, rest, hs, hc⟩ := ih (by omega)
    exact ⟨c, rest ++ _, by rw [hs]; rfl, hc⟩

theorem showHex_radix : Radix 16 hexDigitLower showHex := .of_fuel (by decide) fun _ _ => rfl

theorem showHex_unfold (n : Nat) :
    showHex n = if n < 16 then [hexDigitLower n] else showHex (n / 16) ++ [hexDigitLower (n % 16)] :=
  showHex_radix.eq n

theorem showHex_ne_nil (n : Nat) : showHex n ≠ [] := showHex_radix.ne_nil n

theorem hexDigitLower_table : ∀ d, d < 16 →
    digitVal (hexDigitLower d) = some d ∧ hexDigitLower d ≠ 95 ∧ 32 ≤ hexDigitLower d := by decide

theorem showHex_chars (n : Nat) : ∀ c ∈ showHex n, c ≠ 95 ∧ 32 ≤ c :=
  showHex_radix.forall_mem (fun d hd => (hexDigitLower_table d hd).2) n

theorem digitsLoop_showHex (b0 : Bool) (n : Nat) : digitsLoop 16 b0 (showHex n) 0 = some n :=
  showHex_radix.read (digitsLoop_append 16 b0)
    (fun d acc hd => digitsLoop_single 16 b0 _ d acc (hexDigitLower_table d hd).1 hd) n

theorem parseUintGo_of_digits {s body : Bytes} {base b bits n : Nat} (hne : s ≠ [])
    (hp : (if base == 0 then basePrefix s else (base, s)) = (b, body))
    (hd : digitsLoop b (base == 0) body 0 = some n) (hn : n < 2 ^ bits) (hu : 95 ∉ s) :
    parseUintGo s base bits = some n := by
  unfold parseUintGo
  simp only [List.isEmpty_iff, hne, if_false, hp, hd, Nat.not_le.mpr hn, List.contains_eq_mem, hu, decide_false,
    Bool.and_false, Bool.false_and, Bool.false_eq_true]

theorem parseUintGo_showNat_10 (n bits : Nat) (h : n < 2 ^ bits) : parseUintGo (showNat n) 10 bits = some n :=
  parseUintGo_of_digits (showNat_ne_nil n) rfl (digitsLoop_showNat _ n) h
    fun hm => ne_of_isDec (showNat_isDec n _ hm) rfl rfl

/-- with base 0 a leading `0` selects another base: a printed number has none (`showNat_head`), and the text `0`
itself is the octal prefix followed by no digit -/
theorem parseUintGo_showNat_0 (n bits : Nat) (h : n < 2 ^ bits) : parseUintGo (showNat n) 0 bits = some n := by
  by_cases hn : n = 0
  · subst hn
    exact parseUintGo_of_digits (s := [48]) (b := 8) (body := []) (List.cons_ne_nil _ _) rfl rfl h (by decide)
  · obtain ⟨c, rest, hs, hc⟩ := showNat_head n hn
    refine parseUintGo_of_digits (b := 10) (body := showNat n) (showNat_ne_nil n) ?_ (digitsLoop_showNat _ n) h
      fun hm => ne_of_isDec (showNat_isDec n _ hm) rfl rfl
    rw [hs]
    show basePrefix (c :: rest) = _
    unfold basePrefix
    split
    · rename_i heq; exact absurd (List.cons.inj heq).1 hc
    · rfl

theorem parseUintGo_hex (n bits : Nat) (h : n < 2 ^ bits) :
    parseUintGo (48 :: 120 :: showHex n) 0 bits = some n := by
  obtain ⟨c, rest, hs⟩ := List.exists_cons_of_ne_nil (showHex_ne_nil n)
  refine parseUintGo_of_digits (b := 16) (body := showHex n) (List.cons_ne_nil _ _) ?_ (digitsLoop_showHex _ n) h
    (List.not_mem_cons_of_ne_of_not_mem (by decide) (List.not_mem_cons_of_ne_of_not_mem (by decide)
      fun hm => (showHex_chars n _ hm).1 rfl))
  rw [hs]
  rfl

theorem parseIntGo_neg (body : Bytes) (base bits : Nat) :
    parseIntGo (45 :: body) base bits =
      (parseUintGo body base bits).bind fun un => if 2 ^ (bits - 1) < un then none else some (-(un : Int)) := by
  simp only [parseIntGo, or_true, if_true]
  cases parseUintGo body base bits <;> simp

theorem parseIntGo_unsigned (c : UInt8) (rest : Bytes) (base bits : Nat) (h1 : c ≠ 43) (h2 : c ≠ 45) :
    parseIntGo (c :: rest) base bits =
      (parseUintGo (c :: rest) base bits).bind fun un => if 2 ^ (bits - 1) ≤ un then none else some (un : Int) := by
  simp only [parseIntGo, h1, h2, or_self, if_false]
  cases parseUintGo (c :: rest) base bits <;> simp

/-- `m = 2^(k-1)` as one atom for `omega`, in `Nat` and `Int` alike -/
theorem two_pow_pred {k : Nat} (hk : 1 ≤ k) :
    ∃ m : Nat, 2 ^ (k - 1) = m ∧ 2 ^ k = 2 * m ∧ (2 : Int) ^ (k - 1) = (m : Int) := by
  obtain ⟨j, rfl⟩ := Nat.exists_eq_add_of_le' hk
  exact ⟨_, rfl, by rw [Nat.add_sub_cancel, Nat.pow_succ, Nat.mul_comm], (Int.natCast_pow 2 _).symm⟩

theorem parseIntGo_showInt (i : Int) (base bits : Nat) (hb : base = 10 ∨ base = 0) (hbits : 1 ≤ bits)
    (hlo : -(2 ^ (bits - 1) : Int) ≤ i) (hhi : i < (2 ^ (bits - 1) : Int)) :
    parseIntGo (showInt i) base bits = some i := by
  have hpu : ∀ m : Nat, m < 2 ^ bits → parseUintGo (showNat m) base bits = some m := by
    rcases hb with rfl | rfl
    · exact fun m => parseUintGo_showNat_10 m bits
    · exact fun m => parseUintGo_showNat_0 m bits
  obtain ⟨m, hm, hpow, hmi⟩ := two_pow_pred hbits
  rw [hmi] at hlo hhi
  rw [hpow] at hpu
  unfold showInt
  split
  · obtain ⟨k, rfl⟩ : ∃ k : Nat, i = -(k : Int) :=
      ⟨i.natAbs, by rw [Int.ofNat_natAbs_of_nonpos (Int.le_of_lt ‹_›), Int.neg_neg]⟩
    rw [Int.natAbs_neg, Int.natAbs_natCast, parseIntGo_neg, hm, hpu k (by omega), Option.bind_some,
      if_neg (by omega)]
  · obtain ⟨k, rfl⟩ := Int.eq_ofNat_of_zero_le (Int.not_lt.mp ‹_›)
    obtain ⟨c, rest, hs⟩ := List.exists_cons_of_ne_nil (showNat_ne_nil k)
    have hc : isDec c = true := showNat_isDec k c (hs ▸ List.mem_cons_self)
    have hp := hpu k (by omega)
    rw [Int.toNat_natCast, hs] at *
    rw [parseIntGo_unsigned c rest base bits (ne_of_isDec hc rfl) (ne_of_isDec hc rfl), hp, Option.bind_some, hm,
      if_neg (by omega)]

theorem atoi_showInt (i : Int) (hlo : -9223372036854775808 ≤ i) (hhi : i < 9223372036854775808) :
    atoi (showInt i) = some i :=
  parseIntGo_showInt i 10 64 (Or.inl rfl) (by decide) hlo hhi

theorem parseUintGo_showInt (v : Int) (bits : Nat) (h0 : 0 ≤ v) (h1 : v < (2 ^ bits : Nat)) :
    parseUintGo (showInt v) 0 bits = some v.toNat := by
  rw [showInt, if_neg (Int.not_lt.mpr h0)]
  exact parseUintGo_showNat_0 _ _ (by omega)

/-- no TAB, LF or CR: the text can be a field of a SAM line -/
def NoSep (s : Bytes) : Prop := ∀ c ∈ s, c ≠ 9 ∧ c ≠ 10 ∧ c ≠ 13

theorem ge32_no_sep (c : UInt8) (h : 32 ≤ c) : c ≠ 9 ∧ c ≠ 10 ∧ c ≠ 13 := by
  refine ⟨?_, ?_, ?_⟩ <;> intro e <;> subst e <;> revert h <;> decide

theorem NoSep.nil : NoSep [] := nofun

theorem NoSep.cons {a : UInt8} {l : Bytes} (ha : 32 ≤ a) (hl : NoSep l) : NoSep (a :: l) :=
  List.forall_mem_cons.mpr ⟨ge32_no_sep a ha, hl⟩

theorem NoSep.of_ge32 {s : Bytes} (h : ∀ c ∈ s, 32 ≤ c) : NoSep s := fun c hc => ge32_no_sep c (h c hc)

theorem NoSep.of_comma {s : Bytes} (h : ∀ c ∈ s, c ≠ 9 ∧ c ≠ 44 ∧ c ≠ 10 ∧ c ≠ 13) : NoSep s :=
  fun c hc => ⟨(h c hc).1, (h c hc).2.2⟩

theorem noSep_star : NoSep [42] := .cons (by decide) .nil

theorem showNat_no_sep (n : Nat) : ∀ c ∈ showNat n, c ≠ 9 ∧ c ≠ 44 ∧ c ≠ 10 ∧ c ≠ 13 := fun c hc =>
  have h := showNat_isDec n c hc
  ⟨ne_of_isDec h rfl, ne_of_isDec h rfl, ne_of_isDec h rfl, ne_of_isDec h rfl⟩

theorem showNat_noSep (n : Nat) : NoSep (showNat n) := .of_comma (showNat_no_sep n)

theorem showInt_no_sep (i : Int) : ∀ c ∈ showInt i, c ≠ 9 ∧ c ≠ 44 ∧ c ≠ 10 ∧ c ≠ 13 := by
  intro c hc
  unfold showInt at hc
  split at hc
  · rcases List.mem_cons.mp hc with rfl | hc
    · decide
    · exact showNat_no_sep _ c hc
  · exact showNat_no_sep _ c hc

theorem showInt_noSep (i : Int) : NoSep (showInt i) := .of_comma (showInt_no_sep i)

end Hts.Model.SamText
