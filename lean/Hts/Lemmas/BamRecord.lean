/-
Record level of the BAM codec: the writer accepts every well-formed record and produces `size ++ fields`; the reader's
fixed-part, name, CIGAR, sequence, quality and aux steps invert the writer's (assembled from the field codecs of
Lemmas.BamBytes / Lemmas.BamAux); the length-prefix lemma (`readRecord_frame`) and the two together (`readRecord_bodyOf`).
-/
import Hts.Lemmas.BamAux
namespace Hts.Model.Bam

/-- The record after its length prefix with every field a variable, as a right-nested concatenation.  The writer's
bytes (`bodyOf`) and the specification's (`body_fields` of Lemmas.BamSpec) are both instances, so the two are compared
argument by argument. -/
def fields (refID pos : Int) (lName mapq : Byte) (bin nCigar flag : Nat) (lSeq nextRefID nextPos tlen : Int)
    (name cigar seq qual tags : List Byte) : List Byte :=
  putI32 refID ++ (putI32 pos ++ (lName :: (mapq :: (putU16 bin ++ (putU16 nCigar ++ (putU16 flag ++ (putI32 lSeq ++
  (putI32 nextRefID ++ (putI32 nextPos ++ (putI32 tlen ++ (name ++ (0#8 :: (cigar ++ (seq ++ (qual ++ tags)))))))))))))))

theorem fields_length (refID pos : Int) (lName mapq : Byte) (bin nCigar flag : Nat) (lSeq nextRefID nextPos tlen : Int)
    (name cigar seq qual tags : List Byte) :
    (fields refID pos lName mapq bin nCigar flag lSeq nextRefID nextPos tlen name cigar seq qual tags).length =
      32 + name.length + 1 + cigar.length + seq.length + qual.length + tags.length := by
  simp only [fields, List.length_append, List.length_cons, putI32_length, putU16_length]
  omega

/-- the fields `Writer.Write` puts after the length prefix, given the aux block and the bin -/
def bodyOf (bin : Nat) (tags : List Byte) (r : Record) : List Byte :=
  fields (refID r.ref) r.pos (byteOf (r.name.length + 1)) r.mapq bin r.cigar.length r.flags.toNat r.seqLen
    (refID r.mateRef) r.matePos r.tempLen r.name (cigarBytes r.cigar) r.seq (qualBytes r) tags

theorem encodeWith_eq (bin : Nat) (tags : List Byte) (r : Record) :
    encodeWith bin tags r = putI32 (recLen r tags) ++ bodyOf bin tags r := by
  unfold encodeWith bodyOf fields cigarBytes
  simp only [List.append_assoc]
  rfl

theorem refID_range {n : Nat} {o : Option Nat} (hn : n < 2147483648) (h : ∀ i, o = some i → i < n) :
    -2147483648 ≤ refID o ∧ refID o < 2147483648 := by
  cases o with
  | none => simp [refID]
  | some i => have := h i rfl; simp only [refID]; omega

theorem linkRefs_ok (n : Nat) (a b : Option Nat) (r : Record)
    (ha : ∀ i, a = some i → i < n) (hb : ∀ i, b = some i → i < n) :
    linkRefs n (refID a) (refID b) r = .ok { r with ref := a, mateRef := b } := by
  have neg : ∀ k : Nat, ¬ ((k : Int) < -1) := fun k => by omega
  cases a with
  | none =>
    cases b with
    | none => rfl
    | some j => simp [linkRefs, refID, neg, hb j rfl]
  | some i =>
    cases b with
    | none => simp [linkRefs, refID, neg, ha i rfl]
    | some j =>
      by_cases hij : i = j
      · subst hij
        simp [linkRefs, refID, neg, ha i rfl]
      · simp [linkRefs, refID, neg, Nat.not_le.mpr (ha i rfl), Nat.not_le.mpr (hb j rfl), Int.natCast_inj, hij]

theorem qualBytes_length {r : Record} (h : ∀ q, r.qual = some q → q.length = r.seqLen) :
    (qualBytes r).length = r.seqLen := by
  unfold qualBytes
  cases hq : r.qual with
  | none => simp
  | some q => simpa using h q hq

/-- what `Read` is expected to return for a written record `r` under each Omit mode (`omitAll` erases what `norm` changes:
`omitAll r` is `omitAll (norm r)` by reduction, the form `Props.C05.omit_all` states) -/
def expected (om : Omit) (r : Record) : Record :=
  match om with
  | .none => norm r
  | .aux => omitAux (norm r)
  | .all => omitAll r

theorem decodeBody_bodyOf (om : Omit) (n : Nat) (r : Record) (bin : Nat) (h : WF n r) :
    decodeBody om n (bodyOf bin (encAuxAll r.aux) r) = .ok (expected om r) := by
  have hs : r.seqLen < 2147483648 := by have := h.size_ok; omega
  have hname := h.name_len
  have hnl : (byteOf (r.name.length + 1)).toNat = r.name.length + 1 := by
    rw [byteOf_toNat]; omega
  have hcig : r.cigar.length < 65536 := by have := h.cigar_count; omega
  have hfl : r.flags.toNat < 65536 := r.flags.isLt
  unfold decodeBody bodyOf fields
  simp only [readI32_put _ _ (refID_range h.nrefs_ok h.ref_ok), readI32_put _ _ h.pos_ok, readU8_cons,
    discard_append (putU16 bin) _ 2 rfl, readU16_put _ _ hcig, readU16_put _ _ hfl,
    readI32_put (r.seqLen : Int) _ ⟨by omega, by omega⟩, readI32_put _ _ (refID_range h.nrefs_ok h.mate_ok),
    readI32_put _ _ h.matePos_ok, readI32_put _ _ h.tempLen_ok, hnl]
  have hseq : r.seq.length = r.seqLen / 2 + r.seqLen % 2 := by have := h.seq_len; omega
  have hneg : ¬ ((r.seqLen : Int) < 0) := by omega
  have hn1 : ¬ (r.name.length + 1 < 1) := by omega
  simp only [hn1, hneg, ↓reduceIte, Nat.add_sub_cancel, Int.toNat_natCast,
    unsafeBytes_append r.name _ r.name.length rfl, discard_cons,
    unsafeBytes_append (cigarBytes r.cigar) _ _ (cigarBytes_length _), readCigarOps_cigarBytes,
    unsafeBytes_append r.seq _ _ hseq, unsafeBytes_append (qualBytes r) _ _ (qualBytes_length h.qual_len),
    unsafeBytes_all, parseAux_encAuxAll r.aux h.aux_ok, finish, Bool.false_eq_true,
    linkRefs_ok n r.ref r.mateRef _ h.ref_ok h.mate_ok,
    BitVec.ofNat_toNat, BitVec.setWidth_eq]
  cases om <;> rfl

theorem bodyOf_length (bin : Nat) (tags : List Byte) (r : Record) :
    (bodyOf bin tags r).length =
      32 + r.name.length + 1 + r.cigar.length * 4 + r.seq.length + (qualBytes r).length + tags.length := by
  rw [bodyOf, fields_length, cigarBytes_length]

/-- what `readRecord_frame` asks of the body -/
theorem bodyOf_length_wf {n : Nat} {r : Record} (h : WF n r) (bin : Nat) :
    0 < (bodyOf bin (encAuxAll r.aux) r).length ∧ (bodyOf bin (encAuxAll r.aux) r).length < 2147483648 := by
  have := h.size_ok
  rw [bodyOf_length, qualBytes_length h.qual_len, encAuxAll_length _ h.aux_ok]
  omega

theorem recLen_eq {n : Nat} {r : Record} (h : WF n r) (bin : Nat) :
    recLen r (encAuxAll r.aux) = (bodyOf bin (encAuxAll r.aux) r).length := by
  rw [bodyOf_length, qualBytes_length h.qual_len, recLen]

theorem encodeRecord_ok {n : Nat} {r : Record} (h : WF n r) :
    encodeRecord r = .ok (putI32 (bodyOf (recordBin r) (encAuxAll r.aux) r).length ++
      bodyOf (recordBin r) (encAuxAll r.aux) r) := by
  have hn := h.name_len
  have c1 : (r.name.length == 0 || decide (r.name.length > 254)) = false := by
    simp only [Bool.or_eq_false_iff, beq_eq_false_iff_ne, decide_eq_false_iff_not]
    constructor <;> omega
  unfold encodeRecord
  -- the statement's length prefix is turned back into the writer's `recLen`, the form `encodeWith_eq` has
  simp only [c1, Bool.false_eq_true, ↓reduceIte, ← recLen_eq h (recordBin r)]
  split
  · rename_i q hq
    have := h.qual_len q hq
    simp [this, buildAux_ok r.aux h.aux_ok, encodeWith_eq]
  · simp [buildAux_ok r.aux h.aux_ok, encodeWith_eq]

theorem readRecord_frame (om : Omit) (n : Nat) (body rest : List Byte) (hpos : 0 < body.length)
    (hlt : body.length < 2147483648) :
    readRecord om n (putI32 (body.length : Int) ++ (body ++ rest)) =
      match decodeBody om n body with
      | .error f => .fault f
      | .ok r => .record r rest := by
  have hsz : toI32 (((body.length : Int) % 4294967296).toNat % 4294967296) = (body.length : Int) :=
    toI32_wrap _ (by omega) (by omega)
  have h0 : ((body.length : Int) == 0) = false := by
    simp only [beq_eq_false_iff_ne, ne_eq]; omega
  have h1 : ¬ ((body.length : Int) < 0) := by omega
  have h3 : ¬ ((body ++ rest).length < body.length) := by simp
  simp only [putI32, putU32, List.cons_append, List.nil_append, readRecord, getU32_put, hsz, h0, h1,
    Bool.false_eq_true, ↓reduceIte, Int.toNat_natCast, h3, List.take_left', List.drop_left']
  cases decodeBody om n body <;> rfl

theorem readRecord_bodyOf (om : Omit) {n : Nat} {r : Record} (h : WF n r) (bin : Nat) (rest : List Byte) :
    readRecord om n (putI32 ((bodyOf bin (encAuxAll r.aux) r).length : Int) ++ bodyOf bin (encAuxAll r.aux) r ++ rest)
      = .record (expected om r) rest := by
  rw [List.append_assoc, readRecord_frame om n _ rest (bodyOf_length_wf h bin).1 (bodyOf_length_wf h bin).2, decodeBody_bodyOf om n r bin h]

end Hts.Model.Bam
