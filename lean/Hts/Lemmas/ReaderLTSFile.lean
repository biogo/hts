/-
The file of the sequential model as the chain of the read-ahead protocol (`chainOf`, `blkOf`), and the global
measure `gmu`, which every step decreases when the script consists of definite calls (no `nexts`): it bounds the
length of every path.
-/
import Hts.Model.ReaderLTSFile
import Hts.Lemmas.ReaderLTSMain
import Hts.Lemmas.ReaderBasic
namespace Hts.Model.ReadAhead
open Hts.Model.Bgzf

theorem chainOf_mono {F : File} (hwf : WF F) : Mono (chainOf F) := by
  intro b b' h
  simp only [chainOf] at h
  cases hm : memberAt F b with
  | ok m =>
    simp only [hm, Option.some.injEq] at h
    have := (hwf m (memberAt_mem hm)).1; omega
  | eof | bad => simp [hm] at h

theorem cfg_ok {F : File} (hwf : WF F) (rd : Nat) (hrd : 2 ≤ rd) (script : List Op) (faults : Bool) :
    (Cfg.mk rd (chainOf F) script faults).OK := ⟨hrd, chainOf_mono hwf⟩

theorem blkOf_load {F : File} (hwf : WF F) (b0 : Block) (e : Nat) :
    blkOf (Block.load F b0 e).1 = ⟨some e, chainOf F e⟩ := by
  simp only [Block.load, chainOf]
  cases hm : memberAt F e with
  | ok m =>
    have := (hwf m (memberAt_mem hm)).1
    simp [blkOf, Block.hasData, Block.nextBase]; omega
  | eof | bad => simp [blkOf, Block.hasData, Block.failed]

inductive StepN (cfg : Cfg) : Nat → State → State → Prop where
  | zero {a : State} : StepN cfg 0 a a
  | succ {n : Nat} {a b c : State} : Step cfg a b → StepN cfg n b c → StepN cfg (n + 1) a c

/-- Global measure: the calls still in the script, then `mu`. -/
def gmu (cfg : Cfg) (s : State) : Nat := (7 * (7 + cfg.rd) + 1) * s.script.length + mu cfg s

theorem api_gmu_idle {cfg : Cfg} {s t : State} {e : Option Ev} (h : ApiStep cfg s .idle e t) (hc : s.cons = .idle)
    (hn : Op.nexts ∉ s.script) : gmu cfg t < gmu cfg s ∧ Op.nexts ∉ t.script := by
  -- the call started weighs at most `6 + rd`, less than what one operation of the script counts for
  have key : ∀ {op rest}, s.script = op :: rest → t.script = rest → t.waiting = s.waiting →
      t.control = s.control → consWeight cfg.rd t.cons ≤ 6 + cfg.rd →
      gmu cfg t < gmu cfg s ∧ Op.nexts ∉ t.script := by
    intro op rest hs ht h1 h3 h4
    rw [hs] at hn
    have h0 : consWeight cfg.rd s.cons = 0 := by rw [hc]; rfl
    refine ⟨?_, ht ▸ fun hh => hn (.tail _ hh)⟩
    simp only [gmu, mu, hs, ht, h1, h.worker, h3, h0, List.length_cons, Nat.mul_succ]; omega
  cases h with
  | nextsDone hs | nextsMore hs => exact absurd (hs ▸ .head _) hn
  | next hs | nextFailed hs | seekFast hs | seek hs | close hs | note hs =>
    exact key hs rfl rfl rfl (by simp only [hc, consWeight]; omega)

theorem gmu_decreases {cfg : Cfg} {s t : State} {l : Label} {e : Option Ev} (hi : Inv cfg s)
    (h : next cfg s l = some (e, t)) (hn : Op.nexts ∉ s.script) :
    gmu cfg t < gmu cfg s ∧ Op.nexts ∉ t.script := by
  have same : t.script = s.script → mu cfg t < mu cfg s → gmu cfg t < gmu cfg s ∧ Op.nexts ∉ t.script :=
    fun hs hm => ⟨by simp only [gmu, hs]; omega, hs ▸ hn⟩
  rcases next_sound h with h | h
  · by_cases hc : s.cons = .idle
    · exact api_gmu_idle (hc ▸ h) hc hn
    · exact same (h.script.resolve_right fun h' => hc h'.1) (h.mu rfl hi hc)
  · exact same h.frame.2.2.2.2.1 (h.mu rfl)

/-- Progress and the decreasing measure give an induction along the steps to a state where the consumer is done: the
reader's counterpart of `comes_to_rest` (Lemmas/WriterLTSLive.lean). -/
theorem comes_to_done {cfg : Cfg} (hc : cfg.OK) {P : State → Prop}
    (done : ∀ s, ApiDone s → P s)
    (back : ∀ s t l e, next cfg s l = some (e, t) → P t → P s)
    {s : State} (hr : Reachable cfg s) (hn : Op.nexts ∉ s.script) : P s := by
  generalize hm : gmu cfg s = m
  induction m using Nat.strongRecOn generalizing s with
  | _ m ih =>
    rcases inv_progress (inv_reachable hc hr) with ⟨l, e, t, hst⟩ | hdone
    · have hd := gmu_decreases (inv_reachable hc hr) hst hn
      exact back s t l e hst (ih (gmu cfg t) (hm ▸ hd.1) (.step hr ⟨l, e, hst⟩) hd.2 rfl)
    · exact done s hdone

end Hts.Model.ReadAhead
