/-
Round trip of the BAI serialisation (model: Hts.Model.IndexIO): reading what was written gives the
canonical form `norm i`; little-endian integer lemmas; the parser lemmas shared with tabix and CSI.

Integers, `rep`/`counted`, chunk, chunk list, statistics body and the trailing count are shared by the three formats.  The
bin loop, the bins and one reference exist twice, for `internal` here (`rBinLoop_bins` … `rRef_wRef`) and for `csi` in
Hts.Lemmas.IndexIOCsi (`rCBinLoop_bins` … `rCRefs_w`), line-by-line twins like the Go code, and so do their reader sides
(IndexIORead / IndexIOCsiRead): a repair goes to both.  From the index body up BAI and tabix share `rIndex_wIndex`,
`wIndex_norm` + `norm_refs_length` (and `rIndex_good`); tabix adds only its header and the name count
(Hts.Lemmas.IndexIOTabix).
-/
import Hts.Lemmas.IndexChunks
import Hts.Model.IndexIO
import Hts.Lemmas.Bytes
namespace Hts.Model.IndexIO
open Hts.Model.Index

theorem byteAt_toNat (n i : Nat) : (byteAt n i).toNat = n / 256 ^ i % 256 := by simp [byteAt]

theorem rU32_le32 (n : Nat) (h : n < 4294967296) (rest : Bytes) : rU32 (le32 n ++ rest) = .ok (n, rest) := by
  simp only [le32, List.cons_append, List.nil_append, rU32, byteAt_toNat, Nat.pow_zero, Nat.pow_one, Nat.div_one,
    Nat.reducePow, Hts.Lemmas.digits4, Nat.mod_eq_of_lt h]

theorem rI32_i32 (x : Int) (h1 : -2147483648 ≤ x) (h2 : x < 2147483648) (rest : Bytes) :
    rI32 (i32 x ++ rest) = .ok (x, rest) := by
  have hx : (x % 4294967296).toNat < 4294967296 ∧ signed32 (x % 4294967296).toNat = x :=
    Hts.Lemmas.signed_wrap (M := 2147483648) h1 h2
  simp only [rI32, i32, rU32_le32 _ hx.1, hx.2]

theorem rI32_natCast (n : Nat) (h : n < 2147483648) (rest : Bytes) :
    rI32 (i32 (n : Int) ++ rest) = .ok ((n : Int), rest) :=
  rI32_i32 n (by omega) (by omega) rest

theorem rI32_le32 (n : Nat) (h : n < 2147483648) (rest : Bytes) : rI32 (le32 n ++ rest) = .ok ((n : Int), rest) := by
  unfold rI32
  rw [rU32_le32 _ (by omega)]
  simp [signed32, h]

theorem rU64_le64 (n : Nat) (h : n < 18446744073709551616) (rest : Bytes) :
    rU64 (le64 n ++ rest) = .ok (n, rest) := by
  have hn : n % 4294967296 < 4294967296 ∧ n / 4294967296 % 4294967296 < 4294967296 ∧
      n % 4294967296 + 4294967296 * (n / 4294967296 % 4294967296) = n := by omega
  simp only [rU64, le64, List.append_assoc, rU32_le32 _ hn.1, rU32_le32 _ hn.2.1, hn.2.2]

/-- an offset that fits the signed 64-bit `vOffset` -/
def OffOK (x : Int) : Prop := -9223372036854775808 ≤ x ∧ x < 9223372036854775808

instance (x : Int) : Decidable (OffOK x) := by unfold OffOK; infer_instance

theorem rOff_i64 (x : Int) (h : OffOK x) (rest : Bytes) : rOff (i64 x ++ rest) = .ok (x, rest) := by
  have hx : (x % 18446744073709551616).toNat < 18446744073709551616 ∧
      signed64 (x % 18446744073709551616).toNat = x :=
    Hts.Lemmas.signed_wrap (M := 9223372036854775808) h.1 h.2
  simp only [rOff, i64, rU64_le64 _ hx.1, hx.2]

theorem rep_map_flatMap {α β : Type} (p : P β) (w : α → Bytes) (f : α → β) : ∀ (xs : List α) (rest : Bytes),
    (∀ x, x ∈ xs → ∀ rest', p (w x ++ rest') = .ok (f x, rest')) →
    rep p xs.length (xs.flatMap w ++ rest) = .ok (xs.map f, rest) := by
  intro xs
  induction xs with
  | nil => intro rest _; rfl
  | cons x xs ih =>
    intro rest h
    simp only [List.length_cons, List.flatMap_cons, List.append_assoc, rep, List.map_cons, h x List.mem_cons_self,
      ih rest fun y hy => h y (List.mem_cons_of_mem _ hy)]

theorem counted_map_flatMap {α β : Type} (p : P β) (w : α → Bytes) (f : α → β) (xs : List α) (rest : Bytes)
    (h : ∀ x, x ∈ xs → ∀ rest', p (w x ++ rest') = .ok (f x, rest')) :
    counted (xs.length : Int) p (xs.flatMap w ++ rest) = .ok (xs.map f, rest) := by
  unfold counted
  rw [if_neg (by omega), Int.toNat_natCast]
  exact rep_map_flatMap p w f xs rest h

theorem counted_flatMap {α : Type} (p : P α) (w : α → Bytes) (xs : List α) (rest : Bytes)
    (h : ∀ x, x ∈ xs → ∀ rest', p (w x ++ rest') = .ok (x, rest')) :
    counted (xs.length : Int) p (xs.flatMap w ++ rest) = .ok (xs, rest) := by
  rw [counted_map_flatMap p w id xs rest h, List.map_id]

theorem rBytes_append (a rest : Bytes) : rBytes a.length (a ++ rest) = .ok (a, rest) := by
  unfold rBytes
  simp

/-- sizes and ranges that the format can store (independent of the order of bins, chunks and tiles) -/
structure RefBounds (r : RefIndex) : Prop where
  nb : r.bins.length + (if r.stats.isSome then 1 else 0) < 2147483648
  bins : ∀ b, b ∈ r.bins → b.bin < 4294967296 ∧ b.bin ≠ statsDummyBin ∧ b.chunks.length < 2147483648 ∧
    ∀ c, c ∈ b.chunks → OffOK c.b ∧ OffOK c.e
  stats : ∀ s, r.stats = some s →
    OffOK s.chunk.b ∧ OffOK s.chunk.e ∧ s.mapped < 18446744073709551616 ∧ s.unmapped < 18446744073709551616
  ivlen : r.intervals.length < 2147483648
  ivs : ∀ v, v ∈ r.intervals → OffOK v

/-- the order `sort()` and the readers establish -/
structure RefSorted (r : RefIndex) : Prop where
  bins : r.bins.Pairwise (fun a b => leBin a b = true)
  chunks : ∀ b, b ∈ r.bins → b.chunks.Pairwise (fun a b => leChunk a b = true)
  ivs : r.intervals.Pairwise (fun a b => leOff a b = true)

/-- an index the formats can represent, with a truthful `IsSorted` flag -/
structure WF (i : Index) : Prop where
  nrefs : i.refs.length < 2147483648
  bounds : ∀ r, r ∈ i.refs → RefBounds r
  flag : i.isSorted = true → ∀ r, r ∈ i.refs → RefSorted r
  um : ∀ n, i.unmapped = some n → n < 18446744073709551616

/-- a bin as the reader leaves it, which is what the writer needs to get it back -/
def BinRead (dummy : Nat) (b : Bin) : Prop :=
  b.bin < 4294967296 ∧ b.bin ≠ dummy ∧ b.chunks.length < 2147483648 ∧
    (∀ c, c ∈ b.chunks → OffOK c.b ∧ OffOK c.e) ∧ b.chunks.Pairwise (fun a b => leChunk a b = true)

def StatsRead (s : Stats) : Prop :=
  OffOK s.chunk.b ∧ OffOK s.chunk.e ∧ s.mapped < 18446744073709551616 ∧ s.unmapped < 18446744073709551616

theorem sortRef_sorted (r : RefIndex) : RefSorted (sortRef r) :=
  { bins := List.pairwise_map.2 (List.pairwise_mergeSort leBin_trans leBin_total r.bins)
    chunks := fun b hb => by
      obtain ⟨b0, _, rfl⟩ := List.mem_map.1 hb
      exact List.pairwise_mergeSort leChunk_trans leChunk_total _
    ivs := List.pairwise_mergeSort leOff_trans leOff_total _ }

theorem sortRef_bounds (r : RefIndex) (h : RefBounds r) : RefBounds (sortRef r) :=
  { nb := by
      show ((r.bins.mergeSort leBin).map _).length + _ < _
      rw [List.length_map, List.length_mergeSort]; exact h.nb
    bins := fun b hb => by
      obtain ⟨b0, hb0, rfl⟩ := List.mem_map.1 hb
      obtain ⟨h1, h2, h3, h4⟩ := h.bins b0 (List.mem_mergeSort.1 hb0)
      exact ⟨h1, h2, Nat.lt_of_le_of_lt (Nat.le_of_eq (List.length_mergeSort _)) h3,
        fun c hc => h4 c (mem_sortChunks.1 hc)⟩
    stats := h.stats
    ivlen := Nat.lt_of_le_of_lt (Nat.le_of_eq (List.length_mergeSort _)) h.ivlen
    ivs := fun v hv => h.ivs v (List.mem_mergeSort.1 hv) }

theorem sort_refs_ok (i : Index) (h : WF i) : ∀ r, r ∈ (sort i).refs → RefBounds r ∧ RefSorted r := by
  intro r hr
  unfold sort at hr
  split at hr
  · rename_i hf; exact ⟨h.bounds r hr, h.flag hf r hr⟩
  · obtain ⟨r0, hr0, rfl⟩ := List.mem_map.1 hr
    exact ⟨sortRef_bounds r0 (h.bounds r0 hr0), sortRef_sorted r0⟩

/-! `internal.ReadIndex` after `internal.WriteIndex`: each lemma is a rewrite rule
`reader (writer x ++ rest) = .ok (x, rest)`, and `simp only` runs through the `match`es of one reader with the rules
of its parts. -/

theorem rChunk_wChunk (c : Chunk) (h : OffOK c.b ∧ OffOK c.e) (rest : Bytes) :
    rChunk (wChunk c ++ rest) = .ok (c, rest) := by
  simp only [rChunk, wChunk, List.append_assoc, rOff_i64 _ h.1, rOff_i64 _ h.2]

theorem rChunks_wChunks (cs : List Chunk)
    (hok : ∀ c, c ∈ cs → OffOK c.b ∧ OffOK c.e) (hs : cs.Pairwise (fun a b => leChunk a b = true)) (rest : Bytes) :
    rChunks (cs.length : Int) (cs.flatMap wChunk ++ rest) = .ok (cs, rest) := by
  unfold rChunks
  split
  · have : cs = [] := List.eq_nil_of_length_eq_zero (by omega)
    subst this; rfl
  · rw [counted_flatMap rChunk wChunk cs rest fun x hx => rChunk_wChunk x (hok x hx)]
    simp only [sortChunks, List.mergeSort_of_pairwise hs]

theorem rStatsBody_w (s : Stats) (h : StatsRead s) (rest : Bytes) :
    rStatsBody (wStatsBody s ++ rest) = .ok (s, rest) := by
  simp only [rStatsBody, rChunk, wStatsBody, List.append_assoc, rOff_i64 _ h.1, rOff_i64 _ h.2.1,
    rU64_le64 _ h.2.2.1, rU64_le64 _ h.2.2.2]

theorem rBinLoop_bins (dummy : Nat) : ∀ (bins : List Bin) (k : Nat) (acc : List Bin) (st : Option Stats)
    (tail : Bytes), (∀ b, b ∈ bins → BinRead dummy b) →
    rBinLoop dummy (bins.length + k) acc st (bins.flatMap wBin ++ tail) =
      rBinLoop dummy k (bins.reverse ++ acc) st tail := by
  intro bins
  induction bins with
  | nil => intro k acc st tail _; rw [List.length_nil, Nat.zero_add]; rfl
  | cons b bs ih =>
    intro k acc st tail h
    obtain ⟨h1, h2, h3, h4, h5⟩ := h b List.mem_cons_self
    rw [List.length_cons, Nat.add_right_comm]
    simp only [rBinLoop, List.flatMap_cons, wBin, wChunks, List.append_assoc, rU32_le32 _ h1, rI32_natCast _ h3,
      h2, if_false, rChunks_wChunks _ h4 h5]
    rw [ih k _ st tail fun x hx => h x (List.mem_cons_of_mem _ hx)]
    simp only [List.reverse_cons, List.append_assoc, List.singleton_append]

theorem rBinLoop_stats (s : Stats) (h : StatsRead s) (acc : List Bin) (st : Option Stats) (rest : Bytes) :
    rBinLoop statsDummyBin 1 acc st (wStats s ++ rest) = .ok ((acc.reverse, some s), rest) := by
  simp only [rBinLoop, wStats, List.append_assoc, rU32_le32 statsDummyBin (by decide), rI32_le32 2 (by decide),
    if_true, rStatsBody_w s h]
  rfl

theorem rBins_of_loop {n : Nat} (h0 : n ≠ 0) (hn : n < 2147483648) {rest rest' : Bytes} {bins : List Bin}
    {st : Option Stats} (h : rBinLoop statsDummyBin n [] none rest = .ok ((bins, st), rest')) :
    rBins (i32 (n : Int) ++ rest) = .ok ((bins.mergeSort leBin, st), rest') := by
  have hz : ¬ (n : Int) = 0 ∧ ¬ (n : Int) < 0 := by omega
  simp only [rBins, rI32_natCast n hn, hz.1, hz.2, if_false, Int.toNat_natCast, h]

theorem rBins_wBins (r : RefIndex) (hb : RefBounds r) (hs : RefSorted r) (rest : Bytes) :
    rBins (wBins r.bins r.stats ++ rest) = .ok ((r.bins, r.stats), rest) := by
  have hbins : ∀ b, b ∈ r.bins → BinRead statsDummyBin b := fun b hbm =>
    have ⟨h1, h2, h3, h4⟩ := hb.bins b hbm
    ⟨h1, h2, h3, h4, hs.chunks b hbm⟩
  have hnb := hb.nb
  have hsort := List.mergeSort_of_pairwise hs.bins
  unfold wBins
  cases hst : r.stats with
  | some s =>
    rw [hst, Option.isSome_some, if_pos rfl] at hnb
    have := rBins_of_loop (Nat.succ_ne_zero r.bins.length) hnb (rest := r.bins.flatMap wBin ++ (wStats s ++ rest))
      (by rw [rBinLoop_bins statsDummyBin r.bins 1 [] none _ hbins, rBinLoop_stats s (hb.stats s hst)])
    simp only [List.append_assoc, List.append_nil, List.reverse_reverse, hsort] at this ⊢
    exact this
  | none =>
    rw [hst, Option.isSome_none, if_neg Bool.false_ne_true, Nat.add_zero] at hnb
    by_cases h0 : r.bins.length = 0
    · rw [List.eq_nil_of_length_eq_zero h0]
      rfl
    · have := rBins_of_loop h0 hnb (rest := r.bins.flatMap wBin ++ rest)
        (by have := rBinLoop_bins statsDummyBin r.bins 0 [] none rest hbins; rwa [Nat.add_zero] at this)
      simpa only [List.append_assoc, List.append_nil, List.reverse_reverse, hsort] using this

theorem rIntervals_w (ivs : List Int) (hlen : ivs.length < 2147483648) (hok : ∀ v, v ∈ ivs → OffOK v)
    (hs : ivs.Pairwise (fun a b => leOff a b = true)) (rest : Bytes) :
    rIntervals (wIntervals ivs ++ rest) = .ok (ivs, rest) := by
  simp only [rIntervals, wIntervals, List.append_assoc, rI32_natCast _ hlen]
  split
  · have : ivs = [] := List.eq_nil_of_length_eq_zero (by omega)
    subst this; rfl
  · simp only [counted_flatMap rOff i64 ivs rest fun x hx => rOff_i64 x (hok x hx), List.mergeSort_of_pairwise hs]

theorem rRef_wRef (r : RefIndex) (hb : RefBounds r) (hs : RefSorted r) (rest : Bytes) :
    rRef (wRef r ++ rest) = .ok (r, rest) := by
  simp only [rRef, wRef, List.append_assoc, rBins_wBins r hb hs, rIntervals_w _ hb.ivlen hb.ivs hs.ivs]

theorem rUnmapped_w (um : Option Nat) (h : ∀ n, um = some n → n < 18446744073709551616) :
    rUnmapped (wUnmapped um) = .ok um := by
  cases um with
  | none => rfl
  | some n =>
    have := rU64_le64 n (h n rfl) []
    rw [List.append_nil] at this
    simp only [rUnmapped, wUnmapped, this]
    rfl

theorem sort_refs_length (i : Index) : (sort i).refs.length = i.refs.length := by
  unfold sort; split
  · rfl
  · exact List.length_map _

theorem rIndex_wIndex (i : Index) (h : WF i) :
    rIndex (i.refs.length : Int) (wIndex i) = .ok (norm i) := by
  have hrefs := sort_refs_ok i h
  -- the count in the statement is `i.refs.length`, the references written are those of `sort i`: `← sort_refs_length` makes
  -- them one list, for which `counted_flatMap` is stated
  simp only [rIndex, wIndex, ← sort_refs_length i, rUnmapped_w _ h.um,
    counted_flatMap rRef wRef (sort i).refs _ fun r hr => rRef_wRef r (hrefs r hr).1 (hrefs r hr).2]
  rfl

theorem sort_norm (i : Index) : sort (norm i) = norm i := by simp [sort, norm]

theorem norm_refs_length (i : Index) : (norm i).refs.length = i.refs.length :=
  sort_refs_length i

theorem wIndex_norm (i : Index) : wIndex (norm i) = wIndex i := by
  unfold wIndex; rw [sort_norm]; rfl

theorem norm_norm (i : Index) : norm (norm i) = norm i := by
  have h := sort_norm i
  show ({ refs := (sort (norm i)).refs, unmapped := (norm i).unmapped, isSorted := true, lastRecord := maxInt } : Index) = _
  rw [h]; rfl

theorem chunks_norm (i : Index) (rid beg stop : Int) (bins : List Nat) :
    chunks (norm i) rid beg stop bins = chunks i rid beg stop bins := by
  unfold chunks
  rw [sort_norm, norm_refs_length]
  rfl

theorem norm_stats (i : Index) (j : Nat) :
    ((norm i).refs[j]?).map (·.stats) = (i.refs[j]?).map (·.stats) := by
  unfold norm sort
  split
  · rfl
  · simp only [List.getElem?_map]
    cases i.refs[j]? <;> rfl

theorem wf_of_unsorted (i : Index) (hf : i.isSorted = false) (hn : i.refs.length < 2147483648)
    (hb : ∀ r, r ∈ i.refs → RefBounds r) (hu : ∀ n, i.unmapped = some n → n < 18446744073709551616) : WF i :=
  { nrefs := hn, bounds := hb, flag := (by intro h; rw [hf] at h; cases h), um := hu }

theorem wf_noRefs (n : Nat) (hn : n < 18446744073709551616) : WF { unmapped := some n } :=
  wf_of_unsorted _ rfl (Nat.zero_lt_succ _) (fun _ hr => absurd hr List.not_mem_nil) (fun _ hm => Option.some.inj hm ▸ hn)

theorem wf_norm (i : Index) (h : WF i) : WF (norm i) :=
  { nrefs := by rw [norm_refs_length]; exact h.nrefs
    bounds := fun r hr => (sort_refs_ok i h r hr).1
    flag := fun _ r hr => (sort_refs_ok i h r hr).2
    um := h.um }

theorem writeBai_norm (i : Index) : writeBai (norm i) = writeBai i := by
  unfold writeBai; rw [wIndex_norm, norm_refs_length]

theorem readBai_writeBai (i : Index) (h : WF i) : readBai (writeBai i) = .ok (norm i) := by
  have hm : ∀ rest, rBytes 4 (baiMagic ++ rest) = .ok (baiMagic, rest) := rBytes_append baiMagic
  simp only [readBai, writeBai, List.append_assoc, hm, ne_eq, not_true_eq_false, if_false, rI32_natCast _ h.nrefs,
    rIndex_wIndex i h]

end Hts.Model.IndexIO
