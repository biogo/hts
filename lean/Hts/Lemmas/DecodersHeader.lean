import Hts.Lemmas.Decoders
import Hts.Model.DecodersHeader
namespace Hts.Model.Decoders
open Outcome (Sat)

theorem fieldLoop_total {σ : Type} (act : σ → Bytes → Bytes → Outcome σ)
    (hact : ∀ st tag val, (act st tag val).isPanic = false) :
    ∀ (fs : List Bytes) (st : σ), (fieldLoop act fs st).isPanic = false
  | [], _ => rfl
  | f :: fs, st => by
    rw [fieldLoop]
    split
    · rfl
    rw [index_of_lt (by omega)]
    dsimp only
    split
    · rfl
    rw [sliceTo_of_le (by omega), sliceFrom_of_le (by omega)]
    dsimp only
    exact (Sat.of_isPanic (hact st (f.take 2) (f.drop 3))).elim rfl fun st' _ => fieldLoop_total act hact fs st'

theorem hexDecodeInto_total (dstLen : Nat) : ∀ (src : Bytes) (i : Nat), i + src.length / 2 ≤ dstLen →
    (hexDecodeInto dstLen i src).isPanic = false
  | [], _, _ => rfl
  | [_], _, _ => rfl
  | a :: b :: rest, i, hi => by
    simp only [List.length_cons] at hi
    rw [hexDecodeInto]
    split
    · rw [if_pos (by omega)]
      exact hexDecodeInto_total dstLen rest (i + 1) (by omega)
    · rfl

theorem stripCRIdx_spec (l : Bytes) : (stripCRIdx l).Sat fun _ => True := by
  unfold stripCRIdx
  refine .ite (fun hpos => ?_) fun _ => trivial
  rw [indexInt_last (by omega)]
  refine .ite (fun _ => ?_) fun _ => trivial
  rw [sliceTo_of_le (by omega)]
  trivial

theorem lineTagBody_spec (l : Bytes) : (lineTagBody l).Sat fun _ => True := by
  unfold lineTagBody
  refine .ite (fun _ => trivial) fun h0 => ?_
  rw [index_of_lt (by omega)]
  refine .ite_err fun h => ?_
  rw [slice_of_le (by omega) (by omega)]
  trivial

theorem lookupName_mem {seen : List (Bytes × Nat)} {name : Bytes} {id : Nat}
    (h : lookupName seen name = some id) : ∃ p ∈ seen, p.2 = id := by
  unfold lookupName at h
  split at h
  · rename_i p hp
    exact ⟨p, List.mem_of_find?_eq_some hp, Option.some.inj h⟩
  · cases h

theorem addRef_spec (t : RefTable) (hwf : t.wf) (name : Bytes) (same replaceable complete : Bool) :
    (addRef t name same replaceable complete).Sat RefTable.wf := by
  unfold addRef
  refine .ite_err fun _ => ?_
  split
  · rename_i dupID hd
    obtain ⟨p, hp, rfl⟩ := lookupName_mem hd
    rw [index_of_lt (by rw [List.length_replicate]; exact hwf p hp)]
    exact .ite (fun _ => hwf) fun _ => .ite (fun _ => hwf) fun _ => trivial
  · intro p hp
    rcases List.mem_cons.mp hp with rfl | h
    · exact Nat.lt_succ_self _
    · exact Nat.lt_succ_of_lt (hwf p h)

end Hts.Model.Decoders
