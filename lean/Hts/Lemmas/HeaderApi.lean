/-
What "built through the API" means for a view; the concrete worlds used as the
counterexample (defect #26) and as the non-vacuity example of the round-trip theorems.
-/
import Hts.Lemmas.HeaderText5
import Hts.Lemmas.HeaderStep
namespace Hts.Model.Header

/-- a reference as the API builds it; nothing is asked of its URI but cleanliness -/
structure ApiRef (name : Bytes) (d : RefD) : Prop where
  name : Clean name
  len : validLen d.len = true
  md5 : d.md5 = [] ∨ (d.md5.length = 16 ∧ ∀ b ∈ d.md5, b < 256)
  asm : Clean d.asm
  sp : Clean d.sp
  uri : ∀ p u, d.uri = some (p, u) → Clean u
  other : WFOther knownRef d.other

structure ApiBuilt (E : Ext) (v : View) : Prop where
  hd : WFHd v.f
  refs : ∀ r ∈ v.refs, ApiRef r.2.1 r.2.2
  rgs : ∀ r ∈ v.rgs, WFRg E r.2.1 r.2.2
  pgs : ∀ r ∈ v.pgs, WFPg r.2.1 r.2.2

/-- every URI is in the form the @SQ parser produces (scheme http, ftp or file): defect #26 -/
def UriCanon (E : Ext) (v : View) : Prop :=
  ∀ r ∈ v.refs, ∀ p u, r.2.2.uri = some (p, u) → E.parseUri u = some u

theorem WFRef.api {E : Ext} {n : Bytes} {d : RefD} (wf : WFRef E n d) : ApiRef n d :=
  ⟨wf.name, wf.len, wf.md5, wf.asm, wf.sp, fun p u hu => (wf.uri p u hu).1, wf.other⟩

theorem normRef_idem (d : RefD) : normRef (normRef d) = normRef d := by
  cases d with
  | mk len md5 asm sp uri other => cases uri <;> rfl

theorem wfview_of (E : Ext) {w : World} (hw : WInv w) {h : Nat} (hh : h < w.hdrs.length)
    (api : ApiBuilt E (view w h)) (uc : UriCanon E (view w h)) : WFView E (view w h) := by
  obtain ⟨⟨tr, htr, Tr⟩, ⟨tg, htg, Tg⟩, ⟨tp, htp, Tp⟩⟩ := kinds_of_winv hw hh
  refine ⟨api.hd, ?_, api.rgs, api.pgs, ?_, items_ids htg Tg, items_ids htp Tp, ?_,
    items_names_nodup htg Tg, items_names_nodup htp Tp⟩
  · intro r hr
    have a := api.refs r hr
    refine ⟨⟨a.name, a.len, a.md5, a.asm, a.sp, fun p u hu => ⟨a.uri p u hu, uc r hr p u hu⟩, a.other⟩, ?_⟩
    obtain ⟨x, _, rfl⟩ := List.mem_map.1 hr
    exact normRef_idem _
  · intro i r hr
    obtain ⟨x, hx, rfl⟩ := getElem?_map_some hr
    exact items_ids htr Tr i x hx
  · have := items_names_nodup htr Tr
    rwa [view, List.map_map]

/-! The concrete worlds below are evaluated by the kernel alone (`decide +kernel`); plain `decide` would have the
elaborator evaluate the parser first. -/

instance : DecidableEq View
  | ⟨f, r, g, p⟩, ⟨f', r', g', p'⟩ =>
    decidable_of_iff (f = f' ∧ r = r' ∧ g = g' ∧ p = p') (by rw [View.mk.injEq])

def wW : World := run goExt {} [.h0, .nr [97] { len := 10, uri := some (0, str "/data/a.fa") }, .ar 0 0]

theorem wW_inv : WInv wW := winv_run goExt _ {} winv_empty

theorem wW_view : view wW 0 = ⟨{}, [(0, [97], { len := 10, uri := some (0, str "/data/a.fa") })], [], []⟩ := by
  decide +kernel

theorem forall_nil {β : Type} {P : β → Prop} : ∀ x ∈ ([] : List β), P x := List.forall_mem_nil P

theorem wfOther_nil (known : List Tag) : WFOther known [] := ⟨List.nodup_nil, forall_nil, forall_nil⟩

theorem wfHd_empty : WFHd {} :=
  ⟨fun _ => ⟨rfl, rfl, rfl⟩, forall_nil, by decide, by decide, wfOther_nil _, rfl, forall_nil⟩

theorem wfRef_bare (E : Ext) {name : Bytes} {len : Int} (hn : Clean name) (hl : validLen len = true) :
    WFRef E name { len := len } :=
  ⟨hn, hl, .inl rfl, forall_nil, forall_nil, (fun _ _ h => nomatch h), wfOther_nil _⟩

theorem wfRg_empty {E : Ext} {name : Bytes} (hn : Clean name) : WFRg E name {} :=
  ⟨hn, forall_nil, forall_nil, .inl rfl, forall_nil, forall_nil, forall_nil, forall_nil, rfl, forall_nil, forall_nil,
    forall_nil, wfOther_nil _⟩

theorem wfPg_empty {name : Bytes} (hn : Clean name) : WFPg name {} :=
  ⟨hn, forall_nil, forall_nil, forall_nil, forall_nil, wfOther_nil _⟩

theorem wW_api : ApiBuilt goExt (view wW 0) := by
  rw [wW_view]
  exact ⟨wfHd_empty, List.forall_mem_singleton.2 ⟨by decide, by decide, .inl rfl, forall_nil, forall_nil,
    (fun p u h => by cases h; decide +kernel), wfOther_nil _⟩, forall_nil, forall_nil⟩

theorem wW_parse : ((view (unmarshalText goExt (pushHeader wW {}) wW.hdrs.length (marshalText wW 0)).1
    wW.hdrs.length).refs.map fun x => x.2.2.uri) = [some (0, str "file:///data/a.fa")] := by decide +kernel

theorem wW_decode : ((view (decodeBinary goExt (pushHeader wW {}) wW.hdrs.length (marshalBinary wW 0)).1
    wW.hdrs.length).refs.map fun x => x.2.2.uri) = [some (0, str "file:///data/a.fa")] := by decide +kernel

def exText : Bytes := str "@HD\tVN:1.6\tSO:coordinate\n@SQ\tSN:chr1\tLN:1000\tM5:000102030405060708090a0b0c0d0e0f\tUR:http://h/a.fa\tXX:v 1\n@RG\tID:g1\tDT:2014-08-13T16:02:01+0530\tPI:-5\n@PG\tID:bwa\tPN:bwa\tVN:0.7\n@CO\ta\tb\n"
def wE : World := run goExt {} [.pa exText]

theorem wE_view : view wE 0 =
    ⟨{ version := str "1.6", so := 3, comments := [str "a\tb"] },
     [(0, str "chr1", { len := 1000, md5 := [0, 1, 2, 3, 4, 5, 6, 7, 8, 9, 10, 11, 12, 13, 14, 15],
                        uri := some (0, str "http://h/a.fa"), other := [((88, 88), str "v 1")] })],
     [(0, str "g1", { dt := str "2014-08-13T16:02:01+0530", pi := -5 })],
     [(0, str "bwa", { pn := str "bwa", vn := str "0.7" })]⟩ := by
  rw [wE, exText, str_ofList]
  decide +kernel

theorem wE_api : ApiBuilt goExt (view wE 0) ∧ UriCanon goExt (view wE 0) := by
  rw [wE_view]
  repeat rw [str_ofList]
  refine ⟨⟨⟨(fun h => nomatch h), by decide +kernel, by decide, by decide, wfOther_nil _, rfl,
      List.forall_mem_singleton.2 (by decide +kernel)⟩,
    List.forall_mem_singleton.2 ⟨by decide +kernel, by decide, .inr ⟨rfl, by decide⟩, forall_nil, forall_nil,
      (fun p u h => by cases h; decide +kernel), by decide, List.forall_mem_singleton.2 (by decide +kernel),
      List.forall_mem_singleton.2 (by decide +kernel)⟩,
    List.forall_mem_singleton.2 ⟨by decide +kernel, forall_nil, forall_nil, .inr (by decide +kernel), forall_nil,
      forall_nil, forall_nil, forall_nil, by decide, forall_nil, forall_nil, forall_nil, wfOther_nil _⟩,
    List.forall_mem_singleton.2 ⟨by decide +kernel, by decide +kernel, forall_nil, forall_nil, by decide +kernel,
      wfOther_nil _⟩⟩,
    List.forall_mem_singleton.2 fun p u hu => by cases hu; decide +kernel⟩

/-- a header built through the API only: four references added and the second one removed, three read groups of
which one is removed and one renamed, three programs -/
def wM : World := run goExt {} [.h0, .sh 0 (str "1.6") 1 2,
  .nr (str "a") { len := 10 }, .nr (str "b") { len := 20 }, .nr (str "c") { len := 30 }, .nr (str "d") { len := 40 },
  .ar 0 0, .ar 0 1, .ar 0 2, .ar 0 3, .rr 0 1,
  .ng (str "g1") {}, .ng (str "g2") {}, .ng (str "g3") {}, .ng (str "g4") {}, .ag 0 0, .ag 0 1, .ag 0 2, .ag 0 3,
  .rg 0 0, .sg 2 (str "x"),
  .np (str "p1") {}, .np (str "p2") {}, .np (str "p3") {}, .ap 0 0, .ap 0 1, .ap 0 2]

theorem wM_view : view wM 0 =
    ⟨{ version := str "1.6", so := 1, go := 2 },
     [(0, str "a", { len := 10 }), (1, str "c", { len := 30 }), (2, str "d", { len := 40 })],
     [(0, str "g2", {}), (1, str "x", {}), (2, str "g4", {})],
     [(0, str "p1", {}), (1, str "p2", {}), (2, str "p3", {})]⟩ := by decide +kernel

theorem wM_api : ApiBuilt goExt (view wM 0) ∧ UriCanon goExt (view wM 0) := by
  rw [wM_view]
  refine ⟨⟨⟨(fun h => nomatch h), by decide +kernel, by decide, by decide, wfOther_nil _, rfl, forall_nil⟩,
    ?_, ?_, ?_⟩, ?_⟩
  · intro r hr
    simp only [List.mem_cons, List.not_mem_nil, or_false] at hr
    rcases hr with rfl | rfl | rfl <;> exact (wfRef_bare goExt (by decide +kernel) (by decide)).api
  · intro r hr
    simp only [List.mem_cons, List.not_mem_nil, or_false] at hr
    rcases hr with rfl | rfl | rfl <;> exact wfRg_empty (by decide +kernel)
  · intro r hr
    simp only [List.mem_cons, List.not_mem_nil, or_false] at hr
    rcases hr with rfl | rfl | rfl <;> exact wfPg_empty (by decide +kernel)
  · intro r hr p u hu
    simp only [List.mem_cons, List.not_mem_nil, or_false] at hr
    rcases hr with rfl | rfl | rfl <;> cases hu

theorem wM_inv : WInv wM := winv_run goExt _ {} winv_empty

theorem wM_sizes : 0 < wM.hdrs.length ∧ ((marshalText wM 0).length : Int) < 2147483648 ∧
    ((view wM 0).refs.length : Int) < 2147483648 ∧
    (∀ r ∈ (view wM 0).refs, (r.2.1.length : Int) + 1 < 2147483648) := by
  refine ⟨by decide +kernel, by rw [marshalText, wM_view]; decide +kernel, by rw [wM_view]; decide, ?_⟩
  rw [wM_view]; intro r hr; simp only [List.mem_cons, List.not_mem_nil, or_false] at hr
  rcases hr with rfl | rfl | rfl <;> decide

theorem wE_inv : WInv wE := winv_run goExt _ {} winv_empty

end Hts.Model.Header
