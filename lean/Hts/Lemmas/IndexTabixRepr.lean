/-
Every tabix index built by `tabix.Index.Add` from a coordinate-sorted input is representable (`TWF`) under
hypotheses on the INPUT only (header fields in range, NUL-free names of bounded total length, sizes).
-/
import Hts.Lemmas.IndexTabixNames
import Hts.Lemmas.IndexIOTabix
import Hts.Lemmas.IndexRepr
namespace Hts.Model.IndexIO
open Hts.Model.Index Hts.Model.Tabix

/-- the header fields `tabix.WriteTo` can store -/
structure HeaderFieldsOK (h : Header) : Prop where
  format : h.format < 256
  nameCol : -2147483648 ≤ h.nameCol ∧ h.nameCol < 2147483648
  begCol : -2147483648 ≤ h.begCol ∧ h.begCol < 2147483648
  endCol : -2147483648 ≤ h.endCol ∧ h.endCol < 2147483648
  metaChar : -2147483648 ≤ h.metaChar ∧ h.metaChar < 2147483648
  skip : -2147483648 ≤ h.skip ∧ h.skip < 2147483648

theorem headerFieldsOK_default : HeaderFieldsOK ({} : Header) :=
  ⟨by decide, by decide, by decide, by decide, by decide, by decide⟩

theorem tabix_built_twf (hdr : Header) (hh : HeaderFieldsOK hdr) (recs : List TRec)
    (h : SortedInput (Tabix.trace Hts.Model.Coord.binFor { hdr := hdr } recs))
    (hlen : recs.length < 2147483647)
    (hoff : ∀ r, r ∈ recs → r.chunk.e < 9223372036854775808)
    (hnul : ∀ r, r ∈ recs → ∀ b, b ∈ r.name → b ≠ 0)
    (hnames : (nameBlock (recs.map (·.name))).length < 2147483648) :
    TWF (Tabix.addAll Hts.Model.Coord.binFor { hdr := hdr } recs).1 := by
  have hsub := addAll_names_sublist Hts.Model.Coord.binFor recs { hdr := hdr }
  rw [List.nil_append] at hsub
  refine
    { idx := ?idx, hdr := ?hdr
      count := Tabix.addAll_count Hts.Model.Coord.binFor recs { hdr := hdr } (Tabix.nameInv_empty hdr) rfl }
  case hdr =>
    rw [addAll_hdr]
    exact
      { hh with
        namesLen := Nat.lt_of_le_of_lt (nameBlock_sublist hsub) hnames
        noNul := fun nm hnm b hb => by
          obtain ⟨r, hr, rfl⟩ := List.mem_map.1 (hsub.subset hnm)
          exact hnul r hr b hb }
  rw [(Tabix.addAll_idx Hts.Model.Coord.binFor recs { hdr := hdr }).1]
  apply built_wf _ h (by rw [trace_length]; exact hlen)
  · -- the id bound needs no hypothesis: an id is at most the number of records (`trace_rid_le`)
    intro x hx
    have := trace_rid_le Hts.Model.Coord.binFor recs { hdr := hdr } (Tabix.nameInv_empty hdr) x hx
    rw [List.length_nil, Nat.zero_add] at this
    omega
  · intro x hx hp
    obtain ⟨r, t', _, rfl⟩ := mem_trace _ recs _ x hx
    exact (h.ok _ hx).binFor_lt hp _
  · intro x hx
    obtain ⟨r, t', hr, rfl⟩ := mem_trace _ recs _ x hx
    exact hoff r hr

end Hts.Model.IndexIO
