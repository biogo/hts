/-
ChunkReader: one `Read` preserves the invariant of Hts.Lemmas.CRInv, hands out a prefix of what is still to be
delivered, and makes progress (`StepOK`); the client loop `readAll` delivers a prefix of the chunks' bytes, all of
them once it reports `io.EOF`, which it does within `mu` calls with non-empty buffers.
-/
import Hts.Lemmas.CRInv
namespace Hts.Model.Bgzf
open Hts.Spec.Flat

/-- The contract of one `Read`.  `mu` (Hts.Lemmas.CRInv) is the termination measure of the client loop. -/
structure StepOK (F : File) (xs0 : List CSpec) (pos rem n : Nat)
    (res : ChunkReader × List UInt8 × Option Err) : Prop where
  ok : res.2.2 = none → ∃ xs' pos' rem', res.1.chunks = xs'.map (·.c) ∧ CRInv F res.1.r xs' pos' rem' ∧
        todo F xs0 pos = res.2.1 ++ todo F xs' pos' ∧ (0 < n → mu F xs' rem' pos' < mu F xs0 rem pos)
  err : ∀ e, res.2.2 = some e → e = .eof ∧ todo F xs0 pos = res.2.1

variable {F : File} {r r' : Reader} {pre : File} {m : Member} {post : File} {k : Nat}
  {x : CSpec} {xs : List CSpec} {pos rem : Nat}

theorem StepOK.eof {xs0 : List CSpec} {n : Nat} (cr : ChunkReader) {out : List UInt8} (h : todo F xs0 pos = out) :
    StepOK F xs0 pos rem n (cr, out, some .eof) :=
  ⟨fun hc => (nomatch hc), fun _ he => ⟨(Option.some.inj he).symm, h⟩⟩

theorem todo_step (hF : F = pre ++ m :: post) (x : CSpec) (xs : List CSpec)
    (k a : Nat) (ha : k + a ≤ m.data.length) (hq : flatLen pre + k + a ≤ x.q) :
    todo F (x :: xs) (flatLen pre + k) = (m.data.drop k).take a ++ todo F (x :: xs) (flatLen pre + k + a) := by
  simp only [todo]
  rw [slice_prefix_at hF k a x.q ha hq, List.append_assoc]

theorem step_finish (hwf : WF F) (hat : At F r' pre m post k) (hb : r'.blocked = true) (x : CSpec) (xs : List CSpec)
    (hv : ∀ y ∈ xs, y.Valid F) (ho : Ordered xs) (out : List UInt8) (pos rem n : Nat)
    (htodo : todo F (x :: xs) pos = out ++ expected F xs) :
    StepOK F (x :: xs) pos rem n (ChunkReader.nextChunk r' (xs.map (·.c)) out) := by
  cases xs with
  | nil => exact StepOK.eof _ (by rw [htodo]; simp [expected])
  | cons y ys =>
    obtain ⟨r1, rem1, hsk, hinv⟩ := CRInv.of_seek hwf hat.sim hb hv ho
    have hnc : ChunkReader.nextChunk r' ((y :: ys).map (·.c)) out = (⟨r1, (y :: ys).map (·.c)⟩, out, none) := by
      simp [ChunkReader.nextChunk, hsk]
    rw [hnc]
    refine ⟨fun _ => ⟨y :: ys, y.p, rem1, rfl, hinv, by rw [htodo]; rfl, fun _ => ?_⟩, fun e he => by cases he⟩
    have := hinv.rem_lt
    simp only [mu, htodo, todo_head, List.length_cons, List.length_append, Nat.succ_mul]
    omega

theorem step_same (h : CRInv F r (x :: xs) pos rem) {a : Nat}
    (hat' : At F r' pre m post (k + a)) (hb' : r'.blocked = true)
    (hl' : r'.lastChunk.fin = ⟨csum pre, k + a⟩) (hpos : pos = flatLen pre + k) (hq : pos + a ≤ x.q) (n : Nat)
    (hprog : 0 < n → 0 < a ∨ post.length < rem) (hrem : post.length ≤ rem) :
    StepOK F (x :: xs) pos rem n
      ((⟨r', x.c :: xs.map (·.c)⟩ : ChunkReader), (m.data.drop k).take a, none) := by
  have hr := h.range x xs rfl
  have ha := hat'.le
  have htd : todo F (x :: xs) pos = (m.data.drop k).take a ++ todo F (x :: xs) (pos + a) := by
    subst hpos; exact todo_step hat'.split x xs k a ha hq
  refine ⟨fun _ => ⟨x :: xs, pos + a, post.length, rfl,
    ⟨h.valid, h.ordered, hb', ⟨pre, m, post, k + a, hat', by omega, hl', rfl⟩, ?_⟩, htd, ?_⟩,
    fun e he => by cases he⟩
  · intro w ws hw
    cases hw; omega
  · intro hn0
    have := hprog hn0
    have hl : ((m.data.drop k).take a).length = a := by simp; omega
    simp only [mu, htd, List.length_append, hl]
    omega

/-- The part of `ChunkReader.Read` that follows the call of `Reader.Read` (`last` is `LastChunk()` before it). -/
def ChunkReader.afterRead (last c : Chunk) (rest : List Chunk) (n : Nat) :
    Reader × List UInt8 × Option Err → ChunkReader × List UInt8 × Option Err
  | (r', out, some e) => (⟨r', c :: rest⟩, out, if out.length ≠ 0 ∧ e = .eof then none else some e)
  | (r', out, none) =>
    if (n ≠ 0 ∧ r'.lastChunk = last) ∨ vOffset c.fin ≤ vOffset r'.lastChunk.fin then ChunkReader.nextChunk r' rest out
    else (⟨r', c :: rest⟩, out, none)

theorem ChunkReader.readCore_eq (r0 : Reader) (c : Chunk) (rest : List Chunk) (n : Nat) :
    ChunkReader.readCore r0 c rest n =
      if (if c.fin.block = 0 ∧ r0.lastChunk.fin.file < c.fin.file then r0.blockLen else c.fin.block) <
          (if r0.lastChunk.fin.file = c.fin.file then r0.lastChunk.fin.block else 0) then
        (⟨r0, c :: rest⟩, [], some .panic)
      else ChunkReader.afterRead r0.lastChunk c rest n (r0.read (min n
        ((if c.fin.block = 0 ∧ r0.lastChunk.fin.file < c.fin.file then r0.blockLen else c.fin.block) -
          (if r0.lastChunk.fin.file = c.fin.file then r0.lastChunk.fin.block else 0)))) := by
  unfold ChunkReader.readCore ChunkReader.afterRead
  rfl

/-- `hstart`: the Blocked read of `N` bytes started where the last read ended, or in a later member (the skip over
empty blocks came first); `hq`: it stayed inside the first chunk. -/
theorem afterRead_spec (hwf : WF F) (h : CRInv F r (x :: xs) pos rem) {N : Nat} (n : Nat)
    (hk : k < m.data.length) (hat' : At F r' pre m post (k + min N (m.data.length - k)))
    (hb' : r'.blocked = true) (hl' : r'.lastChunk.fin = ⟨csum pre, k + min N (m.data.length - k)⟩)
    (hpos : pos = flatLen pre + k) (hq : pos + N ≤ x.q ∨ pos + (m.data.length - k) ≤ x.q)
    (hstart : (r.lastChunk.fin = ⟨csum pre, k⟩ ∧ post.length ≤ rem ∧ (0 < n → 0 < N)) ∨
      (r.lastChunk.fin.file < csum pre ∧ post.length < rem)) :
    StepOK F (x :: xs) pos rem n (ChunkReader.afterRead r.lastChunk x.c (xs.map (·.c)) n
      (r', (m.data.drop k).take N, if m.data.length - k < N then some .eof else none)) := by
  rw [List.take_eq_take_min, List.length_drop]
  replace hq : pos + min N (m.data.length - k) ≤ x.q :=
    hq.elim (Nat.le_trans (Nat.add_le_add_left (Nat.min_le_left _ _) _))
      (Nat.le_trans (Nat.add_le_add_left (Nat.min_le_right _ _) _))
  have hsame := step_same h hat' hb' hl' hpos hq n (by omega) (by omega)
  by_cases herr : m.data.length - k < N
  · -- `io.EOF` with bytes: the block ended before the chunk did
    have hne : ((m.data.drop k).take (min N (m.data.length - k))).length ≠ 0 := by simp; omega
    simpa only [ChunkReader.afterRead, herr, if_true, hne, ne_eq, not_false_eq_true, and_self] using hsame
  · simp only [ChunkReader.afterRead, herr, if_false]
    by_cases hv : vOffset x.c.fin ≤ vOffset r'.lastChunk.fin
    · rw [if_pos (Or.inr hv)]
      have hqe := exhausted_pos hwf hat'.split hat'.le (h.valid x (by simp)).fin (hl' ▸ hv)
      apply step_finish hwf hat' hb' x xs (fun y hy => h.valid y (by simp [hy])) h.ordered.tail _ pos rem n
      have htd := todo_step hat'.split x xs k _ hat'.le (by omega)
      rw [hpos, htd]
      simp [todo, show flatLen pre + k + min N (m.data.length - k) = x.q by omega, slice_self]
    · rw [if_neg]
      · exact hsame
      · rintro (⟨hn, he⟩ | hv')
        · -- a read of `n > 0` bytes moves `LastChunk().End`
          rw [he] at hl'
          rcases hstart with ⟨h1, _, h3⟩ | ⟨h1, _⟩
          · rw [h1] at hl'; simp at hl'; omega
          · rw [hl'] at h1; simp at h1
        · exact hv hv'

theorem readCore_spec (hwf : WF F)
    (h : CRInv F r (x :: xs) pos rem) (hne : vOffset r.lastChunk.fin < vOffset x.c.fin) (n : Nat) :
    StepOK F (x :: xs) pos rem n (ChunkReader.readCore r x.c (xs.map (·.c)) n) := by
  obtain ⟨pre, m, post, k, hat, hpos, hfin, hrem⟩ := h.at_
  have hvx := h.valid x (by simp)
  have hr := h.range x xs rfl
  have hm := WF.mid (hat.split ▸ hwf)
  have hk := hat.le
  obtain ⟨hEb, hE⟩ := toLogical_cases hwf hat.split hvx.fin
  rw [hfin, vOffset_lt_iff (Nat.lt_of_le_of_lt hk hm.2) hEb] at hne
  simp only at hne
  rw [ChunkReader.readCore_eq, hfin]
  simp only [Reader.blockLen, hat.cur_len]
  rcases hE with ⟨h1, _⟩ | ⟨h1, h2, h3⟩ | ⟨h1, h2⟩
  · omega
  · -- the chunk ends in the current member: the rest of the chunk is asked for
    have hkb : k < x.c.fin.block := by omega
    simp only [h1, Nat.lt_irrefl, and_false, if_false, if_true, Nat.not_lt.mpr (Nat.le_of_lt hkb)]
    obtain ⟨r', heq, hat', hb', hl'⟩ :=
      read_blocked_canon hwf hat (Nat.lt_of_lt_of_le hkb h2) h.blocked (min n (x.c.fin.block - k))
    rw [heq]
    exact afterRead_spec hwf h n (Nat.lt_of_lt_of_le hkb h2) hat' hb' (by rw [hl']) hpos (Or.inl (by omega))
      (Or.inl ⟨hfin, Nat.le_of_eq hrem.symm, fun hn => Nat.lt_min.mpr ⟨hn, Nat.sub_pos_of_lt hkb⟩⟩)
  · -- the chunk ends in a later member or at the end of the file
    have hc1 : csum pre < x.c.fin.file := by omega
    have hc2 : ¬ (csum pre = x.c.fin.file) := by omega
    simp only [hc1, and_true, hc2, if_false, Nat.not_lt_zero, Nat.sub_zero]
    generalize hN : (if x.c.fin.block = 0 then m.data.length - k else x.c.fin.block) = N
    -- inside `m` something is asked for; at its end no more than `End.Block` (nothing when that is 0)
    have hN1 : k < m.data.length → 0 < N := by subst hN; split <;> omega
    have hN2 : k = m.data.length → N ≤ x.c.fin.block := by subst hN; split <;> omega
    clear hN hne hEb hc1 hc2 h1  -- not needed below, and `omega` is cheaper without them (likewise the `clear` further down)
    -- the read starts at the next byte of the data, possibly in a later member
    obtain ⟨hfr, ⟨pre1, m1, post1, k1, hat1, hk1, hp1, hrel⟩ | ⟨heof, hp1⟩⟩ :=
      skipEmpty_at hwf hat hat.skipFuel
    · obtain ⟨r', heq, hat', hb', hl'⟩ := read_blocked_canon hwf hat1 hk1 (hfr.2.2.trans h.blocked) (min n N)
      rw [read_skip_idem hat1 hk1 hat.err, heq]
      rcases hrel with ⟨rfl, rfl, rfl, rfl⟩ | ⟨hkl, rfl, hcs, hpl⟩
      · have hN0 := hN1 hk1
        exact afterRead_spec hwf h n hk1 hat' hb' (by rw [hl']) hpos (Or.inr (by omega))
          (Or.inl ⟨hfin, Nat.le_of_eq hrem.symm, fun hn => Nat.lt_min.mpr ⟨hn, hN0⟩⟩)
      · -- the skip went on to a later member `m1`; at most `End.Block` bytes are asked for, none when it is 0 (`End` at the
        -- start of `m1` or of an empty member before it): that read of 0 bytes is made all the same, it moves the reader to
        -- `m1`, and the test `vOffset c.fin ≤ vOffset this.fin` in `afterRead` then drops the chunk
        have hNb := hN2 hkl
        clear hN1 hN2
        exact afterRead_spec hwf h n hk1 hat' hb' (by rw [hl']) (by omega) (Or.inl (by omega))
          (Or.inr ⟨by rw [hfin]; show csum pre < _; omega, hrem ▸ hpl⟩)
    · -- no data follows: the chunk ends at the end of the data
      rw [read_skip_err r _ .eof hat.err heof.err]
      exact StepOK.eof _ (h.todo_nil (by omega))

theorem read_spec (hwf : WF F) (h : CRInv F r xs pos rem) (n : Nat) :
    StepOK F xs pos rem n ((ChunkReader.mk r (xs.map (·.c))).read n) := by
  rcases advance_spec hwf xs r pos rem h with ⟨r', ch, e1, e2⟩ | ⟨r', x, xs', pos', rem', e1, e2, e3, e4, hmu⟩
  · simp only [ChunkReader.read, e1]
    exact StepOK.eof _ e2
  · have hcore := readCore_spec hwf e2 e4 n
    have hread : (ChunkReader.mk r (xs.map (·.c))).read n =
        ChunkReader.readCore r' x.c (xs'.map (·.c)) n := by
      simp [ChunkReader.read, e1]
    rw [hread]
    refine ⟨fun hn => ?_, fun e he => e3 ▸ hcore.err e he⟩
    obtain ⟨xs'', pos'', rem'', a1, a2, a3, a4⟩ := hcore.ok hn
    exact ⟨xs'', pos'', rem'', a1, a2, e3 ▸ a3, fun hn0 => Nat.lt_of_lt_of_le (a4 hn0) hmu⟩

theorem readAll_spec (hwf : WF F) {ns : List Nat} {cr : ChunkReader} (hc : cr.chunks = xs.map (·.c))
    (h : CRInv F cr.r xs pos rem) :
    (∃ rest, todo F xs pos = (cr.readAll ns).1 ++ rest) ∧
    ((cr.readAll ns).2 = none ∨ (cr.readAll ns).2 = some .eof) ∧
    ((cr.readAll ns).2 = some .eof → (cr.readAll ns).1 = todo F xs pos) ∧
    ((∀ n ∈ ns, 0 < n) → mu F xs rem pos < ns.length → (cr.readAll ns).2 = some .eof) := by
  induction ns generalizing cr xs pos rem with
  | nil => exact ⟨⟨_, rfl⟩, Or.inl rfl, fun hc => (by cases hc), fun _ hlt => by simp at hlt⟩
  | cons n ns ih =>
    have hstep : StepOK F xs pos rem n (cr.read n) := by
      obtain ⟨r, ch⟩ := cr
      subst hc
      exact read_spec hwf h n
    rcases hrd : cr.read n with ⟨cr', out, e⟩
    rw [hrd] at hstep
    cases e with
    | some e =>
      obtain ⟨rfl, htd⟩ := hstep.err e rfl
      simp only [ChunkReader.readAll, hrd]
      exact ⟨⟨[], by simp [htd]⟩, Or.inr trivial, fun _ => htd.symm, fun _ _ => trivial⟩
    | none =>
      obtain ⟨xs', pos', rem', a1, a2, a3, a4⟩ := hstep.ok rfl
      obtain ⟨⟨rest, hrest⟩, i2, i3, i4⟩ := ih a1 a2
      simp only [ChunkReader.readAll, hrd]
      refine ⟨⟨rest, by rw [a3, hrest, List.append_assoc]⟩, i2, fun he => by rw [a3, i3 he], fun hpos hlt => ?_⟩
      apply i4 (fun m hm => hpos m (by simp [hm]))
      have := a4 (hpos n (by simp))
      simp at hlt; omega

/-- Upper bound on the number of `Read` calls with non-empty buffers before `io.EOF`. -/
def readBound (F : File) (xs : List CSpec) : Nat :=
  xs.length * (F.length + 2) + F.length + (expected F xs).length

end Hts.Model.Bgzf
