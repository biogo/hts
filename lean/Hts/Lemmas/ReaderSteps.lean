/-
`Seek`, `ReadByte`, `NewReader` and whole histories: the reader model refines the flat specification.
Also the example file of the non-vacuity statements of C02, C09 and C13.
-/
import Hts.Lemmas.ReaderSim
namespace Hts.Model.Bgzf
open Hts.Spec.Flat

variable {F : File} {r : Reader} {s : State}

theorem seek_split (hwf : WF F) (h : Sim F r s) {pre : File} {m : Member}
    {post : File} (hF : F = pre ++ m :: post) {j : Nat} (hmem : memberAt F (csum pre) = .ok m)
    (hmod : j % 65536 = j) :
    r.seek ⟨csum pre, j⟩ = ({ r with cur := ⟨csum pre, m.csize, m.data, j, ⟨csum pre, j⟩⟩, err := none,
                                      lastChunk := ⟨⟨csum pre, j⟩, ⟨csum pre, j⟩⟩ }, none) := by
  by_cases hne : csum pre ≠ r.cur.base
  · simp [Reader.seek, hne, Block.load, h.file, hmem, Block.seek, hmod]
  · rcases h.pos with ⟨pre0, m0, post0, k, hat, _⟩ | ⟨heof, _⟩
    · obtain ⟨rfl, rfl, rfl⟩ := hat.split_eq hwf hF (Decidable.not_not.mp hne).symm
      have hd : m0.csize ≠ 0 := by have := (WF.mid (hF ▸ hwf)).1; omega
      simp [Reader.seek, hat.cur, Block.hasData, hd, Block.seek, hmod]
    · have := csum_lt_of_split pre post m (hF ▸ hwf)
      rw [← hF, ← heof.base] at this; omega

/-- The conjunct `o = ⟨csum pre, o.block⟩` is there for the ChunkReader's invariant (`CRInv.of_seek`); `sim_seek` drops it. -/
theorem seek_at (hwf : WF F) (h : Sim F r s) (o : Offset) (p : Nat) (hs : seekTarget (layoutOf F) o = some p) :
    ∃ r', r.seek o = (r', none) ∧ r'.lastChunk = ⟨o, o⟩ ∧ r'.blocked = r.blocked ∧
      ∃ pre m post, At F r' pre m post o.block ∧ o = ⟨csum pre, o.block⟩ ∧ p = flatLen pre + o.block := by
  obtain ⟨pre, m, post, hF, ho, hb, hp, hmem, hmod⟩ := seekTarget_member F o p hwf hs
  rw [ho] at hmem
  rw [ho, seek_split hwf h hF hmem hmod]
  exact ⟨_, rfl, rfl, rfl, pre, m, post, ⟨h.file, hF, rfl, hb, rfl⟩, rfl, hp⟩

theorem sim_seek (hwf : WF F) (h : Sim F r s) (o : Offset) (p : Nat) (hs : seekTarget (layoutOf F) o = some p) :
    ∃ r', r.seek o = (r', none) ∧ Sim F r' { s with pos := p, last := ⟨o, o⟩ } := by
  obtain ⟨r', heq, hl, hb, pre, m, post, hat, _, hp⟩ := seek_at hwf h o p hs
  exact ⟨r', heq, hat.file, hb.trans h.blocked, hl, Or.inl ⟨pre, m, post, _, hat, hp⟩⟩

theorem readByte_eq_read (hwf : WF F) (h : Sim F r s) :
    r.readByte = ((r.read 1).1, (r.read 1).2.1.headD 0, (r.read 1).2.2) := by
  rcases h.pos with ⟨pre, m, post, k, hat, -⟩ | ⟨heof, -⟩
  · obtain ⟨-, ⟨pre1, m1, post1, k1, hat1, hk1, -, -⟩ | ⟨heof1, -⟩⟩ := skipEmpty_at hwf hat hat.skipFuel
    · have hlen : m1.data.length < 65536 := (WF.mid (hat1.split ▸ hwf)).2
      rw [read_skip_idem hat1 hk1 hat.err, read_canon hat1 hk1,
        readLoop_within hwf hat1.setBgn 1 _ (by omega) (by omega)]
      have hd : m1.data.drop k1 = m1.data[k1] :: m1.data.drop (k1 + 1) := List.drop_eq_getElem_cons hk1
      simp only [Reader.readByte, hat.err]
      rw [hat1.reader_eq]
      simp only [Block.readByte_mk_lt _ _ _ _ _ hk1 hlen, Reader.setEnd,
        Reader.adv, Reader.setBgn, hd, List.take_succ_cons, List.take_zero, List.headD_cons]
    · have he1 : (r.skipEmpty r.skipFuel).err = some .eof := heof1.err
      rw [read_skip_err r 1 .eof hat.err he1]
      simp [Reader.readByte, hat.err, he1]
  · rw [read_err r 1 .eof heof.err]
    simp [Reader.readByte, heof.err]

theorem sim_readByte (hwf : WF F) (h : Sim F r s) :
    ∃ r', r.readByte = (r', (Hts.Spec.Flat.readByte (flatOf F) s).1,
        errOf (Hts.Spec.Flat.readByte (flatOf F) s).2.1) ∧
      Sim F r' (Hts.Spec.Flat.readByte (flatOf F) s).2.2 := by
  obtain ⟨r', heq, hsim⟩ := sim_read hwf h 1
  rw [readByte_eq_read hwf h, heq]
  exact ⟨r', rfl, hsim⟩

theorem sim_setBlocked (h : Sim F r s) (b : Bool) :
    Sim F (r.setBlocked b) (setBlocked s b) := by
  obtain ⟨hfile, hblk, hlast, hpos⟩ := h
  refine ⟨hfile, rfl, hlast, ?_⟩
  rcases hpos with ⟨pre, m, post, k, hat, hp⟩ | ⟨heof, hp⟩
  · exact Or.inl ⟨pre, m, post, k, hat.congr rfl rfl rfl, hp⟩
  · exact Or.inr ⟨⟨heof.file, heof.err, heof.base, heof.tx⟩, hp⟩

theorem sim_new {r0 : Reader} (h : Reader.new F = .ok r0) : Sim F r0 init := by
  obtain ⟨m, post, rfl, rfl⟩ := Reader.new_ok h
  exact ⟨rfl, rfl, rfl, Or.inl ⟨[], m, post, 0, ⟨rfl, rfl, rfl, Nat.zero_le _, rfl⟩, rfl⟩⟩

/-- `ValidOps` (Spec/FlatFile.lean) for one operation: `validOps_cons`. -/
def OpValid (L : Layout) : Op → Prop
  | .seek o => (seekTarget L o).isSome
  | _ => True

theorem sim_step (hwf : WF F) (h : Sim F r s) (op : Op) (hv : OpValid (layoutOf F) op) :
    (r.step op).2.bytes = (step (flatOf F) s op).2.bytes ∧
    (r.step op).2.err = errOf (step (flatOf F) s op).2.eof ∧
    (r.step op).1.lastChunk = (step (flatOf F) s op).2.last ∧
    Sim F (r.step op).1 (step (flatOf F) s op).1 := by
  cases op with
  | read n =>
    obtain ⟨r', heq, hsim⟩ := sim_read hwf h n
    simp only [Reader.step, heq]
    exact ⟨rfl, rfl, hsim.last, hsim⟩
  | readByte =>
    obtain ⟨r', heq, hsim⟩ := sim_readByte hwf h
    simp only [Reader.step, heq]
    exact ⟨rfl, rfl, hsim.last, hsim⟩
  | seek o =>
    obtain ⟨p, hp⟩ := Option.isSome_iff_exists.mp hv
    obtain ⟨r', heq, hsim⟩ := sim_seek hwf h o p hp
    have hsk : Hts.Spec.Flat.seek (flatOf F) s o = some { s with pos := p, last := ⟨o, o⟩ } := by
      simp [Hts.Spec.Flat.seek, flatOf, hp]
    simp only [Reader.step, heq, step, hsk]
    exact ⟨trivial, rfl, hsim.last, hsim⟩
  | setBlocked b =>
    have := sim_setBlocked h b
    exact ⟨rfl, rfl, h.last, this⟩

/-- What is observed of an operation of the model: bytes, error, `LastChunk()`. -/
def Reader.observe (p : Out × Reader) : List UInt8 × Option Err × Chunk := (p.1.bytes, p.1.err, p.2.lastChunk)

def observeFlat (o : Obs) : List UInt8 × Option Err × Chunk := (o.bytes, errOf o.eof, o.last)

theorem validOps_cons {L : Layout} {op : Op} {ops : List Op} (h : ValidOps L (op :: ops)) :
    OpValid L op ∧ ValidOps L ops := by
  cases op <;> simp_all [ValidOps, OpValid]

theorem run_refines (hwf : WF F) {ops : List Op} (h : Sim F r s) (hv : ValidOps (layoutOf F) ops) :
    (r.run ops).map Reader.observe = (run (flatOf F) s ops).map observeFlat := by
  induction ops generalizing r s with
  | nil => rfl
  | cons op ops ih =>
    have ⟨hv1, hv2⟩ := validOps_cons hv
    have ⟨h1, h2, h3, h4⟩ := sim_step hwf h op hv1
    simp only [Reader.run, run, List.map_cons, List.cons.injEq]
    refine ⟨?_, ih h4 hv2⟩
    simp only [Reader.observe, observeFlat, h1, h2, h3]

def Reader.after (r : Reader) : List Op → Reader
  | [] => r
  | op :: ops => Reader.after (r.step op).1 ops

def stateAfter (F : FlatFile) (s : State) : List Op → State
  | [] => s
  | op :: ops => stateAfter F (step F s op).1 ops

theorem sim_after (hwf : WF F) {ops : List Op} (h : Sim F r s) (hv : ValidOps (layoutOf F) ops) :
    Sim F (r.after ops) (stateAfter (flatOf F) s ops) := by
  induction ops generalizing r s with
  | nil => exact h
  | cons op ops ih =>
    have ⟨hv1, hv2⟩ := validOps_cons hv
    exact ih (sim_step hwf h op hv1).2.2.2 hv2

/-- Example file for the non-vacuity statements: empty members in the middle and at the end. -/
def exFile : File := [⟨[1, 2, 3], 30⟩, ⟨[], 28⟩, ⟨[4, 5], 31⟩, ⟨[], 28⟩]

theorem exFile_wf : WF exFile := by
  unfold WF exFile; decide

end Hts.Model.Bgzf
