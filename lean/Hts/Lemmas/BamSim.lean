/-
The record framing of `bam.Reader` over the flat specification: `io.ReadFull` under `Sim`, `recSize` and `RecAt`, the
relation `BSim` and that every use of a `bam.Reader` keeps it (`bsim_newBuffer`, `bsim_read`, `bsim_setChunk`), `recChunks`
and the sequential pass.
Each of `readFull`, `newBuffer`, `BamReader.read`, `readN`, `setChunk`, `consumeHeader`, `BamReader.new`
(Model/BamChunks.lean) has a twin client in Model/BamOverLTS.lean (`cReadFull` … `cBamNew`) whose equation `c…_run`
(Lemmas/BamOverLTS.lean) has to follow every change of it; `newBuffer` is taken apart by cases here (`newBuffer_record`,
`newBuffer_eof`, `bsim_newBuffer`), in `cNewBuffer_run` and in `C13.newBuffer_eof_only_at_record_boundary`.
-/
import Hts.Lemmas.ReaderSteps
import Hts.Model.BamChunks
import Hts.Lemmas.Bytes
namespace Hts.Model.Bgzf
open Hts.Spec.Flat

variable {F : File} {r : Reader} {br : BamReader} {s : State}

theorem leInt32_le32 (n : Nat) (h : n < 2147483648) : leInt32 (le32 n) = (n : Int) := by
  have hm (x : Nat) : (UInt8.ofNat (x % 256)).toNat = x % 256 := by simp
  simp only [leInt32, le32, List.getD_cons_zero, List.getD_cons_succ, hm, Hts.Lemmas.digits4,
    Nat.mod_eq_of_lt (show n < 4294967296 by omega), h, if_true]

theorem sim_readFull_ok (hwf : WF F) (h : Sim F r s)
    (hb : s.blocked = false) (n : Nat) (hn : 0 < n) (hle : s.pos + n ≤ flatLen F) :
    ∃ r', readFull r n = (r', ((flatBytes F).drop s.pos).take n, none) ∧
      Sim F r' ⟨s.pos + n, false, ⟨offBefore (layoutOf F) s.pos, offAfter (layoutOf F) (s.pos + n)⟩⟩ := by
  obtain ⟨r', heq, hsim⟩ := sim_read hwf h n
  rw [flat_read_enough (flatOf F) s n hb hn (by simpa [flatOf] using hle)] at heq hsim
  have hlen : n ≤ (((flatBytes F).drop s.pos).take n).length := by simp; omega
  exact ⟨r', by simp only [readFull, Nat.ne_of_gt hn, if_false, heq, flatOf, hlen, if_true], hsim⟩

theorem sim_readFull_eof (hwf : WF F) (h : Sim F r s) (n : Nat) (hn : 0 < n) (hle : flatLen F ≤ s.pos) :
    ∃ r', readFull r n = (r', [], some .eof) ∧ Sim F r' s := by
  obtain ⟨r', heq, hsim⟩ := sim_read hwf h n
  rw [flat_read_eof (flatOf F) s n (by simpa [flatOf] using hle)] at heq hsim
  exact ⟨r', by simp [readFull, Nat.ne_of_gt hn, heq, errOf, Nat.not_le.mpr hn], hsim⟩

theorem sim_readFull_any (hwf : WF F) (h : Sim F r s) (n : Nat) :
    ∃ s', Sim F (readFull r n).1 s' ∧ s'.blocked = s.blocked := by
  obtain ⟨r', heq, hsim⟩ := sim_read hwf h n
  have hb := flat_read_blocked (flatOf F) s n
  unfold readFull
  by_cases hn : n = 0
  · rw [if_pos hn]; exact ⟨s, h, rfl⟩
  · simp only [hn, if_false, heq]
    by_cases hle : n ≤ (Hts.Spec.Flat.read (flatOf F) s n).bytes.length
    · rw [if_pos hle]; exact ⟨_, hsim, hb⟩
    · rw [if_neg hle]
      cases (Hts.Spec.Flat.read (flatOf F) s n).eof <;> exact ⟨_, hsim, hb⟩

/-- Total encoded size of a list of records. -/
def recSize : List (List UInt8) → Nat
  | [] => 0
  | b :: bs => 4 + b.length + recSize bs

@[simp] theorem frames_length (bs : List (List UInt8)) : (frames bs).length = recSize bs := by
  induction bs with
  | nil => rfl
  | cons b bs ih => simp [frames, frame, le32, recSize, ih]; omega

/-- From logical position `p` to the end of the data the flat stream consists of the records `bs`. -/
structure RecAt (F : File) (p : Nat) (bs : List (List UInt8)) : Prop where
  data : (flatBytes F).drop p = frames bs
  sizes : ∀ b ∈ bs, 0 < b.length ∧ b.length < 2147483648

theorem RecAt.total {p : Nat} {bs : List (List UInt8)} (h : RecAt F p bs) (hp : p ≤ flatLen F) :
    p + recSize bs = flatLen F := by
  have := congrArg List.length h.data
  simp at this; omega

theorem recSize_append (R B : List (List UInt8)) : recSize (R ++ B) = recSize R + recSize B := by
  induction R with
  | nil => simp [recSize]
  | cons x R ih => simp [recSize, ih]; omega

theorem frames_append (A R : List (List UInt8)) : frames (A ++ R) = frames A ++ frames R := by
  induction A with
  | nil => rfl
  | cons a A ih => simp [frames, ih]

theorem RecAt.skip {p : Nat} {A R : List (List UInt8)} (h : RecAt F p (A ++ R)) :
    RecAt F (p + recSize A) R := by
  refine ⟨?_, fun x hx => h.sizes x (by simp [hx])⟩
  rw [← List.drop_drop, h.data, frames_append, List.drop_left' (frames_length A)]

theorem RecAt.tail {p : Nat} {b : List UInt8} {bs : List (List UInt8)} (h : RecAt F p (b :: bs)) :
    RecAt F (p + (4 + b.length)) bs :=
  h.skip (A := [b])

/-- The bgzf reader under a `bam.Reader` represents the flat state `s`; bam never sets Blocked.  It looks at `br.r` only
but is indexed by `br`: for a `br'` with the same `r` it is rebuilt from `.sim` and `.unblocked`. -/
structure BSim (F : File) (br : BamReader) (s : State) : Prop where
  sim : Sim F br.r s
  unblocked : s.blocked = false

theorem newBuffer_record (hwf : WF F) (h : BSim F br s)
    {b : List UInt8} {bs : List (List UInt8)} (hr : RecAt F s.pos (b :: bs)) (hp : s.pos ≤ flatLen F) :
    ∃ br', br.newBuffer = (br', .ok b) ∧ br'.c = br.c ∧
      br'.lastChunk = ⟨offBefore (layoutOf F) s.pos, offAfter (layoutOf F) (s.pos + (4 + b.length))⟩ ∧
      BSim F br' ⟨s.pos + (4 + b.length), false,
        ⟨offBefore (layoutOf F) (s.pos + 4), offAfter (layoutOf F) (s.pos + (4 + b.length))⟩⟩ := by
  have htot := hr.total hp
  have ⟨hb0, hb1⟩ := hr.sizes b (by simp)
  simp only [recSize] at htot
  obtain ⟨r1, h1, s1⟩ := sim_readFull_ok hwf h.sim h.unblocked 4 (by omega) (by omega)
  obtain ⟨r2, h2, s2⟩ := sim_readFull_ok hwf s1 rfl b.length hb0 (by simp only []; omega)
  have hd4 : (flatBytes F).drop (s.pos + 4) = b ++ frames bs := by
    rw [← List.drop_drop, hr.data]; simp [frames, frame, le32]
  have hsz : ((flatBytes F).drop s.pos).take 4 = le32 b.length := by
    rw [hr.data]; simp [frames, frame, le32]
  rw [hsz] at h1
  simp only [hd4, List.take_left'] at h2
  have hne : ¬ ((b.length : Int) = 0) := by omega
  have hnn : ¬ ((b.length : Int) < 0) := by omega
  rw [Nat.add_assoc] at s2
  refine ⟨{ br with r := r2, lastChunk := ⟨r1.lastChunk.bgn, r2.lastChunk.fin⟩ },
    by simp only [BamReader.newBuffer, h1, leInt32_le32 _ hb1, hne, hnn, if_false, Int.toNat_natCast, h2],
    rfl, ?_, s2, rfl⟩
  simp only [s1.last, s2.last]

theorem newBuffer_eof (hwf : WF F) (h : BSim F br s) (hp : flatLen F ≤ s.pos) :
    ∃ br', br.newBuffer = (br', .error .eof) ∧ br'.c = br.c ∧ BSim F br' s := by
  obtain ⟨r1, h1, s1⟩ := sim_readFull_eof hwf h.sim 4 (by omega) hp
  exact ⟨{ br with r := r1, lastChunk := ⟨r1.lastChunk.bgn, r1.lastChunk.fin⟩ },
    by simp only [BamReader.newBuffer, h1], rfl, s1, h.unblocked⟩

theorem bsim_newBuffer (hwf : WF F) (h : BSim F br s) : ∃ s', BSim F br.newBuffer.1 s' := by
  have ⟨s1, a1, a2⟩ := sim_readFull_any hwf h.sim 4
  have hb1 : s1.blocked = false := a2.trans h.unblocked
  unfold BamReader.newBuffer
  rcases hq1 : readFull br.r 4 with ⟨r1, szb, e1⟩
  rw [hq1] at a1
  cases e1 with
  | some e => exact ⟨s1, a1, hb1⟩
  | none =>
    simp only
    by_cases h0 : leInt32 szb = 0
    · rw [if_pos h0]; exact ⟨s1, a1, hb1⟩
    · rw [if_neg h0]
      by_cases hn : leInt32 szb < 0
      · rw [if_pos hn]; exact ⟨s1, a1, hb1⟩
      · rw [if_neg hn]
        have ⟨s2, c1, c2⟩ := sim_readFull_any hwf a1 (leInt32 szb).toNat
        rcases hq2 : readFull r1 (leInt32 szb).toNat with ⟨r2, body, e2⟩
        rw [hq2] at c1
        cases e2 <;> exact ⟨s2, c1, c2.trans hb1⟩

theorem bsim_read (hwf : WF F) (h : BSim F br s) : ∃ s', BSim F br.read.1 s' := by
  unfold BamReader.read
  cases hc : br.c with
  | none => simpa using bsim_newBuffer hwf h
  | some c =>
    simp only
    split
    · exact ⟨s, h⟩
    · exact bsim_newBuffer hwf h

theorem bsim_setChunk (hwf : WF F) (h : BSim F br s) (c : Chunk) (p : Nat)
    (hs : seekTarget (layoutOf F) c.bgn = some p) :
    ∃ r', br.setChunk (some c) = ({ br with r := r', c := some c }, none) ∧
      BSim F { br with r := r', c := some c } ⟨p, false, ⟨c.bgn, c.bgn⟩⟩ := by
  obtain ⟨r', hsk, hsim⟩ := sim_seek hwf h.sim _ _ hs
  exact ⟨r', by simp only [BamReader.setChunk, hsk], h.unblocked ▸ hsim, rfl⟩

/-- The chunks the sequential pass reports for the records `bs` starting at logical position `p`. -/
def recChunks (L : Layout) : Nat → List (List UInt8) → List Chunk
  | _, [] => []
  | p, b :: bs => ⟨offBefore L p, offAfter L (p + (4 + b.length))⟩ :: recChunks L (p + (4 + b.length)) bs

theorem read_record (hwf : WF F) (h : BSim F br s)
    {b : List UInt8} {bs : List (List UInt8)} (hr : RecAt F s.pos (b :: bs)) (hp : s.pos ≤ flatLen F)
    (hlim : ∀ c, br.c = some c → vOffset s.last.fin < vOffset c.fin) :
    ∃ br', br.read = (br', .ok b) ∧ br'.c = br.c ∧
      br'.lastChunk = ⟨offBefore (layoutOf F) s.pos, offAfter (layoutOf F) (s.pos + (4 + b.length))⟩ ∧
      BSim F br' ⟨s.pos + (4 + b.length), false,
        ⟨offBefore (layoutOf F) (s.pos + 4), offAfter (layoutOf F) (s.pos + (4 + b.length))⟩⟩ := by
  have hread : br.read = br.newBuffer := by
    unfold BamReader.read
    cases hc : br.c with
    | none => rfl
    | some c =>
      have := hlim c hc
      rw [← h.sim.last] at this
      simp only [Nat.not_le.mpr this, if_false]
  rw [hread]
  exact newBuffer_record hwf h hr hp

theorem read_limit (h : BSim F br s) (c : Chunk) (hc : br.c = some c) (hlim : vOffset c.fin ≤ vOffset s.last.fin) :
    br.read = (br, .error .eof) := by
  rw [← h.sim.last] at hlim
  simp [BamReader.read, hc, hlim]

theorem read_eof (hwf : WF F) (h : BSim F br s) (hc : br.c = none) (hp : flatLen F ≤ s.pos) :
    ∃ br', br.read = (br', .error .eof) ∧ br'.c = none ∧ BSim F br' s := by
  obtain ⟨br', h1, h2, h3⟩ := newBuffer_eof hwf h hp
  exact ⟨br', by simp only [BamReader.read, hc, h1], h2.trans hc, h3⟩

theorem readN_succ_ok {br br' : BamReader} {body : List UInt8} (k : Nat) (h : br.read = (br', .ok body)) :
    br.readN (k + 1) = ((br'.readN k).1, (body, br'.lastChunk) :: (br'.readN k).2.1, (br'.readN k).2.2) := by
  simp [BamReader.readN, h]

theorem readN_succ_err {br br' : BamReader} {e : Err} (k : Nat) (h : br.read = (br', .error e)) :
    br.readN (k + 1) = (br', [], some e) := by
  simp [BamReader.readN, h]

/-- The second and third conjunct, which nothing uses, say where `readN` leaves the reader at the end of the data (no
chunk set, still `BSim`, at `flatLen F`): what the hypothesis `hbr` of `C13.chunk_replay` and `iterator_replay` asks of a
reader that has made a sequential pass. -/
theorem readN_sequential (hwf : WF F) {bs : List (List UInt8)} (h : BSim F br s) (hc : br.c = none)
    (hr : RecAt F s.pos bs) (hp : s.pos ≤ flatLen F) :
    (br.readN (bs.length + 1)).2 = (bs.zip (recChunks (layoutOf F) s.pos bs), some .eof) ∧
    (br.readN (bs.length + 1)).1.c = none ∧
    ∃ s', BSim F (br.readN (bs.length + 1)).1 s' ∧ s'.pos = flatLen F := by
  induction bs generalizing br s with
  | nil =>
    have htot := hr.total hp
    simp only [recSize] at htot
    obtain ⟨br', hrd, e2, e3⟩ := read_eof hwf h hc (by omega)
    rw [List.length_nil, readN_succ_err 0 hrd]
    exact ⟨rfl, e2, s, e3, by omega⟩
  | cons b bs ih =>
    have htot := hr.total hp
    simp only [recSize] at htot
    obtain ⟨br', hrd, e2, e3, e4⟩ := read_record hwf h hr hp (by intro c hcc; rw [hc] at hcc; cases hcc)
    have ⟨i1, i2, i3⟩ := ih e4 (e2.trans hc) hr.tail (by simp only []; omega)
    rw [List.length_cons, readN_succ_ok _ hrd]
    exact ⟨by simp [recChunks, e3, i1], i2, i3⟩

end Hts.Model.Bgzf
