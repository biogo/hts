/-
What parsing one serialised line does to the world and to the view of its header;
parsing a list of such lines.
-/
import Hts.Lemmas.HeaderText3
import Hts.Lemmas.HeaderParse
namespace Hts.Model.Header

theorem notin_str_at (c : Nat) (hc : c = 9 ∨ c = 10 ∨ c = 13) (rec : String)
    (h : rec = "@SQ" ∨ rec = "@RG" ∨ rec = "@PG" ∨ rec = "@HD") : c ∉ str rec := by
  have : ∀ x ∈ str rec, 64 ≤ x := by rcases h with rfl | rfl | rfl | rfl <;> decide +kernel
  intro hm
  have := this c hm
  omega

theorem lineB_no_at (c : Nat) (hc : c = 10 ∨ c = 13) {rec : String}
    (h : rec = "@SQ" ∨ rec = "@RG" ∨ rec = "@PG" ∨ rec = "@HD") {ts : Tags} (hts : CleanTags ts) : c ∉ lineB rec ts :=
  lineB_no c hc _ (notin_str_at c (Or.inr hc) _ h) _ hts

theorem parseLine_none (E : Ext) {w : World} {hn : Nat} (hf : w.hdrs[hn]? = none) (l : Bytes) :
    parseLine E w hn l = (w, .skip) := by
  unfold parseLine
  split <;> simp_all

theorem parseLine_cons (E : Ext) {w : World} {hn : Nat} {f : HdrF} (hf : w.hdrs[hn]? = some f) {l r : Bytes}
    {a b : Nat} (hl : l = 64 :: a :: b :: r) :
    parseLine E w hn l =
      if (a, b) = TAG "HD" then (setHdr w hn (headerLine f l).1, (headerLine f l).2)
      else if (a, b) = TAG "SQ" then
        ({ w with refs := (referenceLine E w.refs w.nextUri hn l).1, nextUri := w.nextUri + 1 },
          (referenceLine E w.refs w.nextUri hn l).2)
      else if (a, b) = TAG "RG" then ({ w with rgs := (readGroupLine E w.rgs hn l).1 }, (readGroupLine E w.rgs hn l).2)
      else if (a, b) = TAG "PG" then ({ w with pgs := (programLine w.pgs hn l).1 }, (programLine w.pgs hn l).2)
      else if (a, b) = TAG "CO" then (setHdr w hn (commentLine f l).1, (commentLine f l).2)
      else (w, .err) := by
  subst hl
  simp only [parseLine, hf]

/- The tags stay a variable in the next four: with `refTags name d` in their place the unifier would unfold it. -/

theorem parseLine_hdLine (E : Ext) {w : World} {hn : Nat} {f : HdrF} (hf : w.hdrs[hn]? = some f) (ts : Tags) :
    parseLine E w hn (lineB "@HD" ts) =
      (setHdr w hn (headerLine f (lineB "@HD" ts)).1, (headerLine f (lineB "@HD" ts)).2) :=
  (parseLine_cons E hf (a := 72) (b := 68) rfl).trans rfl

theorem parseLine_sqLine (E : Ext) {w : World} {hn : Nat} {f : HdrF} (hf : w.hdrs[hn]? = some f) (ts : Tags) :
    parseLine E w hn (lineB "@SQ" ts) =
      ({ w with refs := (referenceLine E w.refs w.nextUri hn (lineB "@SQ" ts)).1, nextUri := w.nextUri + 1 },
        (referenceLine E w.refs w.nextUri hn (lineB "@SQ" ts)).2) :=
  (parseLine_cons E hf (a := 83) (b := 81) rfl).trans rfl

theorem parseLine_rgLine (E : Ext) {w : World} {hn : Nat} {f : HdrF} (hf : w.hdrs[hn]? = some f) (ts : Tags) :
    parseLine E w hn (lineB "@RG" ts) =
      ({ w with rgs := (readGroupLine E w.rgs hn (lineB "@RG" ts)).1 }, (readGroupLine E w.rgs hn (lineB "@RG" ts)).2) :=
  (parseLine_cons E hf (a := 82) (b := 71) rfl).trans rfl

theorem parseLine_pgLine (E : Ext) {w : World} {hn : Nat} {f : HdrF} (hf : w.hdrs[hn]? = some f) (ts : Tags) :
    parseLine E w hn (lineB "@PG" ts) =
      ({ w with pgs := (programLine w.pgs hn (lineB "@PG" ts)).1 }, (programLine w.pgs hn (lineB "@PG" ts)).2) :=
  (parseLine_cons E hf (a := 80) (b := 71) rfl).trans rfl

theorem parseLine_sq (E : Ext) {w : World} {hn : Nat} {t : Tab} (ht : w.refs.tabs[hn]? = some t) {f : HdrF}
    (hf : w.hdrs[hn]? = some f) (name : Bytes) (d : RefD) (wf : WFRef E name d) (hnew : lookup t.seen name = none) :
    parseLine E w hn (lineB "@SQ" (refTags name d)) =
      ({ w with refs := install w.refs hn name { d with uri := d.uri.map fun u => (w.nextUri, u.2) },
                nextUri := w.nextUri + 1 }, .ok) := by
  obtain ⟨seen', hsplit, hloop⟩ := fieldLoop_lineB (refAssign E w.nextUri) (notin_str_at 9 (Or.inl rfl) "@SQ" (Or.inl rfl))
    (refTags_clean wf) (refTags_nodup wf) (ref_loop E w.nextUri name d wf)
  -- `referenceLine` matches on `_ :: x :: y :: xs`: the first two fields have to be in sight before it is unfolded
  obtain ⟨xs, hc⟩ := refTags_head name d
  have hr : referenceLine E w.refs w.nextUri hn (lineB "@SQ" (refTags name d)) =
      (install w.refs hn name { d with uri := d.uri.map fun u => (w.nextUri, u.2) }, .ok) := by
    rw [hc] at hloop
    rw [referenceLine, hsplit, hc, ht]
    simp only [List.map_cons] at hloop ⊢
    rw [hloop]
    simp only [hnew]
    rfl
  rw [parseLine_sqLine E hf, hr]

theorem parseLine_rg (E : Ext) {w : World} {hn : Nat} {t : Tab} (ht : w.rgs.tabs[hn]? = some t) {f : HdrF}
    (hf : w.hdrs[hn]? = some f) (name : Bytes) (d : RgD) (wf : WFRg E name d) (hnew : lookup t.seen name = none) :
    parseLine E w hn (lineB "@RG" (rgTags name d)) = ({ w with rgs := install w.rgs hn name d }, .ok) := by
  obtain ⟨seen', hsplit, hloop⟩ := fieldLoop_lineB (rgAssign E (fun n => (lookup t.seen n).isSome))
    (notin_str_at 9 (Or.inl rfl) "@RG" (Or.inr (Or.inl rfl))) (rgTags_clean wf) (rgTags_nodup wf)
    (rg_loop E _ name d wf (by rw [hnew]; rfl))
  -- `readGroupLine` matches on `_ :: x :: xs`
  obtain ⟨xs, hc⟩ := rgTags_head name d
  have hr : readGroupLine E w.rgs hn (lineB "@RG" (rgTags name d)) = (install w.rgs hn name d, .ok) := by
    rw [hc] at hloop
    rw [readGroupLine, hsplit, hc, ht]
    simp only [List.map_cons] at hloop ⊢
    rw [hloop]
    rfl
  rw [parseLine_rgLine E hf, hr]

theorem parseLine_pg (E : Ext) {w : World} {hn : Nat} {t : Tab} (ht : w.pgs.tabs[hn]? = some t) {f : HdrF}
    (hf : w.hdrs[hn]? = some f) (name : Bytes) (d : PgD) (wf : WFPg name d) (hnew : lookup t.seen name = none) :
    parseLine E w hn (lineB "@PG" (pgTags name d)) = ({ w with pgs := install w.pgs hn name d }, .ok) := by
  obtain ⟨seen', hsplit, hloop⟩ := fieldLoop_lineB (pgAssign (fun n => (lookup t.seen n).isSome))
    (notin_str_at 9 (Or.inl rfl) "@PG" (Or.inr (Or.inr (Or.inl rfl)))) (pgTags_clean wf) (pgTags_nodup wf)
    (pg_loop _ name d wf (by rw [hnew]; rfl))
  -- `programLine` matches on `_ :: x :: xs`
  obtain ⟨xs, hc⟩ := pgTags_head name d
  have hr : programLine w.pgs hn (lineB "@PG" (pgTags name d)) = (install w.pgs hn name d, .ok) := by
    rw [hc] at hloop
    rw [programLine, hsplit, hc, ht]
    simp only [List.map_cons] at hloop ⊢
    rw [hloop]
    rfl
  rw [parseLine_pgLine E hf, hr]

theorem parseLine_co (E : Ext) {w : World} {hn : Nat} {f : HdrF} (hf : w.hdrs[hn]? = some f) (c : Bytes) :
    parseLine E w hn (str "@CO\t" ++ c) = (setHdr w hn { f with comments := f.comments ++ [c] }, .ok) := by
  have hl : str "@CO\t" ++ c = 64 :: 67 :: 79 :: 9 :: c := by rw [str_ofList]; rfl
  have hs : splitOnce 9 (str "@CO\t" ++ c) = [[64, 67, 79], c] := by
    rw [hl]; exact splitOnce_append 9 c [64, 67, 79] (by decide)
  rw [parseLine_cons E hf hl, commentLine, hs, if_neg (by decide +kernel), if_neg (by decide +kernel),
    if_neg (by decide +kernel), if_neg (by decide +kernel), if_pos (by decide +kernel)]

theorem coLine_no {x : Nat} (hx : x = 10 ∨ x = 13) {c : Bytes} (h : x ∉ c) : x ∉ str "@CO\t" ++ c := by
  intro hm
  rcases List.mem_append.1 hm with hm | hm
  · rcases hx with rfl | rfl <;> revert hm <;> decide +kernel
  · exact h hm

theorem parseLines_cons_ok (E : Ext) {w w' : World} {h : Nat} {l : Bytes} (ls : List Bytes) (h13 : 13 ∉ l)
    (hne : l ≠ []) (hp : parseLine E w h l = (w', .ok)) : parseLines E w h (l :: ls) = parseLines E w' h ls := by
  rw [parseLines]
  simp only [dropCR_id h13, hne, if_false, hp]

/-- The lines `mk b`, `b` in `all`, parsed one after the other: `S i` is what holds of the world when `i` of them
have been parsed. -/
theorem parseLines_steps (E : Ext) (hn : Nat) (rest : List Bytes) {β : Type} (mk : β → Bytes) (all : List β)
    (S : Nat → World → Prop)
    (hstep : ∀ i b w, all[i]? = some b → S i w →
      (13 ∉ mk b ∧ mk b ≠ []) ∧ ∃ w', parseLine E w hn (mk b) = (w', .ok) ∧ S (i + 1) w')
    {w : World} (h0 : S 0 w) :
    ∃ w', parseLines E w hn (all.map mk ++ rest) = parseLines E w' hn rest ∧ S all.length w' := by
  suffices ∀ (bs pre : List β) w, all = pre ++ bs → S pre.length w →
      ∃ w', parseLines E w hn (bs.map mk ++ rest) = parseLines E w' hn rest ∧ S all.length w' from
    this all [] w rfl h0
  intro bs
  induction bs with
  | nil => intro pre w e hs; exact ⟨w, rfl, by rw [e, List.append_nil]; exact hs⟩
  | cons b bs ih =>
    intro pre w e hs
    obtain ⟨⟨h13, hne⟩, w', hp, hs'⟩ := hstep pre.length b w (by rw [e]; simp) hs
    obtain ⟨w'', h1, h2⟩ := ih (pre ++ [b]) w' (by rw [e]; simp) (by simpa using hs')
    exact ⟨w'', by rw [List.map_cons, List.cons_append, parseLines_cons_ok E _ h13 hne hp, h1], h2⟩

/-- where the text round trip stands between two lines: the world is consistent and its header `hn` exposes `v` -/
structure Shows (w : World) (hn : Nat) (v : View) : Prop where
  inv : WInv w
  lt : hn < w.hdrs.length
  view : view w hn = v

theorem kinds_of_winv {w : World} (hw : WInv w) {h : Nat} (hh : h < w.hdrs.length) :
    KindInv w.refs h ∧ KindInv w.rgs h ∧ KindInv w.pgs h :=
  ⟨kindInv_of hw.refs (hw.lr ▸ hh), kindInv_of hw.rgs (hw.lg ▸ hh), kindInv_of hw.pgs (hw.lp ▸ hh)⟩

theorem Shows.hdr {w : World} {hn : Nat} {v : View} (s : Shows w hn v) : w.hdrs[hn]? = some v.f := by
  rw [← s.view, Header.view, List.getElem?_eq_getElem s.lt]; rfl

theorem normRef_ptr (d : RefD) (p : Nat) : normRef { d with uri := d.uri.map fun u => (p, u.2) } = normRef d := by
  cases d with
  | mk len md5 asm sp uri other => cases uri <;> rfl

section
variable (E : Ext) {w : World} {hn : Nat} {v : View} (s : Shows w hn v) {name : Bytes}
include s

theorem view_sq {d : RefD} (wf : WFRef E name d) (hnew : name ∉ v.refs.map (·.2.1)) :
    ∃ w', parseLine E w hn (lineB "@SQ" (refTags name d)) = (w', .ok) ∧
      Shows w' hn { v with refs := v.refs ++ [((v.refs.length : Int), name, normRef d)] } := by
  obtain ⟨hw, hlt, rfl⟩ := s
  obtain ⟨t, ht, T⟩ := (kinds_of_winv hw hlt).1
  rw [view, List.map_map] at hnew
  have hp := parseLine_sq E ht (List.getElem?_eq_getElem hlt) name d wf (lookup_none_of_names ht T hnew)
  refine ⟨_, hp, (parseLine_safe E hw _ _).winv hp, hlt, ?_⟩
  simp only [view, items_install hw.refs ht, List.map_append, List.map_cons, List.map_nil, List.length_map,
    normRef_ptr]

theorem view_rg {d : RgD} (wf : WFRg E name d) (hnew : name ∉ v.rgs.map (·.2.1)) :
    ∃ w', parseLine E w hn (lineB "@RG" (rgTags name d)) = (w', .ok) ∧
      Shows w' hn { v with rgs := v.rgs ++ [((v.rgs.length : Int), name, d)] } := by
  obtain ⟨hw, hlt, rfl⟩ := s
  obtain ⟨t, ht, T⟩ := (kinds_of_winv hw hlt).2.1
  have hp := parseLine_rg E ht (List.getElem?_eq_getElem hlt) name d wf (lookup_none_of_names ht T hnew)
  refine ⟨_, hp, (parseLine_safe E hw _ _).winv hp, hlt, ?_⟩
  simp only [view, items_install hw.rgs ht]

theorem view_pg {d : PgD} (wf : WFPg name d) (hnew : name ∉ v.pgs.map (·.2.1)) :
    ∃ w', parseLine E w hn (lineB "@PG" (pgTags name d)) = (w', .ok) ∧
      Shows w' hn { v with pgs := v.pgs ++ [((v.pgs.length : Int), name, d)] } := by
  obtain ⟨hw, hlt, rfl⟩ := s
  obtain ⟨t, ht, T⟩ := (kinds_of_winv hw hlt).2.2
  have hp := parseLine_pg E ht (List.getElem?_eq_getElem hlt) name d wf (lookup_none_of_names ht T hnew)
  refine ⟨_, hp, (parseLine_safe E hw _ _).winv hp, hlt, ?_⟩
  simp only [view, items_install hw.pgs ht]

omit E in
theorem shows_setHdr (f : HdrF) : Shows (setHdr w hn f) hn { v with f := f } := by
  obtain ⟨hw, hlt, rfl⟩ := s
  refine ⟨winv_setHdr hw _ _, by simpa [setHdr] using hlt, ?_⟩
  simp [view, setHdr, hlt]

theorem view_co (c : Bytes) :
    ∃ w', parseLine E w hn (str "@CO\t" ++ c) = (w', .ok) ∧
      Shows w' hn { v with f := { v.f with comments := v.f.comments ++ [c] } } := by
  exact ⟨_, parseLine_co E s.hdr c, shows_setHdr s _⟩

end

end Hts.Model.Header
