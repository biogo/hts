/-
Lemmas connecting the member model (Hts.Model.Member) with the independent specification
(Hts.Spec.Rfc1952): the bytes `writeBlock` produces parse under the RFC 1952 grammar and satisfy the
BGZF constraints.
-/
import Hts.Lemmas.BgzfMember
import Hts.Spec.Rfc1952
namespace Hts.Model.Member
open Hts.Spec
open Hts.Lemmas.Gzip (zfield Layout)

def ext (c : CodecFns) : Rfc1952.Ext := ⟨c.inflate, c.crc32⟩

theorem splitAtN_append (a t : List Byte) : Rfc1952.splitAtN a.length (a ++ t) = some (a, t) := by
  simp [Rfc1952.splitAtN]

theorem zstring_append (bs t : List Byte) (h : ∀ b ∈ bs, b ≠ 0) : Rfc1952.zstring (bs ++ 0 :: t) = some (bs, t) := by
  induction bs with
  | nil => simp [Rfc1952.zstring]
  | cons b bs ih =>
    have hb : b ≠ 0 := h b (by simp)
    simp [Rfc1952.zstring, hb, ih (fun x hx => h x (by simp [hx]))]

theorem zstring_zfield (pn : Bool) (nm t : List Byte) (hz : ∀ b ∈ nm, b ≠ 0) :
    (if pn = true then (Rfc1952.zstring (zfield pn nm ++ t)).map (fun (n, r) => (some n, r)) else some (none, zfield pn nm ++ t))
      = some (if pn then some nm else none, t) := by
  cases pn with
  | false => rfl
  | true => simp [zfield, zstring_append nm t hz]

theorem parseMember_layout (x : Rfc1952.Ext) (L : Layout) (hw : L.WF) (cdata data rest : List Byte)
    (c0 c1 c2 c3 i0 i1 i2 i3 : Byte) (hf : L.flg.toNat < 32)
    (h2 : Rfc1952.bit L.flg.toNat 2 = true) (h3 : Rfc1952.bit L.flg.toNat 3 = L.hasName)
    (h4 : Rfc1952.bit L.flg.toNat 4 = L.hasComment) (h1 : Rfc1952.bit L.flg.toNat 1 = false)
    (hinf : x.inflate (cdata ++ c0 :: c1 :: c2 :: c3 :: i0 :: i1 :: i2 :: i3 :: rest) = some (data, cdata.length))
    (hcrc : Rfc1952.le32 c0 c1 c2 c3 = x.crc32 data) (hisz : Rfc1952.le32 i0 i1 i2 i3 = data.length % 2 ^ 32) :
    Rfc1952.parseMember x (L.bytes ++ (cdata ++ c0 :: c1 :: c2 :: c3 :: i0 :: i1 :: i2 :: i3 :: rest)) =
      some ({ flg := L.flg.toNat, mtime := Rfc1952.le32 L.m0 L.m1 L.m2 L.m3, xfl := L.xfl.toNat, os := L.os.toNat,
              extra := some L.extra, name := if L.hasName then some L.name else none,
              comment := if L.hasComment then some L.comment else none, data := data,
              size := L.bytes.length + cdata.length + 8 }, rest) := by
  have hid : ¬ ((0x1f : Byte).toNat ≠ 31 ∨ (0x8b : Byte).toNat ≠ 139 ∨ (8 : Byte).toNat ≠ 8 ∨ L.flg.toNat ≥ 32) := by
    have : ¬ L.flg.toNat ≥ 32 := by omega
    simpa using this
  have hx : Rfc1952.le16 L.x0 L.x1 = L.extra.length := hw.xlen
  have hsize : (L.bytes ++ (cdata ++ c0 :: c1 :: c2 :: c3 :: i0 :: i1 :: i2 :: i3 :: rest)).length - rest.length =
      L.bytes.length + cdata.length + 8 := by
    simp only [List.length_append, List.length_cons]; omega
  simp only [Layout.bytes, List.cons_append, List.append_assoc] at hsize ⊢
  simp only [Rfc1952.parseMember, hid, if_false, h2, if_true, hx, splitAtN_append, Option.map_some, Option.bind_some,
    h3, h4, zstring_zfield _ _ _ hw.name_nz, zstring_zfield _ _ _ hw.comment_nz, h1, Bool.false_eq_true, hinf,
    List.drop_left, hcrc, hisz, and_self, hsize]

/-- the member the specification's parser finds in the writer's bytes -/
def specMember (c : CodecFns) (h : Header) (p : List Byte) (bsz : Nat) : Rfc1952.Member :=
  { flg := (flgOf h).toNat, mtime := h.mtime % 2 ^ 32, xfl := c.xfl.toNat, os := h.os.toNat,
    extra := some (66 :: 67 :: 2 :: 0 :: UInt8.ofNat (bsz % 256) :: UInt8.ofNat (bsz / 256 % 256) :: h.extra),
    name := if decide (h.name ≠ []) then some (h.name.map UInt8.ofNat) else none,
    comment := if decide (h.comment ≠ []) then some (h.comment.map UInt8.ofNat) else none,
    data := p, size := memberLen c h p }

theorem spec_le16 (n : Nat) (h : n < 65536) :
    Rfc1952.le16 (UInt8.ofNat (n % 256)) (UInt8.ofNat (n / 256 % 256)) = n := u16_le16 n h
theorem spec_le32 (n : Nat) (h : n < 2 ^ 32) :
    Rfc1952.le32 (UInt8.ofNat (n % 256)) (UInt8.ofNat (n / 256 % 256)) (UInt8.ofNat (n / 65536 % 256))
      (UInt8.ofNat (n / 16777216 % 256)) = n := u32_le32 n h

theorem bit_flgOf (h : Header) : (flgOf h).toNat < 32 ∧ Rfc1952.bit (flgOf h).toNat 2 = true ∧
    Rfc1952.bit (flgOf h).toNat 3 = decide (h.name ≠ []) ∧ Rfc1952.bit (flgOf h).toNat 4 = decide (h.comment ≠ []) ∧
    Rfc1952.bit (flgOf h).toNat 1 = false := by
  by_cases hn : h.name = [] <;> by_cases hc : h.comment = [] <;> simp [flgOf, hn, hc] <;> decide

theorem parseMember_member (c : Codec) (h : Header) (p : List Byte) (bsz : Nat) (rest : List Byte) (hk : HdrOK h) :
    Rfc1952.parseMember (ext c.toCodecFns) (memberBytes c.toCodecFns h p bsz ++ rest) = some (specMember c.toCodecFns h p bsz, rest) := by
  obtain ⟨gf, g2, g3, g4, g1⟩ := bit_flgOf h
  rw [memberBytes, memberBody, List.append_assoc, List.append_assoc]
  refine (parseMember_layout (ext c.toCodecFns) (writerLayout c.toCodecFns h bsz) (writerLayout_wf _ hk bsz) _ p rest
    _ _ _ _ _ _ _ _ gf g2 g3 g4 g1 (c.inflate_deflate p _) (spec_le32 _ (c.crc32_lt p))
    (spec_le32 _ (Nat.mod_lt _ (by decide)))).trans ?_
  rw [← writerHeader_eq, writerHeader_length, Nat.add_assoc, ← memberLen_eq]
  simp only [specMember, writerLayout, spec_le32 _ (Nat.mod_lt h.mtime (by decide : 0 < 2 ^ 32))]
  rfl

theorem subfields_nil : Rfc1952.subfields [] = some [] := by rw [Rfc1952.subfields]

theorem subfields_cons (si1 si2 l0 l1 : Byte) (p ex : List Byte) (subs : List (Byte × Byte × List Byte))
    (hl : Rfc1952.le16 l0 l1 = p.length) (h : Rfc1952.subfields ex = some subs) :
    Rfc1952.subfields (si1 :: si2 :: l0 :: l1 :: (p ++ ex)) = some ((si1, si2, p) :: subs) := by
  rw [Rfc1952.subfields]
  simp [hl, h]

theorem subfields_bc (lo hi : Byte) (ex : List Byte) (subs : List (Byte × Byte × List Byte))
    (h : Rfc1952.subfields ex = some subs) :
    Rfc1952.subfields (66 :: 67 :: 2 :: 0 :: lo :: hi :: ex) = some ((66, 67, [lo, hi]) :: subs) :=
  subfields_cons 66 67 2 0 [lo, hi] ex subs rfl h

/-- the user's extra bytes are a well-formed sequence of RFC 1952 sub-fields -/
def WFExtra (h : Header) : Prop := (Rfc1952.subfields h.extra).isSome

theorem isBgzf_specMember (c : CodecFns) (h : Header) (p : List Byte) (hw : WFExtra h)
    (hlen : memberLen c h p ≤ BgzfWriter.MaxBlockSize) (hp : p.length ≤ BgzfWriter.BlockSize) :
    Rfc1952.IsBgzf (specMember c h p (memberLen c h p - 1)) := by
  have h18 := memberLen_ge c h p
  have hb := (fits_bsz c h p hlen).1
  obtain ⟨subs, hs⟩ := Option.isSome_iff_exists.mp hw
  refine ⟨(bit_flgOf h).2.1, ⟨_, _, rfl, subfields_bc _ _ _ _ hs, ?_⟩, ?_, hlen, hp⟩
  · simp [Rfc1952.bsizeOf, specMember, spec_le16 _ hb]
  · simp only [specMember]; omega

theorem specMember_strict (c : CodecFns) (h : Header) (p : List Byte) (bsz : Nat)
    (hn : h.name = []) (hc : h.comment = []) : (specMember c h p bsz).flg = 4 := by
  simp [specMember, flgOf, hn, hc]

def markerMember : Rfc1952.Member :=
  { flg := 4, mtime := 0, xfl := 0, os := 255, extra := some [66, 67, 2, 0, 27, 0], name := none, comment := none,
    data := [], size := 28 }

theorem parseMember_marker (c : Codec) (rest : List Byte) :
    Rfc1952.parseMember (ext c.toCodecFns) (magicBlock ++ rest) = some (markerMember, rest) :=
  parseMember_layout (ext c.toCodecFns) markerLayout markerLayout_wf [3, 0] [] rest 0 0 0 0 0 0 0 0
    (by decide) (by decide) (by decide) (by decide) (by decide) (c.inflate_marker _) c.crc32_nil.symm rfl

theorem isBgzf_marker : Rfc1952.IsStrictBgzf markerMember := by
  exact ⟨⟨by decide, ⟨_, _, rfl, subfields_bc 27 0 [] [] subfields_nil, by decide⟩, by decide, by decide, by decide⟩, rfl⟩

end Hts.Model.Member
