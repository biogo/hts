/-
Reader vs specification, independent of the writer: for every alignment the BAM format can represent
(`Spec.Alignment.Valid`), the reader turns `Spec.layout` of it into the record that stands for it (`ofAlignment`, defined
here with `auxMem`, `hexBytes`, `optRef`).  The file holds the two halves, `body_ofAlignment` and `wf_ofAlignment`;
`Props.C05.reader_accepts_spec` puts them under `readRecord_bodyOf`.
-/
import Hts.Lemmas.BamSpec
import Hts.Lemmas.Bytes
namespace Hts.Model.Bam
open Hts.Spec.Bam (Elem AuxValue Alignment le twos)

/-- the bytes a string of hex digits stands for (`[]` if a pair holds a non-digit, which no valid value has) -/
def hexBytes (s : List Byte) : List Byte :=
  match hexDec s with
  | .ok bs => bs
  | .error _ => []

/-- the in-memory `sam.Aux` of a typed value: `Z` without its NUL, `H` as the DECODED bytes of its digit string -/
def auxMem (t0 t1 : Byte) : AuxValue → List Byte
  | .char c => [t0, t1, 65#8, c]
  | .num t v => [t0, t1, t.letter] ++ le t.width (twos t.width v)
  | .str s => [t0, t1, 90#8] ++ s
  | .hex s => [t0, t1, 72#8] ++ hexBytes s
  | .arr t vs => [t0, t1, 66#8, t.letter] ++ le 4 vs.length ++ vs.flatMap (fun v => le t.width (twos t.width v))

def optRef (x : Int) : Option Nat := if x < 0 then none else some x.toNat

/-- the record that stands for a specification-level alignment: what a reader has to return for its layout -/
def ofAlignment (a : Alignment) : Record :=
  { name := a.readName, ref := optRef a.refID, pos := a.pos, mapq := BitVec.ofNat 8 a.mapq,
    cigar := a.cigar.map (fun c => BitVec.ofNat 32 (c.1 * 16 + c.2)), flags := BitVec.ofNat 16 a.flag,
    mateRef := optRef a.nextRefID, matePos := a.nextPos, tempLen := a.tlen, seqLen := a.seq.length,
    seq := Hts.Spec.Bam.packSeq a.seq, qual := a.qual, aux := a.aux.map (fun tv => auxMem tv.1.1 tv.1.2 tv.2) }

theorem hexDigit_unhex : ∀ c : Byte, Hts.Spec.Bam.isHexDigit c = true →
    ∃ n, n < 16 ∧ unhex c = some n ∧ hexDigit n = c :=
  Hts.Lemmas.byte_forall _ (by decide +kernel)

theorem hexDec_valid : ∀ (s : List Byte), s.length % 2 = 0 → (∀ c ∈ s, Hts.Spec.Bam.isHexDigit c = true) →
    ∃ v, hexDec s = .ok v ∧ hexEnc v = s
  | [], _, _ => ⟨[], rfl, rfl⟩
  | [_], h, _ => by simp at h
  | a :: b :: rest, h, hd => by
    obtain ⟨n, hn, ha, rfl⟩ := hexDigit_unhex a (hd a (by simp))
    obtain ⟨m, hm, hb, rfl⟩ := hexDigit_unhex b (hd b (by simp))
    obtain ⟨v, hv, rfl⟩ := hexDec_valid rest (by simp only [List.length_cons] at h; omega)
      (fun c hc => hd c (by simp [hc]))
    refine ⟨byteOf (n * 16 + m) :: v, by simp only [hexDec, ha, hb, hv], ?_⟩
    have hnm : (byteOf (n * 16 + m)).toNat = n * 16 + m := by rw [byteOf_toNat]; omega
    have h1 : (n * 16 + m) / 16 = n := by omega
    have h2 : (n * 16 + m) % 16 = m := by omega
    simp only [hexEnc, hnm, h1, h2]

theorem hexEnc_hexBytes (s : List Byte) (h : s.length % 2 = 0) (hd : ∀ c ∈ s, Hts.Spec.Bam.isHexDigit c = true) :
    hexEnc (hexBytes s) = s := by
  obtain ⟨v, hv, rfl⟩ := hexDec_valid s h hd
  simp only [hexBytes, hv]

theorem encAux_auxMem (t0 t1 : Byte) (v : AuxValue) (hv : v.Valid) :
    encAux (auxMem t0 t1 v) = Hts.Spec.Bam.auxBytes t0 t1 v := by
  cases v with
  | char c => exact encAux_other _ _ _ _ rfl
  | num t x => exact encAux_other _ _ _ _ (isZH_letter t)
  | str s => exact (encAux_Z _ _ _).trans (by simp [Hts.Spec.Bam.auxBytes])
  | hex s =>
    simp only [auxMem, List.cons_append, List.nil_append, encAux_H, hexEnc_hexBytes s hv.1 hv.2,
      Hts.Spec.Bam.auxBytes]
  | arr t vs => exact encAux_other _ _ _ _ rfl

theorem flatMap_le_length (w : Nat) (vs : List Int) :
    (vs.flatMap (fun v => le w (twos w v))).length = vs.length * w :=
  Hts.Lemmas.flatMap_length_const _ w vs fun _ => le_length w _

theorem auxOK_auxMem (t0 t1 : Byte) (v : AuxValue) (hv : v.Valid) (h0 : t0 ≠ 0#8) (h1 : t1 ≠ 0#8) :
    auxOK (auxMem t0 t1 v) = true := by
  cases v with
  | char c => rfl
  | num t x => simp only [auxMem, List.cons_append, List.nil_append, auxOK_num (elemWidth_letter t), le_length, beq_self_eq_true]
  | str s =>
    have hs : 0#8 ∉ s := hv
    simp [auxMem, auxOK, hs, Ne.symm h0, Ne.symm h1]
  | hex s => simp [auxMem, auxOK, h0, h1]
  | arr t vs =>
    have hl : vs.length < 4294967296 := hv.1
    simp only [auxMem, le4, putU32, List.cons_append, List.nil_append, auxOK_arr (elemWidth_letter t), getU32_put_lt _ hl,
      flatMap_le_length, beq_self_eq_true]

theorem refID_optRef (x : Int) (h : -1 ≤ x) : refID (optRef x) = x := by
  unfold optRef
  split <;> simp only [refID] <;> omega

theorem cigarBytes_ofAlignment (cg : List (Nat × Nat)) (h : ∀ c ∈ cg, c.1 < 268435456 ∧ c.2 ≤ 8) :
    cigarBytes (cg.map (fun c => BitVec.ofNat 32 (c.1 * 16 + c.2))) = cg.flatMap (fun c => le 4 (c.1 * 16 + c.2)) := by
  induction cg with
  | nil => rfl
  | cons c cg ih =>
    obtain ⟨hc, hcg⟩ := List.forall_mem_cons.mp h
    have : (BitVec.ofNat 32 (c.1 * 16 + c.2)).toNat = c.1 * 16 + c.2 := by
      simp only [BitVec.toNat_ofNat]; omega
    have ih' := ih hcg
    simp only [cigarBytes, List.map_cons, List.flatMap_cons, this, le4] at ih' ⊢
    rw [ih']

theorem encAuxAll_map (xs : List ((Byte × Byte) × AuxValue)) (hv : ∀ tv ∈ xs, tv.2.Valid) :
    encAuxAll (xs.map (fun tv => auxMem tv.1.1 tv.1.2 tv.2))
      = xs.flatMap (fun tv => Hts.Spec.Bam.auxBytes tv.1.1 tv.1.2 tv.2) := by
  induction xs with
  | nil => rfl
  | cons x xs ih =>
    obtain ⟨hx, hxs⟩ := List.forall_mem_cons.mp hv
    have ih' := ih hxs
    simp only [encAuxAll, List.map_cons, List.flatMap_cons] at ih' ⊢
    rw [ih', encAux_auxMem _ _ _ hx]

theorem auxOK_ofAlignment {n : Nat} {a : Alignment} (h : a.Valid n) :
    ∀ x ∈ (ofAlignment a).aux, auxOK x = true := by
  intro x hx
  simp only [ofAlignment, List.mem_map] at hx
  obtain ⟨tv, htv, rfl⟩ := hx
  obtain ⟨hv, h0, h1⟩ := h.aux tv htv
  exact auxOK_auxMem _ _ _ hv h0 h1

theorem qualBytes_ofAlignment (a : Alignment) : qualBytes (ofAlignment a) = Hts.Spec.Bam.qualField a := by
  simp only [Hts.Spec.Bam.qualField, qualBytes, ofAlignment]
  cases a.qual <;> rfl

theorem body_ofAlignment {n : Nat} {a : Alignment} (h : a.Valid n) :
    Hts.Spec.Bam.body a = bodyOf a.bin (encAuxAll (ofAlignment a).aux) (ofAlignment a) := by
  have hfl : (BitVec.ofNat 16 a.flag).toNat = a.flag := by
    have := h.flag; simp only [BitVec.toNat_ofNat]; omega
  -- first, while `ofAlignment a` is still folded, its quality bytes: `qualBytes_ofAlignment` does not match once it is unfolded
  simp only [body_fields, bodyOf, qualBytes_ofAlignment]
  simp only [ofAlignment, refID_optRef _ h.refID.1, refID_optRef _ h.nextRefID.1, hfl,
    cigarBytes_ofAlignment _ h.cigar.2, encAuxAll_map _ (fun tv htv => (h.aux tv htv).1), List.length_map, byteOf]

theorem optRef_lt {n : Nat} {x : Int} (h : x < n) : ∀ i, optRef x = some i → i < n := by
  intro i hi
  unfold optRef at hi
  split at hi
  · cases hi
  · simp only [Option.some.injEq] at hi; omega

theorem wf_ofAlignment {n : Nat} {a : Alignment} (h : a.Valid n) : WF n (ofAlignment a) where
  nrefs_ok := h.nrefs_lt
  name_len := ⟨h.name.1, h.name.2.1⟩
  name_nonul := h.name.2.2
  ref_ok := optRef_lt h.refID.2
  mate_ok := optRef_lt h.nextRefID.2
  pos_ok := h.pos
  matePos_ok := h.nextPos
  tempLen_ok := h.tlen
  cigar_count := by simpa [ofAlignment] using h.cigar.1
  seq_len := by simp [ofAlignment, packSeq_length]
  qual_len := h.qual
  aux_ok := auxOK_ofAlignment h
  size_ok := by
    have hs := h.size
    rw [body_ofAlignment h, bodyOf_length, encAuxAll_length _ (auxOK_ofAlignment h),
      qualBytes_length (r := ofAlignment a) h.qual] at hs
    exact hs

end Hts.Model.Bam
