/-
The invariant of the faulty sequential reader between calls (`FInv`): every operation of a valid history returns
what `FaultStepOK` allows at the position tracked through the bytes returned and the successful seeks, and
re-establishes the invariant there.
-/
import Hts.Lemmas.FaultLoad
import Hts.Lemmas.ReaderSteps
namespace Hts.Model.Bgzf
open Hts.Spec.Flat

/-- Invariant of the faulty reader between calls: no error latched and the reader stands at logical position
`pos`, or an error is latched on the block of a failed load. -/
structure FInv (F : File) (x : FReader) (pos : Nat) : Prop where
  file : x.r.file = F
  alive : x.r.err = none → ∃ pre m post k, At F x.r pre m post k ∧ pos = flatLen pre + k
  dead : ∀ e, x.r.err = some e → x.r.cur.hasData = false ∧ (e = .eof ∨ e = .other)

theorem ReadRes.inv {F : File} {x x' : FReader} {pos want : Nat} {bytes : List UInt8} {e : Option Err}
    (h : ReadRes F x x' pos want bytes e) : FInv F x' (pos + bytes.length) := by
  refine ⟨h.file, fun he => ?_, fun e' he' => ?_⟩
  · obtain ⟨⟨pre', m', post', k', hat, hp⟩, _⟩ := h.alive he
    exact ⟨pre', m', post', k', hat, hp.symm⟩
  · have := h.latched e' he'
    exact ⟨this.2.1, this.2.2⟩

theorem fskip_spec {F : File} (hwf : WF F) {x : FReader} {pos : Nat} (hi : FInv F x pos) (he : x.r.err = none) :
    SkipRes F x (x.skipEmpty x.r.skipFuel) pos := by
  obtain ⟨pre, m, post, k, hat, hp⟩ := hi.alive he
  exact hp ▸ fskipEmpty_spec hwf x.r.skipFuel x pre m post k hat hat.skipFuel

theorem SkipRes.toReadRes {F : File} {x x1 : FReader} {pos want : Nat} {e : Err} (hsk : SkipRes F x x1 pos)
    (hL : Latched x1 e) (he1 : e = .eof ∨ e = .other) (he2 : e = .eof → NoEof x.oracle → pos = flatLen F) :
    ReadRes F x x1 pos want [] (some e) := by
  refine ⟨by simp, by simp, hsk.file, hsk.blocked, hsk.noeof, fun h => (by rw [hL.1] at h; cases h), ?_, ?_⟩
  · intro e' he'
    rw [hL.1] at he'; cases he'
    exact ⟨rfl, hL.2, he1⟩
  · intro h1 _ hn
    simp only [Option.some.injEq] at h1
    simpa using he2 h1 hn

theorem fread_spec {F : File} (hwf : WF F) {x : FReader} {pos : Nat} (hi : FInv F x pos) (n : Nat) :
    (∀ e, x.r.err = some e → x.read n = (x, [], some e)) ∧
    (x.r.err = none → ReadRes F x (x.read n).1 pos n (x.read n).2.1 (x.read n).2.2) := by
  refine ⟨fun e he => by simp [FReader.read, he], fun he => ?_⟩
  have hsk := fskip_spec hwf hi he
  simp only [FReader.read, he]
  generalize hx1 : x.skipEmpty x.r.skipFuel = x1 at hsk
  rcases hsk.out with ⟨pre', m', post', k', hat', hk', hpos', hpl⟩ | ⟨e, hL, he1, he2⟩
  · simp only [hat'.err]
    subst hpos'
    -- setting `lastChunk` leaves the position, `blocked` and the oracle as the skip loop left them
    have hat2 : At F (x1.withR fun r => { r with lastChunk := ⟨r.cur.tx, r.lastChunk.fin⟩ }).r pre' m' post' k' :=
      hat'.congr rfl rfl rfl
    exact ReadRes.prepend (out := []) (freadLoop_spec hwf _ _ pre' m' post' k' n hat2 (by simp [Reader.loopFuel])
      -- the loop's fuel covers the members left: `hpl`
      (by intro _; simp only [Reader.loopFuel, hat2.file]; split <;> omega)) rfl (Nat.zero_le _) hsk.blocked hsk.noeof
  · simp only [hL.1]
    exact hsk.toReadRes hL he1 he2

theorem freadByte_spec {F : File} (hwf : WF F) {x : FReader} {pos : Nat} (hi : FInv F x pos) :
    (∀ e, x.r.err = some e → x.readByte = (x, 0, some e)) ∧
    (x.r.err = none → ReadRes F x x.readByte.1 pos 1
      (if x.readByte.2.2 = none then [x.readByte.2.1] else []) x.readByte.2.2) := by
  refine ⟨fun e he => by simp [FReader.readByte, he], fun he => ?_⟩
  have hsk := fskip_spec hwf hi he
  simp only [FReader.readByte, he]
  generalize hx1 : x.skipEmpty x.r.skipFuel = x1 at hsk
  rcases hsk.out with ⟨pre', m', post', k', hat', hk', hpos', hpl⟩ | ⟨e, hL, he1, he2⟩
  · have hm : m'.data.length < 65536 := (WF.mid (hat'.split ▸ hwf)).2
    simp only [hat'.err]
    obtain ⟨xr, xo⟩ := x1
    obtain ⟨rf, rc, rl, re, rb⟩ := xr
    obtain ⟨hf, hs, hc, hle, hee⟩ := hat'
    simp only at hf hc hee
    subst hf hc hee
    -- after a successful skip `k' < m'.data.length`, so `Block.readByte` takes its first arm; the second arm of
    -- `FReader.readByte` (block end: Blocked test, `nextBlock`) is dead under `FInv`
    simp only [FReader.withR, Block.readByte_mk_lt _ _ _ _ _ hk' hm, if_true]
    have hbyte : [m'.data[k']] = ((flatBytes rf).drop pos).take 1 := by
      rw [← hpos', ← take_drop_flat hs k' 1 (by omega), List.drop_eq_getElem_cons hk']; rfl
    refine ⟨by simpa using hbyte, by simp, rfl, hsk.blocked, hsk.noeof, fun _ => ⟨⟨pre', m', post', k' + 1,
      ⟨rfl, hs, by simp [Reader.setEnd], by omega, rfl⟩, by simp; omega⟩, Or.inl rfl⟩, ?_, ?_⟩
    · intro e' he'; simp [Reader.setEnd] at he'
    · intro h; cases h
  · simp only [hL.1]
    exact hsk.toReadRes hL he1 he2

/-- What `Seek` to position `p` may give: the reader stands at `p`, or the error returned is latched (and `FInv`,
which speaks of the position only while no error is latched, holds at any). -/
def SeekRes (F : File) (x : FReader) (p : Nat) (res : FReader × Option Err) : Prop :=
  (res.2 = none → FInv F res.1 p ∧ res.1.r.err = none) ∧
  (∀ e, res.2 = some e → (∀ q, FInv F res.1 q) ∧ res.1.r.err = some e ∧ (e = .eof ∨ e = .other)) ∧
  (res.2 = some .eof → ¬ NoEof x.oracle)

theorem seek_failed {F : File} {x x' : FReader} {p base : Nat} {e : Err} (hfile : x.r.file = F)
    (hc : x'.r = { x.r with cur := Block.failed base })
    (hee : e = .eof ∨ e = .other) (hno : e = .eof → ¬ NoEof x.oracle) :
    SeekRes F x p (x'.withR fun r => { r with err := some e }, some e) := by
  refine ⟨(fun h => by cases h), ?_, ?_⟩
  · intro e1 h1
    simp only [Option.some.injEq] at h1
    subst h1
    refine ⟨fun _ => ⟨by simp [FReader.withR, hc, hfile], ?_, ?_⟩, by simp [FReader.withR], hee⟩
    · intro h; simp [FReader.withR] at h
    · intro e2 h2
      simp only [FReader.withR, Option.some.injEq] at h2
      subst h2
      exact ⟨by simp [FReader.withR, hc, Block.hasData, Block.failed], hee⟩
  · intro h; simp only [Option.some.injEq] at h; exact hno h

theorem fseek_spec {F : File} (hwf : WF F) {x : FReader} {pos : Nat} (hi : FInv F x pos) (o : Offset) (p : Nat)
    (hs : seekTarget (layoutOf F) o = some p) : SeekRes F x p (x.seek o) := by
  obtain ⟨pre', m', post', hF, ho, hb, hp, hmem, hmod⟩ := seekTarget_member F o p hwf hs
  have hofile : o.file = csum pre' := by rw [ho]
  by_cases hne : o.file ≠ x.r.cur.base ∨ x.r.cur.hasData = false
  · -- another block, or the block of a failed load: one load attempt at the target
    have hout := (loadAt_out x o.file hi.file).1
    simp only [FReader.seek, hne, if_true]
    rcases hx : x.loadAt o.file with ⟨x', e'⟩
    rw [hx] at hout
    cases hout with
    | file he hc =>
      -- a seek target is a member start: the load gives that member, and the reader stands in it at `o.block`
      simp only [Block.load, hi.file, hmem] at he hc
      subst he
      simp only
      refine ⟨fun _ => ⟨⟨by simp [FReader.withR, hc], fun _ => ⟨pre', m', post', o.block,
        ⟨by simp [FReader.withR, hc], hF, by simp [FReader.withR, hc, Block.seek, hmod, hofile], hb, rfl⟩, hp⟩,
        (fun e he => by simp [FReader.withR] at he)⟩, by simp [FReader.withR]⟩, (fun e he => by cases he),
        (fun h => by cases h)⟩
    | faultErr he hc =>
      -- the oracle fails the load: the error is latched on `failAt`'s block
      simp only at he hc; subst he
      exact seek_failed hi.file hc (Or.inr rfl) (fun h => by cases h)
    | faultEof ho' he hc =>
      simp only at he hc; subst he
      exact seek_failed hi.file hc (Or.inl rfl) (fun _ hn => absurd rfl (hn _ ho'))
  · -- inside the current block, which has data, so no error is latched and it is the member at the target
    have heq : o.file = x.r.cur.base := Decidable.byContradiction fun h => hne (.inl h)
    have hd : x.r.cur.hasData = true := (Bool.not_eq_false _).mp fun h => hne (.inr h)
    have halive : x.r.err = none := by
      cases he : x.r.err with
      | none => rfl
      | some e => have := (hi.dead e he).1; rw [hd] at this; cases this
    obtain ⟨pre, m, post, k, hat, _⟩ := hi.alive halive
    obtain ⟨rfl, rfl, rfl⟩ := hat.split_eq hwf hF (heq.symm.trans hofile)
    simp only [FReader.seek, hne, if_false]
    refine ⟨fun _ => ⟨⟨by simp [FReader.withR, hi.file], fun _ => ⟨pre, m, post, o.block,
      ⟨by simp [FReader.withR, hi.file], hF, by simp [FReader.withR, Block.seek, hat.cur, hmod], hb, rfl⟩, hp⟩,
      (fun e he => by simp [FReader.withR] at he)⟩, by simp [FReader.withR]⟩, (fun e he => by cases he),
      (fun h => by cases h)⟩

/-- What one operation may return when the reader stands at logical position `pos` (meaningful while no
error is latched) — under any faults:
* a `Read`/`ReadByte` issued while an error is latched returns nothing and that error again (sticky, as
  `bg.err` in Go), and changes nothing;
* otherwise the bytes returned are the bytes of the flat copy at `pos` (`ReadRes.bytes_ok`), at most as many as
  asked for; an error is either latched or, in Blocked mode, the `io.EOF` of a block end; `io.EOF` outside
  Blocked mode means the end of the data, unless the source itself reported a clean end of input at a member
  start (`ReadRes.eofEnd`);
* a `Seek` either succeeds (no error latched afterwards) or latches the error it returns. -/
def FaultStepOK (F : File) (x : FReader) (pos : Nat) (op : Op) (out : Out) (x' : FReader) : Prop :=
  match op with
  | .read n =>
    (∀ e, x.r.err = some e → out.bytes = [] ∧ out.err = some e ∧ x' = x) ∧
    (x.r.err = none → ReadRes F x x' pos n out.bytes out.err)
  | .readByte =>
    (∀ e, x.r.err = some e → out.bytes = [] ∧ out.err = some e ∧ x' = x) ∧
    (x.r.err = none → ReadRes F x x' pos 1 out.bytes out.err)
  | .seek _ =>
    out.bytes = [] ∧ (out.err = none → x'.r.err = none) ∧
    (∀ e, out.err = some e → x'.r.err = some e ∧ (e = .eof ∨ e = .other)) ∧
    (out.err = some .eof → ¬ NoEof x.oracle)
  | .setBlocked _ => out.bytes = [] ∧ out.err = none ∧ x'.r.err = x.r.err

theorem FaultStepOK.bytes_ok {F : File} {x x' : FReader} {pos : Nat} {op : Op} {out : Out}
    (h : FaultStepOK F x pos op out x') : out.bytes = ((flatBytes F).drop pos).take out.bytes.length := by
  cases op with
  | read n | readByte =>
    cases he : x.r.err with
    | some e => rw [(h.1 e he).1]; rfl
    | none => exact (h.2 he).bytes_ok
  | seek o | setBlocked b => rw [h.1]; rfl

/-- `hne`: `io.EOF` is returned unlatched at a block end in Blocked mode. -/
theorem FaultStepOK.err_latched {F : File} {x x' : FReader} {pos : Nat} {op : Op} {out : Out}
    (h : FaultStepOK F x pos op out x') {e : Err} (he : out.err = some e) (hne : e ≠ .eof) : x'.r.err = some e := by
  cases op with
  | read n | readByte =>
    cases hx : x.r.err with
    | some e0 => have ⟨_, h2, h3⟩ := h.1 e0 hx; rw [h3, hx, ← h2, he]
    | none =>
      have hr := h.2 hx
      cases hx' : x'.r.err with
      | some e' => have := (hr.latched e' hx').1; rw [he] at this; rw [Option.some.inj this]
      | none =>
        rcases (hr.alive hx').2 with h0 | ⟨h0, _⟩
        · rw [he] at h0; cases h0
        · rw [he] at h0; exact absurd (Option.some.inj h0) hne
  | seek o => exact (h.2.2.1 e he).1
  | setBlocked b => have := h.2.1; rw [he] at this; cases this

/-- The logical position after an operation: advanced by the bytes returned; set by a successful `Seek`. -/
def nextPos (L : Layout) (pos : Nat) (op : Op) (out : Out) : Nat :=
  match op with
  | .seek o => if out.err = none then (seekTarget L o).getD pos else pos
  | _ => pos + out.bytes.length

/-- Every operation of a history is `FaultStepOK` at the position tracked through the bytes returned and the
successful seeks. -/
def RunOK (F : File) : FReader → Nat → List Op → Prop
  | _, _, [] => True
  | x, pos, op :: ops =>
    FaultStepOK F x pos op (x.step op).2 (x.step op).1 ∧
    RunOK F (x.step op).1 (nextPos (layoutOf F) pos op (x.step op).2) ops

theorem read_like_ok {F : File} {x x' : FReader} {pos want : Nat} {out : Out} (hi : FInv F x pos)
    (h1 : ∀ e, x.r.err = some e → out = ⟨[], some e⟩ ∧ x' = x)
    (h2 : x.r.err = none → ReadRes F x x' pos want out.bytes out.err) :
    ((∀ e, x.r.err = some e → out.bytes = [] ∧ out.err = some e ∧ x' = x) ∧
      (x.r.err = none → ReadRes F x x' pos want out.bytes out.err)) ∧
    FInv F x' (pos + out.bytes.length) := by
  refine ⟨⟨fun e he => ?_, h2⟩, ?_⟩
  · obtain ⟨rfl, rfl⟩ := h1 e he
    exact ⟨rfl, rfl, rfl⟩
  · cases he : x.r.err with
    | some e => obtain ⟨rfl, rfl⟩ := h1 e he; exact hi
    | none => exact (h2 he).inv

theorem fstep_ok {F : File} (hwf : WF F) {x : FReader} {pos : Nat} (hi : FInv F x pos) (op : Op)
    (hv : OpValid (layoutOf F) op) :
    FaultStepOK F x pos op (x.step op).2 (x.step op).1 ∧
    FInv F (x.step op).1 (nextPos (layoutOf F) pos op (x.step op).2) := by
  cases op with
  | read n =>
    have ⟨h1, h2⟩ := fread_spec hwf hi n
    exact read_like_ok hi (fun e he => by simp [FReader.step, h1 e he]) h2
  | readByte =>
    have ⟨h1, h2⟩ := freadByte_spec hwf hi
    exact read_like_ok hi (fun e he => by simp [FReader.step, h1 e he]) h2
  | seek o =>
    obtain ⟨p, hp⟩ := Option.isSome_iff_exists.mp hv
    have ⟨h1, h2, h5⟩ := fseek_spec hwf hi o p hp
    refine ⟨And.intro rfl ⟨fun h => (h1 h).2, fun e he => (h2 e he).2, h5⟩, ?_⟩
    show FInv F (x.seek o).1 (if (x.seek o).2 = none then (seekTarget (layoutOf F) o).getD pos else pos)
    cases he : (x.seek o).2 with
    | none => simpa [hp] using (h1 he).1
    | some e => simpa using (h2 e he).1 pos
  | setBlocked b =>
    refine ⟨And.intro rfl ⟨rfl, rfl⟩, hi.file, fun h => ?_, hi.dead⟩
    obtain ⟨pre, m, post, k, hat, hp⟩ := hi.alive h
    exact ⟨pre, m, post, k, hat.congr rfl rfl rfl, hp⟩

theorem frun_ok {F : File} (hwf : WF F) (ops : List Op) :
    ∀ (x : FReader) (pos : Nat), FInv F x pos → ValidOps (layoutOf F) ops → RunOK F x pos ops := by
  induction ops with
  | nil => intro _ _ _ _; trivial
  | cons op ops ih =>
    intro x pos hi hv
    have ⟨hv1, hv2⟩ := validOps_cons hv
    have ⟨h1, h2⟩ := fstep_ok hwf hi op hv1
    exact ⟨h1, ih _ _ h2 hv2⟩

theorem finv_new {F : File} {r0 : Reader} (h : Reader.new F = .ok r0) (oracle : List LoadFault) :
    FInv F ⟨r0, oracle⟩ 0 := by
  obtain ⟨m, post, rfl, rfl⟩ := Reader.new_ok h
  exact ⟨rfl, fun _ => ⟨[], m, post, 0, ⟨rfl, rfl, rfl, Nat.zero_le _, rfl⟩, rfl⟩, nofun⟩

end Hts.Model.Bgzf
