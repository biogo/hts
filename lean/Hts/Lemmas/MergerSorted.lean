/-
The Merger model merging by sort order: what one `Read` does to the heap and to the kept error, the
sequence of `Read`s to the end as a relation (`Runs`), and what holds of every such run.  The notions the statements of
both modes are written with (`tagged`, `SortedBy`, `AdjSorted`) are defined here, and `drain_succ` holds in any mode
(MergerCat uses it).
-/
import Hts.Lemmas.MergerOrder
namespace Hts.Model.Merger

/-- the records `rs` of source `i` as the merger returns them: tagged with the source and re-linked -/
def tagged (links : Option LinkFn) (i : Nat) (rs : List Rec) : List (Nat × Rec) :=
  rs.map fun r => (i, relink links i r)

/-- everything a source in the heap will still contribute, in its order -/
def Live.pending (links : Option LinkFn) (x : Live) : List (Nat × Rec) :=
  (x.id, x.head) :: tagged links x.id x.src.rest

def heapPending (links : Option LinkFn) (heap : List Live) : List (Nat × Rec) :=
  heap.flatMap (Live.pending links)

/-- sorted: no element is below an earlier one -/
def SortedBy {α : Type} (lt : α → α → Bool) (l : List α) : Prop :=
  l.Pairwise fun a b => lt b a = false

def AdjSorted {α : Type} (lt : α → α → Bool) : List α → Prop
  | [] => True
  | [_] => True
  | a :: b :: rest => lt b a = false ∧ AdjSorted lt (b :: rest)

/-- the `reader` for source `i` in state `s` (NewMerger's loop and the re-fill of nextBySortOrder) -/
def Live.start (links : Option LinkFn) (i : Nat) (s : Src) : Option Live :=
  match s.rest with
  | r :: rs => some { id := i, head := relink links i r, src := { s with rest := rs } }
  | [] => none

/-- the error of a source that fails without delivering a record -/
def Src.emptyErr (s : Src) : Option Nat :=
  match s.rest, s.term with
  | [], .err e => some e
  | _, _ => none

variable {H : Heap} {links : Option LinkFn} {less : Less} {heap : List Live} {err : Option Nat}
  {out : List (Nat × Rec)} {t : Term}

theorem Live.start_eq_none {i : Nat} {s : Src} (h : Live.start links i s = none) :
    s.rest = [] := by
  unfold Live.start at h
  cases hr : s.rest <;> simp [hr] at h ⊢

theorem Live.start_eq_some {i : Nat} {s : Src} {y : Live} (h : Live.start links i s = some y) :
    y.id = i ∧ y.src.term = s.term ∧ y.pending links = tagged links i s.rest := by
  unfold Live.start at h
  cases hr : s.rest with
  | nil => simp [hr] at h
  | cons r rs =>
    simp only [hr, Option.some.injEq] at h
    subst h
    exact ⟨rfl, rfl, rfl⟩

theorem pending_start (links : Option LinkFn) (i : Nat) (s : Src) :
    heapPending links (Live.start links i s).toList = tagged links i s.rest := by
  cases h : Live.start links i s with
  | none => rw [Live.start_eq_none h]; rfl
  | some y => simp [heapPending, (Live.start_eq_some h).2.2]

theorem Live.start_ids (links : Option LinkFn) (i : Nat) (s : Src) :
    ((Live.start links i s).toList.map (·.id)).Sublist [i] := by
  cases h : Live.start links i s with
  | none => exact List.nil_sublist _
  | some y => exact (Live.start_eq_some h).1 ▸ .refl _

theorem Src.term_eq_eof (links : Option LinkFn) (i : Nat) {s : Src} (he : s.emptyErr = none)
    (h : ∀ y, Live.start links i s = some y → y.src.term = .eof) : s.term = .eof := by
  cases hs : Live.start links i s with
  | none =>
    unfold Src.emptyErr at he
    cases ht : s.term <;> simp [Live.start_eq_none hs, ht] at he ⊢
  | some y => exact (Live.start_eq_some hs).2.1 ▸ h y hs

theorem Src.emptyErr_eq_some {s : Src} {e : Nat} (h : s.emptyErr = some e) : s.term = .err e := by
  unfold Src.emptyErr at h
  split at h
  · rename_i ht
    rw [ht, Option.some.inj h]
  · cases h

theorem sortedRead_of_pop_none (h : H.pop (heapLess less) heap = none) :
    sortedRead H links less heap err = (.fin (errTerm err), (heap, err)) := by
  unfold sortedRead
  rw [h]

theorem sortedRead_of_pop_some {x : Live} {rest : List Live} (h : H.pop (heapLess less) heap = some (x, rest)) :
    sortedRead H links less heap err =
      (.got x.id x.head, ((Live.start links x.id x.src).toList ++ rest, err.or x.src.emptyErr)) := by
  unfold sortedRead Live.start Src.emptyErr Src.read
  rw [h]
  simp only
  cases x.src.rest with
  | cons r rs => cases err <;> rfl
  | nil => cases x.src.term <;> cases err <;> rfl

theorem pending_step (links : Option LinkFn) (x : Live) (rest : List Live) :
    heapPending links (x :: rest) =
      (x.id, x.head) :: heapPending links ((Live.start links x.id x.src).toList ++ rest) := by
  have := pending_start links x.id x.src
  unfold heapPending at *
  rw [List.flatMap_append, this]
  rfl

theorem sortedRead_fin_again {st : List Live × Option Nat} (h : sortedRead H links less heap err = (.fin t, st)) :
    sortedRead H links less st.1 st.2 = (.fin t, st) := by
  cases hp : H.pop (heapLess less) heap with
  | none => rw [sortedRead_of_pop_none hp] at h; cases h; exact sortedRead_of_pop_none hp
  | some xr => rw [sortedRead_of_pop_some hp] at h; cases h

theorem read_sorted (H : Heap) (links : Option LinkFn) (less : Less) (heap : List Live) (err : Option Nat) :
    Merger.read H ⟨links, .sorted less heap err⟩ =
      ((sortedRead H links less heap err).1,
        ⟨links, .sorted less (sortedRead H links less heap err).2.1 (sortedRead H links less heap err).2.2⟩) := rfl

theorem drain_succ (H : Heap) (n : Nat) (m : Merger) :
    drain H (n + 1) m =
      match m.read H with
      | (.got id r, m') => ((id, r) :: (drain H n m').1, (drain H n m').2)
      | (.fin t, _) => ([], some t) := by
  rw [drain]
  cases m.read H with
  | mk o m' => cases o <;> rfl

/-- from the heap `heap` and the kept error `err` the calls of `Read` return the records `out`, then the error `t` -/
inductive Runs (H : Heap) (links : Option LinkFn) (less : Less) :
    List Live → Option Nat → List (Nat × Rec) → Term → Prop
  | done (err : Option Nat) : Runs H links less [] err [] (errTerm err)
  | step {heap rest : List Live} {x : Live} {err : Option Nat} {out : List (Nat × Rec)} {t : Term}
      (hp : H.pop (heapLess less) heap = some (x, rest)) (hperm : (x :: rest).Perm heap)
      (h : Runs H links less ((Live.start links x.id x.src).toList ++ rest) (err.or x.src.emptyErr) out t) :
      Runs H links less heap err ((x.id, x.head) :: out) t

theorem size_sorted (links : Option LinkFn) (less : Less) (heap : List Live) (err : Option Nat) :
    (⟨links, .sorted less heap err⟩ : Merger).size = (heapPending links heap).length := by
  simp only [Merger.size, heapPending, List.length_flatMap, Live.pending, tagged, List.length_cons, List.length_map,
    Nat.add_comm]

theorem drain_sorted (H : Heap) (links : Option LinkFn) (less : Less) :
    ∀ n heap err {out fin}, drain H n ⟨links, .sorted less heap err⟩ = (out, fin) →
      (⟨links, .sorted less heap err⟩ : Merger).size < n → ∃ t, fin = some t ∧ Runs H links less heap err out t
  | 0, _, _, _, _, _, h => by omega
  | n + 1, heap, err, _, _, hd, h => by
    rw [size_sorted] at h
    rw [drain_succ, read_sorted] at hd
    cases heap with
    | nil =>
      rw [sortedRead_of_pop_none (H.pop_nil _)] at hd
      cases hd
      exact ⟨_, rfl, .done err⟩
    | cons y ys =>
      obtain ⟨x, rest, hp, hperm⟩ := H.pop_perm (heapLess less) (y :: ys) (by simp)
      -- the fuel suffices: the pop only permutes the heap, so as many records are pending as before, and the heap
      -- after the `Read` has one fewer (`pending_step`)
      have hl := (hperm.flatMap_right (Live.pending links)).length_eq
      rw [← heapPending, ← heapPending, pending_step, List.length_cons] at hl
      rw [sortedRead_of_pop_some hp] at hd
      cases hd
      obtain ⟨t, ht, hr⟩ := drain_sorted H links less n ((Live.start links x.id x.src).toList ++ rest)
        (err.or x.src.emptyErr) rfl (by rw [size_sorted]; omega)
      exact ⟨t, ht, .step hp hperm hr⟩

theorem Runs.perm (h : Runs H links less heap err out t) : out.Perm (heapPending links heap) := by
  induction h with
  | done => exact .refl _
  | step _ hperm _ ih => exact (pending_step .. ▸ ih.cons _).trans (hperm.flatMap_right _)

theorem mem_pending_id {y : Live} {p : Nat × Rec} (h : p ∈ y.pending links) : p.1 = y.id := by
  unfold Live.pending tagged at h
  simp only [List.mem_cons, List.mem_map] at h
  rcases h with rfl | ⟨r, _, rfl⟩ <;> rfl

theorem filter_pending_self (links : Option LinkFn) (y : Live) :
    (y.pending links).filter (fun p => p.1 == y.id) = y.pending links := by
  rw [List.filter_eq_self]
  intro p hp
  simp [mem_pending_id hp]

theorem filter_tagged_of_ne (links : Option LinkFn) {i j : Nat} (h : j ≠ i) (rs : List Rec) :
    (tagged links j rs).filter (fun p => p.1 == i) = [] := by
  rw [List.filter_eq_nil_iff]
  intro p hp
  obtain ⟨r, _, rfl⟩ := List.mem_map.1 hp
  simpa using h

theorem filter_pending_of_ne {y : Live} {i : Nat} (h : y.id ≠ i) :
    (y.pending links).filter (fun p => p.1 == i) = [] := by
  rw [Live.pending, List.filter_cons_of_neg (by simpa using h), filter_tagged_of_ne links h]

theorem filter_heapPending_perm {l₁ l₂ : List Live} (hp : l₁.Perm l₂) (hnd : (l₁.map (·.id)).Nodup) (i : Nat) :
    (heapPending links l₁).filter (fun p => p.1 == i) = (heapPending links l₂).filter (fun p => p.1 == i) := by
  unfold heapPending
  induction hp with
  | nil => rfl
  | cons x _ ih => simp only [List.flatMap_cons, List.filter_append, ih (List.nodup_cons.1 hnd).2]
  | swap x y l =>
    have hne : y.id ≠ x.id := fun h => (List.nodup_cons.1 hnd).1 (List.mem_map.2 ⟨x, List.mem_cons_self, h.symm⟩)
    simp only [List.flatMap_cons, List.filter_append, ← List.append_assoc]
    congr 1
    -- the ids differ, so one of the two swapped blocks is filtered away
    by_cases h : x.id = i
    · rw [filter_pending_of_ne (h ▸ hne), List.nil_append, List.append_nil]
    · rw [filter_pending_of_ne h, List.nil_append, List.append_nil]
  | trans h₁ _ ih₁ ih₂ => exact (ih₁ hnd).trans (ih₂ ((h₁.map _).nodup_iff.1 hnd))

theorem nodup_start_append {x : Live} {rest : List Live} (h : ((x :: rest).map (·.id)).Nodup) :
    (((Live.start links x.id x.src).toList ++ rest).map (·.id)).Nodup := by
  rw [List.map_append]
  exact h.sublist ((Live.start_ids links x.id x.src).append (.refl _))

theorem Runs.filter (h : Runs H links less heap err out t) (hnd : (heap.map (·.id)).Nodup) (i : Nat) :
    out.filter (fun p => p.1 == i) = (heapPending links heap).filter (fun p => p.1 == i) := by
  induction h with
  | done => rfl
  | @step heap rest x _ _ _ _ hperm _ ih =>
    have hnd' : ((x :: rest).map (·.id)).Nodup := (hperm.map _).nodup_iff.2 hnd
    rw [← filter_heapPending_perm hperm hnd' i, pending_step, List.filter_cons, List.filter_cons,
      ih (nodup_start_append hnd')]

theorem not_below_min_head (sw : StrictWeak less) {x : Live} {rest : List Live}
    (hmin : ∀ y, y ∈ rest → heapLess less y x = false)
    (hs : ∀ y, y ∈ x :: rest → SortedBy (pairLess less) (y.pending links)) :
    ∀ p, p ∈ heapPending links (x :: rest) → pairLess less p (x.id, x.head) = false := by
  intro p hp
  obtain ⟨y, hy, hpy⟩ := List.mem_flatMap.1 hp
  have hyx : pairLess less (y.id, y.head) (x.id, x.head) = false := by
    cases hy with
    | head => exact (pairLess_strictWeak less sw).irrefl _
    | tail _ hy => exact heapLess_eq less y x ▸ hmin y hy
  cases hpy with
  | head => exact hyx
  | tail _ hpt =>
    exact (pairLess_strictWeak less sw).negTrans _ _ _ ((List.pairwise_cons.1 (hs y hy)).1 p hpt) hyx

theorem Runs.sorted (sw : StrictWeak less) (h : Runs H links less heap err out t)
    (hs : ∀ y, y ∈ heap → SortedBy (pairLess less) (y.pending links)) : SortedBy (pairLess less) out := by
  induction h with
  | done => exact .nil
  | @step heap rest x _ _ _ hp hperm hr ih =>
    have hs' : ∀ y, y ∈ x :: rest → SortedBy (pairLess less) (y.pending links) :=
      fun y hy => hs y (hperm.mem_iff.1 hy)
    refine List.pairwise_cons.2 ⟨fun p hpo => ?_, ih fun y hy => ?_⟩
    · refine not_below_min_head sw (H.pop_min _ _ _ _ (heapLess_strictWeak less sw) hp) hs' p ?_
      rw [pending_step]
      exact List.mem_cons_of_mem _ (hr.perm.mem_iff.1 hpo)
    · rcases List.mem_append.1 hy with hy | hy
      · have hx := hs' x List.mem_cons_self
        rw [Live.pending, ← (Live.start_eq_some (Option.mem_toList.1 hy)).2.2] at hx
        exact (List.pairwise_cons.1 hx).2
      · exact hs' y (List.mem_cons_of_mem _ hy)

theorem Runs.fin_eof (h : Runs H links less heap err out t) (ht : t = .eof) :
    err = none ∧ ∀ y, y ∈ heap → y.src.term = .eof := by
  induction h with
  | done err => cases err <;> simp [errTerm] at ht ⊢
  | @step heap rest x err _ _ _ hperm _ ih =>
    obtain ⟨he, hall⟩ := ih ht
    obtain ⟨he, hx⟩ := Option.or_eq_none_iff.1 he
    refine ⟨he, fun y hy => ?_⟩
    cases hperm.mem_iff.2 hy with
    | head => exact Src.term_eq_eof links x.id hx fun y' hs => hall y' (by simp [hs])
    | tail _ hy => exact hall y (List.mem_append_right _ hy)

theorem Runs.fin_err {e : Nat} (h : Runs H links less heap err out t) (ht : t = .err e) :
    err = some e ∨ ∃ y, y ∈ heap ∧ y.src.term = .err e := by
  induction h with
  | done err => cases err <;> simp [errTerm] at ht ⊢; exact ht
  | @step heap rest x err _ _ _ hperm _ ih =>
    have hx : x ∈ heap := hperm.mem_iff.1 List.mem_cons_self
    rcases ih ht with he | ⟨y, hy, hyt⟩
    · rcases Option.or_eq_some_iff.1 he with he | ⟨_, he⟩
      · exact Or.inl he
      · exact Or.inr ⟨x, hx, Src.emptyErr_eq_some he⟩
    · rcases List.mem_append.1 hy with hy | hy
      · exact Or.inr ⟨x, hx, (Live.start_eq_some (Option.mem_toList.1 hy)).2.1 ▸ hyt⟩
      · exact Or.inr ⟨y, hperm.mem_iff.1 (List.mem_cons_of_mem _ hy), hyt⟩

/-- The run does not depend on which minimal element the heap returns: for a strict weak order `less` and distinct
source ids the heap order is total on the heads, so the minimal element is unique.  (This is what makes the
exact-sequence comparison of the correspondence check meaningful: the executable heap of the driver stands for any
implementation satisfying the `Heap` laws.) -/
theorem Runs.unique (sw : StrictWeak less) {H₁ H₂ : Heap} {heap₁ : List Live} {out₁ : List (Nat × Rec)} {t₁ : Term}
    (h₁ : Runs H₁ links less heap₁ err out₁ t₁) :
    ∀ {heap₂ out₂ t₂}, Runs H₂ links less heap₂ err out₂ t₂ → heap₁.Perm heap₂ → (heap₁.map (·.id)).Nodup →
      out₁ = out₂ ∧ t₁ = t₂ := by
  induction h₁ with
  | done err =>
    intro _ _ _ h₂ hperm _
    cases h₂ with
    | done => exact ⟨rfl, rfl⟩
    | step _ hperm₂ _ => exact absurd (hperm₂.trans hperm.symm).eq_nil (List.cons_ne_nil _ _)
  | @step heap₁ rest₁ x₁ err _ _ hp₁ hperm₁ _ ih =>
    intro _ _ _ h₂ hperm hnd
    cases h₂ with
    | done => exact absurd (hperm₁.trans hperm).eq_nil (List.cons_ne_nil _ _)
    | @step _ rest₂ x₂ _ _ _ hp₂ hperm₂ hr₂ =>
      have hsw := heapLess_strictWeak less sw
      have h12 : (x₁ :: rest₁).Perm (x₂ :: rest₂) := hperm₁.trans (hperm.trans hperm₂.symm)
      have hnd₁ : ((x₁ :: rest₁).map (·.id)).Nodup := (hperm₁.map _).nodup_iff.2 hnd
      have hxx : x₁ = x₂ := by
        cases h12.mem_iff.1 List.mem_cons_self with
        | head => rfl
        | tail _ h12' =>
          cases h12.mem_iff.2 List.mem_cons_self with
          | head => rfl
          | tail _ h21 =>
            -- neither is below the other, so they carry the same id, twice in `x₁ :: rest₁`
            have hid := pairLess_incomp_id less (x₁.id, x₁.head) (x₂.id, x₂.head)
              (H₂.pop_min _ _ _ _ hsw hp₂ x₁ h12') (H₁.pop_min _ _ _ _ hsw hp₁ x₂ h21)
            exact absurd (List.mem_map.2 ⟨x₂, h21, hid.symm⟩) (List.nodup_cons.1 hnd₁).1
      subst hxx
      obtain ⟨rfl, rfl⟩ := ih hr₂ (h12.cons_inv.append_left _) (nodup_start_append hnd₁)
      exact ⟨rfl, rfl⟩

/-- a second heap instance: the same scan over the reversed slice (prefers the right-most minimal element) -/
def scanHeapR : Heap where
  pop := fun lt l => popMin lt l.reverse
  pop_nil := fun _ => rfl
  pop_perm := fun lt l h => by
    obtain ⟨x, rest, hp, hperm⟩ := popMin_perm lt l.reverse (by simpa using h)
    exact ⟨x, rest, hp, hperm.trans (List.reverse_perm l)⟩
  pop_min := fun lt l x rest sw h => popMin_min lt sw l.reverse x rest h

theorem sorted_stable_unique (less : Less) :
    ∀ (l1 l2 : List (Nat × Rec)), SortedBy (pairLess less) l1 → SortedBy (pairLess less) l2 →
      (∀ i : Nat, l1.filter (fun p => p.1 == i) = l2.filter (fun p => p.1 == i)) → l1 = l2
  | [], [], _, _, _ => rfl
  | [], b :: l2, _, _, hf => by simpa using hf b.1
  | a :: l1, [], _, _, hf => by simpa using hf a.1
  | a :: l1, b :: l2, hs1, hs2, hf => by
    obtain ⟨h1, ht1⟩ := List.pairwise_cons.1 hs1
    obtain ⟨h2, ht2⟩ := List.pairwise_cons.1 hs2
    -- each head survives the filter by its own id, so it occurs in the other list
    have ha : a ∈ (b :: l2).filter (fun p => p.1 == a.1) :=
      hf a.1 ▸ List.mem_filter.2 ⟨List.mem_cons_self, beq_self_eq_true _⟩
    have hb : b ∈ (a :: l1).filter (fun p => p.1 == b.1) :=
      hf b.1 ▸ List.mem_filter.2 ⟨List.mem_cons_self, beq_self_eq_true _⟩
    have hid : a.1 = b.1 := by
      rcases List.mem_cons.1 (List.mem_filter.1 ha).1 with rfl | ha
      · rfl
      rcases List.mem_cons.1 (List.mem_filter.1 hb).1 with rfl | hb
      · rfl
      exact pairLess_incomp_id less a b (h2 a ha) (h1 b hb)
    -- with the same id, `a` and `b` are both the head of the filter by that id
    have hab := hf a.1
    simp only [List.filter_cons, beq_self_eq_true, if_true, hid] at hab
    obtain ⟨rfl, _⟩ := List.cons.inj hab
    refine congrArg (a :: ·) (sorted_stable_unique less l1 l2 ht1 ht2 fun i => ?_)
    have hi := hf i
    simp only [List.filter_cons] at hi
    split at hi
    · exact (List.cons.inj hi).2
    · exact hi

end Hts.Model.Merger
