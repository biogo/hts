/-
The reader model on a split file ("zipper"): a state that stands at offset `k` of member `m` (`At`), loading the
next member, the empty-block skipping loop, and the one-step unfoldings of the copy loop of `Reader.Read`.
-/
import Hts.Lemmas.ReaderBasic
namespace Hts.Model.Bgzf
open Hts.Spec.Flat

/-- `r` stands at offset `k` of member `m` of the file `F = pre ++ m :: post`, without a pending error. -/
structure At (F : File) (r : Reader) (pre : File) (m : Member) (post : File) (k : Nat) : Prop where
  file : r.file = F
  split : F = pre ++ m :: post
  cur : r.cur = ⟨csum pre, m.csize, m.data, k, ⟨csum pre, k⟩⟩
  le : k ≤ m.data.length
  err : r.err = none

/-- `r` has run into the end of the file: sticky `io.EOF`, the (stale) current block re-based at the
file length. -/
structure AtEOF (F : File) (r : Reader) : Prop where
  file : r.file = F
  err : r.err = some .eof
  base : r.cur.base = csum F
  tx : r.cur.tx = ⟨csum F, 0⟩

/-- `r'` differs from `r` at most in the current block and the error. -/
def Frame (r r' : Reader) : Prop :=
  r'.file = r.file ∧ r'.lastChunk = r.lastChunk ∧ r'.blocked = r.blocked

theorem Frame.refl (r : Reader) : Frame r r := ⟨rfl, rfl, rfl⟩

variable {F : File} {r : Reader} {pre : File} {m m' : Member} {post : File} {k : Nat}

theorem At.congr {r2 : Reader} (h : At F r pre m post k) (hf : r2.file = r.file) (hc : r2.cur = r.cur)
    (he : r2.err = r.err) : At F r2 pre m post k :=
  ⟨hf.trans h.file, h.split, hc.trans h.cur, h.le, he.trans h.err⟩

theorem At.cur_len (h : At F r pre m post k) : r.cur.len = m.data.length - k := by rw [h.cur]; rfl

theorem At.split_eq {pre' post' : File} (h : At F r pre m post k) (hwf : WF F) (hF : F = pre' ++ m' :: post')
    (hb : r.cur.base = csum pre') : pre = pre' ∧ m = m' ∧ post = post' :=
  split_unique (h.split ▸ hwf) (h.split.symm.trans hF) (by rw [h.cur] at hb; exact hb)

theorem nextBlock_nil (hwf : WF F) (h : At F r pre m [] k) :
    r.nextBlock = ({ r with cur := Block.failed (csum F) }, some .eof) := by
  obtain ⟨hf, rfl, hc, _, _⟩ := h
  simp [Reader.nextBlock, hf, hc, Block.nextBase, load_after hwf rfl, csum]

theorem nextBlock_cons (hwf : WF F) (h : At F r pre m (m' :: post) k) :
    r.nextBlock = ({ r with cur := ⟨csum (pre ++ [m]), m'.csize, m'.data, 0, ⟨csum (pre ++ [m]), 0⟩⟩ }, none) := by
  obtain ⟨hf, rfl, hc, _, _⟩ := h
  simp [Reader.nextBlock, hf, hc, Block.nextBase, load_after hwf rfl]

theorem At.next {r2 : Reader} (h : At F r pre m (m' :: post) k) (hf : r2.file = r.file)
    (hc : r2.cur = ⟨csum (pre ++ [m]), m'.csize, m'.data, 0, ⟨csum (pre ++ [m]), 0⟩⟩) (he : r2.err = none) :
    At F r2 (pre ++ [m]) m' post 0 :=
  ⟨hf.trans h.file, by rw [h.split]; simp, hc, Nat.zero_le _, he⟩

theorem At.skipFuel (h : At F r pre m post k) : post.length < r.skipFuel := by
  simp only [Reader.skipFuel, h.file, h.split, List.length_append, List.length_cons]; omega

theorem skipEmpty_of_lt (h : At F r pre m post k) (hk : k < m.data.length) (fuel : Nat) :
    r.skipEmpty (fuel + 1) = r := by
  have : r.cur.len ≠ 0 := by rw [h.cur_len]; omega
  simp [Reader.skipEmpty, this]

/-- The last conjunct of the first alternative (nothing was skipped, or the loop went on to the start of a later
member) is there for the progress measure of the ChunkReader (`readCore_spec`); the other users drop it. -/
theorem skipEmpty_at (hwf : WF F) {fuel : Nat} (h : At F r pre m post k) (hfuel : post.length < fuel) :
      Frame r (r.skipEmpty fuel) ∧
      ((∃ pre1 m1 post1 k1, At F (r.skipEmpty fuel) pre1 m1 post1 k1 ∧ k1 < m1.data.length ∧
          flatLen pre1 + k1 = flatLen pre + k ∧
          ((pre1 = pre ∧ m1 = m ∧ post1 = post ∧ k1 = k) ∨
           (k = m.data.length ∧ k1 = 0 ∧ csum pre + m.csize ≤ csum pre1 ∧ post1.length < post.length))) ∨
       (AtEOF F (r.skipEmpty fuel) ∧ flatLen pre + k = flatLen F)) := by
  induction fuel generalizing r pre m post k with
  | zero => exact absurd hfuel (Nat.not_lt_zero _)
  | succ fuel ih =>
    by_cases hk : k < m.data.length
    · rw [skipEmpty_of_lt h hk]
      exact ⟨Frame.refl r, Or.inl ⟨pre, m, post, k, h, hk, rfl, Or.inl ⟨rfl, rfl, rfl, rfl⟩⟩⟩
    obtain rfl : k = m.data.length := Nat.le_antisymm h.le (Nat.not_lt.mp hk)
    have hl : r.cur.len = 0 := by rw [h.cur_len]; exact Nat.sub_self _
    cases post with
    | nil =>
      simp only [Reader.skipEmpty, hl, if_true, nextBlock_nil hwf h]
      refine ⟨⟨rfl, rfl, rfl⟩, Or.inr ⟨⟨h.file, rfl, rfl, rfl⟩, ?_⟩⟩
      rw [h.split]; simp [flatLen]
    | cons m' post =>
      simp only [Reader.skipEmpty, hl, if_true, nextBlock_cons hwf h]
      have h1 : At F ({ r with cur := ⟨csum (pre ++ [m]), m'.csize, m'.data, 0, ⟨csum (pre ++ [m]), 0⟩⟩,
                               err := none } : Reader) (pre ++ [m]) m' post 0 := h.next rfl rfl rfl
      have ⟨hfr, hres⟩ := ih h1 (Nat.lt_of_succ_lt_succ hfuel)
      refine ⟨hfr, ?_⟩
      have hp : flatLen (pre ++ [m]) + 0 = flatLen pre + m.data.length := by simp [flatLen]
      rw [hp] at hres
      rcases hres with ⟨pre1, m1, post1, k1, hat, hk1, hp1, hrel⟩ | heof
      · refine Or.inl ⟨pre1, m1, post1, k1, hat, hk1, hp1, Or.inr ⟨trivial, ?_⟩⟩
        rcases hrel with ⟨rfl, rfl, rfl, rfl⟩ | ⟨_, rfl, hc, hl⟩
        · exact ⟨rfl, by simp [csum], by simp⟩
        · refine ⟨rfl, ?_, by simp; omega⟩
          simp only [csum_append, csum] at hc; omega
      · exact Or.inr heof

theorem Block.read_mk_lt (base hsize : Nat) (data : List UInt8) (k tf n : Nat) (h : k < data.length)
    (hlen : data.length < 65536) :
    (Block.mk base hsize data k ⟨tf, k⟩).read n = ((data.drop k).take n, false,
      ⟨base, hsize, data, k + min n (data.length - k), ⟨tf, k + min n (data.length - k)⟩⟩) := by
  have hmod : (k + min n (data.length - k)) % 65536 = k + min n (data.length - k) := Nat.mod_eq_of_lt (by omega)
  simp [Block.read, Nat.not_le.mpr h, hmod]

theorem Block.read_mk_ge (base hsize : Nat) (data : List UInt8) (k : Nat) (tx : Offset) (n : Nat)
    (h : data.length ≤ k) :
    (Block.mk base hsize data k tx).read n = ([], true, Block.mk base hsize data k tx) := by
  simp [Block.read, h]

theorem Block.readByte_mk_lt (base hsize : Nat) (data : List UInt8) (k tf : Nat) (h : k < data.length)
    (hlen : data.length < 65536) :
    (Block.mk base hsize data k ⟨tf, k⟩).readByte = (data[k], false, ⟨base, hsize, data, k + 1, ⟨tf, k + 1⟩⟩) := by
  unfold Block.readByte
  simp only []
  rw [List.drop_eq_getElem_cons h, Nat.mod_eq_of_lt (show k + 1 < 65536 by omega)]

theorem readLoop_zero (fuel : Nat) (r : Reader) :
    r.readLoop (fuel + 1) 0 = (r.setEnd, [], r.err) := by
  simp [Reader.readLoop]

/-- The state after consuming `x` more bytes of the current member. -/
def Reader.adv (r : Reader) (x : Nat) : Reader :=
  { r with cur := { r.cur with pos := r.cur.pos + x, tx := ⟨r.cur.tx.file, r.cur.tx.block + x⟩ } }

theorem Reader.adv_zero (r : Reader) : r.adv 0 = r := rfl

theorem At.adv (h : At F r pre m post k) (x : Nat) (hx : k + x ≤ m.data.length) :
    At F (r.adv x) pre m post (k + x) :=
  ⟨h.file, h.split, by simp [Reader.adv, h.cur], hx, h.err⟩

theorem At.adv_end (h : At F r pre m post k) : At F (r.adv (m.data.length - k)) pre m post m.data.length := by
  have := h.adv (m.data.length - k) (Nat.le_of_eq (Nat.add_sub_cancel' h.le))
  rwa [Nat.add_sub_cancel' h.le] at this

theorem At.setEnd (h : At F r pre m post k) : At F r.setEnd pre m post k := h.congr rfl rfl rfl

theorem At.reader_eq (h : At F r pre m post k) :
    r = ⟨pre ++ m :: post, ⟨csum pre, m.csize, m.data, k, ⟨csum pre, k⟩⟩, r.lastChunk, none, r.blocked⟩ := by
  obtain ⟨rf, rc, rl, re, rb⟩ := r
  obtain ⟨hf, hs, hc, -, he⟩ := h
  simp only at hf hc he
  subst hf hc he hs
  rfl

theorem readLoop_step (hwf : WF F) (h : At F r pre m post k) (hk : k < m.data.length) (n fuel : Nat) (hn : 0 < n) :
    r.readLoop (fuel + 1) n =
      (let res := (r.adv (min n (m.data.length - k))).readLoop fuel (n - min n (m.data.length - k))
       (res.1, (m.data.drop k).take n ++ res.2.1, res.2.2)) := by
  have hlen : m.data.length < 65536 := (WF.mid (h.split ▸ hwf)).2
  have hl : ((m.data.drop k).take n).length = min n (m.data.length - k) := by simp
  rw [h.reader_eq]
  simp only [Reader.readLoop, hn, and_self, if_true, Block.read_mk_lt _ _ _ _ _ _ hk hlen, hl, Reader.adv]

theorem readLoop_end_nil (hwf : WF F) (h : At F r pre m [] m.data.length) (hb : r.blocked = false)
    (n fuel : Nat) (hn : 0 < n) :
    r.readLoop (fuel + 1) n =
      (({ r with cur := Block.failed (csum F), err := some .eof } : Reader).setEnd,
        [], some .eof) := by
  have hF := h.split
  subst hF
  rw [h.reader_eq]
  simp [Reader.readLoop, hn, Block.read_mk_ge, Nat.ne_of_gt hn, Reader.nextBlock, Block.nextBase,
    load_after hwf rfl, csum, hb]

theorem readLoop_end_cons (hwf : WF F) (h : At F r pre m (m' :: post) m.data.length) (hb : r.blocked = false)
    (n fuel : Nat) (hn : 0 < n) :
    r.readLoop (fuel + 1) n =
      ({ r with cur := ⟨csum (pre ++ [m]), m'.csize, m'.data, 0, ⟨csum (pre ++ [m]), 0⟩⟩ } : Reader).readLoop fuel n := by
  have hw : WF (pre ++ m :: m' :: post) := h.split ▸ hwf
  rw [h.reader_eq]
  simp [Reader.readLoop, hn, Block.read_mk_ge, Nat.ne_of_gt hn, Reader.nextBlock, Block.nextBase,
    load_after hw rfl, hb]

/-- In Blocked mode the `io.EOF` at the end of a member is returned, not latched in `r.err`. -/
theorem readLoop_end_blocked (h : At F r pre m post m.data.length) (hb : r.blocked = true)
    (n fuel : Nat) (hn : 0 < n) :
    r.readLoop (fuel + 1) n = (r.setEnd, [], some .eof) := by
  rw [h.reader_eq]
  simp [Reader.readLoop, hn, Block.read_mk_ge, Nat.ne_of_gt hn, hb]

end Hts.Model.Bgzf

namespace Hts.Model.Bgzf

/-- one round of the copy loop at the end of the current block, at any state without a latched error (`readLoop_end_*` say
the same of a state that stands `At` a position of the file) -/
theorem readLoop_exhausted (B : Reader) (want n : Nat) (hw : 0 < want) (hbe : B.err = none)
    (hp : B.cur.data.length ≤ B.cur.pos) :
    B.readLoop (n + 1) want =
      if B.blocked then (({ B with err := none } : Reader).setEnd, [], some .eof) else
        match B.nextBlock with
        | (B', some e) => (({ B' with err := some e } : Reader).setEnd, [], some e)
        | (B', none) => ({ B' with err := none } : Reader).readLoop n want := by
  have hnb : ({ B with cur := B.cur, err := some .eof } : Reader).nextBlock =
      ({ B.nextBlock.1 with err := some .eof }, B.nextBlock.2) := rfl
  have hw0 : want ≠ 0 := Nat.ne_of_gt hw
  simp only [Reader.readLoop, hw, hbe, and_self, if_true, Block.read, hp, List.length_nil, Nat.sub_zero, hw0,
    if_false]
  split
  · rfl
  · rw [hnb]
    cases B.nextBlock with
    | mk B' e => cases e <;> simp

theorem readLoop_data (B : Reader) (want n : Nat) (hw : 0 < want) (hbe : B.err = none)
    (hp : ¬ B.cur.data.length ≤ B.cur.pos) {B' : Reader} {rest : List UInt8} {e : Option Err}
    (h : ({ B with cur := { B.cur with
              pos := B.cur.pos + min want B.cur.len,
              tx := ⟨B.cur.tx.file, (B.cur.tx.block + min want B.cur.len) % 65536⟩ } } : Reader).readLoop n
            (want - min want B.cur.len) = (B', rest, e)) :
    B.readLoop (n + 1) want = (B', (B.cur.data.drop B.cur.pos).take want ++ rest, e) := by
  have hout : ((B.cur.data.drop B.cur.pos).take want).length = min want B.cur.len := by
    simp only [List.length_take, List.length_drop, Block.len]
  simp only [hbe] at h
  simp only [Reader.readLoop, hw, hbe, and_self, if_true, Block.read, hp, if_false,
    hout, h]

end Hts.Model.Bgzf
