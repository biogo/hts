/-
No-header mode of sam.Reader at record level: the records returned for the lines of expressible records
print the same lines and differ from the canonical records only in the made-up references.
-/
import Hts.Lemmas.SamRecord
import Hts.Lemmas.SamReader
namespace Hts.Model.SamText

theorem resolveSeen_none (seen : List Bytes) : resolveSeen seen none = (seen, none) := rfl

theorem resolveSeen_spec (seen : List Bytes) (hnd : seen.Nodup) (r : Option Ref) :
    ∃ seen' i, resolveSeen seen r = (seen', r.map fun x => ⟨((i : Nat) : Int), x.name, 0⟩) ∧ seen'.Nodup ∧
      (∀ (k : Nat) a, seen[k]? = some a → seen'[k]? = some a) ∧ ∀ x, r = some x → seen'[i]? = some x.name := by
  cases r with
  | none => exact ⟨seen, 0, rfl, hnd, fun _ _ h => h, nofun⟩
  | some x =>
    unfold resolveSeen
    simp only
    cases hf : seen.findIdx? (· = x.name) with
    | some i =>
      obtain ⟨hi, hp, _⟩ := List.findIdx?_eq_some_iff_getElem.mp hf
      refine ⟨seen, i, rfl, hnd, fun _ _ h => h, fun y hy => ?_⟩
      cases hy
      rw [List.getElem?_eq_getElem hi, of_decide_eq_true hp]
    | none =>
      have hn : x.name ∉ seen := fun hm => by simpa using List.findIdx?_eq_none_iff.mp hf x.name hm
      refine ⟨seen ++ [x.name], seen.length, rfl, ?_, fun k a h => ?_, fun y hy => by cases hy; simp⟩
      · refine List.nodup_append.mpr ⟨hnd, List.pairwise_singleton _ _, fun a ha b hb e => hn ?_⟩
        rwa [← List.mem_singleton.mp hb, ← e]
      · rw [List.getElem?_append_left (List.getElem?_eq_some_iff.mp h).1, h]

theorem resolve_pair (seen : List Bytes) (hnd : seen.Nodup) (ref mate : Option Ref)
    (hinj : ∀ a b, ref = some a → mate = some b → (a = b ↔ a.name = b.name)) :
    ∃ s1 ref' s2 mate', resolveSeen seen ref = (s1, ref') ∧ resolveSeen s1 mate = (s2, mate') ∧ s2.Nodup ∧
      refName ref' = refName ref ∧ refName mate' = refName mate ∧ formatMate ref' mate' = formatMate ref mate := by
  obtain ⟨s1, i, h1, hn1, _, hi⟩ := resolveSeen_spec seen hnd ref
  obtain ⟨s2, j, h2, hn2, hmono, hj⟩ := resolveSeen_spec s1 hn1 mate
  refine ⟨s1, _, s2, _, h1, h2, hn2, by cases ref <;> rfl, by cases mate <;> rfl,
    formatMate_congr (by cases mate <;> rfl) Option.map_eq_none_iff ?_⟩
  cases ref with
  | none => cases mate <;> simp
  | some x =>
    cases mate with
    | none => simp
    | some m =>
      -- the places are equal exactly when the names are: names occur once in the list
      have hi2 := hmono i _ (hi x rfl)
      have hidx : i = j ↔ x.name = m.name :=
        ⟨fun e => Option.some.inj ((e ▸ hi2).symm.trans (hj m rfl)),
         fun e => (List.getElem?_inj (List.getElem?_eq_some_iff.mp hi2).1 hn2).mp (hi2.trans (e ▸ (hj m rfl).symm))⟩
      simp only [Option.map_some, Option.some.injEq, Ref.mk.injEq, and_true, Int.natCast_inj, hidx, and_self,
        hinj x m rfl rfl]

def eraseRefs (r : Record) : Record := { r with ref := none, mateRef := none }

theorem noHeaderLoop_records {ft : FloatText} (L : FloatLaws ft) (h : Header) (hh : HeaderOK h) (f : FlagFmt)
    (hf : f = .dec ∨ f = .hex) (rs : List Record) (he : ∀ r ∈ rs, Expressible h r) :
    ∀ seen : List Bytes, seen.Nodup →
    ∃ outs, noHeaderLoop ft (rs.map fun r => joinWith 9 (recordFields ft f r)) seen = outs.map .ok ∧
      listRel (fun r out => formatRecord ft f out = formatRecord ft f r ∧
        eraseRefs out = eraseRefs (canonRecord L r) ∧ refName out.ref = refName r.ref ∧
        refName out.mateRef = refName r.mateRef) rs outs := by
  induction rs with
  | nil => intro seen _; exact ⟨[], rfl, trivial⟩
  | cons r rs ih =>
    intro seen hnd
    have her := he r List.mem_cons_self
    have hp := parseRecord_format_nil L h hh f hf r her
    have hinj : ∀ a b, r.ref.map fakeRef = some a → r.mateRef.map fakeRef = some b →
        (a = b ↔ a.name = b.name) := by
      intro a b ha hb
      obtain ⟨x, _, rfl⟩ := Option.map_eq_some_iff.mp ha
      obtain ⟨m, _, rfl⟩ := Option.map_eq_some_iff.mp hb
      simp [fakeRef]
    obtain ⟨s1, ref', s2, mate', h1, h2, hn2, hrn, hmn, hfm⟩ :=
      resolve_pair seen hnd (r.ref.map fakeRef) (r.mateRef.map fakeRef) hinj
    obtain ⟨outs, hloop, hrel⟩ := ih (fun x hx => he x (List.mem_cons_of_mem _ hx)) s2 hn2
    refine ⟨{ fakeRefs (canonRecord L r) with ref := ref', mateRef := mate' } :: outs, ?_,
      ⟨?_, rfl, ?_, ?_⟩, hrel⟩
    -- `h1`, `h2` speak of `r.ref.map fakeRef`, the loop of `(fakeRefs (canonRecord L r)).ref`: they meet once `fakeRefs`
    -- and `canonRecord` are unfolded
    · simp only [List.map_cons, noHeaderLoop, hp, fakeRefs, canonRecord, h1, h2, hloop]
    -- the right side is taken back to `fakeRefs (canonRecord L r)`, so that the two records differ in `ref`/`mateRef`
    -- only, where `hrn`, `hfm` apply
    · rw [formatRecord_ok f _ (qualOK_canon r { fakeRefs (canonRecord L r) with ref := ref', mateRef := mate' }
          rfl rfl her.qual), formatRecord_ok f r her.qual,
        ← recordFields_canon L f r, ← recordFields_fakeRefs h hh f (canonRecord L r) her.ref her.mateRef]
      unfold recordFields
      simp only [hrn, hfm]
      rfl
    · exact hrn.trans (refName_fakeRef r.ref)
    · exact hmn.trans (refName_fakeRef r.mateRef)

end Hts.Model.SamText
