/-
The explicit-indexing BAM reader of Hts.Model.DecodersBam computes exactly C05's `Hts.Model.Bam` model
(buffer operations, `readCigarOps`, `decodeBody`), so no index or slice of `bam.buffer`, `readCigarOps`
and `Reader.Read` can panic.
-/
import Hts.Lemmas.Decoders
import Hts.Model.DecodersBam
namespace Hts.Model.Decoders
open Outcome (ok err)
open Hts.Model.Bam (Byte Buf getU32 Record Omit)

/-- `n`: the Go `int` of the code; `m`: the same number in C05's model (what `decodeBodyIdx_eq` passes for `m` are the
argument expressions of `Bam.decodeBody`, Model/BamRecord) -/
theorem unsafeBytesIdx_eq {b : Buf} {n : Int} {m : Nat} (h : n = m) :
    unsafeBytesIdx b n = ok (b.unsafeBytes m) := by
  subst h
  unfold unsafeBytesIdx Buf.unsafeBytes
  split
  · rfl
  · split
    · rw [if_pos (by omega)]
    · rw [if_neg (by omega), if_neg (by omega), sliceTo_of_le (by omega)]
      rfl

theorem readU8Idx_eq (b : Buf) : readU8Idx b = ok b.readU8 := by
  obtain ⟨data, e⟩ := b
  cases e <;> cases data <;> rfl

theorem readU16Idx_eq (b : Buf) : readU16Idx b = ok b.readU16 := by
  obtain ⟨data, e⟩ := b
  cases e with
  | true => rfl
  | false =>
    match data with
    | [] => rfl
    | [_] => rfl
    | x :: y :: rest =>
      rw [readU16Idx, if_neg Bool.false_ne_true, if_neg (by simp only [List.length_cons]; omega),
        unsafeBytesIdx_eq (n := 2) (m := 2) rfl]
      rfl

theorem readI32Idx_eq (b : Buf) : readI32Idx b = ok b.readI32 := by
  obtain ⟨data, e⟩ := b
  cases e with
  | true => rfl
  | false =>
    match data with
    | [] => rfl
    | [_] => rfl
    | [_, _] => rfl
    | [_, _, _] => rfl
    | x :: y :: z :: w :: rest =>
      rw [readI32Idx, if_neg Bool.false_ne_true, if_neg (by simp only [List.length_cons]; omega),
        unsafeBytesIdx_eq (n := 4) (m := 4) rfl]
      rfl

theorem readCigarOpsIdx_eq : ∀ cb : List Byte, readCigarOpsIdx cb = ok (Hts.Model.Bam.readCigarOps cb)
  | x :: y :: z :: w :: rest => by
    have ih := readCigarOpsIdx_eq rest
    unfold readCigarOpsIdx at ih ⊢
    rw [show (x :: y :: z :: w :: rest).length / 4 = rest.length / 4 + 1 by simp only [List.length_cons]; omega,
      readCigarLoop, slice_of_le (Nat.zero_le 4) (by simp only [List.length_cons]; omega)]
    -- `u32Of` on the four literal bytes and `drop 4` reduce by whnf; what is left is the model's own `match` over the
    -- recursive call
    exact (congrArg (fun o => match o with
      | ok rest => ok (BitVec.ofNat 32 (getU32 x y z w) :: rest) | err => err | .panic s => .panic s) ih :)
  | [] | [_] | [_, _] | [_, _, _] => by rw [readCigarOpsIdx, Nat.div_eq_of_lt (by simp)]; rfl

theorem indexInt_range {site : String} {n : Nat} {i : Int} (h0 : ¬ i < -1) (hm : i ≠ -1) (h1 : ¬ i ≥ (n : Int)) :
    indexInt site (List.range n) i = ok i.toNat := by
  rw [indexInt_of_lt (by omega) (by rw [List.length_range]; omega), List.getElem_range]

theorem linkRefsIdx_eq (nrefs : Nat) (refID nextRefID : Int) (r : Record) :
    linkRefsIdx nrefs refID nextRefID r = liftE (Hts.Model.Bam.linkRefs nrefs refID nextRefID r) := by
  unfold linkRefsIdx Hts.Model.Bam.linkRefs
  by_cases hr : (refID != -1 && (decide (refID < -1) || decide (refID ≥ (nrefs : Int)))) = true
  · rw [if_pos hr, if_pos hr]; rfl
  rw [if_neg hr, if_neg hr]
  simp only [Bool.and_eq_true, bne_iff_ne, ne_eq, Bool.or_eq_true, decide_eq_true_eq, not_and, not_or] at hr
  -- `link`: the join point of the indexed model's `do` block (left side), the rest of the block as a function of `ref`;
  -- `ref`: the local of `Bam.linkRefs` (right side).  First the left `if` computes `link ref`, then `link ref` is compared
  -- with C05's body branch by branch.
  extract_lets link ref
  refine Eq.trans (?_ : _ = link ref) ?_
  · split
    · rw [show ref = none from if_pos ‹_›]; rfl
    · have hm : refID ≠ -1 := by simpa using ‹¬(refID == -1) = true›
      rw [indexInt_range (hr hm).1 hm (hr hm).2, show ref = some refID.toNat from if_neg ‹_›]
      rfl
  unfold link
  split
  · split
    · rfl
    · split
      · rfl
      · rename_i hn1 _ hn
        simp only [Bool.or_eq_true, decide_eq_true_eq, not_or] at hn
        rw [indexInt_range hn.1 (by simpa using hn1) hn.2]
        rfl
  · rfl

theorem finishIdx_eq (nrefs : Nat) (refID nextRefID : Int) (b : Buf) (r : Record) :
    finishIdx nrefs refID nextRefID b r = liftE (Hts.Model.Bam.finish nrefs refID nextRefID b r) := by
  unfold finishIdx Hts.Model.Bam.finish
  split
  · rfl
  · exact linkRefsIdx_eq _ _ _ _

theorem decodeBodyIdx_eq (om : Omit) (nrefs : Nat) (body : List Byte) :
    decodeBodyIdx om nrefs body = liftE (Hts.Model.Bam.decodeBody om nrefs body) := by
  unfold decodeBodyIdx Hts.Model.Bam.decodeBody
  simp only [readI32Idx_eq, readU8Idx_eq, readU16Idx_eq, ok_bind]
  rcases Buf.readI32 ⟨body, false⟩ with ⟨refID, b1⟩
  dsimp only
  rcases b1.readI32 with ⟨pos, b2⟩
  dsimp only
  rcases b2.readU8 with ⟨nLen, b3⟩
  dsimp only
  rcases b3.readU8 with ⟨mapq, b4⟩
  dsimp only
  rcases (b4.discard 2).readU16 with ⟨nCigar, b5⟩
  dsimp only
  rcases b5.readU16 with ⟨flags, b6⟩
  dsimp only
  rcases b6.readI32 with ⟨lSeq, b7⟩
  dsimp only
  rcases b7.readI32 with ⟨nextRefID, b8⟩
  dsimp only
  rcases b8.readI32 with ⟨matePos, b9⟩
  dsimp only
  rcases b9.readI32 with ⟨tempLen, b10⟩
  dsimp only
  by_cases hn : nLen.toNat < 1
  · rw [if_pos hn, if_pos hn]; rfl
  rw [if_neg hn, if_neg hn, unsafeBytesIdx_eq (m := nLen.toNat - 1) (by omega), ok_bind,
    unsafeBytesIdx_eq (m := nCigar * 4) (by omega), ok_bind, readCigarOpsIdx_eq, ok_bind]
  cases om
  case all => exact finishIdx_eq _ _ _ _ _
  -- the two modes that read sequence and quality
  all_goals
    dsimp only
    by_cases hl : lSeq < 0
    · rw [if_pos hl, if_pos hl]; rfl
    rw [if_neg hl, if_neg hl, unsafeBytesIdx_eq (m := lSeq.toNat / 2 + lSeq.toNat % 2) (by omega), ok_bind,
      unsafeBytesIdx_eq (m := lSeq.toNat) (by omega), ok_bind]
  · rw [unsafeBytesIdx_eq rfl, ok_bind]
    generalize Hts.Model.Bam.parseAux _ = x
    cases x with
    | error e => rfl
    | ok a => exact finishIdx_eq _ _ _ _ _
  · exact finishIdx_eq _ _ _ _ _

theorem liftE_total {α : Type} (x : Except Hts.Model.Bam.Fault α) : (liftE x).isPanic = false := by
  cases x <;> rfl

end Hts.Model.Decoders
