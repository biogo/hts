/-
Composition of the writer LTS (abstract blocks, every wc, every interleaving) with the sequential byte-level
writer model (Hts.Model.BgzfWriter: block splitting; Hts.Model.Member: member rendering) through `absScript`
(Hts.Model.WriterAbs).  The block with submission number `i` is `(after wops).emitted[i]`, and its compression
fails iff `Member.writeBlock` refuses it.
Defined here, used in property statements (namespace `Hts.Model.WriterCompose`, which has no Model file of that name;
`absScript` is in Model/WriterAbs.lean): `cfaultOf`, `blockBytes`, `deliveredBytes`, `cfgOf`.
-/
import Hts.Lemmas.WriterLTSComp
import Hts.Lemmas.BgzfStream
import Hts.Model.WriterAbs
namespace Hts.Model.WriterCompose
open Hts.Model Hts.Model.Member
open Hts.Model.BgzfWriter (BlockSize blockSize_pos after)

variable {α : Type}

theorem step_blocks (s : BgzfWriter.State α) (op : BgzfWriter.Op α) :
    WriterLTS.seqBlocks [absOp s op] s.closed + s.emitted.length =
      (BgzfWriter.step BlockSize blockSize_pos s op).1.emitted.length ∧
    (BgzfWriter.step BlockSize blockSize_pos s op).1.closed = (s.closed || WriterLTS.hasClose [absOp s op]) := by
  refine ⟨?_, by rw [BgzfWriter.step_closed]; cases op <;> simp [absOp, WriterLTS.hasClose]⟩
  cases hc : s.closed with
  | true => rw [BgzfWriter.step_of_closed _ _ hc]; cases h : absOp s op <;> simp [WriterLTS.seqBlocks]
  | false =>
    cases op with
    | write b =>
      -- `absOp` counts the blocks of a `Write` by subtracting lengths of `emitted`; `omega` needs to know that it has grown
      obtain ⟨ext, hext⟩ := BgzfWriter.step_ext BlockSize blockSize_pos s (.write b)
      have hl := congrArg List.length hext
      simp only [BgzfWriter.step, List.length_append] at hl ⊢
      simp only [absOp, WriterLTS.seqBlocks]; omega
    | flush =>
      show _ = (BgzfWriter.flush s).1.emitted.length
      rw [BgzfWriter.flush_emitted_length hc]; simp [absOp, WriterLTS.seqBlocks, Nat.add_comm]
    | wait => simp [absOp, WriterLTS.seqBlocks, BgzfWriter.step, BgzfWriter.wait]
    | close =>
      show _ = (BgzfWriter.close s).1.emitted.length
      rw [BgzfWriter.close_emitted_length hc]; simp [absOp, WriterLTS.seqBlocks, Nat.add_comm]

theorem absScript_blocks : ∀ (ops : List (BgzfWriter.Op α)) (s : BgzfWriter.State α),
    WriterLTS.seqBlocks (absScriptFrom s ops) s.closed + s.emitted.length =
      (BgzfWriter.run BlockSize blockSize_pos s ops).1.emitted.length
  | [], s => by simp [absScriptFrom, WriterLTS.seqBlocks, BgzfWriter.run]
  | op :: ops, s => by
    have ih := absScript_blocks ops (BgzfWriter.step BlockSize blockSize_pos s op).1
    obtain ⟨h1, h2⟩ := step_blocks s op
    have := WriterLTS.seqBlocks_append [absOp s op]
      (absScriptFrom (BgzfWriter.step BlockSize blockSize_pos s op).1 ops) s.closed
    simp only [absScriptFrom, BgzfWriter.run]
    rw [List.singleton_append, ← h2] at this
    omega

theorem absScript_blocks_init (ops : List (BgzfWriter.Op α)) :
    WriterLTS.seqBlocks (absScript ops) false = (after ops).emitted.length := by
  have := absScript_blocks ops (BgzfWriter.State.init : BgzfWriter.State α)
  simpa [absScript, after, BgzfWriter.State.init] using this

theorem absScript_hasClose : ∀ (ops : List (BgzfWriter.Op α)) {s : BgzfWriter.State α},
    WriterLTS.hasClose (absScriptFrom s ops) = BgzfWriter.hasClose ops
  | [], _ => by simp [absScriptFrom, WriterLTS.hasClose, BgzfWriter.hasClose]
  | op :: ops, s => by
    have ih := absScript_hasClose ops (s := (BgzfWriter.step BlockSize blockSize_pos s op).1)
    simp only [WriterLTS.hasClose] at ih ⊢
    cases op <;> simp [absScriptFrom, absOp, BgzfWriter.hasClose]
    all_goals simpa using ih

theorem absScriptFrom_append : ∀ (a b : List (BgzfWriter.Op α)) (s : BgzfWriter.State α),
    absScriptFrom s (a ++ b) =
      absScriptFrom s a ++ absScriptFrom (BgzfWriter.run BlockSize blockSize_pos s a).1 b
  | [], b, s => by simp [absScriptFrom, BgzfWriter.run]
  | op :: a, b, s => by
    simp only [List.cons_append, absScriptFrom, BgzfWriter.run]
    rw [absScriptFrom_append a b]

theorem seqBlocks_append : ∀ (a b : List WriterLTS.Op) (c : Bool),
    WriterLTS.seqBlocks (a ++ b) c = WriterLTS.seqBlocks a c + WriterLTS.seqBlocks b (c || WriterLTS.hasClose a)
  | a, b, c => WriterLTS.seqBlocks_append a b c

theorem absScriptFrom_take : ∀ (ops : List (BgzfWriter.Op α)) (s : BgzfWriter.State α) (k : Nat),
    (absScriptFrom s ops).take k = absScriptFrom s (ops.take k)
  | [], _, _ => by simp [absScriptFrom]
  | _ :: _, _, 0 => rfl
  | op :: ops, s, k + 1 => by simp [absScriptFrom, absScriptFrom_take ops]

theorem absScript_take (ops : List (BgzfWriter.Op α)) (k : Nat) : (absScript ops).take k = absScript (ops.take k) :=
  absScriptFrom_take ops _ k

/-- compression of block `i` of the queue `blocks` fails iff `writeBlock` refuses it -/
def cfaultOf (c : CodecFns) (h : Header) (blocks : List (List Byte)) (i : Nat) : Bool :=
  match blocks[i]? with
  | some p => match writeBlock c h p with
    | .ok _ => false
    | .error _ => true
  | none => false

/-- the bytes the emitter hands to the underlying writer for block `i` -/
def blockBytes (c : CodecFns) (h : Header) (blocks : List (List Byte)) (i : Nat) : List Byte :=
  match blocks[i]? with
  | some p => match writeBlock c h p with
    | .ok m => m
    | .error _ => []
  | none => []

/-- the byte stream the underlying writer has received in LTS state `s`: the delivered blocks in delivery
    order, then the EOF marker if it has been written -/
def deliveredBytes (c : CodecFns) (h : Header) (blocks : List (List Byte)) (s : WriterLTS.State) : List Byte :=
  (s.out.map (blockBytes c h blocks)).flatten ++ (if s.eof then magicBlock else [])

/-- the LTS configuration of a concrete script: `wc` compressors requested, no I/O faults, compression of a
    block fails iff `writeBlock` refuses it, repaired protocol -/
def cfgOf (wc : Nat) (c : CodecFns) (h : Header) (wops : List (BgzfWriter.Op Byte)) : WriterLTS.Cfg :=
  { wc := wc, script := absScript wops, fault := fun _ => false, repaired := true,
    cfault := cfaultOf c h (after wops).emitted }

theorem cfaultOf_eq_false_iff {c : CodecFns} {h : Header} {blocks : List (List Byte)} {i : Nat} {p : List Byte}
    (hp : blocks[i]? = some p) : cfaultOf c h blocks i = false ↔ Fits c h p := by
  rw [← writeBlock_ok_iff]
  cases hw : writeBlock c h p <;> simp [cfaultOf, hp, hw]

theorem map_range_of_getElem {β γ : Type} (l : List β) (f : Nat → γ) (g : β → γ)
    (h : ∀ i (hi : i < l.length), f i = g l[i]) : (List.range l.length).map f = l.map g := by
  apply List.ext_getElem (by simp)
  intro i h1 _
  simp [h i (by simpa using h1)]

theorem prefix_bytes (c : CodecFns) (h : Header) (pre ext : List (List Byte)) (hf : ∀ p ∈ pre, Fits c h p) :
    (∀ i, i < pre.length → cfaultOf c h (pre ++ ext) i = false) ∧
    (List.range pre.length).map (blockBytes c h (pre ++ ext)) = pre.map (mb c h) := by
  have key : ∀ i (hi : i < pre.length),
      cfaultOf c h (pre ++ ext) i = false ∧ blockBytes c h (pre ++ ext) i = mb c h pre[i] := fun i hi => by
    have hget : (pre ++ ext)[i]? = some pre[i] := by rw [List.getElem?_append_left hi, List.getElem?_eq_getElem hi]
    have hfit := hf _ (List.getElem_mem hi)
    exact ⟨(cfaultOf_eq_false_iff hget).2 hfit, by simp only [blockBytes, hget, writeBlock_of_fits c h _ hfit]⟩
  exact ⟨fun i hi => (key i hi).1, map_range_of_getElem pre _ _ fun i hi => (key i hi).2⟩

theorem written_bytes (c : CodecFns) (h : Header) (blocks : List (List Byte)) :
    (∀ i, i < (written c h blocks).length → cfaultOf c h blocks i = false) ∧
    (List.range (written c h blocks).length).map (blockBytes c h blocks) = (written c h blocks).map (mb c h) := by
  obtain ⟨rest, hr⟩ := written_prefix c h blocks
  have := prefix_bytes c h _ rest (written_fits c h blocks)
  rwa [hr] at this

theorem firstFail_written (c : CodecFns) (h : Header) (blocks : List (List Byte)) :
    WriterLTS.firstFail (cfaultOf c h blocks) blocks.length = (written c h blocks).length := by
  have hle := (written_prefix c h blocks).length_le
  refine WriterLTS.firstFail_unique _ _ _ hle (written_bytes c h blocks).1 fun hlt => ?_
  obtain ⟨p, e, h1, h2⟩ := written_next_fails c h blocks hlt
  exact eq_true_of_ne_false (mt (cfaultOf_eq_false_iff h1).1 (writeBlock_error_not_fits c h p e h2))

theorem compose_output (wc : Nat) (c : CodecFns) (h : Header) (wops : List (BgzfWriter.Op Byte)) (s : WriterLTS.State)
    (hreach : WriterLTS.Reachable (cfgOf wc c h wops) s) (hidle : WriterLTS.AllIdle s) :
    deliveredBytes c h (after wops).emitted s =
      (render c h (after wops).emitted).1 ++
        (if BgzfWriter.hasClose wops = true ∧ (render c h (after wops).emitted).2 = none then magicBlock else []) := by
  obtain ⟨hout, heof⟩ := WriterLTS.output_of_idle_cf (cfg := cfgOf wc c h wops) rfl (fun _ => rfl) hreach hidle
  simp only [cfgOf, absScript_blocks_init, firstFail_written] at hout heof
  have hcl : WriterLTS.hasClose (absScript wops) = BgzfWriter.hasClose wops := absScript_hasClose wops
  -- hout : s.out = range (written …).length;  heof : s.eof = (hasClose (absScript wops) && decide ((written …).length = emitted.length))
  simp only [deliveredBytes, hout, (written_bytes c h _).2, render_fst, heof, hcl, Bool.and_eq_true, decide_eq_true_eq,
    written_length_eq_iff]

theorem compose_output_closed (wc : Nat) (c : CodecFns) (h : Header) (wops : List (BgzfWriter.Op Byte))
    (hclose : BgzfWriter.hasClose wops = true) (s : WriterLTS.State)
    (hreach : WriterLTS.Reachable (cfgOf wc c h wops) s) (hidle : WriterLTS.AllIdle s) :
    deliveredBytes c h (after wops).emitted s = (closeOutput c h (after wops).emitted).1 := by
  rw [compose_output wc c h wops s hreach hidle]
  simp only [closeOutput_eq, hclose, true_and]

/-- The first three conjuncts of `wait_durable_bytes` below, for ANY configuration of the repaired protocol whose script
    is `absScript wops` (every I/O and compression fault oracle). -/
theorem wait_durable_blocks {cfg : WriterLTS.Cfg} (hr : cfg.repaired = true) (wops : List (BgzfWriter.Op α))
    (hs : cfg.script = absScript wops) (j : Nat) (hnc : BgzfWriter.hasClose (wops.take (j + 1)) = false)
    {tr post mid : List WriterLTS.Ev} {m : Nat} {s : WriterLTS.State}
    (hrun : WriterLTS.Run cfg tr s) (htr : tr = post ++ .ret .wait .ok m :: mid) (hmid : WriterLTS.nrets mid = j) :
    m = (after (wops.take (j + 1))).emitted.length ∧ s.out.take m = List.range m ∧
    (s.out.take m).map (fun i => (after wops).emitted.getD i []) = (after (wops.take (j + 1))).emitted := by
  have hs' : cfg.script.take (j + 1) = absScript (wops.take (j + 1)) := by rw [hs]; exact absScript_take wops _
  have hm := WriterLTS.ret_ok_count hrun htr hmid (by rw [hs']; exact (absScript_hasClose _).trans hnc)
  rw [hs', absScript_blocks_init] at hm
  have htake := WriterLTS.out_take_of_wait_ok hr hrun (m := m) (by rw [htr]; simp)
  obtain ⟨ext, hext⟩ := BgzfWriter.after_prefix_ext (wops.take (j + 1)) (wops.drop (j + 1))
  rw [List.take_append_drop] at hext
  -- block `i` of the whole script is block `i` of its first `j+1` calls, for every `i` below their number
  have hget : (List.range (after (wops.take (j + 1))).emitted.length).map (fun i => (after wops).emitted.getD i []) =
      (after (wops.take (j + 1))).emitted := by
    rw [hext]
    refine (map_range_of_getElem _ _ id fun i hi => ?_).trans (List.map_id _)
    rw [List.getD, List.getElem?_append_left hi, List.getElem?_eq_getElem hi]; rfl
  exact ⟨hm, htake, by rw [htake, hm, hget]⟩

/-- **Durability in bytes.**  Concrete script `wops`, any `wc`, any interleaving (no I/O faults; compression
    failing where `writeBlock` refuses).  If the `(j+1)`-th call to return is a `Wait` returning nil and no `Close`
    is among the first `j+1` calls, then from that moment on:
    * `m` — the count recorded by that return — is the number of blocks the sequential writer has queued after
      those `j+1` calls;
    * the first `m` delivered blocks are blocks `0 … m-1`, their payloads are exactly those queued blocks, and
    * their bytes are exactly the sequential writer's output (`render`) for that prefix of the script. -/
theorem wait_durable_bytes (wc : Nat) (c : CodecFns) (h : Header) (wops : List (BgzfWriter.Op Byte)) (j : Nat)
    (hnc : BgzfWriter.hasClose (wops.take (j + 1)) = false)
    {tr post mid : List WriterLTS.Ev} {m : Nat} {s : WriterLTS.State}
    (hrun : WriterLTS.Run (cfgOf wc c h wops) tr s) (htr : tr = post ++ .ret .wait .ok m :: mid)
    (hmid : WriterLTS.nrets mid = j) :
    m = (after (wops.take (j + 1))).emitted.length ∧ s.out.take m = List.range m ∧
    (s.out.take m).map (fun i => (after wops).emitted.getD i []) = (after (wops.take (j + 1))).emitted ∧
    ((s.out.take m).map (blockBytes c h (after wops).emitted)).flatten =
      (render c h (after (wops.take (j + 1))).emitted).1 := by
  obtain ⟨hm, htake, h3⟩ := wait_durable_blocks (cfg := cfgOf wc c h wops) rfl wops rfl j hnc hrun htr hmid
  refine ⟨hm, htake, h3, ?_⟩
  obtain ⟨hi, hR⟩ := WriterLTS.run_inv rfl hrun
  have hle := hR.waitOK m (by rw [htr]; simp)
  obtain ⟨ext, hext⟩ := BgzfWriter.after_prefix_ext (wops.take (j + 1)) (wops.drop (j + 1))
  rw [List.take_append_drop] at hext
  -- none of the first m blocks was refused: they are in `out`
  have hfit : ∀ p ∈ (after (wops.take (j + 1))).emitted, Fits c h p := by
    intro p hp
    obtain ⟨i, hi', hpi⟩ := List.getElem_of_mem hp
    have hcf := WriterLTS.out_ok_of_lt hi (WriterLTS.run_reachable hrun) (b := i) (by omega)
    have hget : (after wops).emitted[i]? = some p := by
      rw [hext, List.getElem?_append_left hi', List.getElem?_eq_getElem hi', hpi]
    exact (cfaultOf_eq_false_iff hget).1 hcf
  rw [render_fst, written_all c h _ hfit, htake, hm, hext, (prefix_bytes c h _ ext hfit).2]

end Hts.Model.WriterCompose
