/-
Cache homomorphisms: `Hom o' o π` says that every operation of the cache kind `o'` (states `τ`) commutes with
`π : τ → σ` into the cache kind `o` (states `σ`).  Then the reader with `o'` caches does exactly what the reader with their
`π`-images as `o` caches does: same outputs, same faults, same blocks (`run_hom`, `outputsOf_hom`).  No contract, no
invariant, no hypothesis on the code variant or the file.  Three uses.  `π` forgets bookkeeping that never influences a
result: `StatsRecorder{Cache: inner}` (`recorderOps o`, `π = Prod.fst`), whose counters are written by Get/Put and read by
nobody (`transparent_of_hom`).  `π` embeds a kind into a sum of kinds (`inl_hom`, `inr_hom`): a history all of whose
objects are of one summand behaves as it does in that kind (`transparent_of_embedding`).  `π = Sum.elim π₁ π₂` collapses
a sum of kinds onto one kind (`sum_hom`, with `id_hom`; C03's FIFO family, through `transparent_of_hom`).  The hypothesis `hwf` runs
opposite ways in the two transfer lemmas: `wf' s → wf (π s)` in `transparent_of_hom` (which concludes about `o'`),
`wf (ι a) → wf' a` in `transparent_of_embedding` (which concludes about `o`).

`x_hom` is the lemma that unfolds the model function `x` (after a change to `x`, repair `x_hom`; Hts.Lemmas.CachedReaderSim lists
the lemmas that unfold it for the simulation); `lazyBlock`, `rebase`, `failedBlk` are unfolded in `loadAt_hom`, `markLent` in
`mapC_markLent`, `byteFin` nowhere (`readByte_hom` goes through `readByte_eq_read`).  The `cases … | error e => rfl | ok v => …` after each `rw [x_hom H]` is forced by
the model's `match … | .error e => .error e` in place of a bind.
-/
import Hts.Lemmas.CachedReaderSim
namespace Hts.Model.CachedReader
open Hts.Model.Cache Hts.Spec.CacheContract

variable {σ τ : Type}

/-- every operation of `o'` is the operation of `o` on the projected state -/
structure Hom (o' : CacheOps τ) (o : CacheOps σ) (π : τ → σ) : Prop where
  put : ∀ h s id hint, o.put h (π s) id hint = (o'.put h s id hint).map (fun x => (π x.1, x.2))
  get : ∀ h s k, o.get h (π s) k = (π (o'.get h s k).1, (o'.get h s k).2)
  peek : ∀ h s k, o.peek h (π s) k = o'.peek h s k
  held : ∀ s, o.held (π s) = o'.held s

theorem recorder_hom (o : CacheOps σ) : Hom (recorderOps o) o Prod.fst where
  put h s id hint := by
    simp only [recorderOps]
    cases o.put h s.1 id hint with
    | none => rfl
    | some x => rfl
  get _ _ _ := rfl
  peek _ _ _ := rfl
  held _ := rfl

def Reader.mapC (π : τ → σ) (r : Reader τ) : Reader σ :=
  { heap := r.heap, fresh := r.fresh, cur := r.cur, err := r.err, chunkBegin := r.chunkBegin, chunkEnd := r.chunkEnd,
    blocked := r.blocked, cache := r.cache.map π, hints := r.hints, lent := r.lent, parked := r.parked.map π }

def Op.mapC (π : τ → σ) : Op τ → Op σ
  | .seek a b => .seek a b
  | .read n => .read n
  | .readByte => .readByte
  | .setCache c h => .setCache (c.map π) h
  | .reattach i h => .reattach i h
  | .setBlocked b => .setBlocked b

def mapR (π : τ → σ) {α : Type} : Except Fault (Reader τ × α) → Except Fault (Reader σ × α)
  | .error e => .error e
  | .ok (r, a) => .ok (r.mapC π, a)

def mapR0 (π : τ → σ) : Except Fault (Reader τ) → Except Fault (Reader σ)
  | .error e => .error e
  | .ok r => .ok (r.mapC π)

section
variable {o' : CacheOps τ} {o : CacheOps σ} {π : τ → σ}

@[simp] theorem mapC_hview (r : Reader τ) : (r.mapC π).hview = r.hview := rfl
@[simp] theorem mapC_heap (r : Reader τ) : (r.mapC π).heap = r.heap := rfl
@[simp] theorem mapC_cur (r : Reader τ) : (r.mapC π).cur = r.cur := rfl
@[simp] theorem mapC_err (r : Reader τ) : (r.mapC π).err = r.err := rfl
@[simp] theorem mapC_lent (r : Reader τ) : (r.mapC π).lent = r.lent := rfl
@[simp] theorem mapC_hints (r : Reader τ) : (r.mapC π).hints = r.hints := rfl
@[simp] theorem mapC_blocked (r : Reader τ) : (r.mapC π).blocked = r.blocked := rfl
@[simp] theorem mapC_fresh (r : Reader τ) : (r.mapC π).fresh = r.fresh := rfl
@[simp] theorem mapC_cache (r : Reader τ) : (r.mapC π).cache = r.cache.map π := rfl
theorem mapC_setB (r : Reader τ) (id : Nat) (b : RBlk) : (r.mapC π).setB id b = (r.setB id b).mapC π := rfl
theorem mapC_markLent (r : Reader τ) (b : Bool) (id : Nat) :
    markLent (r.mapC π) b id = (markLent r b id).mapC π := by
  cases b <;> rfl
theorem mapC_curOffset (r : Reader τ) : curOffset (r.mapC π) = curOffset r := rfl

theorem mapR_ite {α : Type} (c : Prop) [Decidable c] (a b : Except Fault (Reader τ × α)) :
    mapR π (if c then a else b) = if c then mapR π a else mapR π b := by split <;> rfl
theorem mapR0_ite (c : Prop) [Decidable c] (a b : Except Fault (Reader τ)) :
    mapR0 π (if c then a else b) = if c then mapR0 π a else mapR0 π b := by split <;> rfl

theorem cachePut_hom (H : Hom o' o π) (r : Reader τ) (c : τ) (b : Option Nat) :
    cachePut o (r.mapC π) (π c) b =
      match cachePut o' r c b with
      | .error e => .error e
      | .ok (r2, c2, back, kept) => .ok (r2.mapC π, π c2, back, kept) := by
  unfold cachePut
  cases b with
  | none => rfl
  | some id =>
    simp only [mapC_heap, mapC_hview, mapC_hints, H.held, H.put]
    split
    · rfl
    · cases o'.put r.hview c id _ with
      | none => rfl
      | some x =>
        obtain ⟨c', res⟩ := x
        cases res with
        | refused => rfl
        | panic => rfl
        | kept ev => cases ev <;> rfl

theorem recycle_hom (H : Hom o' o π) (cfg : Cfg) (r2 : Reader τ) (c2 : τ) (ret : Bool) (back : Option Nat) :
    recycle cfg o (r2.mapC π) (π c2) ret back = recycle cfg o' r2 c2 ret back := by
  unfold recycle
  simp only [mapC_heap, mapC_hview, mapC_lent, H.peek]

theorem cacheSwap_hom (H : Hom o' o π) (cfg : Cfg) (r : Reader τ) (base : Int) :
    cacheSwap cfg o (r.mapC π) base = mapR π (cacheSwap cfg o' r base) := by
  unfold cacheSwap
  cases hc : r.cache with
  | none =>
    simp only [mapC_cache, hc, Option.map_none, mapC_cur, mapC_lent]
    split <;> simp only [mapR, Reader.mapC, hc, Option.map_none]
  | some c =>
    simp only [mapC_cache, hc, Option.map_some, mapC_hview, H.get]
    cases hg : o'.get r.hview c base with
    | mk c1 x =>
      cases x with
      | some id =>
        simp only [H.peek, mapC_heap, mapC_setB, mapC_markLent, cachePut_hom H, mapC_cur]
        cases cachePut o' _ c1 _ with
        | error e => rfl
        | ok v => obtain ⟨r2, c2, bk, kp⟩ := v; rfl
      | none =>
        simp only [cachePut_hom H, mapC_cur]
        cases cachePut o' r c1 r.cur with
        | error e => rfl
        | ok v =>
          obtain ⟨r2, c2, bk, kp⟩ := v
          simp only [recycle_hom H, mapR]
          rfl

theorem peekSkip_hom (H : Hom o' o π) (h : Heap) (c : τ) : ∀ (fuel : Nat) (off : Int),
    peekSkip o h (π c) fuel off = peekSkip o' h c fuel off
  | 0, _ => rfl
  | fuel + 1, off => by
    unfold peekSkip
    simp only [H.peek]
    split
    · exact peekSkip_hom H h c fuel _
    · rfl

theorem skipCached_hom (H : Hom o' o π) (r : Reader τ) (off : Int) :
    skipCached o (r.mapC π) off = skipCached o' r off := by
  unfold skipCached
  cases hc : r.cache with
  | none => simp only [mapC_cache, hc, Option.map_none]
  | some c => simp only [mapC_cache, hc, Option.map_some, mapC_hview, H.held, peekSkip_hom H]

theorem loadAt_hom (cfg : Cfg) (f : File) (r : Reader τ) (off : Int) :
    loadAt cfg f (r.mapC π) off = ((loadAt cfg f r off).1.mapC π, (loadAt cfg f r off).2) := by
  unfold loadAt lazyBlock
  cases hc : r.cur with
  | none =>
    simp only [mapC_cur, hc]
    cases f.find off <;> rfl
  | some id =>
    simp only [mapC_cur, hc]
    cases f.find off <;> rfl

theorem nextBlockAt_hom (H : Hom o' o π) (cfg : Cfg) (f : File) (r : Reader τ) (off : Int) :
    nextBlockAt cfg o f (r.mapC π) off = mapR π (nextBlockAt cfg o' f r off) := by
  unfold nextBlockAt
  rw [skipCached_hom H]
  cases skipCached o' r off with
  | error e => rfl
  | ok off' => simp only [loadAt_hom, mapR]

theorem fetch_hom (H : Hom o' o π) (cfg : Cfg) (f : File) (r : Reader τ) (base : Int) :
    fetch cfg o f (r.mapC π) base = mapR π (fetch cfg o' f r base) := by
  unfold fetch
  rw [cacheSwap_hom H]
  cases cacheSwap cfg o' r base with
  | error e => rfl
  | ok v =>
    obtain ⟨r1, b⟩ := v
    cases b with
    | true => rfl
    | false => simp only [mapR]; exact nextBlockAt_hom H cfg f r1 base

theorem nextBlock_hom (H : Hom o' o π) (cfg : Cfg) (f : File) (r : Reader τ) :
    nextBlock cfg o f (r.mapC π) = mapR π (nextBlock cfg o' f r) := by
  unfold nextBlock
  cases hc : r.cur with
  | none => simp only [mapC_cur, hc]; rfl
  | some id => simp only [mapC_cur, hc, mapC_heap]; exact fetch_hom H cfg f r _

theorem seekFin_hom (r : Reader τ) (file : Int) (blk : Nat) :
    seekFin (r.mapC π) file blk = mapR π (seekFin r file blk) := by
  unfold seekFin
  cases hc : r.cur with
  | none => simp only [mapC_cur, hc]; rfl
  | some id =>
    simp only [mapC_cur, hc, mapC_heap]
    rw [mapR_ite]
    exact ite_congr rfl (fun _ => rfl) (fun _ => rfl)

theorem mapR_ok {α : Type} (r : Reader τ) (a : α) : mapR π (.ok (r, a)) = .ok (r.mapC π, a) := rfl
theorem mapR_err {α : Type} (e : Fault) : mapR π (α := α) (.error e : Except Fault (Reader τ × α)) = .error e := rfl
theorem mapR0_ok (r : Reader τ) : mapR0 π (.ok r) = .ok (r.mapC π) := rfl

theorem seek_hom (H : Hom o' o π) (cfg : Cfg) (f : File) (r : Reader τ) (file : Int) (blk : Nat) :
    seek cfg o f (r.mapC π) file blk = mapR π (seek cfg o' f r file blk) := by
  unfold seek
  cases hc : r.cur with
  | none => simp only [mapC_cur, hc]; rfl
  | some id =>
    simp only [mapC_cur, hc, mapC_heap]
    rw [mapR_ite]
    refine ite_congr rfl (fun _ => ?_) (fun _ => ?_)
    · rw [fetch_hom H]
      cases fetch cfg o' f r file with
      | error e => rfl
      | ok v =>
        obtain ⟨r2, e⟩ := v
        simp only [mapR_ok]
        rw [mapR_ite]
        refine ite_congr rfl (fun _ => ?_) (fun _ => rfl)
        exact seekFin_hom (π := π) { r2 with err := .none } file blk
    · exact seekFin_hom r file blk

theorem skipEmpty_hom (H : Hom o' o π) (cfg : Cfg) (f : File) : ∀ (fuel : Nat) (r : Reader τ),
    skipEmpty cfg o f fuel (r.mapC π) = mapR0 π (skipEmpty cfg o' f fuel r)
  | 0, _ => rfl
  | fuel + 1, r => by
    unfold skipEmpty
    cases hc : r.cur with
    | none => simp only [mapC_cur, hc]; rfl
    | some id =>
      simp only [mapC_cur, hc, mapC_heap]
      rw [mapR0_ite]
      refine ite_congr rfl (fun _ => ?_) (fun _ => rfl)
      rw [nextBlock_hom H]
      cases nextBlock cfg o' f r with
      | error e => rfl
      | ok v =>
        obtain ⟨r1, e⟩ := v
        simp only [mapR_ok]
        rw [mapR0_ite]
        refine ite_congr rfl (fun _ => ?_) (fun _ => rfl)
        exact skipEmpty_hom H cfg f fuel { r1 with err := .none }

theorem readLoop_hom (H : Hom o' o π) (cfg : Cfg) (f : File) :
    ∀ (fuel : Nat) (r : Reader τ) (want : Nat) (acc : List Nat),
    readLoop cfg o f fuel (r.mapC π) want acc = mapR π (readLoop cfg o' f fuel r want acc)
  | 0, _, _, _ => by unfold readLoop; rfl
  | fuel + 1, r, want, acc => by
    unfold readLoop
    simp only [mapC_err]
    rw [mapR_ite]
    refine ite_congr rfl (fun _ => rfl) (fun _ => ?_)
    cases hc : r.cur with
    | none => simp only [mapC_cur, hc]; rfl
    | some id =>
      simp only [mapC_cur, hc, mapC_heap]
      rw [mapR_ite]
      refine ite_congr rfl (fun _ => rfl) (fun _ => ?_)
      rw [mapR_ite]
      refine ite_congr rfl (fun _ => ?_) (fun _ => ?_)
      · simp only [mapC_blocked]
        rw [mapR_ite]
        refine ite_congr rfl (fun _ => rfl) (fun _ => ?_)
        rw [nextBlock_hom H]
        cases nextBlock cfg o' f r with
        | error e => rfl
        | ok v =>
          obtain ⟨r1, e⟩ := v
          simp only [mapR_ok]
          exact readLoop_hom H cfg f fuel { r1 with err := e } want acc
      · rw [mapC_setB]; exact readLoop_hom H cfg f fuel _ _ _

theorem read_hom (H : Hom o' o π) (cfg : Cfg) (f : File) (r : Reader τ) (n : Nat) :
    read cfg o f (r.mapC π) n = mapR π (read cfg o' f r n) := by
  unfold read
  simp only [mapC_err]
  rw [mapR_ite]
  refine ite_congr rfl (fun _ => rfl) (fun _ => ?_)
  rw [skipEmpty_hom H]
  cases skipEmpty cfg o' f (fuelFor f 0) r with
  | error e => rfl
  | ok r1 =>
    simp only [mapR0_ok, mapC_err]
    rw [mapR_ite]
    refine ite_congr rfl (fun _ => rfl) (fun _ => ?_)
    have := readLoop_hom H cfg f (fuelFor f n) { r1 with chunkBegin := curOffset r1 } n []
    -- `erw`: the goal has `{ r1.mapC π with chunkBegin := curOffset (r1.mapC π) }`, the lemma `({ r1 with chunkBegin := … }).mapC π`,
    -- equal by unfolding `mapC` only (where the recursive calls meet the same mismatch, `exact` unfolds it)
    erw [this]
    cases readLoop cfg o' f (fuelFor f n) { r1 with chunkBegin := curOffset r1 } n [] with
    | error e => rfl
    | ok v =>
      obtain ⟨r3, bytes, b⟩ := v
      cases b <;> rfl

theorem readByte_hom (H : Hom o' o π) (cfg : Cfg) (f : File) (r : Reader τ) :
    readByte cfg o f (r.mapC π) = mapR π (readByte cfg o' f r) := by
  rw [readByte_eq_read, readByte_eq_read]
  exact read_hom H cfg f r 1

theorem map_eraseIdx' {α β : Type} (g : α → β) : ∀ (l : List α) (i : Nat),
    (l.map g).eraseIdx i = (l.eraseIdx i).map g
  | [], _ => rfl
  | _ :: _, 0 => rfl
  | a :: l, i + 1 => by simp only [List.map_cons, List.eraseIdx_cons_succ, map_eraseIdx' g l i]

theorem step_hom (H : Hom o' o π) (cfg : Cfg) (f : File) (r : Reader τ) (op : Op τ) :
    step cfg o f (r.mapC π) (op.mapC π) = mapR π (step cfg o' f r op) := by
  cases op with
  | seek a b =>
    simp only [step, Op.mapC, seek_hom H]
    cases seek cfg o' f r a b with
    | error e => rfl
    | ok v => obtain ⟨r', e⟩ := v; rfl
  | read n =>
    simp only [step, Op.mapC, read_hom H]
    cases read cfg o' f r n with
    | error e => rfl
    | ok v => obtain ⟨r', bs, e⟩ := v; rfl
  | readByte =>
    simp only [step, Op.mapC, readByte_hom H]
    cases readByte cfg o' f r with
    | error e => rfl
    | ok v => obtain ⟨r', bs, e⟩ := v; rfl
  | setCache c h =>
    simp only [step, Op.mapC, mapR, Reader.mapC, List.map_append, Except.ok.injEq, Prod.mk.injEq, and_true]
    cases r.cache <;> rfl
  | reattach i h =>
    simp only [step, Op.mapC, mapR]
    have e1 : (r.mapC π).parked[i]? = (r.parked[i]?).map π := by simp [Reader.mapC]
    rw [e1]
    cases hp : r.parked[i]? with
    | none =>
      simp only [Option.map_none, Reader.mapC, List.map_append, Except.ok.injEq, Prod.mk.injEq, and_true]
      cases r.cache <;> rfl
    | some c =>
      simp only [Option.map_some, Reader.mapC, List.map_append, Except.ok.injEq, Prod.mk.injEq, and_true,
        map_eraseIdx']
      cases r.cache <;> rfl
  | setBlocked b => rfl

theorem run_hom (H : Hom o' o π) (cfg : Cfg) (f : File) : ∀ (ops : List (Op τ)) (r : Reader τ),
    run cfg o f (r.mapC π) (ops.map (Op.mapC π)) = mapR π (run cfg o' f r ops)
  | [], _ => rfl
  | op :: ops, r => by
    simp only [List.map_cons, run, step_hom H]
    cases step cfg o' f r op with
    | error e => rfl
    | ok v =>
      obtain ⟨r1, out⟩ := v
      simp only [mapR, run_hom H cfg f ops r1]
      cases run cfg o' f r1 ops with
      | error e => rfl
      | ok w => obtain ⟨r2, outs⟩ := w; rfl

/-- no `Hom`: `newReader` never looks at the cache (`newReader_eq`) -/
theorem newReader_hom (o' : CacheOps τ) (o : CacheOps σ) (π : τ → σ) (cfg : Cfg) (f : File) :
    newReader o cfg f = mapR π (newReader o' cfg f) :=
  congrArg Except.ok (loadAt_hom (π := π) cfg f Reader.init 0)

theorem outputsOf_hom (H : Hom o' o π) (cfg : Cfg) (f : File) (ops : List (Op τ)) :
    outputsOf cfg o' f ops = outputsOf cfg o f (ops.map (Op.mapC π)) := by
  unfold outputsOf
  rw [newReader_hom o' o π cfg f]
  cases newReader o' cfg f with
  | error e => rfl
  | ok v =>
    obtain ⟨r0, e⟩ := v
    simp only [mapR_ok]
    by_cases he : e = .none
    · simp only [he, ne_eq, not_true_eq_false, if_false]
      rw [run_hom H cfg f ops r0]
      cases run cfg o' f r0 ops with
      | error e => rfl
      | ok w => obtain ⟨r1, outs⟩ := w; rfl
    · simp only [ne_eq, he, not_false_eq_true, if_true]

theorem uncached_mapC (ops : List (Op τ)) :
    (ops.map Op.uncached).map (Op.mapC π) = (ops.map (Op.mapC π)).map Op.uncached := by
  simp only [List.map_map]
  apply List.map_congr_left
  intro op _
  cases op <;> rfl

end

section Sum
variable {σ₁ σ₂ ρ : Type}

theorem inl_hom (o₁ : CacheOps σ₁) (o₂ : CacheOps σ₂) : Hom o₁ (sumOps o₁ o₂) Sum.inl where
  put _ _ _ _ := rfl
  get _ _ _ := rfl
  peek _ _ _ := rfl
  held _ := rfl

theorem inr_hom (o₁ : CacheOps σ₁) (o₂ : CacheOps σ₂) : Hom o₂ (sumOps o₁ o₂) Sum.inr where
  put _ _ _ _ := rfl
  get _ _ _ := rfl
  peek _ _ _ := rfl
  held _ := rfl

theorem sum_hom {o₁ : CacheOps σ₁} {o₂ : CacheOps σ₂} {o : CacheOps ρ} {π₁ : σ₁ → ρ} {π₂ : σ₂ → ρ}
    (H₁ : Hom o₁ o π₁) (H₂ : Hom o₂ o π₂) : Hom (sumOps o₁ o₂) o (Sum.elim π₁ π₂) where
  put h s id hint := by
    cases s with
    | inl a =>
      simp only [Sum.elim_inl, sumOps, H₁.put, Option.map_map]
      cases o₁.put h a id hint <;> rfl
    | inr b =>
      simp only [Sum.elim_inr, sumOps, H₂.put, Option.map_map]
      cases o₂.put h b id hint <;> rfl
  get h s k := by
    cases s with
    | inl a => exact H₁.get h a k
    | inr b => exact H₂.get h b k
  peek h s k := by
    cases s with
    | inl a => exact H₁.peek h a k
    | inr b => exact H₂.peek h b k
  held s := by
    cases s with
    | inl a => exact H₁.held a
    | inr b => exact H₂.held b

theorem id_hom (o : CacheOps σ) : Hom o o id where
  put h s id' hint := by
    show o.put h s id' hint = _
    cases o.put h s id' hint <;> rfl
  get _ _ _ := rfl
  peek _ _ _ := rfl
  held _ := rfl

end Sum

section Transfer
variable {o' : CacheOps τ} {o : CacheOps σ} {π : τ → σ} {wf' : τ → Prop} {wf : σ → Prop}

theorem opOK_hom (H : Hom o' o π) (hwf : ∀ s, wf' s → wf (π s)) {ops : List (Op τ)}
    (ok : ∀ op ∈ ops, OpOK o' wf' op) : ∀ op ∈ ops.map (Op.mapC π), OpOK o wf op := by
  intro op hop
  obtain ⟨op0, h1, rfl⟩ := List.mem_map.1 hop
  have := ok op0 h1
  cases op0 with
  | setCache c h =>
    cases c with
    | none => trivial
    | some c => exact ⟨hwf c this.1, by rw [H.held]; exact this.2⟩
  | _ => trivial

/-- `res` is a parameter so that the one statement carries over both what a run returns and the fault it ends in. -/
theorem transparent_of_hom (H : Hom o' o π) (hwf : ∀ s, wf' s → wf (π s)) (cfg : Cfg) (f : File) (ops : List (Op τ))
    (ok : ∀ op ∈ ops, OpOK o' wf' op) {res : Except Fault (List Out)}
    (inner : ∀ ops', (∀ op ∈ ops', OpOK o wf op) → outputsOf cfg o f ops' = res →
      outputsOf cfg o f (ops'.map Op.uncached) = res)
    (hr : outputsOf cfg o' f ops = res) : outputsOf cfg o' f (ops.map Op.uncached) = res := by
  rw [outputsOf_hom H] at hr ⊢
  rw [uncached_mapC]
  exact inner _ (opOK_hom H hwf ok) hr

end Transfer

section Restrict
variable {o' : CacheOps τ} {o : CacheOps σ} {ι : τ → σ} {ρ : σ → Option τ}

/-- the operation read in the kind `τ`, along a partial inverse `ρ` of the embedding (a cache object of another kind is
dropped) -/
def Op.restrict (ρ : σ → Option τ) : Op σ → Op τ
  | .seek a b => .seek a b
  | .read n => .read n
  | .readByte => .readByte
  | .setCache c h => .setCache (c.bind ρ) h
  | .reattach i h => .reattach i h
  | .setBlocked b => .setBlocked b

theorem restrict_mapC (hρ : ∀ a, ρ (ι a) = some a) (ops : List (Op σ))
    (hin : ∀ c h, Op.setCache (some c) h ∈ ops → ∃ a, c = ι a) :
    (ops.map (Op.restrict ρ)).map (Op.mapC ι) = ops := by
  rw [List.map_map]
  conv => rhs; rw [← List.map_id ops]
  refine List.map_congr_left fun op hop => ?_
  cases op with
  | setCache c h =>
    cases c with
    | none => rfl
    | some c =>
      obtain ⟨a, rfl⟩ := hin c h hop
      simp only [Function.comp, Op.restrict, Option.bind_some, hρ, Op.mapC, Option.map_some, id]
  | _ => rfl

theorem opOK_restrict {wf' : τ → Prop} {wf : σ → Prop} (H : Hom o' o ι) (hρ : ∀ a, ρ (ι a) = some a)
    (hwf : ∀ a, wf (ι a) → wf' a) (ops : List (Op σ))
    (hin : ∀ c h, Op.setCache (some c) h ∈ ops → ∃ a, c = ι a)
    (ok : ∀ op ∈ ops, OpOK o wf op) : ∀ op ∈ ops.map (Op.restrict ρ), OpOK o' wf' op := by
  intro op hop
  obtain ⟨op0, h1, rfl⟩ := List.mem_map.1 hop
  have := ok op0 h1
  cases op0 with
  | setCache c h =>
    cases c with
    | none => trivial
    | some c =>
      obtain ⟨a, rfl⟩ := hin c h h1
      simp only [Op.restrict, Option.bind_some, hρ]
      exact ⟨hwf a this.1, by rw [← H.held]; exact this.2⟩
  | _ => trivial

theorem transparent_of_embedding {wf' : τ → Prop} {wf : σ → Prop} (H : Hom o' o ι) (hρ : ∀ a, ρ (ι a) = some a)
    (hwf : ∀ a, wf (ι a) → wf' a) (cfg : Cfg) (f : File) (ops : List (Op σ))
    (hin : ∀ c h, Op.setCache (some c) h ∈ ops → ∃ a, c = ι a) (ok : ∀ op ∈ ops, OpOK o wf op)
    {res : Except Fault (List Out)}
    (inner : ∀ ops', (∀ op ∈ ops', OpOK o' wf' op) → outputsOf cfg o' f ops' = res →
      outputsOf cfg o' f (ops'.map Op.uncached) = res)
    (hr : outputsOf cfg o f ops = res) : outputsOf cfg o f (ops.map Op.uncached) = res := by
  -- read `ops` as the ι-image of its restriction; then both runs are `o'`-runs (`outputsOf_hom` right to left)
  rw [← restrict_mapC hρ ops hin, ← outputsOf_hom H] at hr
  rw [← restrict_mapC hρ ops hin, ← uncached_mapC, ← outputsOf_hom H]
  exact inner _ (opOK_restrict H hρ hwf ops hin ok) hr

end Restrict

end Hts.Model.CachedReader
