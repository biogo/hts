/-
C19: the scanner on a piece of its input: `Scans c st X idx pend wd` says where `scan` stands after the bytes `X`,
so that what `step` does line by line composes along `++`; and what `step` does on the blank, header and sequence
lines of a well-formed record.
-/
import Hts.Lemmas.FaiScanner
import Hts.Lemmas.FaiStep
import Hts.Spec.Fasta
namespace Hts.Lemmas.Fai
open Hts.Model.Fai
open Hts.Spec.Fasta (isGraphic isBase isDescByte isBlankByte)

section
open Hts.Lemmas.FaiScanner (dropWhile_all scan_eq_stepAll lines_terminated lines_unterminated)

theorem space_of_blank {b : UInt8} (h : isBlankByte b = true) : isSpace b = true := by
  simp only [isBlankByte, isSpace, decide_eq_true_eq] at *; omega

theorem notLF_of_blank {b : UInt8} (h : isBlankByte b = true) : notLF b = true := by
  simp only [isBlankByte, notLF, decide_eq_true_eq] at *; omega

theorem not_space_of_graphic {b : UInt8} (h : isGraphic b = true) : isSpace b = false := by
  simp only [isGraphic, isSpace, decide_eq_true_eq, decide_eq_false_iff_not] at *; omega

theorem notLF_of_graphic {b : UInt8} (h : isGraphic b = true) : notLF b = true := by
  simp only [isGraphic, notLF, decide_eq_true_eq] at *; omega

theorem notSpTab_of_graphic {b : UInt8} (h : isGraphic b = true) : notSpTab b = true := by
  simp only [isGraphic, notSpTab, decide_eq_true_eq] at *; omega

theorem graphic_of_base {b : UInt8} (h : isBase b = true) : isGraphic b = true := by
  simp only [isBase, Bool.and_eq_true] at h; exact h.1

theorem ne_GT_of_base {b : UInt8} (h : isBase b = true) : b ≠ GT := by
  intro hb
  simp only [isBase, Bool.and_eq_true, decide_eq_true_eq] at h
  apply h.2; rw [hb]; rfl

theorem notLF_of_desc {b : UInt8} (h : isDescByte b = true) : notLF b = true := by
  simp only [isDescByte, notLF, decide_eq_true_eq] at *; omega

theorem GT_graphic : isGraphic GT = true := by decide

theorem dropWhile_space_cons {x : UInt8} (l : Bytes) (h : isSpace x = false) :
    (x :: l).dropWhile isSpace = x :: l :=
  List.dropWhile_cons_of_neg (by rw [h]; exact Bool.false_ne_true)

theorem trimRight_all_space (l : Bytes) (h : ∀ b ∈ l, isSpace b = true) : trimRight l = [] := by
  rw [trimRight, dropWhile_all _ fun b hb => h b (List.mem_reverse.mp hb)]
  rfl

theorem trimSpace_all_space (l : Bytes) (h : ∀ b ∈ l, isSpace b = true) : trimSpace l = [] := by
  unfold trimSpace; rw [dropWhile_all l h]; rfl

theorem notLF_LF : notLF Hts.Spec.Fasta.LF = false := by decide

/-- a token ending in LF — the specification's `LF` (the same byte as the model's), so that `Eol.bytes` and `blankLines`
of Spec/Fasta end in it by `rfl` -/
def Term (l : Bytes) : Prop := ∃ c, (∀ b ∈ c, notLF b = true) ∧ l = c ++ [Hts.Spec.Fasta.LF]

theorem scan_nil (st : ScanState) : scan st [] = .ok st := by
  rw [scan]

theorem scan_term (st : ScanState) (l rest : Bytes) (h : Term l) :
    scan st (l ++ rest) = match step st l with
      | .error e => .error e
      | .ok st' => scan st' rest := by
  obtain ⟨c, hc, rfl⟩ := h
  simp only [scan_eq_stepAll, List.append_assoc, List.singleton_append, lines_terminated c _ rest hc notLF_LF, stepAll]
  cases step st (c ++ [Hts.Spec.Fasta.LF]) <;> rfl

/-- The scanner in state `st` reads the piece `X` of its input and then has index `idx`, pending record `pend` and
flag `wd`, its offset grown by the length of `X` — whatever follows `X` if `closed` (every line of `X` is terminated),
at the end of the input otherwise. -/
def Scans (closed : Bool) (st : ScanState) (X : Bytes) (idx : Index) (pend : Record) (wd : Bool) : Prop :=
  ∀ rest, closed = true ∨ rest = [] → scan st (X ++ rest) = scan ⟨idx, pend, st.offset + X.length, wd⟩ rest

theorem Scans.nil (c : Bool) (st : ScanState) : Scans c st [] st.idx st.pending st.wantDescLine := fun _ _ => rfl

theorem Scans.trans {c : Bool} {st : ScanState} {X Y : Bytes} {i1 i2 : Index} {p1 p2 : Record} {w1 w2 : Bool}
    (h1 : Scans true st X i1 p1 w1) (h2 : Scans c ⟨i1, p1, st.offset + X.length, w1⟩ Y i2 p2 w2) :
    Scans c st (X ++ Y) i2 p2 w2 :=
  fun rest hr => by rw [List.append_assoc, h1 _ (.inl rfl), h2 rest hr, List.length_append, Nat.add_assoc]

/-- the second piece may also be empty, instead of following terminated lines -/
theorem Scans.then {c : Bool} {st : ScanState} {X Y : Bytes} {i1 i2 : Index} {p1 p2 : Record} {w1 w2 : Bool}
    (h1 : Scans c st X i1 p1 w1) (hc : c = true ∨ Y = [])
    (h2 : Scans c ⟨i1, p1, st.offset + X.length, w1⟩ Y i2 p2 w2) : Scans c st (X ++ Y) i2 p2 w2 := by
  rcases hc with rfl | rfl
  · exact h1.trans h2
  · intro rest hr
    rw [List.append_nil, h1 rest hr]
    exact h2 rest hr

theorem Scans.mono {c c' : Bool} {st : ScanState} {X : Bytes} {i : Index} {p : Record} {w : Bool}
    (h : Scans c st X i p w) (hc : c' = true → c = true) : Scans c' st X i p w :=
  fun rest hr => h rest (hr.imp_left hc)

theorem Scans.term {c : Bool} {st st' : ScanState} {l : Bytes} (hl : Term l) (hs : step st l = .ok st') :
    Scans c st l st'.idx st'.pending st'.wantDescLine :=
  fun rest _ => by rw [scan_term st l rest hl, hs, ← step_offset hs]

theorem Scans.unterm {st st' : ScanState} {l : Bytes} (hne : l ≠ []) (hl : ∀ b ∈ l, notLF b = true)
    (hs : step st l = .ok st') : Scans false st l st'.idx st'.pending st'.wantDescLine := by
  intro rest hr
  cases hr.resolve_left Bool.false_ne_true
  rw [List.append_nil, scan_eq_stepAll, lines_unterminated l hne hl, stepAll, hs, scan_nil, ← step_offset hs]
  rfl

end

theorem trimRight_prefix (u : Bytes) : trimRight u <+: u := by
  unfold trimRight
  have := List.dropWhile_suffix (l := u.reverse) isSpace
  have h2 := List.reverse_prefix.mpr this
  simpa using h2

theorem trimRight_append_nonspace (ys : Bytes) (y : UInt8) (u : Bytes) (hy : isSpace y = false) :
    trimRight (ys ++ [y] ++ u) = ys ++ [y] ++ trimRight u := by
  unfold trimRight
  rw [List.reverse_append, List.dropWhile_append]
  split
  · next h =>
    have h' : List.dropWhile isSpace u.reverse = [] := by simpa using h
    rw [h']
    simp [hy]
  · rw [List.reverse_append, List.reverse_reverse]

theorem trimSpace_prefix_block (g u : Bytes) (hne : g ≠ []) (hg : ∀ b ∈ g, isSpace b = false) :
    trimSpace (g ++ u) = g ++ trimRight u := by
  obtain ⟨ys, y, hy⟩ : ∃ ys y, g = ys ++ [y] :=
    ⟨g.dropLast, g.getLast hne, (List.dropLast_concat_getLast hne).symm⟩
  have hys : isSpace y = false := hg y (by rw [hy]; simp)
  unfold trimSpace
  have hd : (g ++ u).dropWhile isSpace = g ++ u := by
    cases g with
    | nil => exact absurd rfl hne
    | cons x xs => exact dropWhile_space_cons _ (hg x List.mem_cons_self)
  rw [hd, hy]
  exact trimRight_append_nonspace ys y u hys

theorem step_blank (st : ScanState) (line : Bytes) (h : ∀ b ∈ line, isSpace b = true) :
    step st line = .ok ⟨st.idx, st.pending, st.offset + line.length, true⟩ :=
  step_case_blank st (trimSpace_all_space line h)

/-- the description part of a header line: nothing, or a space/tab followed by anything -/
def DescTail (d : Bytes) : Prop := d = [] ∨ ∃ s t, d = s :: t ∧ notSpTab s = false ∧ isSpace s = true

theorem headerName_header (name d t : Bytes) (hn : ∀ b ∈ name, isGraphic b = true)
    (hd : DescTail d) (ht : ∀ b ∈ t, isSpace b = true) :
    ∃ v, trimSpace (GT :: (name ++ d) ++ t) = GT :: name ++ v ∧ headerName (GT :: name ++ v) = name := by
  -- `>name` has no space, so trimming keeps it and leaves of the description a `v` that is empty or begins with the
  -- description's separator: `takeWhile notSpTab` stops right after the name
  have hg : ∀ b ∈ GT :: name, isSpace b = false := by
    intro b hb
    rcases List.mem_cons.mp hb with rfl | hb
    · decide
    · exact not_space_of_graphic (hn b hb)
  have h1 : GT :: (name ++ d) ++ t = (GT :: name) ++ (d ++ t) := by simp
  refine ⟨trimRight (d ++ t), ?_, ?_⟩
  · rw [h1, trimSpace_prefix_block _ _ (by simp) hg]
  · unfold headerName
    have hp : ∀ a ∈ GT :: name, notSpTab a = true := by
      intro b hb
      rcases List.mem_cons.mp hb with rfl | hb
      · decide
      · exact notSpTab_of_graphic (hn b hb)
    rw [List.takeWhile_append_of_pos hp]
    have hv : (trimRight (d ++ t)).takeWhile notSpTab = [] := by
      obtain ⟨w, hw⟩ := trimRight_prefix (d ++ t)
      rcases hd with rfl | ⟨s, t', rfl, hs, hs2⟩
      · rw [List.nil_append, trimRight_all_space t ht]; rfl
      · cases hv : trimRight (s :: t' ++ t) with
        | nil => rfl
        | cons x xs =>
          rw [hv] at hw
          have : x = s := by
            simp only [List.cons_append] at hw
            exact (List.cons.inj hw).1
          rw [this]
          simp [List.takeWhile, hs]
    rw [hv]
    simp

theorem step_header (st : ScanState) (name d t : Bytes) (hne : name ≠ [])
    (hn : ∀ b ∈ name, isGraphic b = true) (hd : DescTail d) (ht : ∀ b ∈ t, isSpace b = true) :
    step st (GT :: (name ++ d) ++ t) =
      if (flush st).1.contains name then .error .duplicate
      else .ok ⟨(flush st).1, { (flush st).2 with name := name, start := st.offset + (GT :: (name ++ d) ++ t).length },
                st.offset + (GT :: (name ++ d) ++ t).length, false⟩ := by
  obtain ⟨v, hv, hname⟩ := headerName_header name d t hn hd ht
  have h1 : GT :: name ++ v ≠ [GT] := by
    cases name with
    | nil => exact absurd rfl hne
    | cons x xs => simp
  rw [step_case_header st (hv ▸ h1) (hv ▸ rfl), hv, hname]

theorem step_seq (st : ScanState) (c t : Bytes) (hne : c ≠ []) (hc : ∀ b ∈ c, isBase b = true)
    (ht : ∀ b ∈ t, isSpace b = true) (hw : st.wantDescLine = false) :
    step st (c ++ t) =
      if st.pending.bytesPerLine ≠ 0 ∧ (c ++ t).length > st.pending.bytesPerLine then .error .longLine
      else if st.pending.basesPerLine ≠ 0 ∧ c.length > st.pending.basesPerLine then .error .longLine
      else .ok ⟨st.idx,
        ⟨st.pending.name, st.pending.length + c.length, st.pending.start,
          if st.pending.basesPerLine = 0 then c.length else st.pending.basesPerLine,
          if st.pending.bytesPerLine = 0 then (c ++ t).length else st.pending.bytesPerLine⟩,
        st.offset + (c ++ t).length,
        decide (st.pending.bytesPerLine ≠ 0 ∧ (c ++ t).length < st.pending.bytesPerLine) ||
          decide (st.pending.basesPerLine ≠ 0 ∧ c.length < st.pending.basesPerLine)⟩ := by
  have hb : trimSpace (c ++ t) = c := by
    rw [trimSpace_prefix_block c t hne fun b hb => not_space_of_graphic (graphic_of_base (hc b hb)),
      trimRight_all_space t ht, List.append_nil]
  cases c with
  | nil => exact absurd rfl hne
  | cons x xs =>
    have hx : (x :: xs).head? ≠ some GT := fun h => ne_GT_of_base (hc x List.mem_cons_self) (Option.some.inj h)
    rw [step_case_seq st (by rw [hb]; exact hne) (by rw [hb]; exact hx), hb, hw]
    rfl

end Hts.Lemmas.Fai
