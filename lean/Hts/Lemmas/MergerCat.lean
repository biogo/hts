/-
The Merger model over its list of sources.  `delivered` is what the sources hold between them: concatenation returns
`catSpec`, a prefix of it, and the initial heap of the sorted mode (`initHeads`) has exactly `delivered` pending, which
turns the facts about `Runs` into facts about the sources (`Runs.init_*`).
-/
import Hts.Lemmas.MergerSorted
namespace Hts.Model.Merger

/-- all records of all sources in source order, tagged and re-linked -/
def delivered (links : Option LinkFn) (srcs : List (Nat × Src)) : List (Nat × Rec) :=
  srcs.flatMap fun p => tagged links p.1 p.2.rest

theorem mem_delivered (links : Option LinkFn) (srcs : List (Nat × Src)) (p : Nat × Rec) :
    p ∈ delivered links srcs ↔ ∃ i s r, (i, s) ∈ srcs ∧ r ∈ s.rest ∧ p = (i, relink links i r) := by
  unfold delivered tagged
  simp only [List.mem_flatMap, List.mem_map]
  constructor
  · rintro ⟨⟨i, s⟩, hq, r, hr, rfl⟩
    exact ⟨i, s, r, hq, hr, rfl⟩
  · rintro ⟨i, s, r, hq, hr, rfl⟩
    exact ⟨(i, s), hq, r, hr, rfl⟩

theorem filter_delivered_absent (links : Option LinkFn) (srcs : List (Nat × Src)) (i : Nat)
    (h : ∀ s, (i, s) ∉ srcs) : (delivered links srcs).filter (fun p => p.1 == i) = [] := by
  rw [List.filter_eq_nil_iff]
  intro p hp hpi
  obtain ⟨k, u, _, hmem, _, rfl⟩ := (mem_delivered links srcs p).1 hp
  exact h u (beq_iff_eq.1 hpi ▸ hmem)

theorem filter_delivered (links : Option LinkFn) :
    ∀ (srcs : List (Nat × Src)), (srcs.map (·.1)).Nodup → ∀ i s, (i, s) ∈ srcs →
      (delivered links srcs).filter (fun p => p.1 == i) = tagged links i s.rest
  | [], _, _, _, h => by cases h
  | (j, t) :: rest, hnd, i, s, h => by
    obtain ⟨hj, hnd⟩ := List.nodup_cons.1 hnd
    rw [delivered, List.flatMap_cons, List.filter_append, ← delivered]
    cases h with
    | head =>
      rw [filter_delivered_absent links rest j fun u hu => hj (List.mem_map.2 ⟨(j, u), hu, rfl⟩), List.append_nil,
        List.filter_eq_self]
      intro p hp
      obtain ⟨r, _, rfl⟩ := List.mem_map.1 hp
      exact beq_self_eq_true _
    | tail _ hmem =>
      have hji : j ≠ i := fun heq => hj (List.mem_map.2 ⟨(i, s), hmem, heq.symm⟩)
      rw [filter_tagged_of_ne links hji, List.nil_append]
      exact filter_delivered links rest hnd i s hmem

section
variable {links : Option LinkFn} {i : Nat} {s : Src} {rest : List (Nat × Src)} {err : Option Nat}

theorem catRead_cons_got {r : Rec} {rs : List Rec} (h : s.rest = r :: rs) :
    catRead links ((i, s) :: rest) err = (.got i (relink links i r), ((i, { s with rest := rs }) :: rest, err)) := by
  rw [catRead, Src.read, h]

theorem catRead_cons_eof (h : s.rest = []) (ht : s.term = .eof) :
    catRead links ((i, s) :: rest) err = catRead links rest err := by
  rw [catRead, Src.read, h, ht]

theorem catRead_cons_err {e : Nat} (h : s.rest = []) (ht : s.term = .err e) :
    catRead links ((i, s) :: rest) err = (.fin (.err e), ([], some e)) := by
  rw [catRead, Src.read, h, ht]

end

theorem catRead_fin_again {links : Option LinkFn} {t : Term} {st : List (Nat × Src) × Option Nat} :
    ∀ {rs : List (Nat × Src)} {err : Option Nat}, catRead links rs err = (.fin t, st) →
      catRead links st.1 st.2 = (.fin t, st)
  | [], err, h => by cases h; rfl
  | (i, s) :: rest, err, h => by
    cases hr : s.rest with
    | cons r rs => rw [catRead_cons_got hr] at h; cases h
    | nil =>
      cases ht : s.term with
      | eof => rw [catRead_cons_eof hr ht] at h; exact catRead_fin_again h
      | err e => rw [catRead_cons_err hr ht] at h; cases h; rfl

theorem read_cat (H : Heap) (links : Option LinkFn) (rs : List (Nat × Src)) (err : Option Nat) :
    Merger.read H ⟨links, .cat rs err⟩ =
      ((catRead links rs err).1, ⟨links, .cat (catRead links rs err).2.1 (catRead links rs err).2.2⟩) := rfl

/-- what concatenation returns: the sources in turn, up to and including the first that fails -/
def catSpec (links : Option LinkFn) : List (Nat × Src) → List (Nat × Rec) × Term
  | [] => ([], .eof)
  | (i, s) :: rest =>
    match s.term with
    | .eof => (tagged links i s.rest ++ (catSpec links rest).1, (catSpec links rest).2)
    | .err e => (tagged links i s.rest, .err e)

theorem drain_cat (H : Heap) (links : Option LinkFn) :
    ∀ n rs, (⟨links, .cat rs none⟩ : Merger).size < n →
      drain H n ⟨links, .cat rs none⟩ = ((catSpec links rs).1, some (catSpec links rs).2)
  | 0 => fun _ h => by omega
  | n + 1 => fun rs => by
    -- the fuel counts calls of `Read`; one call passes any number of exhausted sources, hence the induction inside
    induction rs with
    | nil => intro _; rfl
    | cons p rest ihr =>
      obtain ⟨i, s⟩ := p
      intro hsz
      simp only [Merger.size, List.map_cons, List.sum_cons] at hsz ihr
      rw [drain_succ, read_cat]
      cases hr : s.rest with
      | nil =>
        rw [hr, List.length_nil, Nat.zero_add] at hsz
        cases ht : s.term with
        | eof =>
          -- fold the opened `Read` back: the exhausted source cost no fuel, so the inner hypothesis applies
          rw [catRead_cons_eof hr ht, ← read_cat H, ← drain_succ, ihr hsz]
          simp [catSpec, ht, hr, tagged]
        | err e =>
          rw [catRead_cons_err hr ht]
          simp [catSpec, ht, hr, tagged]
      | cons r rs' =>
        rw [hr, List.length_cons] at hsz
        rw [catRead_cons_got hr]
        simp only
        rw [drain_cat H links n _ (by simp only [Merger.size, List.map_cons, List.sum_cons]; omega)]
        cases ht : s.term <;> simp [catSpec, ht, hr, tagged]

theorem catSpec_clean (links : Option LinkFn) :
    ∀ srcs : List (Nat × Src), (∀ p, p ∈ srcs → p.2.term = .eof) → catSpec links srcs = (delivered links srcs, .eof)
  | [], _ => rfl
  | (i, s) :: rest, h => by
    obtain ⟨hs, h⟩ := List.forall_mem_cons.1 h
    simp [catSpec, show s.term = .eof from hs, catSpec_clean links rest h, delivered]

theorem catSpec_prefix (links : Option LinkFn) :
    ∀ srcs : List (Nat × Src), (catSpec links srcs).1 <+: delivered links srcs
  | [] => List.prefix_refl _
  | (i, s) :: rest => by
    unfold catSpec delivered
    simp only [List.flatMap_cons]
    cases s.term with
    | eof => exact (List.prefix_append_right_inj _).2 (catSpec_prefix links rest)
    | err e => exact List.prefix_append _ _

theorem catSpec_eof (links : Option LinkFn) :
    ∀ srcs : List (Nat × Src), (catSpec links srcs).2 = .eof → ∀ p, p ∈ srcs → p.2.term = .eof
  | [], _ => List.forall_mem_nil _
  | (i, s) :: rest, h => by
    unfold catSpec at h
    cases ht : s.term with
    | eof =>
      rw [ht] at h
      exact List.forall_mem_cons.2 ⟨ht, catSpec_eof links rest h⟩
    | err e => rw [ht] at h; cases h

theorem catSpec_split (links : Option LinkFn) :
    ∀ (srcs : List (Nat × Src)) (e : Nat), (catSpec links srcs).2 = .err e →
      ∃ pre p post, srcs = pre ++ p :: post ∧ (∀ q, q ∈ pre → q.2.term = .eof) ∧ p.2.term = .err e ∧
        (catSpec links srcs).1 = delivered links (pre ++ [p])
  | [], _, h => by cases h
  | (i, s) :: rest, e, h => by
    unfold catSpec at h ⊢
    cases ht : s.term with
    | eof =>
      rw [ht] at h
      obtain ⟨pre, p, post, hsplit, hpre, hp, hout⟩ := catSpec_split links rest e h
      exact ⟨(i, s) :: pre, p, post, by rw [hsplit]; rfl, List.forall_mem_cons.2 ⟨ht, hpre⟩, hp, by rw [hout]; rfl⟩
    | err e' =>
      rw [ht] at h
      cases h
      exact ⟨[], (i, s), rest, rfl, nofun, ht, (List.append_nil _).symm⟩

theorem initHeads_cons (links : Option LinkFn) (i : Nat) (s : Src) (rest : List (Nat × Src)) :
    initHeads links ((i, s) :: rest) =
      ((Live.start links i s).toList ++ (initHeads links rest).1, s.emptyErr.or (initHeads links rest).2) := by
  rw [initHeads, Live.start, Src.emptyErr, Src.read]
  cases s.rest with
  | cons r rs => rfl
  | nil => cases s.term <;> rfl

theorem initHeads_fst (links : Option LinkFn) :
    ∀ srcs, (initHeads links srcs).1 = srcs.flatMap fun p => (Live.start links p.1 p.2).toList
  | [] => rfl
  | (i, s) :: rest => by rw [initHeads_cons, List.flatMap_cons, initHeads_fst links rest]

theorem initHeads_snd (links : Option LinkFn) :
    ∀ srcs, (initHeads links srcs).2 = srcs.findSome? fun p => p.2.emptyErr
  | [] => rfl
  | (i, s) :: rest => by
    rw [initHeads_cons, List.findSome?_cons, initHeads_snd links rest]
    cases s.emptyErr <;> rfl

theorem mem_initHeads {links : Option LinkFn} {srcs : List (Nat × Src)} {y : Live} :
    y ∈ (initHeads links srcs).1 ↔ ∃ p : Nat × Src, p ∈ srcs ∧ Live.start links p.1 p.2 = some y := by
  simp only [initHeads_fst, List.mem_flatMap, Option.mem_toList]

theorem initHeads_pending (links : Option LinkFn) (srcs : List (Nat × Src)) :
    heapPending links (initHeads links srcs).1 = delivered links srcs := by
  rw [initHeads_fst, heapPending, List.flatMap_assoc]
  exact congrArg (srcs.flatMap ·) (funext fun p : Nat × Src => pending_start links p.1 p.2)

theorem initHeads_ids (links : Option LinkFn) :
    ∀ srcs : List (Nat × Src), ((initHeads links srcs).1.map (·.id)).Sublist (srcs.map (·.1))
  | [] => .slnil
  | (i, s) :: rest => by
    rw [initHeads_cons, List.map_append]
    exact (Live.start_ids links i s).append (initHeads_ids links rest)

section
variable {H : Heap} {links : Option LinkFn} {less : Less} {srcs : List (Nat × Src)} {err : Option Nat}
  {out : List (Nat × Rec)} {t : Term}

theorem Runs.init_perm (h : Runs H links less (initHeads links srcs).1 err out t) : out.Perm (delivered links srcs) :=
  initHeads_pending links srcs ▸ h.perm

theorem Runs.init_filter_any (h : Runs H links less (initHeads links srcs).1 err out t) (hnd : (srcs.map (·.1)).Nodup)
    (i : Nat) : out.filter (fun p => p.1 == i) = (delivered links srcs).filter (fun p => p.1 == i) := by
  rw [h.filter ((initHeads_ids links srcs).nodup hnd), initHeads_pending]

theorem Runs.init_filter (h : Runs H links less (initHeads links srcs).1 err out t) (hnd : (srcs.map (·.1)).Nodup)
    {i : Nat} {s : Src} (hi : (i, s) ∈ srcs) : out.filter (fun p => p.1 == i) = tagged links i s.rest := by
  rw [h.init_filter_any hnd, filter_delivered links srcs hnd i s hi]

theorem Runs.init_sorted (h : Runs H links less (initHeads links srcs).1 err out t) (sw : StrictWeak less)
    (hs : ∀ i s, (i, s) ∈ srcs → SortedBy less (s.rest.map (relink links i))) : SortedBy (pairLess less) out := by
  refine h.sorted sw fun y hy => ?_
  obtain ⟨⟨i, s⟩, hp, hy⟩ := mem_initHeads.1 hy
  rw [(Live.start_eq_some hy).2.2]
  exact List.pairwise_map.2 ((List.pairwise_map.1 (hs i s hp)).imp fun h => by rwa [pairLess_same_id])

theorem Runs.init_fin_eof (h : Runs H links less (initHeads links srcs).1 (initHeads links srcs).2 out .eof) :
    ∀ p, p ∈ srcs → p.2.term = .eof := by
  obtain ⟨he, hall⟩ := h.fin_eof rfl
  rw [initHeads_snd, List.findSome?_eq_none_iff] at he
  exact fun p hp => Src.term_eq_eof links p.1 (he p hp) fun y hs => hall y (mem_initHeads.2 ⟨p, hp, hs⟩)

theorem Runs.init_fin_err {e : Nat} (h : Runs H links less (initHeads links srcs).1 (initHeads links srcs).2 out (.err e)) :
    ∃ p, p ∈ srcs ∧ p.2.term = .err e := by
  rcases h.fin_err rfl with he | ⟨y, hy, hyt⟩
  · rw [initHeads_snd, List.findSome?_eq_some_iff] at he
    obtain ⟨l₁, p, l₂, rfl, hp, _⟩ := he
    exact ⟨p, by simp, Src.emptyErr_eq_some hp⟩
  · obtain ⟨p, hp, hs⟩ := mem_initHeads.1 hy
    exact ⟨p, hp, (Live.start_eq_some hs).2.1 ▸ hyt⟩

end

end Hts.Model.Merger
