/-
Merge strategies for Hts.Model.Index: the strategies are C17's models (Hts.Model.Merge) carried over to
integer offsets; their enclosure law (Hts.Lemmas.MergeEnc) is transported by `encLaw_lift`, so every
provided strategy returns, for a list sorted by begin, a list in which every input chunk is enclosed by
some chunk (`EncLaw`); and `MergeChunks s` keeps what completeness needs (`IdxCover`) for every strategy
with that law.
-/
import Hts.Lemmas.IndexChunks
import Hts.Lemmas.MergeEnc
namespace Hts.Model.Index

theorem coveredBy_trans {cs : List Chunk} {c p : Chunk} (h : coveredBy cs c) (hp : c.encloses p) :
    coveredBy cs p := by
  obtain ⟨x, hx, h1, h2⟩ := h
  exact ⟨x, hx, by unfold Chunk.encloses at *; omega⟩

/-- the law a merge strategy has to satisfy: on a list sorted by begin no input chunk is lost -/
def EncLaw (s : List Chunk → List Chunk) : Prop :=
  ∀ cs, SortedB cs → ∀ c, c ∈ cs → coveredBy (s cs) c

theorem encLaw_id : EncLaw id := fun _ _ c hc => ⟨c, hc, Int.le_refl _, Int.le_refl _⟩

namespace Local

theorem vOff_toOff (v : Int) : Hts.Model.Merge.vOff (toOff v) = v := by
  unfold Hts.Model.Merge.vOff toOff
  simp only
  omega

theorem ofM_toM (c : Chunk) : ofM (toM c) = c := by
  simp only [ofM, toM, vOff_toOff]

theorem sortedB_map_toM : ∀ cs : List Chunk, SortedB cs → Hts.Model.Merge.SortedB (cs.map toM) := by
  intro cs
  induction cs with
  | nil => intro _; trivial
  | cons a as ih =>
    intro h
    have h' := List.pairwise_cons.1 h
    cases as with
    | nil => trivial
    | cons b bs =>
      refine ⟨?_, ih h'.2⟩
      show Hts.Model.Merge.vOff (toOff a.b) ≤ Hts.Model.Merge.vOff (toOff b.b)
      rw [vOff_toOff, vOff_toOff]
      exact h'.1 b List.mem_cons_self

theorem encLaw_lift (s : List Hts.Model.Merge.Chunk → List Hts.Model.Merge.Chunk)
    (hs : ∀ ms, Hts.Model.Merge.SortedB ms → ∀ m, m ∈ ms → Hts.Model.Merge.enclosedBy (s ms) m) :
    EncLaw (lift s) := by
  intro cs hsorted c hc
  obtain ⟨m', hm', h1, h2⟩ := hs (cs.map toM) (sortedB_map_toM cs hsorted) (toM c) (List.mem_map.2 ⟨c, hc, rfl⟩)
  refine ⟨ofM m', List.mem_map.2 ⟨m', hm', rfl⟩, ?_⟩
  unfold Chunk.encloses ofM
  simp only [toM, vOff_toOff] at h1 h2
  exact ⟨h1, h2⟩

theorem encLaw_adjacent : EncLaw adjacent := encLaw_lift _ Hts.Model.Merge.adjacent_enc
theorem encLaw_compressor (near : Int) : EncLaw (compressor near) :=
  encLaw_lift _ (Hts.Model.Merge.compressor_enc near)
theorem encLaw_squash : EncLaw squash := encLaw_lift _ Hts.Model.Merge.squash_enc

end Local

theorem coveredBy_merge {s : List Chunk → List Chunk} (hs : EncLaw s) {cs : List Chunk} {p : Chunk}
    (h : coveredBy cs p) : coveredBy (s (sortChunks cs)) p := by
  obtain ⟨x, hx, hxe⟩ := h
  exact coveredBy_trans (hs _ (sortChunks_sorted _) x (mem_sortChunks.2 hx)) hxe

theorem mergeChunks_cover (s : List Chunk → List Chunk) (hs : EncLaw s) (i : Index) (hist : List Rec)
    (cov : IdxCover i hist) : IdxCover (mergeChunks s i) hist := by
  refine ⟨cov.flag, cov.refs.map _ fun ref h c => ?_⟩
  refine { bins := fun r hr => ?_, nodup := by rw [List.map_map]; exact c.nodup, tilesLen := c.tilesLen,
           tilesLe := c.tilesLe }
  obtain ⟨bn, h1, h2, hc⟩ := c.bins r hr
  exact ⟨_, List.mem_map.2 ⟨bn, h1, rfl⟩, h2, coveredBy_merge hs hc⟩

end Hts.Model.Index
