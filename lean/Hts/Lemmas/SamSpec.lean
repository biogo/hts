/-
The model's formatter and the specification's formatter produce the same line: the file holds the two halves, `fields_eq`
(field by field) and `tabJoin_eq_joinWith`; `Props.C06.format_is_spec` joins them under `formatRecord_ok`.
-/
import Hts.Lemmas.SamRecord
namespace Hts.Model.SamText
open Hts.Model.Coord (CigarOp)
open Hts.Spec.SamLine (decimal signedDecimal tabJoin fields)

theorem decimal_eq_showNat (n : Nat) : decimal n = showNat n := (showNat_eq_toDigits n).symm

theorem signedDecimal_eq_showInt (i : Int) : signedDecimal i = showInt i := by
  unfold signedDecimal showInt
  simp only [decimal_eq_showNat]

theorem tabJoin_eq_joinWith (l : List Bytes) : tabJoin l = joinWith 9 l := by
  induction l with
  | nil => rfl
  | cons f rest ih =>
    cases rest with
    | nil => rfl
    | cons g gs => rw [tabJoin, joinWith, ih]

theorem cigarOpChar_eq : ∀ t, t ≤ 8 → Hts.Spec.SamLine.cigarOpChar t = opLetter t := by decide

theorem hexString_eq (b : Bytes) : Hts.Spec.SamLine.hexString b = hexEncode b := rfl

theorem cigarString_eq (c : List CigarOp) (h : ∀ co ∈ c, co.typ ≤ 8) :
    Hts.Spec.SamLine.cigarString (c.map fun co => (co.len, co.typ)) = formatCigar c := by
  have key : (c.map fun co => (co.len, co.typ)).flatMap
      (fun op => decimal op.1 ++ [Hts.Spec.SamLine.cigarOpChar op.2]) =
      c.flatMap fun co => showNat co.len ++ [opLetter co.typ] := by
    rw [List.flatMap_map, List.flatMap_def, List.flatMap_def]
    exact congrArg List.flatten (List.map_congr_left fun co hco => by
      rw [decimal_eq_showNat, cigarOpChar_eq _ (h co hco)])
  cases c with
  | nil => rfl
  | cons co rest => exact key

theorem seqString_eq (s : List (Fin 16)) :
    Hts.Spec.SamLine.seqString (s.map Hts.Spec.SamLine.baseOfCode) = formatSeq s := by
  cases s <;> rfl

theorem qualString_eq (q : Option Bytes) : Hts.Spec.SamLine.qualString (specQual q) = formatQual q := by
  cases q with
  | none => rfl
  | some q =>
    cases hany : q.any (· != 255)
    · simp only [specQual, formatQual, hany, Bool.false_eq_true, if_false]; rfl
    · simp only [specQual, formatQual, hany, if_true]
      show (q.map UInt8.toNat).map _ = _
      rw [List.map_map]
      exact List.map_congr_left fun x _ => by
        show UInt8.ofNat (x.toNat + 33) = x + 33
        rw [UInt8.ofNat_add, UInt8.ofNat_toNat]; rfl

theorem rnext_eq (ref mate : Option Ref) :
    Hts.Spec.SamLine.rnextString (specRNext ref mate) = formatMate ref mate := by
  unfold Hts.Spec.SamLine.rnextString specRNext formatMate
  cases mate with
  | none => rfl
  | some m => by_cases he : ref = some m <;> simp [he]

theorem rname_eq (ref : Option Ref) : Hts.Spec.SamLine.rnameString (ref.map (·.name)) = refName ref := by
  cases ref <;> rfl

theorem optString_eq (ft : FloatText) (a : Aux) (h : AuxRep a) :
    Hts.Spec.SamLine.optString ft.fmt (optOfAux a) = formatAux ft a := by
  obtain ⟨t0, t1, v⟩ := a
  unfold Hts.Spec.SamLine.optString optOfAux formatAux
  cases v with
  | char c =>
    have : utf8OfByte c = [c] := if_pos h
    simp only [this]; rfl
  | int ty w => simp only [signedDecimal_eq_showInt]
  | ints ty vs => simp only [signedDecimal_eq_showInt]
  | _ => rfl

theorem fields_eq (ft : FloatText) (r : Record) (hi : IntsOK r) (hc : ∀ co ∈ r.cigar, co.typ ≤ 8)
    (ha : ∀ a ∈ r.aux, AuxRep a) : fields ft.fmt (toSpec r) = recordFields ft .dec r := by
  obtain ⟨hp1, hp2, hm1, hm2, _, _⟩ := hi
  unfold fields recordFields toSpec
  simp only [decimal_eq_showNat, signedDecimal_eq_showInt, rname_eq, rnext_eq, cigarString_eq r.cigar hc,
    seqString_eq, qualString_eq, formatFlags, List.map_map,
    wrap64_id (r.pos + 1) (by omega) (by omega), wrap64_id (r.matePos + 1) (by omega) (by omega)]
  exact congrArg _ (List.map_congr_left fun a hmem => optString_eq ft a (ha a hmem))

end Hts.Model.SamText
