/-
`internal.Index.Add` over a whole coordinate-sorted sequence: what one `Add` does, one case per exit (`add_cases`, an
eliminator), the index-level invariant, its preservation by one accepted `Add`, and the induction over the sequence
(`addAll_induct`).  The bookkeeping of the reference list is the same in `csi.Index` and is done for both (`RefsInv`).
The statistics kept by `Add` (per-reference mapped/unmapped counts and chunk span, the unplaced count, the reference
count) equal the true counts of the records added (C15, `stats_true`).
-/
import Hts.Lemmas.IndexAdd
namespace Hts.Model.Index

def padTo {α : Type} (e : α) (l : List α) (k : Nat) : List α :=
  if decide (k ≥ l.length) then l ++ List.replicate (k + 1 - l.length) e else l

theorem padTo_length {α : Type} (e : α) (l : List α) (k : Nat) : (padTo e l k).length = max l.length (k + 1) := by
  unfold padTo
  by_cases h : k ≥ l.length
  · rw [if_pos (decide_eq_true h), List.length_append, List.length_replicate]; omega
  · rw [if_neg (mt of_decide_eq_true h)]; omega

theorem padTo_get {α : Type} (e : α) (l : List α) (k j : Nat) (x : α) (h : (padTo e l k)[j]? = some x) :
    (j < l.length ∧ l[j]? = some x) ∨ (l.length ≤ j ∧ j ≤ k ∧ x = e) := by
  unfold padTo at h
  by_cases hj : j < l.length
  · refine Or.inl ⟨hj, ?_⟩
    split at h
    · rwa [List.getElem?_append_left hj] at h
    · exact h
  · have hj' : l.length ≤ j := Nat.le_of_not_lt hj
    split at h
    · rw [List.getElem?_append_right hj', List.getElem?_replicate] at h
      split at h
      · exact Or.inr ⟨hj', by omega, (Option.some.inj h).symm⟩
      · cases h
    · rw [List.getElem?_eq_none hj'] at h; cases h

theorem mem_padTo {α : Type} (e : α) (l : List α) (k : Nat) (x : α) (h : x ∈ padTo e l k) : x ∈ l ∨ x = e := by
  unfold padTo at h
  split at h
  · exact (List.mem_append.1 h).imp_right List.eq_of_mem_replicate
  · exact Or.inl h

section
variable {ρ α : Type} (rid start : ρ → Int) (RI : α → List ρ → Prop)

def onRefBy (hist : List ρ) (j : Nat) : List ρ := hist.filter (fun a => decide (rid a = (j : Int)))

/-- what the reference list and `LastRecord` know after the placed records `hist` (newest first) -/
structure RefsInv (refs : List α) (last : Int) (hist : List ρ) : Prop where
  len0 : hist = [] → refs = []
  last : ∀ a rest, hist = a :: rest → (refs.length : Int) = rid a + 1 ∧ last = start a
  ridLt : ∀ a, a ∈ hist → 0 ≤ rid a ∧ rid a < (refs.length : Int)
  refInv : ∀ j ref, refs[j]? = some ref → RI ref (onRefBy rid hist j)

variable {rid start RI}

theorem mem_onRefBy {hist : List ρ} {j : Nat} {a : ρ} (h : a ∈ onRefBy rid hist j) : a ∈ hist ∧ rid a = (j : Int) :=
  ⟨(List.mem_filter.1 h).1, of_decide_eq_true (List.mem_filter.1 h).2⟩

theorem RefsInv.onRef_nil {refs : List α} {last : Int} {hist : List ρ} (inv : RefsInv rid start RI refs last hist)
    (j : Nat) (hj : refs.length ≤ j) : onRefBy rid hist j = [] := by
  refine List.filter_eq_nil_iff.2 fun a ha => ?_
  have := (inv.ridLt a ha).2
  simp only [decide_eq_true_eq]
  omega

theorem RefsInv.mono {RI' : α → List ρ → Prop} {refs : List α} {last : Int} {hist : List ρ}
    (inv : RefsInv rid start RI refs last hist) (h : ∀ ref hs, RI ref hs → RI' ref hs) :
    RefsInv rid start RI' refs last hist :=
  ⟨inv.len0, inv.last, inv.ridLt, fun j ref hj => h _ _ (inv.refInv j ref hj)⟩

theorem RefsInv.map {β : Type} {RI' : β → List ρ → Prop} {refs : List α} {last : Int} {hist : List ρ}
    (inv : RefsInv rid start RI refs last hist) (f : α → β) (h : ∀ ref hs, RI ref hs → RI' (f ref) hs) :
    RefsInv rid start RI' (refs.map f) last hist := by
  refine ⟨fun h0 => by rw [inv.len0 h0]; rfl, fun a rest h0 => by rw [List.length_map]; exact inv.last a rest h0,
    fun a ha => by rw [List.length_map]; exact inv.ridLt a ha, fun j ref hj => ?_⟩
  rw [List.getElem?_map] at hj
  obtain ⟨ref0, h0, rfl⟩ := Option.map_eq_some_iff.1 hj
  exact h _ _ (inv.refInv j ref0 h0)

theorem RefsInv.get {refs : List α} {last : Int} {hist : List ρ} (inv : RefsInv rid start RI refs last hist)
    {a : ρ} (ha : a ∈ hist) :
    ∃ ref, refs[(rid a).toNat]? = some ref ∧ RI ref (onRefBy rid hist (rid a).toNat) ∧
      a ∈ onRefBy rid hist (rid a).toNat := by
  obtain ⟨h0, hlt⟩ := inv.ridLt a ha
  obtain ⟨ref, href⟩ : ∃ ref, refs[(rid a).toNat]? = some ref :=
    ⟨_, List.getElem?_eq_getElem ((Int.toNat_lt h0).2 hlt)⟩
  exact ⟨ref, href, inv.refInv _ _ href, List.mem_filter.2 ⟨ha, decide_eq_true (Int.toNat_of_nonneg h0).symm⟩⟩

/-- the invariant read in INPUT order: `l` are the placed records, oldest first -/
theorem RefsInv.ofInput {refs : List α} {last : Int} {l : List ρ} (inv : RefsInv rid start RI refs last l.reverse) :
    (∀ (j : Nat) ref, refs[j]? = some ref → RI ref (onRefBy rid l j).reverse) ∧
    (∀ x, l.getLast? = some x → (refs.length : Int) = rid x + 1) ∧
    (l = [] → refs = []) := by
  refine ⟨fun j ref hj => ?_, fun x hx => ?_, fun he => inv.len0 (by rw [he]; rfl)⟩
  · rw [onRefBy, List.filter_reverse.symm]; exact inv.refInv j ref hj
  · obtain ⟨ys, hys⟩ := List.getLast?_eq_some_iff.1 hx
    exact (inv.last x ys.reverse (by rw [hys, List.reverse_append]; rfl)).1

theorem RefsInv.entry {refs : List α} {last : Int} {hist : List ρ} (inv : RefsInv rid start RI refs last hist)
    (e : α) (he : RI e []) (r : ρ) (k : Nat) (hk : (k : Int) = rid r) (h0 : 0 ≤ start r)
    (hle : ∀ a, a ∈ hist → rid a ≤ rid r ∧ (rid a = rid r → start a ≤ start r))
    (ref : α) (hget : (padTo e refs k)[k]? = some ref) :
    refs.length ≤ k + 1 ∧ RI ref (onRefBy rid hist k) ∧ (if k ≥ refs.length then 0 else last) ≤ start r := by
  have hlen : refs.length ≤ k + 1 ∧ (k < refs.length → last ≤ start r) := by
    cases hist with
    | nil => rw [inv.len0 rfl]; exact ⟨Nat.zero_le _, fun h => nomatch h⟩
    | cons a rest =>
      obtain ⟨hl, hs⟩ := inv.last a rest rfl
      obtain ⟨h1, h2⟩ := hle a List.mem_cons_self
      exact ⟨by omega, fun h => hs ▸ h2 (by omega)⟩
  refine ⟨hlen.1, ?_⟩
  rcases padTo_get _ _ _ _ _ hget with ⟨hlt, h⟩ | ⟨hge, _, rfl⟩
  · exact ⟨inv.refInv _ _ h, by rw [if_neg (by omega)]; exact hlen.2 hlt⟩
  · exact ⟨by rw [inv.onRef_nil _ hge]; exact he, by rw [if_pos hge]; exact h0⟩

theorem RefsInv.set {refs : List α} {last : Int} {hist : List ρ} (inv : RefsInv rid start RI refs last hist)
    (e : α) (he : RI e []) (r : ρ) (k : Nat) (hk : (k : Int) = rid r) (hlen : refs.length ≤ k + 1)
    (new : α) (hnew : RI new (r :: onRefBy rid hist k)) :
    RefsInv rid start RI ((padTo e refs k).set k new) (start r) (r :: hist) := by
  have hlen' : ((padTo e refs k).set k new).length = k + 1 := by
    rw [List.length_set, padTo_length]; omega
  refine { len0 := (by intro h; cases h), last := ?_, ridLt := ?_, refInv := ?_ }
  · intro a rest h
    cases h
    exact ⟨by rw [hlen']; omega, rfl⟩
  · intro a ha
    rw [hlen']
    rcases List.mem_cons.1 ha with rfl | ha
    · omega
    · have := inv.ridLt a ha; omega
  · intro j ref' hj
    rw [List.getElem?_set] at hj
    by_cases hjr : k = j
    · subst hjr
      rw [if_pos rfl] at hj
      split at hj
      · cases hj
        rw [show onRefBy rid (r :: hist) k = r :: onRefBy rid hist k from
          List.filter_cons_of_pos (decide_eq_true hk.symm)]
        exact hnew
      · cases hj
    · rw [if_neg hjr] at hj
      rw [show onRefBy rid (r :: hist) j = onRefBy rid hist j from
        List.filter_cons_of_neg (by simp only [decide_eq_true_eq]; omega)]
      rcases padTo_get _ _ _ _ _ hj with ⟨_, h⟩ | ⟨h1, _, h3⟩
      · exact inv.refInv j ref' h
      · rw [h3, inv.onRef_nil j h1]; exact he

end

theorem mem_placed_reverse {ρ : Type} {placed : ρ → Bool} {recs : List ρ} {r : ρ} (hr : r ∈ recs)
    (hp : placed r = true) : r ∈ (recs.filter placed).reverse :=
  List.mem_reverse.2 (List.mem_filter.2 ⟨hr, hp⟩)

def allOk (rs : List AddRes) : Prop := ∀ x, x ∈ rs → x = .ok

theorem allOk_cons {x : AddRes} {rs : List AddRes} : allOk (x :: rs) ↔ x = .ok ∧ allOk rs :=
  List.forall_mem_cons

/-- the induction over a coordinate-sorted sequence, for any index type whose `addAll` folds its `add`: `hist`
is the placed records added so far, newest first; an unplaced record leaves it as it is -/
theorem addAll_induct {σ ρ : Type} (add : σ → ρ → σ × AddRes) (addAll : σ → List ρ → σ × List AddRes)
    (hnil : ∀ s, addAll s [] = (s, []))
    (hcons : ∀ s r rs, addAll s (r :: rs) = ((addAll (add s r).1 rs).1, (add s r).2 :: (addAll (add s r).1 rs).2))
    (placed : ρ → Bool) (OK : ρ → Prop) (Le : ρ → ρ → Prop) (Inv : σ → List ρ → Prop)
    (hP : ∀ s hist r, Inv s hist → OK r → (∀ a, a ∈ hist → OK a) → placed r = true → (∀ a, a ∈ hist → Le a r) →
      (add s r).2 = .ok ∧ Inv (add s r).1 (r :: hist))
    (hU : ∀ s hist r, Inv s hist → OK r → placed r = false → (add s r).2 = .ok ∧ Inv (add s r).1 hist) :
    ∀ (recs : List ρ) (s : σ) (hist : List ρ), Inv s hist → (∀ a, a ∈ hist → OK a) → (∀ r, r ∈ recs → OK r) →
      (recs.filter placed).Pairwise Le → (∀ a, a ∈ hist → ∀ r, r ∈ recs → placed r = true → Le a r) →
      allOk (addAll s recs).2 ∧ Inv (addAll s recs).1 ((recs.filter placed).reverse ++ hist) := by
  intro recs
  induction recs with
  | nil =>
    intro s hist inv _ _ _ _
    rw [hnil]
    exact ⟨(by intro x hx; cases hx), inv⟩
  | cons r rs ih =>
    intro s hist inv hhist hok hsorted hcross
    have hokr := hok r List.mem_cons_self
    have hokrs : ∀ x, x ∈ rs → OK x := fun x hx => hok x (List.mem_cons_of_mem _ hx)
    rw [hcons, allOk_cons]
    by_cases hp : placed r = true
    · obtain ⟨hres, hinv'⟩ := hP s hist r inv hokr hhist hp (fun a ha => hcross a ha r List.mem_cons_self hp)
      rw [List.filter_cons_of_pos hp, List.pairwise_cons] at hsorted
      rw [List.filter_cons_of_pos hp, List.reverse_cons, List.append_assoc]
      obtain ⟨h1, h2⟩ := ih (add s r).1 (r :: hist) hinv'
        (List.forall_mem_cons.2 ⟨hokr, hhist⟩) hokrs hsorted.2
        (fun a ha x hx hxp => (List.mem_cons.1 ha).elim (fun e => e ▸ hsorted.1 x (List.mem_filter.2 ⟨hx, hxp⟩))
          (fun ha => hcross a ha x (List.mem_cons_of_mem _ hx) hxp))
      exact ⟨⟨hres, h1⟩, h2⟩
    · obtain ⟨hres, hinv'⟩ := hU s hist r inv hokr (by simpa using hp)
      rw [List.filter_cons_of_neg hp] at hsorted ⊢
      obtain ⟨h1, h2⟩ := ih _ hist hinv' hhist hokrs hsorted
        (fun a ha x hx hxp => hcross a ha x (List.mem_cons_of_mem _ hx) hxp)
      exact ⟨⟨hres, h1⟩, h2⟩

/-- what the index knows after the placed records `hist` (newest first) were added to the empty index -/
structure IdxInv (i : Index) (hist : List Rec) : Prop where
  flag : i.isSorted = false
  refs : RefsInv Rec.rid Rec.start RefInv i.refs i.lastRecord hist

theorem idxInv_empty : IdxInv {} [] :=
  ⟨rfl, fun _ => rfl, fun _ _ h => (nomatch h), fun _ h => (nomatch h), fun _ _ h => by simp at h⟩

/-- the five exits of `Add`: range error, unplaced, no reference, reference out of order, or `addRef` on the
reference `rid` of the reference list padded up to it -/
@[elab_as_elim] theorem add_cases {motive : Index × AddRes → Prop} (i : Index) (r : Rec)
    (range : ¬ (validPos r.start = true ∧ validPos r.stop = true) → motive (i, .errRange))
    (unplaced : validPos r.start = true ∧ validPos r.stop = true → r.placed = false →
      motive ({ i with unmapped := some (umCount i.unmapped + 1) }, .ok))
    (noRef : validPos r.start = true ∧ validPos r.stop = true → r.placed = true → r.rid < 0 →
      motive ({ i with unmapped := some (umCount i.unmapped) }, .errNoRef))
    (refOrder : validPos r.start = true ∧ validPos r.stop = true → r.placed = true → 0 ≤ r.rid →
      r.rid < (i.refs.length : Int) - 1 → motive ({ i with unmapped := some (umCount i.unmapped) }, .errRefOrder))
    (entered : validPos r.start = true ∧ validPos r.stop = true → r.placed = true → 0 ≤ r.rid →
      ¬ r.rid < (i.refs.length : Int) - 1 → ∀ ref, (padTo emptyRef i.refs r.rid.toNat)[r.rid.toNat]? = some ref →
      let x := addRef ref (if r.rid.toNat ≥ i.refs.length then 0 else i.lastRecord) r
      motive ({ refs := (padTo emptyRef i.refs r.rid.toNat).set r.rid.toNat x.1,
                unmapped := some (umCount i.unmapped), isSorted := i.isSorted && x.2.2.1,
                lastRecord := x.2.1 }, x.2.2.2)) :
    motive (add i r) := by
  unfold add
  cases hv : (validPos r.start && validPos r.stop)
  · exact range fun h => by rw [h.1, h.2] at hv; exact Bool.noConfusion hv
  · have hv' := Bool.and_eq_true_iff.1 hv
    cases hp : r.placed
    · exact unplaced hv' hp
    · simp only [Bool.not_true, Bool.false_eq_true, if_false]
      by_cases h0 : r.rid < 0
      · rw [if_pos h0]; exact noRef hv' hp h0
      · by_cases h1 : r.rid < (i.refs.length : Int) - 1
        · rw [if_neg h0, if_pos h1]; exact refOrder hv' hp (by omega) h1
        · obtain ⟨ref, href⟩ : ∃ ref, (padTo emptyRef i.refs r.rid.toNat)[r.rid.toNat]? = some ref :=
            ⟨_, List.getElem?_eq_getElem (by rw [padTo_length]; omega)⟩
          have := entered hv' hp (by omega) h1 ref href
          rw [if_neg h0, if_neg h1]
          simp only [padTo, decide_eq_true_eq] at this href ⊢
          rw [href]
          exact this

theorem add_unplaced (i : Index) (r : Rec) (hok : RecOK r) (hp : r.placed = false) :
    add i r = ({ i with unmapped := some (umCount i.unmapped + 1) }, .ok) := by
  refine add_cases i r (fun hv => absurd ⟨hok.vstart, hok.vstop⟩ hv) (fun _ _ => rfl) ?_ ?_ ?_ <;>
    (intro _ hp'; rw [hp] at hp'; cases hp')

theorem add_refs_length (i : Index) (r : Rec) :
    ((add i r).1.refs.length = i.refs.length ∨
      (i.refs.length ≤ r.rid.toNat ∧ (add i r).1.refs.length = r.rid.toNat + 1)) ∧
    ((add i r).2 = .ok → r.placed = true → r.rid.toNat < (add i r).1.refs.length) := by
  refine add_cases i r (fun _ => ⟨Or.inl rfl, nofun⟩)
    (fun _ hp => ⟨Or.inl rfl, fun _ hp' => by rw [hp] at hp'; cases hp'⟩)
    (fun _ _ _ => ⟨Or.inl rfl, nofun⟩) (fun _ _ _ _ => ⟨Or.inl rfl, nofun⟩) (fun _ _ _ _ _ _ => ?_)
  intro x
  generalize r.rid.toNat = k
  have hl : ((padTo emptyRef i.refs k).set k x.1).length = max i.refs.length (k + 1) := by
    rw [List.length_set, padTo_length]
  refine ⟨?_, fun _ _ => ?_⟩
  · by_cases hg : i.refs.length ≤ k
    · exact Or.inr ⟨hg, by rw [hl]; omega⟩
    · exact Or.inl (by rw [hl]; omega)
  · show k < (List.set _ _ _).length
    rw [hl]; omega

theorem IdxInv.unplaced {i : Index} {hist : List Rec} (inv : IdxInv i hist) (um : Option Nat) :
    IdxInv { i with unmapped := um } hist :=
  ⟨inv.flag, inv.refs⟩

theorem idxInv_step (i : Index) (hist : List Rec) (r : Rec) (inv : IdxInv i hist) (hok : RecOK r)
    (hall : ∀ a, a ∈ hist → RecOK a) (hp : r.placed = true) (hle : ∀ a, a ∈ hist → RecLe a r) :
    (add i r).2 = .ok ∧ IdxInv (add i r).1 (r :: hist) := by
  have hrid := hok.rid hp
  refine add_cases i r (fun hv => absurd ⟨hok.vstart, hok.vstop⟩ hv) (fun _ hp' => by rw [hp] at hp'; cases hp')
    (fun _ _ h0 => by omega) (fun _ _ _ h1 => ?_) (fun _ _ _ _ ref hget => ?_)
  · cases hist with
    | nil => rw [inv.refs.len0 rfl] at h1; simp at h1; omega
    | cons a rest => have := (inv.refs.last a rest rfl).1; have := (hle a List.mem_cons_self).1; omega
  · have hcast : ((r.rid.toNat : Nat) : Int) = r.rid := Int.toNat_of_nonneg hrid
    obtain ⟨hlen, h1, h2⟩ := inv.refs.entry emptyRef refInv_empty r _ hcast (hok.pos hp).1
      (fun a ha => ⟨(hle a ha).1, (hle a ha).2.1⟩) ref hget
    obtain ⟨hres, hlastr, hnew⟩ := refInv_step ref _ _ r h1 hok
      (fun a ha => hall a (mem_onRefBy ha).1) (fun a ha => (hle a (mem_onRefBy ha).1).2.2) h2
    exact ⟨hres, by rw [inv.flag, Bool.false_and], hlastr ▸ inv.refs.set emptyRef refInv_empty r _ hcast hlen _ hnew⟩

theorem addAll_sorted (recs : List Rec) (h : SortedInput recs) :
    allOk (addAll {} recs).2 ∧ IdxInv (addAll {} recs).1 (recs.filter (·.placed)).reverse := by
  have := addAll_induct add addAll (fun _ => rfl) (fun _ _ _ => rfl) (·.placed) RecOK RecLe IdxInv idxInv_step
    (fun i hist r inv hok hp => by rw [add_unplaced i r hok hp]; exact ⟨rfl, inv.unplaced _⟩)
    recs {} [] idxInv_empty (by intro a ha; cases ha) h.ok h.sorted (by intro a ha; cases ha)
  rwa [List.append_nil] at this

/-- the true statistics of the records of one reference, `h` in the order they were added: span from
the first record's chunk begin to the last record's chunk end, number of mapped and of unmapped
records -/
def specStats (h : List Rec) : Option Stats :=
  match h.head?, h.getLast? with
  | some first, some last =>
    some ⟨⟨first.chunk.b, last.chunk.e⟩, h.countP (·.mapped), h.countP (fun r => !r.mapped)⟩
  | _, _ => none

theorem statsOf_spec : ∀ h : List Rec, statsOf h = specStats h.reverse := by
  intro h
  induction h with
  | nil => rfl
  | cons r older ih =>
    simp only [statsOf, ih, List.reverse_cons]
    cases hrev : older.reverse with
    | nil =>
      cases hm : r.mapped <;> simp [specStats, addStats, hm]
    | cons first rest =>
      have hne : first :: rest ≠ [] := by simp
      have hl : (first :: rest).getLast? = some ((first :: rest).getLast hne) := List.getLast?_eq_some_getLast hne
      have hl2 : (first :: (rest ++ [r])).getLast? = some r := by
        rw [← List.cons_append]; exact List.getLast?_concat
      cases hm : r.mapped <;>
        simp [specStats, addStats, hm, hl, hl2, List.countP_append, List.countP_cons] <;> omega

theorem add_unmapped (i : Index) (r : Rec) (hv : validPos r.start = true ∧ validPos r.stop = true) :
    (add i r).1.unmapped = some (umCount i.unmapped + (if r.placed then 0 else 1)) := by
  refine add_cases i r (fun hn => absurd hv hn) ?_ ?_ ?_ ?_ <;> (intro _ hp; intros; rw [hp]; rfl)

/-- `recs ≠ []`: on no record the counter stays absent, not `some 0`; hence `cases rs` in the step, the induction
hypothesis wants a tail that is not empty -/
theorem addAll_unmapped : ∀ (recs : List Rec) (i : Index),
    (∀ r, r ∈ recs → validPos r.start = true ∧ validPos r.stop = true) → recs ≠ [] →
    (addAll i recs).1.unmapped = some (umCount i.unmapped + recs.countP (fun r => !r.placed)) := by
  intro recs
  induction recs with
  | nil => intro i _ h; exact absurd rfl h
  | cons r rs ih =>
    intro i hv _
    have h1 := add_unmapped i r (hv r List.mem_cons_self)
    simp only [addAll]
    cases rs with
    | nil =>
      simp only [addAll, h1, List.countP_cons, List.countP_nil]
      cases r.placed <;> simp
    | cons r2 rs2 =>
      rw [ih (add i r).1 (fun x hx => hv x (List.mem_cons_of_mem _ hx)) (by simp), h1]
      simp only [umCount, List.countP_cons]
      cases r.placed <;> simp <;> omega

theorem addAll_unmapped_fresh (recs : List Rec) (h : SortedInput recs) (hne : recs ≠ []) :
    (addAll {} recs).1.unmapped = some (recs.countP (fun r => !r.placed)) := by
  rw [addAll_unmapped recs {} (fun r hr => ⟨(h.ok r hr).vstart, (h.ok r hr).vstop⟩) hne]
  exact congrArg some (Nat.zero_add _)

end Hts.Model.Index
