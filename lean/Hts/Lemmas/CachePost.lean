/-
Further facts about the caches for C14:
* `RCache.IdsNodup`, under which C14 states Random's exact block counts (the counts themselves: Hts.Lemmas.Cache);
* the StatsRecorder counters are the counts of the answers in the history, and the recorder changes nothing
  else;
* the caches as concurrent objects whose every call comes with the heap it observes (`lObjH`, `rObjH`).  That a call
  reads the heap only at the blocks the cache holds and at its argument is C14's `lru_fifo_call_reads_held_blocks_only`: a
  stand-alone fact about `LCache.call`; no lemma links it to `lObj`/`lObjH`, and there is no counterpart for `RCache.call`.
-/
import Hts.Lemmas.CacheLinInst
namespace Hts.Model.Cache
open Hts.Spec.CacheContract

namespace RCache

def IdsNodup (c : RCache) : Prop := (c.items.map (·.id)).Nodup

end RCache

/-- the calls a recorder forwards -/
inductive RecOp
  | get (k : Int)
  | put (id : Nat) (hint : Option Nat)
  | peek (k : Int)

inductive RecAns
  | get (r : Option Nat)
  | put (r : PutRes)
  | peek (b : Bool) (n : Int)
deriving DecidableEq

/-- `none`: a recorded Random victim was not one the code can pick -/
def runAns {σ : Type} (o : CacheOps σ) (s : σ) : List (Heap × RecOp) → Option (σ × List RecAns)
  | [] => some (s, [])
  | (h, .get k) :: rest =>
    (runAns o (o.get h s k).1 rest).map (fun (t, as) => (t, .get (o.get h s k).2 :: as))
  | (h, .put id hint) :: rest =>
    (o.put h s id hint).bind (fun (s', r) => (runAns o s' rest).map (fun (t, as) => (t, .put r :: as)))
  | (h, .peek k) :: rest =>
    (runAns o s rest).map (fun (t, as) => (t, .peek (o.peek h s k).1 (o.peek h s k).2 :: as))

def tally (st : Stats) : List RecAns → Stats
  | [] => st
  | .get r :: rest => tally (st.onGet r) rest
  | .put r :: rest => tally (st.onPut r) rest
  | .peek _ _ :: rest => tally st rest

def count (p : RecAns → Bool) (as : List RecAns) : Nat := (as.filter p).length

def RecAns.isGet : RecAns → Bool | .get _ => true | _ => false
def RecAns.isMiss : RecAns → Bool | .get none => true | _ => false
def RecAns.isPut : RecAns → Bool | .put _ => true | _ => false
def RecAns.isRetain : RecAns → Bool | .put (.kept _) => true | _ => false
def RecAns.isEvict : RecAns → Bool | .put (.kept (some _)) => true | _ => false

theorem count_cons (p : RecAns → Bool) (a : RecAns) (as : List RecAns) :
    count p (a :: as) = (p a).toNat + count p as := by
  rw [count, List.filter_cons]
  cases p a
  · exact (Nat.zero_add _).symm
  · exact Nat.add_comm _ 1

theorem tally_cons (st : Stats) (a : RecAns) (as : List RecAns) :
    tally st (a :: as) = tally ⟨st.gets + a.isGet.toNat, st.misses + a.isMiss.toNat,
      st.puts + a.isPut.toNat, st.retains + a.isRetain.toNat, st.evictions + a.isEvict.toNat⟩ as := by
  cases a with
  | get r => cases r <;> rfl
  | put r => rcases r with _ | (_ | _) | _ <;> rfl
  | peek => rfl

theorem tally_eq (st : Stats) (as : List RecAns) :
    tally st as = ⟨st.gets + count RecAns.isGet as, st.misses + count RecAns.isMiss as,
      st.puts + count RecAns.isPut as, st.retains + count RecAns.isRetain as,
      st.evictions + count RecAns.isEvict as⟩ := by
  induction as generalizing st with
  | nil => rfl
  | cons a rest ih => rw [tally_cons, ih]; simp only [count_cons, Nat.add_assoc]

/-- The `show` lines hold by `rfl`: they are `get` and `put` of `recorderOps` unfolded.  `recorderOps` is opened at two more
places, which forget the counters: `recorder_put`/`recorder_get` (Hts.Lemmas.CacheContract), `recorder_hom` (Hts.Lemmas.CacheHom). -/
theorem recorder_run {σ : Type} (o : CacheOps σ) (s : σ) (st : Stats) (hist : List (Heap × RecOp)) :
    runAns (recorderOps o) (s, st) hist =
      (runAns o s hist).map (fun (t, as) => ((t, tally st as), as)) := by
  induction hist generalizing s st with
  | nil => rfl
  | cons x rest ih =>
    obtain ⟨h, op⟩ := x
    cases op with
    | get k =>
      rw [runAns, runAns]
      show (runAns (recorderOps o) ((o.get h s k).1, st.onGet (o.get h s k).2) rest).map _ = _
      rw [ih]
      cases runAns o (o.get h s k).1 rest <;> rfl
    | put id hint =>
      rw [runAns, runAns]
      show ((o.put h s id hint).map _).bind _ = _
      cases hp : o.put h s id hint with
      | none => rfl
      | some pr =>
        obtain ⟨s', r⟩ := pr
        show (runAns (recorderOps o) (s', st.onPut r) rest).map _ = ((runAns o s' rest).map _).map _
        rw [ih]
        cases runAns o s' rest <;> rfl
    | peek k =>
      rw [runAns, runAns, ih]
      cases runAns o s rest <;> rfl

open Hts.Spec.Lin

/-- LRU / FIFO as a concurrent object whose every call comes with the heap it observes: the heap may be
different at every operation (the instance `lObj kind h` is the special case of a constant heap).  Its specification is
the model function itself, so its linearizability uses nothing of Hts.Lemmas.Cache: only a change to `Call`, to `isRead` or a
read call that writes the state (`LCache.call_read`) reaches it. -/
def lObjH (kind : Kind) : Obj where
  σ := LCache
  Op := Heap × Call
  Ret := CRet
  Loc := Unit
  spec s op r s' := LCache.call kind op.1 s op.2 = (s', r)
  isRead op := op.2.isRead
  init _ := ()
  more _ _ _ _ _ := False
  done op _ s r s' := LCache.call kind op.1 s op.2 = (s', r)

theorem lObjH_laws (kind : Kind) : Laws (lObjH kind) :=
  Laws.of_atomic _ (fun _ _ _ _ _ m => m) (fun _ _ _ _ _ d => d)
    (fun _ _ _ _ _ hr d => LCache.call_read hr d)

theorem lcacheH_linearizable (kind : Kind) (n : Int) {g : G (lObjH kind)} {w : List (Ev (lObjH kind))}
    (r : Reach (lObjH kind) (LCache.new n) g w) :
    Linearizable (lObjH kind) (LCache.new n) (visible (lObjH kind) w) :=
  lock_linearizable (lObjH kind) (lObjH_laws kind) (LCache.new n) r

def rObjH : Obj where
  σ := RCache
  Op := Heap × Call
  Ret := CRet
  Loc := Unit
  spec s op r s' := ∃ choice, RCache.call op.1 s choice op.2 = some (s', r)
  isRead op := op.2.isRead
  init _ := ()
  more _ _ _ _ _ := False
  done op _ s r s' := ∃ choice, RCache.call op.1 s choice op.2 = some (s', r)

theorem rObjH_laws : Laws rObjH :=
  Laws.of_atomic _ (fun _ _ _ _ _ m => m) (fun _ _ _ _ _ d => d)
    (fun _ _ _ _ _ hr ⟨_, d⟩ => RCache.call_read hr d)

theorem rcacheH_linearizable (n : Int) {g : G rObjH} {w : List (Ev rObjH)}
    (r : Reach rObjH (RCache.new n) g w) :
    Linearizable rObjH (RCache.new n) (visible rObjH w) :=
  lock_linearizable rObjH rObjH_laws (RCache.new n) r

end Hts.Model.Cache
