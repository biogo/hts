/-
Invariants of `internal.Index.Add` over coordinate-sorted input (model: Hts.Model.Index).  `RefInv ref h` is what one
reference index holds of the records `h` added to it; `refInv_step`: adding a record that comes after them (`RecLe`)
cannot fail and keeps it.  `RecOK` and `SortedInput` are the hypotheses on the input that the property theorems carry.
Besides: what `extendChunks`, `addStats` and `statsOf` keep of any predicate on the offsets, with no order assumed
(`extendChunks_offs`, `addStats_repr`, `statsOf_repr`: for representability, Lemmas/IndexRepr and IndexCsiAny).
-/
import Hts.Model.Index
namespace Hts.Model.Index

def Chunk.encloses (c p : Chunk) : Prop := c.b ≤ p.b ∧ p.e ≤ c.e

/-- ONE chunk of `cs` encloses `p`: what `Merge.enclosedBy` is in C17's model (Lemmas/MergeEnc), not C17's positional `covers` -/
def coveredBy (cs : List Chunk) (p : Chunk) : Prop := ∃ c, c ∈ cs ∧ c.encloses p

theorem covered_not_error_or_empty {ε : Type} {x : Except ε (List Chunk)} {cs : List Chunk} {p : Chunk}
    (h1 : x = .ok cs) (hc : coveredBy cs p) : ¬ ((∃ e, x = .error e) ∨ x = .ok []) := by
  subst h1
  obtain ⟨c, hc, _⟩ := hc
  rintro (⟨e, he⟩ | he) <;> cases he
  cases hc

/-- positions in the indexable range, `0 ≤ start ≤ end` for a placed record (`start = end` occurs: a mapped
read whose CIGAR consumes no reference, e.g. `5I` or `10S`, has `End() = Pos`), a non-negative reference id,
and a non-empty chunk at a non-negative offset -/
structure RecOK (r : Rec) : Prop where
  vstart : validPos r.start = true
  vstop : validPos r.stop = true
  rid : r.placed = true → 0 ≤ r.rid
  pos : r.placed = true → 0 ≤ r.start ∧ r.start ≤ r.stop
  cb : 0 ≤ r.chunk.b
  ce : r.chunk.b < r.chunk.e

/-- coordinate order and chunk order between an earlier and a later placed record -/
def RecLe (a r : Rec) : Prop :=
  a.rid ≤ r.rid ∧ (a.rid = r.rid → a.start ≤ r.start) ∧ a.chunk.e ≤ r.chunk.b

/-- `SortedInput`: every record well-formed; among the placed records reference ids are
non-decreasing, starts non-decreasing within a reference and chunks monotone -/
structure SortedInput (recs : List Rec) : Prop where
  ok : ∀ r, r ∈ recs → RecOK r
  sorted : (recs.filter (·.placed)).Pairwise RecLe

theorem recOK_iff (r : Rec) : RecOK r ↔
    (validPos r.start = true ∧ validPos r.stop = true ∧ (r.placed = true → 0 ≤ r.rid) ∧
      (r.placed = true → 0 ≤ r.start ∧ r.start ≤ r.stop) ∧ 0 ≤ r.chunk.b ∧ r.chunk.b < r.chunk.e) :=
  ⟨fun h => ⟨h.vstart, h.vstop, h.rid, h.pos, h.cb, h.ce⟩,
   fun ⟨a, b, c, d, e, f⟩ => ⟨a, b, c, d, e, f⟩⟩

instance (r : Rec) : Decidable (RecOK r) := decidable_of_iff _ (recOK_iff r).symm
instance (a r : Rec) : Decidable (RecLe a r) := by unfold RecLe; infer_instance

theorem sortedInput_iff (recs : List Rec) : SortedInput recs ↔
    ((∀ r, r ∈ recs → RecOK r) ∧ (recs.filter (·.placed)).Pairwise RecLe) :=
  ⟨fun h => ⟨h.ok, h.sorted⟩, fun ⟨a, b⟩ => ⟨a, b⟩⟩

instance (recs : List Rec) : Decidable (SortedInput recs) := decidable_of_iff _ (sortedInput_iff recs).symm

theorem extendChunks_append (cs : List Chunk) (c : Chunk) (h : ∀ x, x ∈ cs → x.e ≤ c.b) :
    extendChunks cs c = cs ++ [c] := by
  induction cs with
  | nil => rfl
  | cons x xs ih =>
    rw [extendChunks, if_neg (Int.not_lt.2 (h x List.mem_cons_self)), ih fun y hy => h y (List.mem_cons_of_mem _ hy)]
    rfl

theorem extendChunks_length_le (cs : List Chunk) (c : Chunk) : (extendChunks cs c).length ≤ cs.length + 1 := by
  induction cs with
  | nil => exact Nat.le_refl _
  | cons x xs ih =>
    unfold extendChunks
    split
    · exact Nat.le_succ _
    · exact Nat.succ_le_succ ih

theorem extendChunks_offs (P : Int → Prop) (cs : List Chunk) (c : Chunk) (hc : P c.b ∧ P c.e)
    (h : ∀ x, x ∈ cs → P x.b ∧ P x.e) : ∀ x, x ∈ extendChunks cs c → P x.b ∧ P x.e := by
  induction cs with
  | nil => intro x hx; simp [extendChunks] at hx; subst hx; exact hc
  | cons y ys ih =>
    intro x hx
    unfold extendChunks at hx
    split at hx
    · rcases List.mem_cons.1 hx with rfl | hx
      · exact ⟨(h y List.mem_cons_self).1, hc.2⟩
      · exact h x (List.mem_cons_of_mem _ hx)
    · rcases List.mem_cons.1 hx with rfl | hx
      · exact h _ List.mem_cons_self
      · exact ih (fun z hz => h z (List.mem_cons_of_mem _ hz)) x hx

theorem addBin_spec (bins : List Bin) (bin : Nat) (c : Chunk)
    (h : ∀ bn, bn ∈ bins → ∀ x, x ∈ bn.chunks → x.e ≤ c.b) :
    (∃ bn, bn ∈ (addBin bins bin c).1 ∧ bn.bin = bin ∧ c ∈ bn.chunks) ∧
    (∀ bn, bn ∈ bins → ∃ bn', bn' ∈ (addBin bins bin c).1 ∧ bn'.bin = bn.bin ∧ ∀ x, x ∈ bn.chunks → x ∈ bn'.chunks) ∧
    (∀ bn', bn' ∈ (addBin bins bin c).1 →
      (∃ bn, bn ∈ bins ∧ bn'.bin = bn.bin ∧ bn'.chunks.length ≤ bn.chunks.length + 1 ∧
        ∀ x, x ∈ bn'.chunks → x ∈ bn.chunks ∨ (x = c ∧ bn'.bin = bin)) ∨
      (bn' = ⟨bin, [c]⟩)) := by
  induction bins with
  | nil =>
    exact ⟨⟨⟨bin, [c]⟩, List.mem_singleton.2 rfl, rfl, List.mem_singleton.2 rfl⟩, fun _ hb => (nomatch hb),
      fun bn' hb => Or.inr (List.mem_singleton.1 hb)⟩
  | cons b bs ih =>
    by_cases heq : b.bin = bin
    · subst heq
      rw [addBin, if_pos rfl, extendChunks_append _ _ (h b List.mem_cons_self)]
      refine ⟨⟨_, List.mem_cons_self, rfl, List.mem_append_right _ (List.mem_singleton.2 rfl)⟩, ?_, ?_⟩
      · intro bn hbn
        rcases List.mem_cons.1 hbn with rfl | hbn
        · exact ⟨_, List.mem_cons_self, rfl, fun x hx => List.mem_append_left _ hx⟩
        · exact ⟨bn, List.mem_cons_of_mem _ hbn, rfl, fun x hx => hx⟩
      · intro bn' hbn'
        rcases List.mem_cons.1 hbn' with rfl | hbn'
        · exact Or.inl ⟨b, List.mem_cons_self, rfl, by rw [List.length_append]; exact Nat.le_refl _,
            fun x hx => (List.mem_append.1 hx).imp id fun hx => ⟨List.mem_singleton.1 hx, rfl⟩⟩
        · exact Or.inl ⟨bn', List.mem_cons_of_mem _ hbn', rfl, Nat.le_succ _, fun x hx => Or.inl hx⟩
    · obtain ⟨⟨bn0, hbn0, hbin0, hc0⟩, ih2, ih3⟩ := ih fun bn hbn => h bn (List.mem_cons_of_mem _ hbn)
      rw [addBin, if_neg heq]
      refine ⟨⟨bn0, List.mem_cons_of_mem _ hbn0, hbin0, hc0⟩, ?_, ?_⟩
      · intro bn hbn
        rcases List.mem_cons.1 hbn with rfl | hbn
        · exact ⟨bn, List.mem_cons_self, rfl, fun x hx => hx⟩
        · obtain ⟨bn', h1, h2⟩ := ih2 bn hbn
          exact ⟨bn', List.mem_cons_of_mem _ h1, h2⟩
      · intro bn' hbn'
        rcases List.mem_cons.1 hbn' with rfl | hbn'
        · exact Or.inl ⟨bn', List.mem_cons_self, rfl, Nat.le_succ _, fun x hx => Or.inl hx⟩
        · exact (ih3 bn' hbn').imp (fun ⟨bn, h1, h2⟩ => ⟨bn, List.mem_cons_of_mem _ h1, h2⟩) id

theorem addBin_nums (bins : List Bin) (bin : Nat) (c : Chunk) :
    ((addBin bins bin c).1.map (·.bin) = bins.map (·.bin) ∧ bin ∈ bins.map (·.bin)) ∨
    ((addBin bins bin c).1.map (·.bin) = bins.map (·.bin) ++ [bin] ∧ bin ∉ bins.map (·.bin)) := by
  induction bins with
  | nil => exact Or.inr ⟨rfl, List.not_mem_nil⟩
  | cons b bs ih =>
    by_cases heq : b.bin = bin
    · rw [addBin, if_pos heq]
      exact Or.inl ⟨rfl, heq ▸ List.mem_cons_self⟩
    · simp only [addBin, heq, if_false, List.map_cons]
      rcases ih with ⟨h1, h2⟩ | ⟨h1, h2⟩
      · left; exact ⟨by rw [h1], List.mem_cons_of_mem _ h2⟩
      · exact Or.inr ⟨by rw [h1]; rfl, fun hm => (List.mem_cons.1 hm).elim (fun h => heq h.symm) h2⟩

theorem addBin_nodup (bins : List Bin) (bin : Nat) (c : Chunk) (h : (bins.map (·.bin)).Nodup) :
    ((addBin bins bin c).1.map (·.bin)).Nodup := by
  rcases addBin_nums bins bin c with ⟨h1, _⟩ | ⟨h1, h2⟩
  · rw [h1]; exact h
  · rw [h1]
    exact List.nodup_append.2 ⟨h, List.pairwise_singleton _ _, fun a ha b hb hab => h2 (List.mem_singleton.1 hb ▸ hab ▸ ha)⟩

theorem length_addBin_le (bins : List Bin) (bin : Nat) (c : Chunk) :
    (addBin bins bin c).1.length ≤ bins.length + 1 := by
  induction bins with
  | nil => exact Nat.le_refl _
  | cons b bs ih =>
    unfold addBin
    split
    · exact Nat.le_succ _
    · exact Nat.succ_le_succ ih

theorem tileOf_eq (p : Int) : tileOf p = p.toNat / 16384 := by
  cases p with
  | ofNat n => rfl
  | negSucc n =>
    rw [tileOf, Int.toNat_negSucc, Nat.zero_div]
    exact Int.toNat_eq_zero.2 (Int.neg_nonpos_of_nonneg (Int.natCast_nonneg _))

theorem tileOf_mono {a b : Int} (h : a ≤ b) : tileOf a ≤ tileOf b := by
  rw [tileOf_eq, tileOf_eq]
  exact Nat.div_le_div_right (by omega)

theorem tileOf_le_lastTile (s e : Int) : tileOf s ≤ lastTile s e := by
  unfold lastTile
  split
  · exact tileOf_mono (by omega)
  · exact Nat.le_refl _

theorem validPos_range {p : Int} (h : validPos p = true) : -1 ≤ p ∧ p ≤ 536870910 := by
  simpa only [validPos, Bool.and_eq_true, decide_eq_true_eq] using h

theorem lastTile_lt (s e : Int) (hs : validPos s = true) (he : validPos e = true) : lastTile s e < 32768 := by
  have hs := validPos_range hs
  have he := validPos_range he
  have : lastTile s e ≤ tileOf 536870910 := by
    unfold lastTile
    split <;> exact tileOf_mono (by omega)
  exact Nat.lt_succ_of_le this

theorem addTiles_length (ivs : List Int) (s e : Int) (cb : Int) :
    (addTiles ivs s e cb).length = max ivs.length (lastTile s e + 1) := by
  unfold addTiles
  simp only
  have := tileOf_le_lastTile s e
  split
  · simp only [List.length_append, List.length_replicate]
    omega
  · omega

theorem addTiles_prefix (ivs : List Int) (s e : Int) (cb : Int) (k : Nat) (hk : k < ivs.length) :
    (addTiles ivs s e cb)[k]? = ivs[k]? := by
  unfold addTiles
  simp only
  split
  · rw [List.append_assoc, List.getElem?_append_left hk]
  · rfl

theorem addTiles_mem (ivs : List Int) (s e : Int) (cb : Int) (v : Int)
    (hv : v ∈ addTiles ivs s e cb) : v ∈ ivs ∨ v = 0 ∨ v = cb := by
  unfold addTiles at hv
  simp only at hv
  split at hv
  · simp only [List.mem_append, List.mem_replicate] at hv
    rcases hv with (h | h) | h
    · exact Or.inl h
    · exact Or.inr (Or.inl h.2)
    · exact Or.inr (Or.inr h.2)
  · exact Or.inl hv

/-- the statistics `Add` accumulates over the records of one reference (`h` newest first) -/
def statsOf : List Rec → Option Stats
  | [] => none
  | r :: older => some (addStats (statsOf older) r.chunk r.mapped)

theorem addStats_repr (P : Int → Prop) (n : Nat) (st : Option Stats) (c : Chunk) (mapped : Bool) (hc : P c.b ∧ P c.e)
    (h : ∀ s, st = some s → P s.chunk.b ∧ P s.chunk.e ∧ s.mapped ≤ n ∧ s.unmapped ≤ n) :
    P (addStats st c mapped).chunk.b ∧ P (addStats st c mapped).chunk.e ∧
      (addStats st c mapped).mapped ≤ n + 1 ∧ (addStats st c mapped).unmapped ≤ n + 1 := by
  unfold addStats
  cases st with
  | none => cases mapped <;> simp <;> exact ⟨hc.1, hc.2⟩
  | some s0 =>
    obtain ⟨a, _, c1, d1⟩ := h s0 rfl
    cases mapped <;> simp <;> exact ⟨a, hc.2, by omega⟩

theorem statsOf_repr (P : Int → Prop) : ∀ (h : List Rec), (∀ a, a ∈ h → P a.chunk.b ∧ P a.chunk.e) →
    ∀ s, statsOf h = some s → P s.chunk.b ∧ P s.chunk.e ∧ s.mapped ≤ h.length ∧ s.unmapped ≤ h.length
  | [], _, _, hs => by cases hs
  | r :: older, hP, _, hs => by
    cases hs
    exact addStats_repr P older.length _ r.chunk r.mapped (hP r List.mem_cons_self)
      (statsOf_repr P older fun a ha => hP a (List.mem_cons_of_mem _ ha))

/-- what a reference index knows about the records `h` added to it (newest first) -/
structure RefInv (ref : RefIndex) (h : List Rec) : Prop where
  /-- `bins_inv`: every record's chunk is stored under the record's bin -/
  bins : ∀ r, r ∈ h → ∃ bn, bn ∈ ref.bins ∧ bn.bin = r.bin ∧ r.chunk ∈ bn.chunks
  /-- the converse of `bins`: through it the step knows that every stored chunk ends before the new one begins -/
  stored : ∀ bn, bn ∈ ref.bins → ∀ x, x ∈ bn.chunks → ∃ a, a ∈ h ∧ x = a.chunk ∧ a.bin = bn.bin
  nodup : (ref.bins.map (·.bin)).Nodup
  /-- `tiles_inv`: the tile array reaches the last tile of every record … -/
  tilesLen : ∀ r, r ∈ h → lastTile r.start r.stop < ref.intervals.length
  /-- … and no entry up to that tile lies behind the record's chunk begin -/
  tilesLe : ∀ r, r ∈ h → ∀ k v, k ≤ lastTile r.start r.stop → ref.intervals[k]? = some v → v ≤ r.chunk.b
  /-- what makes `tilesLe` inductive: an entry is at most the begin of a recorded chunk, and all of those end before the
  next record's chunk begins -/
  ivBound : ∀ v, v ∈ ref.intervals → ∃ a, a ∈ h ∧ v ≤ a.chunk.b
  empty : h = [] → ref = emptyRef
  stats : ref.stats = statsOf h
  /-- the sizes that make a built index representable (`Lemmas/IndexRepr`): at most one bin and one chunk per record,
  at most 2^15 tiles, no negative tile offset -/
  binsLen : ref.bins.length ≤ h.length
  binRec : ∀ bn, bn ∈ ref.bins → ∃ a, a ∈ h ∧ a.bin = bn.bin
  chunksLen : ∀ bn, bn ∈ ref.bins → bn.chunks.length ≤ h.length
  ivLen : ref.intervals.length ≤ 32768
  ivNonneg : ∀ v, v ∈ ref.intervals → 0 ≤ v

theorem refInv_empty : RefInv emptyRef [] :=
  { bins := fun _ hr => nomatch hr
    stored := fun _ hb => nomatch hb
    nodup := List.nodup_nil
    tilesLen := fun _ hr => nomatch hr
    tilesLe := fun _ hr => nomatch hr
    ivBound := fun _ hv => nomatch hv
    empty := fun _ => rfl
    stats := rfl
    binsLen := Nat.le_refl _
    binRec := fun _ hb => nomatch hb
    chunksLen := fun _ hb => nomatch hb
    ivLen := by decide
    ivNonneg := by intro v hv; cases hv }

theorem refInv_step (ref : RefIndex) (h : List Rec) (last : Int) (r : Rec)
    (inv : RefInv ref h) (hok : RecOK r) (hall : ∀ a, a ∈ h → RecOK a)
    (hle : ∀ a, a ∈ h → a.chunk.e ≤ r.chunk.b) (hlast : last ≤ r.start) :
    (addRef ref last r).2.2.2 = .ok ∧ (addRef ref last r).2.1 = r.start ∧
      RefInv (addRef ref last r).1 (r :: h) := by
  have hends : ∀ bn, bn ∈ ref.bins → ∀ x, x ∈ bn.chunks → x.e ≤ r.chunk.b := by
    intro bn hbn x hx
    obtain ⟨a, ha, hxa, _⟩ := inv.stored bn hbn x hx
    rw [hxa]; exact hle a ha
  obtain ⟨⟨bn0, hbn0, hbin0, hc0⟩, keep, origin⟩ := addBin_spec ref.bins r.bin r.chunk hends
  rw [addRef, if_neg (Int.not_lt.2 hlast)]
  refine ⟨rfl, rfl, ?_⟩
  have hcb := hok.cb
  have htl : ∀ a, a ∈ r :: h → lastTile a.start a.stop < (addTiles ref.intervals r.start r.stop r.chunk.b).length := by
    intro a ha
    rw [addTiles_length]
    rcases List.mem_cons.1 ha with rfl | ha
    · omega
    · have := inv.tilesLen a ha; omega
  have hiv : ∀ v, v ∈ addTiles ref.intervals r.start r.stop r.chunk.b → 0 ≤ v ∧ ∃ a, a ∈ r :: h ∧ v ≤ a.chunk.b := by
    intro v hv
    rcases addTiles_mem _ _ _ _ _ hv with h1 | h1 | h1
    · obtain ⟨b, hb, hvb⟩ := inv.ivBound v h1
      exact ⟨inv.ivNonneg v h1, b, List.mem_cons_of_mem _ hb, hvb⟩
    · exact ⟨by omega, r, List.mem_cons_self, by omega⟩
    · exact ⟨by omega, r, List.mem_cons_self, by omega⟩
  refine
    { bins := ?bins, stored := ?stored, nodup := addBin_nodup _ _ _ inv.nodup, tilesLen := htl, tilesLe := ?tilesLe,
      ivBound := fun v hv => (hiv v hv).2, empty := fun hh => (nomatch hh),
      stats := congrArg (fun s => some (addStats s r.chunk r.mapped)) inv.stats,
      binsLen := ?binsLen, binRec := ?binRec, chunksLen := ?chunksLen, ivLen := ?ivLen,
      ivNonneg := fun v hv => (hiv v hv).1 }
  case bins =>
    intro a ha
    rcases List.mem_cons.1 ha with rfl | ha
    · exact ⟨bn0, hbn0, hbin0, hc0⟩
    · obtain ⟨bn, h1, h2, h3⟩ := inv.bins a ha
      obtain ⟨bn', h1', h2', h3'⟩ := keep bn h1
      exact ⟨bn', h1', h2'.trans h2, h3' _ h3⟩
  case stored =>
    intro bn' hbn' x hx
    rcases origin bn' hbn' with ⟨bn, h1, h2, _, h3⟩ | rfl
    · rcases h3 x hx with hx' | ⟨hxc, hb⟩
      · obtain ⟨a, ha, hxa, hab⟩ := inv.stored bn h1 x hx'
        exact ⟨a, List.mem_cons_of_mem _ ha, hxa, hab.trans h2.symm⟩
      · exact ⟨r, List.mem_cons_self, hxc, hb.symm⟩
    · exact ⟨r, List.mem_cons_self, List.mem_singleton.1 hx, rfl⟩
  case tilesLe =>
    intro a ha k v hk hv
    rcases List.mem_cons.1 ha with rfl | ha
    · -- an older entry is at most the begin of an older chunk, which ends before the new chunk begins
      obtain ⟨_, b, hb, hvb⟩ := hiv v (List.mem_of_getElem? hv)
      rcases List.mem_cons.1 hb with rfl | hb
      · exact hvb
      · have := hle b hb
        have := (hall b hb).ce
        omega
    · rw [addTiles_prefix _ _ _ _ _ (Nat.lt_of_le_of_lt hk (inv.tilesLen a ha))] at hv
      exact inv.tilesLe a ha k v hk hv
  case binsLen =>
    exact Nat.le_trans (length_addBin_le _ _ _) (Nat.succ_le_succ inv.binsLen)
  case binRec =>
    intro bn' hbn'
    rcases origin bn' hbn' with ⟨bn, h1, h2, _, _⟩ | rfl
    · obtain ⟨a, ha, hab⟩ := inv.binRec bn h1
      exact ⟨a, List.mem_cons_of_mem _ ha, hab.trans h2.symm⟩
    · exact ⟨r, List.mem_cons_self, rfl⟩
  case chunksLen =>
    intro bn' hbn'
    rw [List.length_cons]
    rcases origin bn' hbn' with ⟨bn, h1, _, h3, _⟩ | rfl
    · exact Nat.le_trans h3 (Nat.succ_le_succ (inv.chunksLen bn h1))
    · exact Nat.succ_le_succ (Nat.zero_le _)
  case ivLen =>
    show (addTiles _ _ _ _).length ≤ 32768
    rw [addTiles_length]
    have := inv.ivLen
    have := lastTile_lt r.start r.stop hok.vstart hok.vstop
    omega

end Hts.Model.Index
