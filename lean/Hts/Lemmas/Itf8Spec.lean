/-
The ITF-8 / LTF-8 models against the arithmetic specification.  `encode` of the models equals the specification's.
`decode` of the models returns the value the specification assigns to the announced bytes, for EVERY input (canonical
or overlong), not only for outputs of `encode`; and the specification's `value` inverts its `encode`, by arithmetic
alone.  The chain `orFrom` is `beVal` by one induction, what a first byte looks like is decided by evaluation over all
256 bytes, and the value of `decode` is that of `valU` (Hts.Lemmas.Itf8Kernel), the same for both codecs and every
width but the five-byte form of ITF-8.  On the model's side (`valU`, `Itf8.val`, `toNat_valU`, `decode_toNat`, the two
`decode_is_spec`) `w` counts the bytes AFTER the first, so a first byte has prefix `lead (w + 1)`; on the specification's
side (`lead`, `width_lead_add`, `complete_cons_beBytes`, `first_byte`) `w` is the whole width.
-/
import Hts.Model.Itf8
import Hts.Model.Ltf8
import Hts.Spec.Itf8
import Hts.Lemmas.Itf8Kernel
open Hts.Lemmas Hts.Lemmas.Kernel

namespace Hts.Lemmas
theorem mod_mod_of_lt {x m n : Nat} (h : x < n) (hn : n ≤ m) : x % m % n = x := by
  rw [Nat.mod_eq_of_lt (Nat.lt_of_lt_of_le h hn), Nat.mod_eq_of_lt h]
end Hts.Lemmas

namespace Hts.Model.Itf8

theorem encode_is_spec (v : BitVec 32) : (encode v).map BitVec.toNat = Hts.Spec.Itf8.encode v.toNat := by
  have hv := v.isLt
  -- both sides become if-chains over the same tests on `v.toNat`, compared branch by branch
  simp only [encode, Hts.Spec.Itf8.encode, apply_ite (List.map BitVec.toNat), List.map, Hts.Spec.beBytes,
    ult_lit, Nat.reduceLT, BitVec.toNat_setWidth, BitVec.toNat_ushiftRight, Nat.shiftRight_eq_div_pow,
    mask_or_3f, mask_or_1f, mask_or_0f, Nat.reducePow, Nat.div_one]
  refine ite_congr rfl (fun h => ?_) fun _ => ite_congr rfl (fun h => ?_) fun _ =>
    ite_congr rfl (fun h => ?_) fun _ => ite_congr rfl (fun h => ?_) fun h => ?_
  · rw [Nat.mod_eq_of_lt (Nat.lt_trans h (by decide))]
  · rw [mod_mod_of_lt (Nat.div_lt_of_lt_mul h) (by decide)]
  · rw [mod_mod_of_lt (Nat.div_lt_of_lt_mul h) (by decide)]
  · rw [mod_mod_of_lt (Nat.div_lt_of_lt_mul h) (by decide)]
  · rw [or_f0 _ (by rw [Itf8K.vbyte]; omega), Itf8K.vbyte]
    congr 1; omega

end Hts.Model.Itf8

namespace Hts.Model.Ltf8

theorem encode_is_spec (v : BitVec 64) : (encode v).map BitVec.toNat = Hts.Spec.Ltf8.encode v.toNat := by
  simp only [encode, Hts.Spec.Ltf8.encode, apply_ite (List.map BitVec.toNat), List.map, Hts.Spec.beBytes,
    ult_lit, Nat.reduceLT, BitVec.toNat_setWidth, BitVec.toNat_ushiftRight, Nat.shiftRight_eq_div_pow,
    mask_or_3f, mask_or_1f, mask_or_0f, mask_or_07, mask_or_03, mask_or_01, Nat.reducePow, Nat.div_one,
    BitVec.toNat_ofNat, Nat.reduceMod]
  refine ite_congr rfl (fun h => ?_) fun _ => ite_congr rfl (fun h => ?_) fun _ =>
    ite_congr rfl (fun h => ?_) fun _ => ite_congr rfl (fun h => ?_) fun _ =>
    ite_congr rfl (fun h => ?_) fun _ => ite_congr rfl (fun h => ?_) fun _ =>
    ite_congr rfl (fun h => ?_) fun _ => ite_congr rfl (fun _ => rfl) fun _ => rfl
  · rw [Nat.mod_eq_of_lt (Nat.lt_trans h (by decide))]
  · rw [mod_mod_of_lt (Nat.div_lt_of_lt_mul h) (by decide)]
  · rw [mod_mod_of_lt (Nat.div_lt_of_lt_mul h) (by decide)]
  · rw [mod_mod_of_lt (Nat.div_lt_of_lt_mul h) (by decide)]
  · rw [mod_mod_of_lt (Nat.div_lt_of_lt_mul h) (by decide)]
  · rw [mod_mod_of_lt (Nat.div_lt_of_lt_mul h) (by decide)]
  · rw [mod_mod_of_lt (Nat.div_lt_of_lt_mul h) (by decide)]

end Hts.Model.Ltf8

namespace Hts.Lemmas.Kernel
open Hts.Spec (beVal)
open Hts.Spec.Ltf8 (lead)

theorem holds_orFrom {W : Nat} (b : List (BitVec 8)) (k : Nat) (hW : 8 * (k + 1) ≤ W) :
    ∀ i, i + k < b.length →
      Holds (orFrom W b i k) (beVal (((b.drop i).take (k + 1)).map BitVec.toNat)) (8 * (k + 1)) := by
  induction k with
  | zero =>
    intro i h
    have hi : i < b.length := h
    rw [List.drop_eq_getElem_cons hi, List.take_succ_cons, List.take_zero, orFrom, getD_of_lt hi]
    simp only [List.map_cons, List.map_nil, beVal, List.length_nil, Nat.pow_zero, Nat.mul_one, Nat.add_zero]
    exact holds_byte _ hW
  | succ k ih =>
    intro i h
    have hi : i < b.length := by omega
    have := (ih (by omega) (i + 1) (by omega)).byte b[i] hW
    rw [List.drop_eq_getElem_cons hi, List.take_succ_cons, orFrom, getD_of_lt hi]
    simp only [List.map_cons, beVal, List.length_map, List.length_take, List.length_drop]
    rw [Nat.min_eq_left (by omega), Nat.pow_mul] at *
    exact this

/-- `hfb` is what `first_byte` says of a first byte of width `w + 1`. -/
theorem toNat_valU {W : Nat} (b0 : BitVec 8) (t : List (BitVec 8)) (w : Nat)
    (hfb : b0.toNat % 2 ^ (8 - (w + 1)) = b0.toNat - lead (w + 1))
    (hW : 8 * w + (8 - (w + 1)) ≤ W) (h8 : 8 ≤ W) (h : w ≤ t.length) :
    (valU W (b0 :: t) w).toNat = (b0.toNat - lead (w + 1)) * 256 ^ w + beVal ((t.take w).map BitVec.toNat) := by
  cases w with
  | zero =>
    rw [valU, List.getD_cons_zero, (holds_byte _ h8).1, List.take_zero, List.map_nil, beVal, Nat.pow_zero,
      Nat.mul_one, Nat.add_zero]
    rfl
  | succ k =>
    have hc : Holds _ (beVal ((t.take (k + 1)).map BitVec.toNat)) _ :=
      holds_orFrom (W := W) (b0 :: t) k (Nat.le_trans (Nat.le_add_right _ _) hW) 1 (by rw [List.length_cons]; omega)
    rw [valU, List.getD_cons_zero, ← hfb, show 256 = 2 ^ 8 from rfl, ← Nat.pow_mul]
    by_cases hk : k < 6
    · rw [if_pos hk, (hc.low _ _ (Nat.sub_le _ _) hW).1]
    · -- no payload bits: the first byte is its prefix
      rw [if_neg hk, hc.1, Nat.sub_eq_zero_of_le (by omega), Nat.pow_zero, Nat.mod_one, Nat.zero_mul, Nat.zero_add]

end Hts.Lemmas.Kernel

namespace Hts.Spec

theorem length_beBytes (u k : Nat) : (beBytes u k).length = k := by
  induction k with
  | zero => rfl
  | succ k ih => rw [beBytes, List.length_cons, ih]

theorem beVal_beBytes (u k : Nat) : beVal (beBytes u k) = u % 256 ^ k := by
  induction k with
  | zero => rw [beBytes, beVal, Nat.pow_zero, Nat.mod_one]
  | succ k ih =>
    rw [beBytes, beVal, ih, length_beBytes, Nat.pow_succ, Nat.mod_mul, Nat.mul_comm, Nat.add_comm]

theorem split_beBytes (u k : Nat) : u / 256 ^ k * 256 ^ k + beVal (beBytes u k) = u := by
  rw [beVal_beBytes, Nat.div_add_mod']

namespace Itf8
open Ltf8 (lead)

/-- `q` has `8 - w` bits, 4 in the 5-byte form (which has no terminating 0 bit) -/
theorem width_lead_add : ∀ w < 6, 1 ≤ w → ∀ q < 2 ^ max (8 - w) 4, width (Ltf8.lead w + q) = w := by
  decide +kernel

/-- Up to four bytes the value of ITF-8 has the closed form of `Ltf8.value`. -/
theorem value_cons (b0 k : Nat) : ∀ rest : List Nat, rest.length = k → k < 4 → lead (k + 1) ≤ b0 → b0 < lead (k + 2) →
    value (b0 :: rest) = some ((b0 - lead (k + 1)) * 256 ^ k + beVal rest)
  -- `k < 4`, bound to `_` below, is what rules out the case of a longer `rest`, which has no equation here
  | [], rfl, _, _, hhi => (if_pos hhi).trans (congrArg some (by
      simp only [beVal, lead, List.length_nil, Nat.reduceAdd, Nat.reduceSub, Nat.reducePow, Nat.sub_zero, Nat.mul_one,
        Nat.add_zero]))
  | [b1], rfl, _, hlo, hhi => (if_pos ⟨hlo, hhi⟩).trans (congrArg some (by
      simp only [beVal, lead, List.length_cons, List.length_nil, Nat.reduceAdd, Nat.reduceSub, Nat.reducePow,
        Nat.mul_one, Nat.add_zero]))
  | [b1, b2], rfl, _, hlo, hhi => (if_pos ⟨hlo, hhi⟩).trans (congrArg some (by
      simp only [beVal, lead, List.length_cons, List.length_nil, Nat.reduceAdd, Nat.reduceSub, Nat.reducePow,
        Nat.mul_one, Nat.add_zero, Nat.add_assoc]))
  | [b1, b2, b3], rfl, _, hlo, hhi => (if_pos ⟨hlo, hhi⟩).trans (congrArg some (by
      simp only [beVal, lead, List.length_cons, List.length_nil, Nat.reduceAdd, Nat.reduceSub, Nat.reducePow,
        Nat.mul_one, Nat.add_zero, Nat.add_assoc]))

theorem complete_cons_beBytes (w q u : Nat) (h1 : 1 ≤ w) (h5 : w < 5) (hq : u / 256 ^ (w - 1) = q)
    (hu : q < 2 ^ (8 - w)) :
    ((lead w + q) :: beBytes u (w - 1)).length = width (lead w + q) ∧
      value ((lead w + q) :: beBytes u (w - 1)) = some u := by
  obtain ⟨k, rfl⟩ : ∃ k, w = k + 1 := ⟨w - 1, by omega⟩
  have hl := (by decide : ∀ k < 4, lead (k + 1) + 2 ^ (8 - (k + 1)) = lead (k + 2)) k (by omega)
  rw [Nat.add_sub_cancel] at hq ⊢
  constructor
  · rw [List.length_cons, length_beBytes, width_lead_add (k + 1) (by omega) h1 q
      (Nat.lt_of_lt_of_le hu (Nat.pow_le_pow_right (by decide) (Nat.le_max_left _ _)))]
  · rw [value_cons _ k _ (length_beBytes u k) (by omega) (Nat.le_add_right _ _) (by omega), Nat.add_sub_cancel_left,
      ← hq, split_beBytes]

theorem encode_complete (u : Nat) (hu : u < 2 ^ 32) :
    (encode u).length = width ((encode u).headD 0) ∧ value (encode u) = some u := by
  rw [encode]
  by_cases h1 : u < 2 ^ 7
  · rw [if_pos h1]
    exact ⟨(if_pos h1).symm, if_pos h1⟩
  rw [if_neg h1]
  by_cases h2 : u < 2 ^ 14
  · rw [if_pos h2]
    exact complete_cons_beBytes 2 _ u (by decide) (by decide) rfl (Nat.div_lt_of_lt_mul h2)
  rw [if_neg h2]
  by_cases h3 : u < 2 ^ 21
  · rw [if_pos h3]
    exact complete_cons_beBytes 3 _ u (by decide) (by decide) rfl (Nat.div_lt_of_lt_mul h3)
  rw [if_neg h3]
  by_cases h4 : u < 2 ^ 28
  · rw [if_pos h4]
    exact complete_cons_beBytes 4 _ u (by decide) (by decide) rfl (Nat.div_lt_of_lt_mul h4)
  rw [if_neg h4]
  have hq : u / 2 ^ 28 < 16 := Nat.div_lt_of_lt_mul hu
  refine ⟨(width_lead_add 5 (by decide) (by decide) _ hq).symm,
    (if_pos ⟨Nat.le_add_right _ _, Nat.add_lt_add_left hq _⟩).trans (congrArg some ?_)⟩
  · -- the shifts as successive divisions by 256: then the identity is linear
    rw [show u / 2 ^ 12 = u / 2 ^ 4 / 256 by rw [Nat.div_div_eq_div_mul],
      show u / 2 ^ 20 = u / 2 ^ 4 / 256 / 256 by rw [Nat.div_div_eq_div_mul, Nat.div_div_eq_div_mul],
      show u / 2 ^ 28 = u / 2 ^ 4 / 256 / 256 / 256 by
        rw [Nat.div_div_eq_div_mul, Nat.div_div_eq_div_mul, Nat.div_div_eq_div_mul]]
    omega
end Itf8

namespace Ltf8

theorem width_lead_add : ∀ w < 10, 1 ≤ w → ∀ q < 2 ^ (8 - w), width (lead w + q) = w := by
  decide +kernel

theorem complete_cons_beBytes (w q u : Nat) (h1 : 1 ≤ w) (h9 : w < 10) (hq : u / 256 ^ (w - 1) = q)
    (hu : q < 2 ^ (8 - w)) :
    ((lead w + q) :: beBytes u (w - 1)).length = width (lead w + q) ∧
      value ((lead w + q) :: beBytes u (w - 1)) = some u := by
  have hw := width_lead_add w h9 h1 q hu
  have hl : (beBytes u (w - 1)).length + 1 = w := by rw [length_beBytes]; omega
  refine ⟨hl.trans hw.symm, ?_⟩
  rw [value, hw, if_pos hl, length_beBytes, Nat.add_sub_cancel_left, ← hq, split_beBytes]

theorem encode_complete (u : Nat) (hu : u < 2 ^ 64) :
    (encode u).length = width ((encode u).headD 0) ∧ value (encode u) = some u := by
  rw [encode]
  by_cases h1 : u < 2 ^ 7
  · rw [if_pos h1]
    have h := complete_cons_beBytes 1 u u (by decide) (by decide) (Nat.div_one u) (by omega)
    rwa [show lead 1 + u = u from Nat.zero_add u] at h
  rw [if_neg h1]
  by_cases h2 : u < 2 ^ 14
  · rw [if_pos h2]
    exact complete_cons_beBytes 2 _ u (by decide) (by decide) rfl (Nat.div_lt_of_lt_mul h2)
  rw [if_neg h2]
  by_cases h3 : u < 2 ^ 21
  · rw [if_pos h3]
    exact complete_cons_beBytes 3 _ u (by decide) (by decide) rfl (Nat.div_lt_of_lt_mul h3)
  rw [if_neg h3]
  by_cases h4 : u < 2 ^ 28
  · rw [if_pos h4]
    exact complete_cons_beBytes 4 _ u (by decide) (by decide) rfl (Nat.div_lt_of_lt_mul h4)
  rw [if_neg h4]
  by_cases h5 : u < 2 ^ 35
  · rw [if_pos h5]
    exact complete_cons_beBytes 5 _ u (by decide) (by decide) rfl (Nat.div_lt_of_lt_mul h5)
  rw [if_neg h5]
  by_cases h6 : u < 2 ^ 42
  · rw [if_pos h6]
    exact complete_cons_beBytes 6 _ u (by decide) (by decide) rfl (Nat.div_lt_of_lt_mul h6)
  rw [if_neg h6]
  by_cases h7 : u < 2 ^ 49
  · rw [if_pos h7]
    exact complete_cons_beBytes 7 _ u (by decide) (by decide) rfl (Nat.div_lt_of_lt_mul h7)
  rw [if_neg h7]
  by_cases h8 : u < 2 ^ 56
  · rw [if_pos h8]
    exact complete_cons_beBytes 8 0 u (by decide) (by decide) (by omega) (by decide)
  rw [if_neg h8]
  exact complete_cons_beBytes 9 0 u (by decide) (by decide) (by omega) (by decide)
end Ltf8
end Hts.Spec

namespace Hts.Model.Itf8
open Hts.Spec.Ltf8 (lead)

/-- Below its prefix a first byte of width `w` has `8 - w` bits, 4 in the 5-byte form (which has no terminating 0). -/
theorem first_byte : ∀ b : Byte,
    lead (width b).toNat ≤ b.toNat ∧ ((width b).toNat < 5 → b.toNat < lead ((width b).toNat + 1)) ∧
      b.toNat % 2 ^ max (8 - (width b).toNat) 4 = b.toNat - lead (width b).toNat :=
  byte_forall _ (by decide +kernel)

theorem width_is_spec (b0 : Byte) : width b0 = (Hts.Spec.Itf8.width b0.toNat : Nat) := by
  simp only [width, Hts.Spec.Itf8.width, ult_lit, Nat.reducePow, Nat.reduceLT, apply_ite (Nat.cast (R := Int))]
  rfl

theorem decode_is_spec (b0 : Byte) (t : List Byte) (h : width b0 ≤ ((t.length + 1 : Nat) : Int)) :
    Hts.Spec.Itf8.value (((b0 :: t).take (width b0).toNat).map BitVec.toNat)
      = some (decode (b0 :: t)).1.toNat := by
  have hr := width_range b0
  obtain ⟨w, hw⟩ := width_succ hr.1
  have fb := first_byte b0
  rw [decode_eq, decodeU_cons _ _ b0 t h]
  rw [hw, Int.toNat_natCast] at fb ⊢
  rw [Nat.add_sub_cancel, val, List.take_succ_cons, List.map_cons]
  have hl : w ≤ t.length := by omega
  by_cases h4 : w = 4
  · -- the five-byte form: its own chain, one `Holds` step per byte
    subst h4
    obtain ⟨b1, b2, b3, b4, t, rfl⟩ : ∃ b1 b2 b3 b4 t', t = b1 :: b2 :: b3 :: b4 :: t' :=
      match t, hl with
      | b1 :: b2 :: b3 :: b4 :: t', _ => ⟨b1, b2, b3, b4, t', rfl⟩
    rw [if_pos rfl]
    -- `Nat.max_def`, `Nat.reduceLeDiff`, `if_true` evaluate the `max (8 - 5) 4` of `fb`; `Nat.add_assoc` nests the
    -- specification's sum to the right, as the `Holds` steps build theirs
    simp only [z, List.getD_cons_zero, List.getD_cons_succ, List.take_succ_cons,
      List.take_zero, List.map_cons, List.map_nil, Hts.Spec.Itf8.value, lead, Nat.reduceAdd, Nat.reduceSub,
      Nat.reducePow, Nat.reduceLT, Nat.max_def, Nat.reduceLeDiff, if_true, Nat.add_assoc] at fb ⊢
    rw [if_pos ⟨fb.1, b0.isLt⟩, (((((holds_low (w := 32) b4 4).byte b3).byte b2).byte b1).low b0 4).1, fb.2.2]
  · have hw4 : w < 4 := by omega
    rw [if_neg h4, toNat_valU b0 t w (by rw [← fb.2.2, Nat.max_eq_left (by omega)]) (by omega) (by decide) hl]
    exact Hts.Spec.Itf8.value_cons _ w _ (by rw [List.length_map, List.length_take_of_le hl]) hw4 fb.1
      (fb.2.1 (Nat.succ_lt_succ hw4))

end Hts.Model.Itf8

namespace Hts.Model.Ltf8
open Hts.Spec (beVal)
open Hts.Spec.Ltf8 (lead)

theorem first_byte : ∀ b : Byte,
    b.toNat % 2 ^ (8 - (width b).toNat) = b.toNat - lead (width b).toNat :=
  byte_forall _ (by decide +kernel)

theorem width_is_spec (b0 : Byte) : width b0 = (Hts.Spec.Ltf8.width b0.toNat : Nat) := by
  simp only [width, Hts.Spec.Ltf8.width, ult_lit, Nat.reducePow, Nat.reduceLT, apply_ite (Nat.cast (R := Int))]
  rfl

theorem decode_toNat (b0 : Byte) (t : List Byte) (w : Nat) (hw : width b0 = (w + 1 : Nat)) (h : w ≤ t.length) :
    (decode (b0 :: t)).1.toNat = (b0.toNat - lead (w + 1)) * 256 ^ w + beVal ((t.take w).map BitVec.toNat) := by
  have fb := first_byte b0
  rw [hw, Int.toNat_natCast] at fb
  rw [decode_eq, decodeU_cons _ _ b0 t (by omega), hw, Int.toNat_natCast, Nat.add_sub_cancel]
  exact toNat_valU b0 t w fb (by have := width_range b0; omega) (by decide) h

theorem decode_is_spec (b0 : Byte) (t : List Byte) (h : width b0 ≤ ((t.length + 1 : Nat) : Int)) :
    Hts.Spec.Ltf8.value (((b0 :: t).take (width b0).toNat).map BitVec.toNat)
      = some (decode (b0 :: t)).1.toNat := by
  have hr := width_range b0
  have hs := width_is_spec b0
  obtain ⟨w, hw⟩ := width_succ hr.1
  have hl : w ≤ t.length := by omega
  rw [decode_toNat b0 t w hw hl, hw, Int.toNat_natCast, List.take_succ_cons, List.map_cons, Hts.Spec.Ltf8.value,
    List.length_map, List.length_take, Nat.min_eq_left hl, if_pos (by omega),
    show Hts.Spec.Ltf8.width b0.toNat = w + 1 by omega]

end Hts.Model.Ltf8
