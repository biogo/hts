/-
Lemmas for C10: on EVERY byte string, data is delivered only for members whose gzip trailer was
verified (CRC-32 and ISIZE of what was inflated), and the framed member is exactly the BSIZE+1 bytes
the header announces.
Also the unfolding equations of `readMember` and `readAll` that every forward fact starts from (`readMember_eq_of_header`,
`readMember_of_header`, `readAll_eq`: the last needs `readBlock_rest_lt`, hence here), and what an error of `readMember` or
`gzBody` makes of `readBlock`.
-/
import Hts.Model.BgzfBytes
namespace Hts.Lemmas.BgzfBytes
open Hts.Model.BgzfBytes

theorem readString_ne_eof (i : Nat) (s : Bytes) : readString i s ≠ .error .eof := by
  fun_induction readString i s <;> simp_all

theorem readOptString_ne_eof (p : Bool) (s : Bytes) : readOptString p s ≠ .error .eof := by
  fun_cases readOptString p s
  · rename_i e he; exact fun h => readString_ne_eof 0 s (he.trans (by injection h with h; rw [h]))
  all_goals simp

theorem readExtra_ne_eof (flg : UInt8) (s : Bytes) : readExtra flg s ≠ .error .eof := by
  fun_cases readExtra flg s <;> simp

theorem readHdrCrc_ne_eof (crc : Bytes → Nat) (flg : UInt8) (s : Bytes) (n : Nat) :
    readHdrCrc crc flg s n ≠ .error .eof := by
  fun_cases readHdrCrc crc flg s n <;> simp

theorem readHeader_eof_iff (crc : Bytes → Nat) (s : Bytes) : readHeader crc s = .error .eof ↔ s = [] := by
  constructor
  · intro h
    unfold readHeader at h
    split at h
    · rfl
    · exfalso
      split at h
      · simp at h
      · split at h
        · rename_i e he
          exact readExtra_ne_eof _ _ (by rw [he]; injection h with h; rw [h])
        · split at h
          · rename_i e he
            exact readOptString_ne_eof _ _ (by rw [he]; injection h with h; rw [h])
          · split at h
            · rename_i e he
              exact readOptString_ne_eof _ _ (by rw [he]; injection h with h; rw [h])
            · split at h
              · rename_i e he
                exact readHdrCrc_ne_eof _ _ _ _ (by rw [he]; injection h with h; rw [h])
              · simp at h
    · simp at h
  · rintro rfl; simp [readHeader]

/-- `TrailerOk c buf payload used`: the deflate decoder decoded `payload` from the first `used` bytes
of `buf`, and the eight bytes that follow are the CRC-32 of `payload` and its length mod 2^32. -/
structure TrailerOk (c : Codec) (buf payload : Bytes) (used : Nat) : Prop where
  inflated : c.inflate buf = .ok payload used
  present : 8 ≤ (buf.drop used).length
  crc : leNat ((buf.drop used).take 4) = c.crc32 payload
  isize : leNat (((buf.drop used).drop 4).take 4) = payload.length % 4294967296

/-- `Verified c buf data`: `buf` is one gzip member body (deflate data + trailer) — or, as
compress/gzip in multistream mode accepts, several members each with its own header — and `data` is
what they decode to, every one with its trailer verified, with nothing left over. -/
inductive Verified (c : Codec) : Bytes → Bytes → Prop where
  | single {buf payload : Bytes} {used : Nat} :
      TrailerOk c buf payload used → (buf.drop used).length = 8 → Verified c buf payload
  | multi {buf payload more : Bytes} {used hl : Nat} {hdr : GzHeader} :
      TrailerOk c buf payload used →
      readHeader c.crc32 ((buf.drop used).drop 8) = .ok (hdr, hl) →
      Verified c (((buf.drop used).drop 8).drop hl) more →
      Verified c buf (payload ++ more)

theorem gzBody_ok_verified (c : Codec) (buf data : Bytes) (ne : Bool) (h : gzBody c buf = .ok (data, ne)) :
    Verified c buf data := by
  fun_induction gzBody c buf generalizing data ne with
  -- cases of `gzBody`: 1 inflate fails, 2 trailer short, 3 CRC/ISIZE mismatch, 4 next header = eof (one member, ok),
  -- 5 next header fails otherwise, 6 the rest fails, 7 the rest is ok
  | case1 | case2 | case3 | case5 | case6 => simp at h
  | case4 buf payload used hinf h8 hck heof =>
    simp only [Except.ok.injEq, Prod.mk.injEq] at h
    rw [← h.1]
    have hnil : ((buf.drop used).drop 8).length = 0 := by rw [(readHeader_eof_iff _ _).1 heof]; rfl
    refine Verified.single ⟨hinf, by omega, Decidable.of_not_not (not_or.mp hck).1, Decidable.of_not_not (not_or.mp hck).2⟩ ?_
    simp only [List.length_drop] at hnil h8 ⊢
    omega
  | case7 buf payload used hinf h8 hck hdr hl hh p2 ne2 hrec ih =>
    simp only [Except.ok.injEq, Prod.mk.injEq] at h
    rw [← h.1]
    exact Verified.multi ⟨hinf, by omega, Decidable.of_not_not (not_or.mp hck).1, Decidable.of_not_not (not_or.mp hck).2⟩
      hh (ih _ _ hrec)

theorem readToEOF_ok {q : Quirks} (hq : q.dummyReadCountIgnored = false)
    {r : Except (Err × Nat) (Bytes × Bool)} {p : Bytes} (h : readToEOF q r = .ok p) :
    ∃ ne, r = .ok (p, ne) ∧ p.length ≤ MaxBlockSize := by
  unfold readToEOF at h
  split at h
  · rename_i data ne
    split at h
    · rename_i hle
      injection h with h
      subst h
      exact ⟨ne, rfl, hle⟩
    · simp [hq] at h
  · split at h
    · simp at h
    · split at h <;> simp at h

theorem readToEOF_error (q : Quirks) (e : Err) (n : Nat) :
    readToEOF q (.error (e, n)) = .error e ∨ readToEOF q (.error (e, n)) = .error .shortBuffer := by
  simp only [readToEOF]
  split
  · exact .inl rfl
  · split
    · exact .inl rfl
    · exact .inr rfl

theorem readToEOF_error_eof {q : Quirks} {r : Except (Err × Nat) (Bytes × Bool)}
    (h : readToEOF q r = .error .eof) : ∃ n, r = .error (.eof, n) := by
  match r with
  | .ok (data, ne) =>
    simp only [readToEOF] at h
    split at h
    · cases h
    · split at h <;> cases h
  | .error (e, n) =>
    rcases readToEOF_error q e n with h' | h' <;> rw [h'] at h <;> cases h
    exact ⟨n, rfl⟩

theorem readMember_eq_of_header (q : Quirks) (c : Codec) {s : Bytes} {hd : GzHeader} {k n : Nat}
    (hr : readHeader c.crc32 s = .ok (hd, k)) (hs : expectedMemberSize hd.extra = some n) :
    readMember q c s =
      if n = k then .error (if q.eofOnZeroNeed then .eof else .corrupt)
      else if n < k then .error .corrupt
      else if (s.drop k).length ≥ n - k then .ok ⟨hd, (s.drop k).take (n - k), (s.drop k).drop (n - k)⟩
      else if s.drop k = [] then .error (if q.eofOnEmptyBody then .eof else .unexpectedEOF)
      else .error .unexpectedEOF := by
  simp only [readMember, hr, hs]

theorem readMember_zero_need (q : Quirks) (c : Codec) {s : Bytes} {hd : GzHeader} {k : Nat}
    (hr : readHeader c.crc32 s = .ok (hd, k)) (hs : expectedMemberSize hd.extra = some k) :
    readMember q c s = .error (if q.eofOnZeroNeed then .eof else .corrupt) := by
  rw [readMember_eq_of_header q c hr hs, if_pos rfl]

theorem readMember_of_header (q : Quirks) (c : Codec) {s : Bytes} {hd : GzHeader} {k n : Nat}
    (hr : readHeader c.crc32 s = .ok (hd, k)) (hs : expectedMemberSize hd.extra = some n) (hkn : k < n) :
    readMember q c s =
      if (s.drop k).length ≥ n - k then .ok ⟨hd, (s.drop k).take (n - k), (s.drop k).drop (n - k)⟩
      else if s.drop k = [] then .error (if q.eofOnEmptyBody then .eof else .unexpectedEOF)
      else .error .unexpectedEOF := by
  rw [readMember_eq_of_header q c hr hs, if_neg (by omega), if_neg (by omega)]

theorem readMember_ok_split (q : Quirks) (c : Codec) (s : Bytes) (f : Framed) (h : readMember q c s = .ok f) :
    ∃ hl, readHeader c.crc32 s = .ok (f.hdr, hl) ∧
      expectedMemberSize f.hdr.extra = some (hl + f.body.length) ∧
      0 < f.body.length ∧
      s = s.take hl ++ (f.body ++ f.rest) := by
  cases hh : readHeader c.crc32 s with
  | error e => simp [readMember, hh] at h
  | ok r =>
    obtain ⟨hd, k⟩ := r
    cases hbs : expectedMemberSize hd.extra with
    | none => simp [readMember, hh, hbs] at h
    | some n =>
      rw [readMember_eq_of_header q c hh hbs] at h
      by_cases h1 : n = k
      · simp [h1] at h
      by_cases h2 : n < k
      · simp [h1, h2] at h
      by_cases h3 : (s.drop k).length ≥ n - k
      · simp only [h1, h2, h3, if_false, if_true, Except.ok.injEq] at h
        subst h
        simp only [List.length_drop, List.length_take] at h3 ⊢
        refine ⟨k, rfl, ?_, by omega, by rw [List.take_append_drop, List.take_append_drop]⟩
        rw [hbs]; congr 1; omega
      · simp only [h1, h2, h3, if_false] at h
        split at h <;> cases h

theorem readMember_rest_lt (q : Quirks) (c : Codec) (s : Bytes) (f : Framed) (h : readMember q c s = .ok f) :
    f.rest.length < s.length := by
  obtain ⟨hl, _, _, hpos, hs⟩ := readMember_ok_split q c s f h
  have := congrArg List.length hs
  simp only [List.length_append] at this
  omega

theorem readBlock_ok_framed (q : Quirks) (c : Codec) (s payload rest : Bytes)
    (h : readBlock q c s = .ok (payload, rest)) :
    ∃ f, readMember q c s = .ok f ∧ f.rest = rest ∧ readToEOF q (gzBody c f.body) = .ok payload := by
  unfold readBlock at h
  split at h
  · simp at h
  · rename_i f hf
    split at h
    · simp at h
    · rename_i p hp
      injection h with h
      injection h with h1 h2
      subst h1; subst h2
      exact ⟨f, hf, rfl, hp⟩

theorem readBlock_rest_lt (q : Quirks) (c : Codec) (s payload rest : Bytes)
    (h : readBlock q c s = .ok (payload, rest)) : rest.length < s.length := by
  obtain ⟨f, hf, hr, _⟩ := readBlock_ok_framed q c s payload rest h
  rw [← hr]; exact readMember_rest_lt q c s f hf

/-- `Delivered q c s blocks e`: reading `s` framed and verified exactly the members `blocks`
(in order, back to back from the start of `s`), and stopped with `e` at what follows them. -/
inductive Delivered (q : Quirks) (c : Codec) : Bytes → List (Framed × Bytes) → Err → Prop where
  | stop {s : Bytes} {e : Err} : readBlock q c s = .error e → Delivered q c s [] e
  | block {s payload : Bytes} {f : Framed} {bs : List (Framed × Bytes)} {e : Err} :
      readMember q c s = .ok f → Verified c f.body payload → payload.length ≤ MaxBlockSize →
      Delivered q c f.rest bs e → Delivered q c s ((f, payload) :: bs) e

/-- `readAll` without its dead branch (the `unreachable` result is never produced by `readAll` itself). -/
theorem readAll_eq (q : Quirks) (c : Codec) (s : Bytes) :
    readAll q c s =
      match readBlock q c s with
      | .error e => ([], e)
      | .ok (payload, rest) => (payload ++ (readAll q c rest).1, (readAll q c rest).2) := by
  rw [readAll]
  split
  · rename_i e he
    rw [he]
  · rename_i payload rest hb
    rw [hb]
    simp only [readBlock_rest_lt q c s payload rest hb, dite_true]

theorem gzBody_ne_eof (c : Codec) (buf : Bytes) (k : Nat) : gzBody c buf ≠ .error (.eof, k) := by
  fun_induction gzBody c buf generalizing k with
  -- cases numbered as in `gzBody_ok_verified`
  | case1 | case2 | case3 | case4 | case7 => simp
  | case5 _ _ _ _ _ _ e hne _ => simp; intro h; exact absurd h hne
  | case6 _ _ _ _ _ _ _ _ _ e n hrec ih =>
    intro h; injection h with h; injection h with h1 h2
    exact ih n (by rw [hrec, h1])

theorem readBlock_of_readMember_error {q : Quirks} {c : Codec} {s : Bytes} {e : Err}
    (h : readMember q c s = .error e) : readBlock q c s = .error e := by rw [readBlock, h]

theorem readBlock_of_gzBody_error (q : Quirks) (c : Codec) {s : Bytes} {f : Framed} {x : Err × Nat}
    (hf : readMember q c s = .ok f) (hg : gzBody c f.body = .error x) :
    ∃ e, e ≠ .eof ∧ readBlock q c s = .error e := by
  obtain ⟨e0, n0⟩ := x
  have he0 : e0 ≠ .eof := fun h => gzBody_ne_eof c _ n0 (h ▸ hg)
  simp only [readBlock, hf, hg]
  rcases readToEOF_error q e0 n0 with h | h <;> rw [h]
  · exact ⟨e0, he0, rfl⟩
  · exact ⟨.shortBuffer, nofun, rfl⟩

theorem readBlock_error_eof {q : Quirks} {c : Codec} {s : Bytes} (h : readBlock q c s = .error .eof) :
    readMember q c s = .error .eof := by
  unfold readBlock at h
  split at h
  · rename_i e he
    injection h with h
    rw [he, h]
  · split at h
    · rename_i e he
      injection h with h
      subst h
      obtain ⟨k, hk⟩ := readToEOF_error_eof he
      exact absurd hk (gzBody_ne_eof c _ k)
    · simp at h

theorem readMember_repaired_eof (c : Codec) (s : Bytes) (h : readMember .repaired c s = .error .eof) : s = [] := by
  cases hh : readHeader c.crc32 s with
  | error e =>
    simp only [readMember, hh, Except.error.injEq] at h
    exact (readHeader_eof_iff _ _).1 (h ▸ hh)
  | ok r =>
    cases hbs : expectedMemberSize r.1.extra with
    | none => simp [readMember, hh, hbs] at h
    | some n =>
      rw [readMember_eq_of_header _ c hh hbs] at h
      simp only [Quirks.repaired, Bool.false_eq_true, if_false] at h
      by_cases h1 : n = r.2
      · simp [h1] at h
      by_cases h2 : n < r.2
      · simp [h1, h2] at h
      by_cases h3 : (s.drop r.2).length ≥ n - r.2
      · simp only [h1, h2, h3, if_false, if_true] at h; cases h
      · simp only [h1, h2, h3, if_false] at h; split at h <;> cases h

/-- the whole input is a sequence of members, each framed by its BSIZE and verified -/
inductive FullyFramed (c : Codec) : Bytes → Bytes → Prop where
  | nil : FullyFramed c [] []
  | cons {s payload data : Bytes} {f : Framed} :
      readMember .repaired c s = .ok f → Verified c f.body payload → payload.length ≤ MaxBlockSize →
      FullyFramed c f.rest data → FullyFramed c s (payload ++ data)

end Hts.Lemmas.BgzfBytes
