/-
The byte-level consumer over the read-ahead protocol (Model/ReaderOverLTS.lean), run with given blocks: with
the blocks a fault oracle imposes (`Prog.seqF`) it is the operational fault model `FReader` of C09; with the
sequential blocks (`Prog.seq`, the empty oracle) it is the reader model of C02 — proved through the fault twin:
`g…_seqF` against `FReader`, then `FReader.…_nofault` at the empty oracle (`gStep_seq`).
The byte-level loops exist three times (Model/BgzfReader.lean, Model/BgzfReaderFaults.lean, Model/ReaderOverLTS.lean;
for a fourth copy, Model/BgzfReader64.lean, see the head of Lemmas/Reader64.lean).
A change of `Reader.readLoop` is repeated in `FReader.readLoop` and `gReadLoop`, and then touches `readLoop_nofault`
(Lemmas/FaultNoFault.lean), `gReadLoop_seqF` (here) and `readLoop_step`, `readLoop_end_*`, `readLoop_exhausted`,
`readLoop_data` (Lemmas/ReaderZip.lean); likewise `skipEmpty`, `read`, `readByte`, `seek` with the lemmas of the same
names, and `FReader.loadAt` with `popF`, `popF_loadAt`, `popF_choice`, `loadAt_out`; on the side of C09's rd = 1
theorems, the twins listed in the head of Lemmas/FaultLoad.lean.
-/
import Hts.Model.ReaderOverLTS
import Hts.Model.BgzfReaderFaults
import Hts.Lemmas.ReaderLTSFile
import Hts.Lemmas.FaultNoFault
namespace Hts.Model.ReadAhead
open Hts.Model.Bgzf
open Hts.Spec.Flat (Offset Chunk)

theorem Prog.seq_bind {α β : Type} (F : File) (p : Prog α) (f : α → Prog β) (c : Blk) :
    (p.bind f).seq F c = (f (p.seq F c).1).seq F (p.seq F c).2 := by
  induction p generalizing c with
  | done a => rfl
  | call cl k ih => simp only [Prog.bind, Prog.seq]; exact ih _ _

/-- The identity of a byte-level block is what a load at its base gives. -/
def IdOK (F : File) (b : Block) : Prop := Exact (chainOf F) (blkOf b)

theorem blockOf_load (F : File) (b0 : Block) (e : Nat) :
    blockOf F ⟨some e, chainOf F e⟩ = Block.load F b0 e := by
  simp only [blockOf, chainOf, Block.load, payloadOf, failErr]
  cases hm : memberAt F e with
  | ok m | eof | bad => simp [hm]

theorem idOK_load {F : File} (hwf : WF F) (b0 : Block) (e : Nat) : IdOK F (Block.load F b0 e).1 := by
  unfold IdOK; rw [blkOf_load hwf]; simp [Exact]

theorem failErr_of_chain {F : File} {b nx : Nat} (h : chainOf F b = some nx) : failErr F b = .other := by
  simp only [chainOf] at h
  simp only [failErr]
  cases hm : memberAt F b with
  | ok m | bad => rfl
  | eof => simp [hm] at h

theorem seqNext_next {F : File} {b : Block} (hid : IdOK F b) :
    seqNext (chainOf F) (blkOf b) .next = ⟨some b.nextBase, chainOf F b.nextBase⟩ := by
  cases hd : b.hasData with
  | true => simp [seqNext, blkOf, hd]
  | false =>
    -- a failed block: `NextBase()` is its own base, where by `hid` no member starts, so it is the failed block again
    have hh : b.hsize = 0 := by simpa [Block.hasData] using hd
    have hc : chainOf F b.base = none := by
      have := hid; simp only [IdOK, Exact, blkOf, hd] at this; simpa using this.symm
    simp [seqNext, blkOf, hd, Block.nextBase, hh, hc]

theorem seek_fast_iff (b : Block) (off : Nat) :
    ((blkOf b).base = some off ∧ good (blkOf b) = true) ↔ ¬ (off ≠ b.base ∨ b.hasData = false) := by
  cases hd : b.hasData <;> simp [blkOf, good, hd, eq_comm]

theorem seqNext_seek_slow {F : File} {b : Block} {off : Nat} (h : off ≠ b.base ∨ b.hasData = false) :
    seqNext (chainOf F) (blkOf b) (.seek off) = ⟨some off, chainOf F off⟩ := by
  simp only [seqNext, seek_fast_iff, h, not_true, if_false]

theorem seqNext_seek_fast {F : File} {b : Block} {off : Nat} (h : ¬ (off ≠ b.base ∨ b.hasData = false)) :
    seqNext (chainOf F) (blkOf b) (.seek off) = blkOf b := by
  simp only [seqNext, seek_fast_iff, h, not_false_eq_true, if_true]

theorem blkOf_read (b : Block) (n : Nat) : blkOf (b.read n).2.2 = blkOf b := by
  unfold Block.read; split <;> rfl

theorem blkOf_readByte (b : Block) : blkOf b.readByte.2.2 = blkOf b := by
  unfold Block.readByte; split <;> rfl

theorem blkOf_seek (b : Block) (k : Nat) : blkOf (b.seek k) = blkOf b := rfl

def Tracks (F : File) (r : Reader) : Prop := r.file = F ∧ IdOK F r.cur

/-- One load attempt at `e` through the oracle, on identities: a copy of `FReader.loadAt` (Model/BgzfReaderFaults.lean),
to be kept in step with it; `popF_loadAt` and `popF_choice` go through its four cases. -/
def popF (F : File) (e : Nat) (orc : List LoadFault) : (Block × Option Err) × Blk × List LoadFault :=
  match orc with
  | .err :: rest => ((Block.failed e, some .other), ⟨some e, none⟩, rest)
  | .eof :: rest => ((Block.failed e, some .eof), ⟨some e, none⟩, rest)
  | .ok :: rest => (blockOf F ⟨some e, chainOf F e⟩, ⟨some e, chainOf F e⟩, rest)
  | [] => (blockOf F ⟨some e, chainOf F e⟩, ⟨some e, chainOf F e⟩, [])

/-- The answer to one call under the oracle: the block handed to the consumer with its error, its identity, the
    oracle that is left. `next` loads at the base read off the current identity (`next_target`); `seek` loads at
    `off` unless the fast-path test holds. `next` consumes an oracle entry even when `c.next = none`: the model
    (`FReader.nextBlock`) tries the load again at the failed block's own base, the protocol (`nextFailed`) does not;
    `respF_choice` picks an entry that fails there. -/
def respF (F : File) (c : Blk) : Call → List LoadFault → (Block × Option Err) × Blk × List LoadFault
  | .next, orc => popF F (c.next.getD (c.base.getD 0)) orc
  | .seek off, orc => if c.base = some off ∧ good c = true then (blockOf F c, c, orc) else popF F off orc

/-- `Prog.seq` with every load going through the fault oracle. -/
def Prog.seqF {α : Type} (F : File) : Prog α → Blk → List LoadFault → α × Blk × List LoadFault
  | .done a, c, orc => (a, c, orc)
  | .call cl k, c, orc => (k (respF F c cl orc).1).seqF F (respF F c cl orc).2.1 (respF F c cl orc).2.2

theorem Prog.seqF_bind {α β : Type} (F : File) (p : Prog α) (f : α → Prog β) (c : Blk) (orc : List LoadFault) :
    (p.bind f).seqF F c orc =
      (f (p.seqF F c orc).1).seqF F (p.seqF F c orc).2.1 (p.seqF F c orc).2.2 := by
  induction p generalizing c orc with
  | done a => rfl
  | call cl k ih => simp only [Prog.bind, Prog.seqF]; exact ih _ _ _

theorem next_target (b : Block) : (blkOf b).next.getD ((blkOf b).base.getD 0) = b.nextBase := by
  cases hd : b.hasData with
  | true => simp [blkOf, hd]
  | false =>
    have hh : b.hsize = 0 := by simpa [Block.hasData] using hd
    simp [blkOf, hd, Block.nextBase, hh]

theorem popF_loadAt {F : File} (hwf : WF F) (x : FReader) (hf : x.r.file = F) (e : Nat) :
    popF F e x.oracle =
      (((x.loadAt e).1.r.cur, (x.loadAt e).2), blkOf (x.loadAt e).1.r.cur, (x.loadAt e).1.oracle) ∧
    { x.r with cur := (x.loadAt e).1.r.cur } = (x.loadAt e).1.r ∧ (x.loadAt e).1.r.file = F := by
  suffices h : _ ∧ _ from ⟨h.1, h.2, by rw [← h.2]; exact hf⟩
  obtain ⟨r, orc⟩ := x
  simp only at hf
  subst hf
  -- the two directions between a byte-level block and its identity in the protocol, at a load: the block of the
  -- identity `⟨e, chain e⟩` is the sequential load (`blockOf_load`), whose identity is `⟨e, chain e⟩` (`blkOf_load`)
  have hb := blockOf_load r.file r.cur e
  have hl := blkOf_load hwf r.cur e
  cases orc with
  | nil => simp only [popF, FReader.loadAt, hb, hl, and_self]
  | cons f rest =>
    cases f with
    | ok => simp only [popF, FReader.loadAt, hb, hl, and_self]
    | err | eof => exact ⟨rfl, rfl⟩

/-- Started from the reader `x` (its current block and oracle), the program returns `a` and leaves the current
block and oracle of `x'`, a reader over `F`. -/
def Runs (F : File) {α : Type} (p : Prog α) (x : FReader) (a : α) (x' : FReader) : Prop :=
  p.seqF F (blkOf x.r.cur) x.oracle = (a, blkOf x'.r.cur, x'.oracle) ∧ x'.r.file = F

theorem Runs.bind {F : File} {α β : Type} {p : Prog α} {f : α → Prog β} {x x' x'' : FReader} {a : α} {b : β}
    (h1 : Runs F p x a x') (h2 : Runs F (f a) x' b x'') : Runs F (p.bind f) x b x'' :=
  ⟨by rw [Prog.seqF_bind, h1.1]; exact h2.1, h2.2⟩

theorem Runs.map {F : File} {α β : Type} {p : Prog α} {x x' : FReader} {a : α} (h : Runs F p x a x') (f : α → β) :
    Runs F (p.bind fun q => .done (f q)) x (f a) x' :=
  h.bind ⟨rfl, h.2⟩

theorem gNextBlock_seqF {F : File} (hwf : WF F) (x : FReader) (hf : x.r.file = F) :
    Runs F (gNextBlock x.r) x (x.nextBlock.1.r, x.nextBlock.2) x.nextBlock.1 := by
  have h := popF_loadAt hwf x hf x.r.cur.nextBase
  simp only [Runs, gNextBlock, Prog.seqF, respF, next_target, FReader.nextBlock, h.1]
  exact ⟨by rw [h.2.1], h.2.2⟩

theorem gSkipEmpty_seqF {F : File} (hwf : WF F) : ∀ (fuel : Nat) (x : FReader), x.r.file = F →
    Runs F (gSkipEmpty fuel x.r) x (x.skipEmpty fuel).r (x.skipEmpty fuel) := by
  intro fuel
  induction fuel with
  | zero => intro x hf; exact ⟨rfl, hf⟩
  | succ fuel ih =>
    intro x hf
    by_cases hl : x.r.cur.len = 0
    · simp only [gSkipEmpty, FReader.skipEmpty, hl, if_true]
      refine (gNextBlock_seqF hwf x hf).bind ?_
      have hf' := (gNextBlock_seqF hwf x hf).2
      rcases hnb : x.nextBlock with ⟨x', e⟩
      rw [hnb] at hf'
      cases e with
      | some e => exact ⟨rfl, hf'⟩
      | none => exact ih (x'.withR fun r => { r with err := none }) hf'
    · simp only [gSkipEmpty, FReader.skipEmpty, hl, if_false]
      exact ⟨rfl, hf⟩

theorem gReadLoop_seqF {F : File} (hwf : WF F) : ∀ (fuel : Nat) (x : FReader) (want : Nat), x.r.file = F →
    Runs F (gReadLoop fuel x.r want) x
      ((x.readLoop fuel want).1.r, (x.readLoop fuel want).2.1, (x.readLoop fuel want).2.2)
      (x.readLoop fuel want).1 := by
  intro fuel
  induction fuel with
  | zero => intro x want hf; exact ⟨rfl, hf⟩
  | succ fuel ih =>
    intro x want hf
    obtain ⟨⟨rf, rc, rl, re, rb⟩, orc⟩ := x
    simp only at hf
    by_cases hgo : 0 < want ∧ re = none
    · obtain ⟨hw, rfl⟩ := hgo
      simp only [gReadLoop, FReader.readLoop, hw, and_self, if_true]
      have hb : blkOf (rc.read want).2.2 = blkOf rc := blkOf_read rc want
      rcases hrd : rc.read want with ⟨out, eof, b⟩
      rw [hrd] at hb
      simp only at hb
      -- the block read from has the identity of the reader's block
      have start : ∀ {α : Type} {p : Prog α} {re' a x'}, Runs F p ⟨⟨rf, b, rl, re', rb⟩, orc⟩ a x' →
          Runs F p ⟨⟨rf, rc, rl, none, rb⟩, orc⟩ a x' := fun h => ⟨by rw [← hb]; exact h.1, h.2⟩
      cases eof with
      | false => exact start ((ih ⟨⟨rf, b, rl, none, rb⟩, orc⟩ (want - out.length) hf).map _)
      | true =>
        simp only [FReader.withR]
        by_cases h0 : want - out.length = 0
        · simp only [h0, if_true]
          exact start (re' := none) ⟨rfl, hf⟩
        · simp only [h0, if_false]
          cases rb with
          | true => exact start (re' := none) ⟨rfl, hf⟩
          | false =>
            simp only [Bool.false_eq_true, if_false]
            have hn := gNextBlock_seqF hwf ⟨⟨rf, b, rl, some Err.eof, false⟩, orc⟩ hf
            refine start (hn.bind ?_)
            have hf' := hn.2
            rcases hnb : FReader.nextBlock _ with ⟨x', e⟩
            rw [hnb] at hf'
            cases e with
            | some e => exact ⟨rfl, hf'⟩
            | none =>
              exact (ih (x'.withR fun r => { r with err := none }) (want - out.length) hf').map _
    · simp only [gReadLoop, FReader.readLoop, hgo, if_false]
      exact ⟨rfl, hf⟩

theorem gRead_seqF {F : File} (hwf : WF F) (x : FReader) (hf : x.r.file = F) (n : Nat) :
    Runs F (gRead x.r n) x ((x.read n).1.r, (x.read n).2.1, (x.read n).2.2) (x.read n).1 := by
  simp only [gRead, FReader.read]
  cases he : x.r.err with
  | some e => exact ⟨rfl, hf⟩
  | none =>
    have hs := gSkipEmpty_seqF hwf x.r.skipFuel x hf
    refine hs.bind ?_
    generalize x.skipEmpty x.r.skipFuel = x1 at hs ⊢
    obtain ⟨⟨rf, rc, rl, re, rb⟩, orc⟩ := x1
    cases re with
    | some e => exact ⟨rfl, hs.2⟩
    | none => exact gReadLoop_seqF hwf _ ⟨⟨rf, rc, ⟨rc.tx, rl.fin⟩, none, rb⟩, orc⟩ n hs.2

theorem gReadByte_seqF {F : File} (hwf : WF F) (x : FReader) (hf : x.r.file = F) :
    Runs F (gReadByte x.r) x (x.readByte.1.r, x.readByte.2.1, x.readByte.2.2) x.readByte.1 := by
  simp only [gReadByte, FReader.readByte]
  cases he : x.r.err with
  | some e => exact ⟨rfl, hf⟩
  | none =>
    have hs := gSkipEmpty_seqF hwf x.r.skipFuel x hf
    refine hs.bind ?_
    generalize x.skipEmpty x.r.skipFuel = x1 at hs ⊢
    obtain ⟨⟨rf, rc, rl, re, rb⟩, orc⟩ := x1
    cases re with
    | some e => exact ⟨rfl, hs.2⟩
    | none =>
      simp only [FReader.withR]
      have hb : blkOf rc.readByte.2.2 = blkOf rc := blkOf_readByte rc
      rcases hrd : rc.readByte with ⟨c, eof, b⟩
      rw [hrd] at hb
      simp only at hb
      have start : ∀ {α : Type} {p : Prog α} {rl' re' a x'}, Runs F p ⟨⟨rf, b, rl', re', rb⟩, orc⟩ a x' →
          Runs F p ⟨⟨rf, rc, rl, none, rb⟩, orc⟩ a x' := fun h => ⟨by rw [← hb]; exact h.1, h.2⟩
      cases eof with
      | false => exact start (rl' := rl) (re' := none) ⟨rfl, hs.2⟩
      | true =>
        cases rb with
        | true => exact start (rl' := rl) (re' := none) ⟨rfl, hs.2⟩
        | false =>
          have hn := gNextBlock_seqF hwf ⟨⟨rf, b, ⟨rc.tx, rl.fin⟩, some Err.eof, false⟩, orc⟩ hs.2
          exact start (hn.bind ⟨rfl, hn.2⟩)

theorem gSeek_seqF {F : File} (hwf : WF F) (x : FReader) (hf : x.r.file = F) (off : Offset) :
    Runs F (gSeek x.r off) x ((x.seek off).1.r, (x.seek off).2) (x.seek off).1 := by
  by_cases h : off.file ≠ x.r.cur.base ∨ x.r.cur.hasData = false
  · have hp := popF_loadAt hwf x hf off.file
    simp only [Runs, gSeek, FReader.seek, h, if_true, Prog.seqF, respF, seek_fast_iff, not_true, if_false, hp.1]
    rcases hl : x.loadAt off.file with ⟨x', e⟩
    rw [hl] at hp
    simp only at hp
    cases e with
    | some e =>
      simp only [Prog.seqF, FReader.withR]
      exact ⟨by rw [← hp.2.1], hp.2.2⟩
    | none =>
      simp only [Prog.seqF, FReader.withR]
      exact ⟨by rw [← hp.2.1]; rfl, hp.2.2⟩
  · simp only [Runs, gSeek, FReader.seek, h, if_false, Prog.seqF, respF, seek_fast_iff, not_false_eq_true, if_true,
      FReader.withR]
    exact ⟨rfl, hf⟩

theorem gStepF_seqF {F : File} (hwf : WF F) (x : FReader) (hf : x.r.file = F) (op : Hts.Spec.Flat.Op) :
    Runs F (gStepF x.r op) x ((x.step op).1.r, (x.step op).2) (x.step op).1 := by
  cases op with
  | read n => exact (gRead_seqF hwf x hf n).map _
  | readByte => exact (gReadByte_seqF hwf x hf).map _
  | seek o => exact (gSeek_seqF hwf x hf o).map _
  | setBlocked b => exact ⟨rfl, hf⟩

theorem gRunF_seqF {F : File} (hwf : WF F) : ∀ (ops : List Hts.Spec.Flat.Op) (x : FReader), x.r.file = F →
    ((gRunF x.r ops).seqF F (blkOf x.r.cur) x.oracle).1 = (x.run ops).map fun p => (p.1, p.2.r) := by
  intro ops
  induction ops with
  | nil => intro x _; rfl
  | cons op ops ih =>
    intro x hf
    have h := gStepF_seqF hwf x hf op
    simp only [gRunF, FReader.run, Prog.seqF_bind, h.1]
    rw [ih _ h.2]
    rfl

/-- The identity after the call is again that of a byte-level block with `IdOK` (`∃ b', … = blkOf b' ∧ IdOK F b'`):
`Prog.seq` runs on identities, `IdOK` speaks of blocks, and `respF … .next` is right only for an identity with a base. -/
theorem respF_nil {F : File} (hwf : WF F) {b : Block} (hid : IdOK F b) (cl : Call) :
    respF F (blkOf b) cl [] = (blockOf F (seqNext (chainOf F) (blkOf b) cl), seqNext (chainOf F) (blkOf b) cl, []) ∧
    ∃ b', seqNext (chainOf F) (blkOf b) cl = blkOf b' ∧ IdOK F b' := by
  cases cl with
  | next =>
    have h := seqNext_next hid
    refine ⟨?_, _, h.trans (blkOf_load hwf b _).symm, idOK_load hwf _ _⟩
    simp only [respF, next_target, popF, h]
  | seek off =>
    by_cases h : off ≠ b.base ∨ b.hasData = false
    · refine ⟨?_, _, (seqNext_seek_slow h).trans (blkOf_load hwf b off).symm, idOK_load hwf _ _⟩
      simp only [respF, seek_fast_iff, h, not_true, if_false, popF, seqNext_seek_slow h]
    · exact ⟨by simp only [respF, seek_fast_iff, h, not_false_eq_true, if_true, seqNext_seek_fast h],
        b, seqNext_seek_fast h, hid⟩

theorem Prog.seqF_nil {α : Type} {F : File} (hwf : WF F) (p : Prog α) : ∀ {b : Block}, IdOK F b →
    p.seqF F (blkOf b) [] = ((p.seq F (blkOf b)).1, (p.seq F (blkOf b)).2, []) ∧
    ∃ b', (p.seq F (blkOf b)).2 = blkOf b' ∧ IdOK F b' := by
  induction p with
  | done a => exact fun hid => ⟨rfl, _, rfl, hid⟩
  | call cl k ih =>
    intro b hid
    obtain ⟨h1, b', h2, hid'⟩ := respF_nil hwf hid cl
    simp only [Prog.seqF, Prog.seq, h1, h2]
    exact ih _ hid'

theorem seq_of_seqF {α β : Type} {F : File} (hwf : WF F) {p : Prog α} {r r' : Reader} {a : α} (hr : Tracks F r)
    (h : Runs F p ⟨r, []⟩ a ⟨r', []⟩) (f : α → β) :
    (p.bind fun q => .done (f q)).seq F (blkOf r.cur) = (f a, blkOf r'.cur) ∧ Tracks F r' := by
  obtain ⟨h1, b', h2, hid⟩ := Prog.seqF_nil hwf p hr.2
  rw [h.1] at h1
  have ha := (Prod.mk.inj h1).1
  have hb := (Prod.mk.inj (Prod.mk.inj h1).2).1
  refine ⟨by rw [Prog.seq_bind, ← ha, ← hb]; rfl, h.2, ?_⟩
  unfold IdOK at hid ⊢
  rw [hb, h2]; exact hid

theorem gStep_seq {F : File} (hwf : WF F) {r : Reader} (hr : Tracks F r) (op : Hts.Spec.Flat.Op) :
    (gStep r op).seq F (blkOf r.cur) = (r.step op, blkOf (r.step op).1.cur) ∧ Tracks F (r.step op).1 := by
  cases op with
  | read n =>
    have h := gRead_seqF hwf ⟨r, []⟩ hr.1 n
    rw [FReader.read_nofault] at h
    exact seq_of_seqF hwf hr h _
  | readByte =>
    have h := gReadByte_seqF hwf ⟨r, []⟩ hr.1
    rw [FReader.readByte_nofault] at h
    exact seq_of_seqF hwf hr h _
  | seek o =>
    have h := gSeek_seqF hwf ⟨r, []⟩ hr.1 o
    rw [FReader.seek_nofault] at h
    exact seq_of_seqF hwf hr h _
  | setBlocked b => exact ⟨rfl, hr⟩

/-- Run with the sequential blocks, the program of a history is `Reader.run`. -/
theorem gRun_seq {F : File} (hwf : WF F) : ∀ (ops : List Hts.Spec.Flat.Op) (r : Reader), Tracks F r →
    ((gRun r ops).seq F (blkOf r.cur)).1 = r.run ops := by
  intro ops
  induction ops with
  | nil => intro r _; rfl
  | cons op ops ih =>
    intro r hr
    have h := gStep_seq hwf hr op
    simp only [gRun, Reader.run, Prog.seq_bind, h.1]
    rw [ih _ h.2]
    rfl

theorem client_seq {α : Type} {F : File} (hwf : WF F) (c : Client α) : ∀ (r : Reader), Tracks F r →
    ((c.prog r).seq F (blkOf r.cur)).1 = c.run r := by
  induction c with
  | done a => intro r _; rfl
  | op o k ih =>
    intro r hr
    have h := gStep_seq hwf hr o
    simp only [Client.prog, Client.run, Prog.seq_bind, h.1]
    exact ih _ _ _ h.2

end Hts.Model.ReadAhead
