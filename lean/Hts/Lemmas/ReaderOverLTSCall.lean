/-
Read-ahead protocol, one call of the consumer at a time: whatever the interleaving and the faults, when the
consumer is back between calls the current block is one at the base asked for (`Installs`); without faults it is
the one the sequential reader would have (`seqNext`).  With faults, every execution of the byte-level consumer
over the protocol is an execution of the operational fault model of C09 (Model/BgzfReaderFaults.lean) for some
fault oracle.
-/
import Hts.Lemmas.ReaderOverLTS
namespace Hts.Model.ReadAhead

variable {cfg : Cfg}

theorem path_reachable {s t : State} (hr : Reachable cfg s) (h : Path cfg s t) : Reachable cfg t := by
  induction h with
  | refl => exact hr
  | tail _ hst ih => exact .step ih hst

theorem Path.head {s u t : State} (hsu : Step cfg s u) (h : Path cfg u t) : Path cfg s t := by
  induction h with
  | refl => exact .tail .refl hsu
  | tail _ hst ih => exact .tail ih hst

/-- The call loads at base `e`. -/
def Tgt (c0 : Blk) : Call → Nat → Prop
  | .next, e => c0.next = some e
  | .seek off, e => e = off ∧ ¬ (c0.base = some off ∧ good c0 = true)

/-- The call returns without a load (`nextBlock` on a failed block; `Seek` inside the current block). -/
def NoLoad (c0 : Blk) : Call → Prop
  | .next => c0.next = none
  | .seek off => c0.base = some off ∧ good c0 = true

/-- The current block after the call. -/
def Installs (c0 : Blk) (cl : Call) (b : Blk) : Prop :=
  (b = c0 ∧ NoLoad c0 cl) ∨ ∃ e, Tgt c0 cl e ∧ b.base = some e

/-- Where the consumer stands relative to the call `cl` it makes from a state with current block `c0` and
script `cl.op :: rest`: it has gone on to later operations (a trap: the script never grows again), it has not
started, or the operation is off the script and, by program counter: returned / returning / fetching base `e` /
(trap) panicked.
The lemmas below ask that `nexts` does not occur in `rest`: it is the one operation that starts its fetches while
staying at the head of the script, so with it `u.script = rest` would not tell that `cl` is the call under way. -/
def Phase (c0 : Blk) (cl : Call) (rest : List Op) (u : State) : Prop :=
  u.script.length < rest.length ∨ (u.cons = .idle ∧ u.script = cl.op :: rest ∧ u.cur = c0) ∨
  (u.script = rest ∧
    match u.cons with
    | .idle | .ret _ => Installs c0 cl u.cur
    | .scan e _ | .fetch e | .sel e | .sync e => Tgt c0 cl e
    | .drain e | .send e => Tgt c0 cl e ∧ u.cur.base = some e
    | .panicked => True
    | .closeW | .join | .closed => False)

variable {c0 : Blk} {cl : Call} {rest : List Op} {u v : State} {e : Option Ev}

theorem WkStep.phase {pc : Worker} (h : WkStep cfg u pc e v) (hp : Phase c0 cl rest u) : Phase c0 cl rest v := by
  obtain ⟨hc, hcur, -, -, hs, -⟩ := h.frame
  unfold Phase
  rw [hc, hcur, hs]; exact hp

theorem ApiStep.phase {pc : Cons} (h : ApiStep cfg u pc e v) (hc : u.cons = pc) (hn : Op.nexts ∉ rest)
    (hp : Phase c0 cl rest u) : Phase c0 cl rest v := by
  rcases hp with hl | ⟨hi, hs', hcur⟩ | ⟨hs', hp⟩
  · refine .inl (Nat.lt_of_le_of_lt ?_ hl)
    rcases h.script with h | ⟨-, op, h⟩ <;> simp [h]
  · obtain rfl : pc = .idle := hc.symm.trans hi
    cases h with
    | next hs he => cases cl <;> cases hs.symm.trans hs'; exact .inr (.inr ⟨rfl, hcur ▸ he⟩)
    | nextFailed hs he => cases cl <;> cases hs.symm.trans hs'; exact .inr (.inr ⟨rfl, .inl ⟨hcur, hcur ▸ he⟩⟩)
    | seekFast hs hf => cases cl <;> cases hs.symm.trans hs'; exact .inr (.inr ⟨rfl, .inl ⟨hcur, hcur ▸ hf⟩⟩)
    | seek hs hf => cases cl <;> cases hs.symm.trans hs'; exact .inr (.inr ⟨rfl, rfl, hcur ▸ hf⟩)
    | nextsDone hs | nextsMore hs | close hs | note hs => cases cl <;> cases hs.symm.trans hs'
  · rw [hc] at hp
    cases h with
    | scanHit _ hb => exact .inr (.inr ⟨hs', .inr ⟨_, hp, hb⟩⟩)
    | fetch hl | sync hl => exact .inr (.inr ⟨hs', hp, (doLoad_spec hl).1⟩)
    | selHit _ hg => exact .inr (.inr ⟨hs', hp, hg.2⟩)
    | send => exact .inr (.inr ⟨hs', .inr ⟨_, hp⟩⟩)
    | scanFailed | scanSkip | selStale | selIdle | drain | ret => exact .inr (.inr ⟨hs', hp⟩)
    | scanPanic => exact .inr (.inr ⟨hs', trivial⟩)
    | closeW | join => exact hp.elim
    | nextsDone hs | nextsMore hs => exact absurd (hs' ▸ hs ▸ .head _) hn
    | next hs | nextFailed hs | seekFast hs | seek hs | close hs | note hs =>
      -- the call has returned: the consumer starts the next one
      exact .inl (by rw [← hs', hs]; simp)

theorem phase_step (hn : Op.nexts ∉ rest) (hp : Phase c0 cl rest u) (h : Step cfg u v) : Phase c0 cl rest v := by
  obtain ⟨l, e, h⟩ := h
  exact (next_sound h).elim (·.phase rfl hn hp) (·.phase hp)

theorem phase_path {s t : State} (hn : Op.nexts ∉ rest) (hp : Phase c0 cl rest s) (h : Path cfg s t) :
    Phase c0 cl rest t := by
  induction h with
  | refl => exact hp
  | tail _ hst ih => exact phase_step hn ih hst

theorem Phase.start {s : State} (hc : s.cons = .idle) (hs : s.script = cl.op :: rest) : Phase s.cur cl rest s :=
  .inr (.inl ⟨hc, hs, rfl⟩)

theorem Phase.done {t : State} (hp : Phase c0 cl rest t) (htc : t.cons = .idle) (hts : t.script = rest) :
    Installs c0 cl t.cur := by
  rcases hp with hl | ⟨-, hs, -⟩ | ⟨-, hi⟩
  · rw [hts] at hl; exact absurd hl (Nat.lt_irrefl _)
  · rw [hts] at hs; exact absurd (congrArg List.length hs) (by simp)
  · rw [htc] at hi; exact hi

theorem call_installs_base {s t : State} (hc : s.cons = .idle) (hs : s.script = cl.op :: rest)
    (hn : Op.nexts ∉ rest) (hp : Path cfg s t) (htc : t.cons = .idle) (hts : t.script = rest) :
    Installs s.cur cl t.cur :=
  (phase_path hn (.start hc hs) hp).done htc hts

theorem call_installs {s t : State} (hf : cfg.faults = false) (hr : Reachable cfg s) (hc : s.cons = .idle)
    (hs : s.script = cl.op :: rest) (hn : Op.nexts ∉ rest) (hp : Path cfg s t) (htc : t.cons = .idle)
    (hts : t.script = rest) : t.cur = seqNext cfg.chain s.cur cl := by
  have hx := (exact_reachable hf (path_reachable hr hp)).cur
  rcases call_installs_base hc hs hn hp htc hts with ⟨hcur, hno⟩ | ⟨e, htg, hb⟩
  · -- no load: the sequential reader keeps its block too
    rw [hcur]
    cases cl with
    | next => simp [seqNext, show s.cur.next = none from hno]
    | seek off => exact (if_pos hno).symm
  · rw [blk_eq_of_exact hb hx]
    cases cl with
    | next => simp [seqNext, show s.cur.next = some e from htg]
    | seek off =>
      obtain ⟨rfl, hnf⟩ : e = off ∧ ¬ (s.cur.base = some off ∧ good s.cur = true) := htg
      exact (if_neg hnf).symm

theorem over_eq_seq {α : Type} {F : Bgzf.File} (hf : cfg.faults = false) (hch : cfg.chain = chainOf F)
    {p : Prog α} {s t : State} {a : α} (h : Over cfg F p s a t) (hr : Reachable cfg s)
    (hn : Op.nexts ∉ s.script) : a = (p.seq F s.cur).1 := by
  induction h with
  | done => rfl
  | @call cl k rest s t u a hc hs hp htc hts _ ih =>
    rw [hs] at hn
    have hn' : Op.nexts ∉ rest := fun hh => hn (.tail _ hh)
    have hcur := call_installs hf hr hc hs hn' hp htc hts
    rw [hch] at hcur
    rw [ih (path_reachable hr hp) (hts ▸ hn'), hcur]
    rfl

theorem call_returns_from (hc : cfg.OK) (hnr : Op.nexts ∉ rest) :
    ∀ (u : State), Reachable cfg u → Op.nexts ∉ u.script → Phase c0 cl rest u →
      rest.length ≤ u.script.length → ∃ t, Path cfg u t ∧ t.cons = .idle ∧ t.script = rest := by
  intro u hr hn
  refine comes_to_done hc (P := fun u => Phase c0 cl rest u →
      rest.length ≤ u.script.length → ∃ t, Path cfg u t ∧ t.cons = .idle ∧ t.script = rest) ?_ ?_ hr hn
  · -- the consumer is done: by `Phase` it is back from this call
    intro u hdone hp hlen
    have hp' := hp.resolve_left (Nat.not_lt.mpr hlen)
    rcases hdone with ⟨hi, hs⟩ | hcl
    · rcases hp' with ⟨-, hs', -⟩ | ⟨hs', -⟩
      · rw [hs] at hs'; cases hs'
      · exact ⟨u, .refl, hi, hs'⟩
    · rcases hp' with ⟨hi, -⟩ | ⟨-, hp'⟩
      · rw [hcl] at hi; cases hi
      · rw [hcl] at hp'; exact hp'.elim
  · intro u v l e hst ih hp hlen
    by_cases hd : u.cons = .idle ∧ u.script = rest
    · exact ⟨u, .refl, hd⟩
    have hp' := hp.resolve_left (Nat.not_lt.mpr hlen)
    -- one step takes at most the call's own operation off the script
    have hlen' : rest.length ≤ v.script.length := by
      rcases next_script hst with h | ⟨hi, op, h⟩
      · rw [h]; exact hlen
      · rcases hp' with ⟨-, hs, -⟩ | ⟨hs, -⟩
        · rw [hs] at h; rw [(List.cons.inj h).2]; exact Nat.le_refl _
        · exact absurd ⟨hi, hs⟩ hd
    obtain ⟨t, hpt, ht⟩ := ih (phase_step hnr hp ⟨l, e, hst⟩) hlen'
    exact ⟨t, Path.head ⟨l, e, hst⟩ hpt, ht⟩

theorem calls_no_nexts {α : Type} (F : Bgzf.File) (p : Prog α) (c : Blk) : Op.nexts ∉ p.calls F c := by
  induction p generalizing c with
  | done a => simp [Prog.calls]
  | call cl k ih =>
    simp only [Prog.calls, List.mem_cons, not_or]
    exact ⟨by cases cl <;> simp [Call.op], ih _ _⟩

theorem over_exists {α : Type} {F : Bgzf.File} (hc : cfg.OK) (hf : cfg.faults = false)
    (hch : cfg.chain = chainOf F) (p : Prog α) : ∀ (s : State) (tl : List Op), Reachable cfg s →
    s.cons = .idle → s.script = p.calls F s.cur ++ tl → Op.nexts ∉ tl → ∃ a t, Over cfg F p s a t := by
  induction p with
  | done a => intro s tl _ _ _ _; exact ⟨a, s, .done⟩
  | call cl k ih =>
    intro s tl hr hci hs hn
    have hns : Op.nexts ∉ s.script := by
      rw [hs]; simp only [List.mem_append, not_or]; exact ⟨calls_no_nexts F _ _, hn⟩
    simp only [Prog.calls, List.cons_append] at hs
    have hnr := fun hh => hns (hs ▸ .tail _ hh)
    obtain ⟨t, hp, h1, h2⟩ := call_returns_from hc hnr s hr hns (.start hci hs) (by simp [hs])
    have hcur := call_installs hf hr hci hs hnr hp h1 h2
    rw [hch] at hcur
    obtain ⟨a, u, ho⟩ := ih (blockOf F t.cur) t tl (path_reachable hr hp) h1 (by rw [h2, hcur]) hn
    exact ⟨a, u, .call hci hs hp h1 h2 ho⟩

open Hts.Model.Bgzf

theorem tracks_new {F : File} (hwf : WF F) {r0 : Reader} (h0 : Reader.new F = .ok r0) :
    Tracks F r0 ∧ ∀ rd script faults, (init ⟨rd, chainOf F, script, faults⟩).cur = blkOf r0.cur := by
  obtain ⟨m, post, rfl, rfl⟩ := Reader.new_ok h0
  -- the first block is the load at 0: `(Block.load F b 0).1` reduces to `b`, which is why the two lemmas apply to `r0.cur`
  let b : Block := ⟨0, m.csize, m.data, 0, ⟨0, 0⟩⟩
  exact ⟨⟨rfl, idOK_load hwf b 0⟩, fun _ _ _ => (blkOf_load hwf b 0).symm⟩

theorem over_init_eq_seq {α : Type} {F : File} (hwf : WF F) {r0 : Reader} (h0 : Reader.new F = .ok r0) {p : Prog α}
    {rd : Nat} {script : List Op} (hn : Op.nexts ∉ script) {a : α} {t : State}
    (h : Over ⟨rd, chainOf F, script, false⟩ F p (init ⟨rd, chainOf F, script, false⟩) a t) :
    a = (p.seq F (blkOf r0.cur)).1 ∧ Tracks F r0 := by
  have ht := tracks_new hwf h0
  rw [over_eq_seq (cfg := ⟨rd, chainOf F, script, false⟩) rfl rfl h .init hn, ht.2]
  exact ⟨rfl, ht.1⟩

theorem popF_choice (F : File) (e : Nat) (nx : Option Nat) (h : nx = chainOf F e ∨ nx = none)
    (orc' : List LoadFault) :
    ∃ f, popF F e (f :: orc') = (blockOf F ⟨some e, nx⟩, ⟨some e, nx⟩, orc') := by
  by_cases hc : nx = chainOf F e
  · exact ⟨.ok, by rw [hc]; rfl⟩
  · cases h.resolve_left hc
    cases hch : chainOf F e with
    | none => exact absurd hch.symm hc
    | some m =>
      refine ⟨.err, ?_⟩
      simp only [popF, blockOf, failErr_of_chain hch]

theorem respF_choice (F : File) (c t : Blk) (cl : Call) (hfin : Installs c cl t)
    (hwf : WFBlk (chainOf F) t) (hcb : ∃ b, c.base = some b) (orc' : List LoadFault) :
    ∃ orc, respF F c cl orc = (blockOf F t, t, orc') := by
  rcases hfin with ⟨rfl, hno⟩ | ⟨e, htg, hbase⟩
  · cases cl with
    | seek off => exact ⟨orc', if_pos hno⟩
    | next =>
      obtain ⟨b, hb⟩ := hcb
      obtain ⟨tb, tn⟩ := t
      cases hb
      cases (hno : tn = none)
      obtain ⟨f, hf⟩ := popF_choice F b none (.inr rfl) orc'
      exact ⟨f :: orc', hf⟩
  · obtain ⟨tb, tn⟩ := t
    cases hbase
    obtain ⟨f, hf⟩ := popF_choice F e tn hwf orc'
    cases cl with
    | next => exact ⟨f :: orc', by rw [← hf, respF, (htg : c.next = some e)]; rfl⟩
    | seek off =>
      obtain ⟨rfl, hnf⟩ : e = off ∧ ¬ (c.base = some off ∧ good c = true) := htg
      exact ⟨f :: orc', (if_neg hnf).trans hf⟩

theorem over_faults_eq_seqF {α : Type} {F : File} (hch : cfg.chain = chainOf F)
    {p : Prog α} {s t : State} {a : α} (h : Over cfg F p s a t) (hr : Reachable cfg s)
    (hn : Op.nexts ∉ s.script) (hb : ∃ b, s.cur.base = some b) :
    ∃ orc, a = (p.seqF F s.cur orc).1 := by
  induction h with
  | done => exact ⟨[], rfl⟩
  | @call cl k rest s t u a hci hs hp htc hts _ ih =>
    rw [hs] at hn
    have hn' : Op.nexts ∉ rest := fun hh => hn (.tail _ hh)
    have hfin := call_installs_base hci hs hn' hp htc hts
    have hrt := path_reachable hr hp
    have hwf : WFBlk (chainOf F) t.cur := hch ▸ (wf_reachable hrt).1
    have hbt : ∃ b, t.cur.base = some b := by
      rcases hfin with ⟨h1, _⟩ | ⟨e, _, h1⟩
      · rw [h1]; exact hb
      · exact ⟨e, h1⟩
    obtain ⟨orc', ho⟩ := ih hrt (by rw [hts]; exact hn') hbt
    obtain ⟨orc, hresp⟩ := respF_choice F s.cur t.cur cl hfin hwf hb orc'
    exact ⟨orc, by simp only [Prog.seqF, hresp]; exact ho⟩

theorem over_history_is_fault_model {F : File} (hwf : WF F) {r0 : Reader} (h0 : Reader.new F = .ok r0)
    (ops : List Hts.Spec.Flat.Op) (rd : Nat) (_hrd : 2 ≤ rd) (script : List Op) (hn : Op.nexts ∉ script)
    (outs : List (Out × Reader)) (t : State)
    (h : Over ⟨rd, chainOf F, script, true⟩ F (gRunF r0 ops) (init ⟨rd, chainOf F, script, true⟩) outs t) :
    ∃ oracle, outs = ((FReader.mk r0 oracle).run ops).map fun p => (p.1, p.2.r) := by
  -- `_hrd` is there for `Props.C09.reader_rd_is_fault_model`, whose statement has it; nothing below needs `cfg.OK`
  have ht := tracks_new hwf h0
  obtain ⟨orc, ho⟩ := over_faults_eq_seqF (cfg := ⟨rd, chainOf F, script, true⟩) rfl h .init hn ⟨0, rfl⟩
  rw [ho, ht.2]
  exact ⟨orc, gRunF_seqF hwf ops ⟨r0, orc⟩ ht.1.1⟩

end Hts.Model.ReadAhead
