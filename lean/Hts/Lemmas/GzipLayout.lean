/-
The byte layout of a gzip member header with FEXTRA, an optional file name, an optional comment and no
header CRC (RFC 1952 §2.3), with every field a variable.  The three header parsers of the development
(`Hts.Spec.Rfc1952.parseMember`, `Hts.Model.Member.readHeader`, `Hts.Model.BgzfBytes.readHeader`) are each
shown once to read this layout (`parseMember_layout` in Hts.Lemmas.BgzfSpec, `readHeader_layout` in
Hts.Lemmas.BgzfMember and in Hts.Lemmas.BgzfBytes); bgzf.Writer's header, the 18-byte default header and the EOF
marker are instances.
-/
namespace Hts.Lemmas.Gzip

/-- an optional NUL-terminated header field on the wire -/
def zfield (present : Bool) (bs : List UInt8) : List UInt8 := if present then bs ++ [0] else []

structure Layout where
  flg : UInt8
  m0 : UInt8
  m1 : UInt8
  m2 : UInt8
  m3 : UInt8
  xfl : UInt8
  os : UInt8
  /-- XLEN, low and high byte -/
  x0 : UInt8
  x1 : UInt8
  extra : List UInt8
  hasName : Bool
  name : List UInt8
  hasComment : Bool
  comment : List UInt8

namespace Layout

def bytes (L : Layout) : List UInt8 :=
  0x1f :: 0x8b :: 8 :: L.flg :: L.m0 :: L.m1 :: L.m2 :: L.m3 :: L.xfl :: L.os :: L.x0 :: L.x1 ::
    (L.extra ++ (zfield L.hasName L.name ++ zfield L.hasComment L.comment))

theorem bytes_length (L : Layout) :
    L.bytes.length = 12 + L.extra.length + (zfield L.hasName L.name).length + (zfield L.hasComment L.comment).length := by
  simp only [bytes, List.length_cons, List.length_append]; omega

structure WF (L : Layout) : Prop where
  xlen : L.x0.toNat + 256 * L.x1.toNat = L.extra.length
  name_nz : ∀ b ∈ L.name, b ≠ 0
  comment_nz : ∀ b ∈ L.comment, b ≠ 0

/-- the strings fit gzip.Reader's 512-byte buffer (with their NUL) -/
def Short (L : Layout) : Prop := L.name.length < 512 ∧ L.comment.length < 512

end Layout
end Hts.Lemmas.Gzip
