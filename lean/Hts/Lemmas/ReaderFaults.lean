/-
The outcome model of a source that is cut or fails at a byte position (Model/ReaderFaults.lean, property C09):
the facts about `readAll` from any starting offset, as the induction over the members needs them; `readAllLen` is
`readAll` on lengths.
-/
import Hts.Model.ReaderFaults
namespace Hts.Model.ReaderFaults

theorem readAll_nil (cut : Option Nat) (kind : FaultKind) (off : Nat) :
    readAll cut kind off [] =
      match cut, kind with
      | some p, .err => if p ≤ off then ([], .err) else ([], .eof)
      | _, _ => ([], .eof) := rfl

theorem readAll_cons (cut : Option Nat) (kind : FaultKind) (off : Nat) (m : Member) (ms : List Member) :
    readAll cut kind off (m :: ms) =
      if available cut off m.csize then
        (m.payload ++ (readAll cut kind (off + m.csize) ms).1, (readAll cut kind (off + m.csize) ms).2)
      else
        match cut, kind with
        | some p, .eof => if p = off then ([], .eof) else ([], .err)
        | _, _ => ([], .err) := rfl

theorem readAllLen_nil (cut : Option Nat) (kind : FaultKind) (off : Nat) :
    readAllLen cut kind off [] =
      match cut, kind with
      | some p, .err => if p ≤ off then (0, .err) else (0, .eof)
      | _, _ => (0, .eof) := rfl

theorem readAllLen_cons (cut : Option Nat) (kind : FaultKind) (off c n : Nat) (ms : List (Nat × Nat)) :
    readAllLen cut kind off ((c, n) :: ms) =
      if available cut off c then
        (n + (readAllLen cut kind (off + c) ms).1, (readAllLen cut kind (off + c) ms).2)
      else
        match cut, kind with
        | some p, .eof => if p = off then (0, .eof) else (0, .err)
        | _, _ => (0, .err) := rfl

theorem readAll_prefix (cut : Option Nat) (kind : FaultKind) :
    ∀ (off : Nat) (ms : List Member), ∃ rest, flat ms = (readAll cut kind off ms).1 ++ rest := by
  intro off ms
  induction ms generalizing off with
  | nil =>
    refine ⟨[], ?_⟩
    rw [readAll_nil]
    split
    · split <;> rfl
    · rfl
  | cons m ms ih =>
    rw [readAll_cons]
    split
    · obtain ⟨rest, hr⟩ := ih (off + m.csize)
      refine ⟨rest, ?_⟩
      simp only [flat, List.map_cons, List.flatten_cons] at hr ⊢
      rw [hr, List.append_assoc]
    · refine ⟨flat (m :: ms), ?_⟩
      split
      · split <;> rfl
      · rfl

theorem readAll_eof (cut : Option Nat) (kind : FaultKind) :
    ∀ (off : Nat) (ms : List Member), (readAll cut kind off ms).2 = .eof →
      (readAll cut kind off ms).1 = flat ms ∨
      (kind = .eof ∧ ∃ p, cut = some p ∧ p ∈ boundaries off ms) := by
  intro off ms
  induction ms generalizing off with
  | nil =>
    intro _
    left
    rw [readAll_nil]
    split
    · split <;> rfl
    · rfl
  | cons m ms ih =>
    intro h
    rw [readAll_cons] at h ⊢
    split at h
    next hav =>
      simp only [hav, if_true]
      rcases ih (off + m.csize) h with ih | ⟨hk, p, hp, hm⟩
      · left
        simp only [ih, flat, List.map_cons, List.flatten_cons]
      · exact .inr ⟨hk, p, hp, by simp [boundaries, hm]⟩
    next =>
      split at h
      next p _ =>
        split at h
        next hpo => exact .inr ⟨rfl, p, rfl, by simp [boundaries, hpo]⟩
        next => cases h
      next => cases h

theorem readAll_err_reported (p : Nat) :
    ∀ (off : Nat) (ms : List Member), p ≤ fileEnd off ms → (readAll (some p) .err off ms).2 = .err := by
  intro off ms
  induction ms generalizing off with
  | nil =>
    intro (h2 : p ≤ off)
    simp [readAll_nil, h2]
  | cons m ms ih =>
    intro h2
    rw [readAll_cons]
    split
    · exact ih (off + m.csize) h2
    · rfl

theorem readAllLen_eq (cut : Option Nat) (kind : FaultKind) :
    ∀ (off : Nat) (ms : List Member),
      readAllLen cut kind off (ms.map fun m => (m.csize, m.payload.length)) =
        ((readAll cut kind off ms).1.length, (readAll cut kind off ms).2) := by
  intro off ms
  induction ms generalizing off with
  | nil =>
    rw [List.map_nil, readAllLen_nil, readAll_nil]
    split
    · split <;> rfl
    · rfl
  | cons m ms ih =>
    rw [List.map_cons, readAllLen_cons, readAll_cons]
    split
    · simp [ih (off + m.csize)]
    · split
      · split <;> rfl
      · rfl

end Hts.Model.ReaderFaults
