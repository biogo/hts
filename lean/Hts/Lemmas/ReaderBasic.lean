/-
Basic facts for the bgzf reader model: well-formed files (and that their flat view is well-formed: `lwf_of_wf`,
`flatOf_wf`), `memberAt` on a split file, what `NewReader` returns (`Reader.new_ok`), two splits of one file
compared, and the layout functions and the bytes of the flat specification on a split file.
-/
import Hts.Model.BgzfReader
import Hts.Lemmas.FlatSpec
namespace Hts.Model.Bgzf
open Hts.Spec.Flat

/-- Sum of the compressed sizes = compressed offset after these members. -/
def csum : File → Nat
  | [] => 0
  | m :: rest => m.csize + csum rest

def flatLen : File → Nat
  | [] => 0
  | m :: rest => m.data.length + flatLen rest

/-- Well-formed file: every member has a positive compressed size and fewer than 2^16 bytes of data
(the library's writer never exceeds `BlockSize = 0xff00`). -/
def WF (f : File) : Prop := ∀ m ∈ f, 0 < m.csize ∧ m.data.length < 65536

theorem WF.cons {m : Member} {f : File} (h : WF (m :: f)) : 0 < m.csize ∧ m.data.length < 65536 ∧ WF f :=
  ⟨(h m (by simp)).1, (h m (by simp)).2, fun x hx => h x (by simp [hx])⟩

theorem WF.append_left {f g : File} (h : WF (f ++ g)) : WF f := fun x hx => h x (by simp [hx])
theorem WF.append_right {f g : File} (h : WF (f ++ g)) : WF g := fun x hx => h x (by simp [hx])
theorem WF.mid {pre post : File} {m : Member} (h : WF (pre ++ m :: post)) :
    0 < m.csize ∧ m.data.length < 65536 := h m (by simp)

@[simp] theorem csum_append (f g : File) : csum (f ++ g) = csum f + csum g := by
  induction f with
  | nil => simp [csum]
  | cons m f ih => simp [csum, ih]; omega

@[simp] theorem flatLen_append (f g : File) : flatLen (f ++ g) = flatLen f + flatLen g := by
  induction f with
  | nil => simp [flatLen]
  | cons m f ih => simp [flatLen, ih]; omega

@[simp] theorem flatBytes_append (f g : File) : flatBytes (f ++ g) = flatBytes f ++ flatBytes g := by
  induction f with
  | nil => simp [flatBytes]
  | cons m f ih => simp [flatBytes, ih]

@[simp] theorem flatBytes_length (f : File) : (flatBytes f).length = flatLen f := by
  induction f with
  | nil => simp [flatBytes, flatLen]
  | cons m f ih => simp [flatBytes, flatLen, ih]

@[simp] theorem layoutOf_append (f g : File) : layoutOf (f ++ g) = layoutOf f ++ layoutOf g := by
  induction f with
  | nil => simp [layoutOf]
  | cons m f ih => simp [layoutOf, ih]

theorem lwf_of_wf {F : File} (h : WF F) : LWF (layoutOf F) := by
  induction F with
  | nil => exact List.forall_mem_nil _
  | cons m F ih =>
    have ⟨hc, hl, hw⟩ := WF.cons h
    exact List.forall_mem_cons.mpr ⟨⟨hc, hl⟩, ih hw⟩

@[simp] theorem total_layoutOf (f : File) : total (layoutOf f) = flatLen f := by
  induction f with
  | nil => simp [layoutOf, total, flatLen]
  | cons m f ih => simp [layoutOf, total, flatLen, ih]

@[simp] theorem fileLen_layoutOf (f : File) : fileLen (layoutOf f) = csum f := by
  induction f with
  | nil => simp [layoutOf, fileLen, csum]
  | cons m f ih => simp [layoutOf, fileLen, csum, ih]

theorem flatOf_wf {F : File} (h : WF F) : (flatOf F).WF :=
  ⟨by simp [flatOf], lwf_of_wf h⟩

theorem memberAt_append (pre post : File) (x : Nat) (h : WF pre) :
    memberAt (pre ++ post) (csum pre + x) = memberAt post x := by
  induction pre with
  | nil => simp [csum]
  | cons m pre ih =>
    have ⟨hc, _, hw⟩ := WF.cons h
    rw [List.cons_append, csum, memberAt, if_neg (by omega), if_neg (by omega), Nat.add_assoc,
      Nat.add_sub_cancel_left]
    exact ih hw

theorem memberAt_split (pre post : File) (h : WF pre) :
    memberAt (pre ++ post) (csum pre) = memberAt post 0 := by
  simpa using memberAt_append pre post 0 h

theorem memberAt_zero_cons (m : Member) (post : File) : memberAt (m :: post) 0 = .ok m := by
  simp [memberAt]

theorem memberAt_zero_nil : memberAt [] 0 = .eof := by simp [memberAt]

theorem memberAt_after {pre : File} {m : Member} {post : File} (hwf : WF (pre ++ m :: post)) :
    memberAt (pre ++ m :: post) (csum pre + m.csize) = memberAt post 0 := by
  rw [memberAt_append pre _ _ hwf.append_left, memberAt, if_neg (Nat.ne_of_gt (WF.mid hwf).1),
    if_neg (Nat.lt_irrefl _), Nat.sub_self]

theorem load_after {F pre post : File} {m : Member} (hwf : WF F) (hs : F = pre ++ m :: post) (b : Block) :
    Block.load F b (csum pre + m.csize) =
      match post with
      | [] => (Block.failed (csum pre + m.csize), some .eof)
      | m' :: _ => (⟨csum (pre ++ [m]), m'.csize, m'.data, 0, ⟨csum (pre ++ [m]), 0⟩⟩, none) := by
  subst hs
  cases post <;> simp [Block.load, memberAt_after hwf, memberAt_zero_nil, memberAt_zero_cons, csum]

theorem memberAt_mid {pre : File} {m : Member} {post : File} (hwf : WF (pre ++ m :: post)) :
    memberAt (pre ++ m :: post) (csum pre) = .ok m := by
  rw [memberAt_split pre _ hwf.append_left, memberAt_zero_cons]

theorem memberAt_mem {f : File} {off : Nat} {m : Member} (h : memberAt f off = .ok m) : m ∈ f := by
  induction f generalizing off with
  | nil => cases off <;> simp [memberAt] at h
  | cons a f ih =>
    simp only [memberAt] at h
    by_cases h0 : off = 0
    · simp only [h0, if_true, Load.ok.injEq] at h; simp [h]
    · simp only [h0, if_false] at h
      by_cases h1 : off < a.csize
      · simp [h1] at h
      · simp only [h1, if_false] at h
        exact List.mem_cons_of_mem _ (ih h)

theorem Reader.new_ok {F : File} {r0 : Reader} (h : Reader.new F = .ok r0) :
    ∃ m post, F = m :: post ∧ r0 = ⟨F, ⟨0, m.csize, m.data, 0, ⟨0, 0⟩⟩, ⟨⟨0, 0⟩, ⟨0, 0⟩⟩, none, false⟩ := by
  cases F with
  | nil => simp [Reader.new, memberAt] at h
  | cons m post =>
    simp only [Reader.new, memberAt_zero_cons, Except.ok.injEq] at h
    exact ⟨m, post, rfl, h.symm⟩

theorem split_cases {pre pre' post post' : File} {m m' : Member} (he : pre ++ m :: post = pre' ++ m' :: post') :
    (pre = pre' ∧ m = m' ∧ post = post') ∨ (∃ mid, pre' = pre ++ m :: mid) ∨ (∃ mid, pre = pre' ++ m' :: mid) := by
  rcases List.append_eq_append_iff.mp he with ⟨a, rfl, h⟩ | ⟨a, rfl, h⟩
  · cases a with
    | nil => simp at h; exact Or.inl ⟨by simp, h.1, h.2⟩
    | cons x a => simp at h; exact Or.inr (Or.inl ⟨a, by rw [h.1]⟩)
  · cases a with
    | nil => simp at h; exact Or.inl ⟨by simp, h.1.symm, h.2.symm⟩
    | cons x a => simp at h; exact Or.inr (Or.inr ⟨a, by rw [h.1]⟩)

theorem split_unique {pre pre' post post' : File} {m m' : Member}
    (hwf : WF (pre ++ m :: post)) (he : pre ++ m :: post = pre' ++ m' :: post')
    (hc : csum pre = csum pre') : pre = pre' ∧ m = m' ∧ post = post' := by
  have h1 := (WF.mid hwf).1
  have h2 := (WF.mid (he ▸ hwf)).1
  rcases split_cases he with h | ⟨mid, rfl⟩ | ⟨mid, rfl⟩
  · exact h
  · simp [csum] at hc; omega
  · simp [csum] at hc; omega

theorem split_lt {pre pre' post post' : File} {m m' : Member} (he : pre ++ m :: post = pre' ++ m' :: post')
    (hc : csum pre < csum pre') : ∃ mid, pre' = pre ++ m :: mid := by
  rcases split_cases he with ⟨rfl, -, -⟩ | h | ⟨mid, rfl⟩
  · omega
  · exact h
  · simp [csum] at hc; omega

theorem csum_lt_of_split (pre post : File) (m : Member) (hwf : WF (pre ++ m :: post)) :
    csum pre < csum (pre ++ m :: post) := by
  have := (hwf m (by simp)).1
  simp [csum]; omega

theorem seekTarget_split (pre post : File) (m : Member) (k : Nat) (h : WF pre)
    (hk : k ≤ m.data.length) :
    seekTarget (layoutOf (pre ++ m :: post)) ⟨csum pre, k⟩ = some (flatLen pre + k) := by
  induction pre with
  | nil => simp [layoutOf, seekTarget, csum, flatLen, hk]
  | cons a pre ih =>
    have ⟨hc, _, hw⟩ := WF.cons h
    have := seekTarget_shift ⟨a.data.length, a.csize⟩ (layoutOf (pre ++ m :: post)) ⟨csum pre, k⟩ hc
    rw [ih hw] at this
    simpa [layoutOf, csum, flatLen, Offset.shift, Nat.add_comm, Nat.add_left_comm] using this

theorem seekTarget_some (f : File) (o : Offset) (p : Nat) (h : WF f)
    (hs : seekTarget (layoutOf f) o = some p) :
    ∃ pre m post, f = pre ++ m :: post ∧ o = ⟨csum pre, o.block⟩ ∧ o.block ≤ m.data.length ∧
      p = flatLen pre + o.block := by
  induction f generalizing o p with
  | nil => simp [layoutOf, seekTarget] at hs
  | cons a f ih =>
    have ⟨hc, _, hw⟩ := WF.cons h
    obtain ⟨file, block⟩ := o
    simp only [layoutOf, seekTarget] at hs
    by_cases h0 : file = 0
    · rw [if_pos h0] at hs
      by_cases hb : block ≤ a.data.length
      · rw [if_pos hb] at hs
        cases hs
        exact ⟨[], a, f, rfl, by rw [h0]; rfl, hb, (Nat.zero_add _).symm⟩
      · rw [if_neg hb] at hs; cases hs
    · rw [if_neg h0] at hs
      by_cases h1 : file < a.csize
      · rw [if_pos h1] at hs; cases hs
      · rw [if_neg h1] at hs
        obtain ⟨q, hq, rfl⟩ := Option.map_eq_some_iff.mp hs
        obtain ⟨pre, m, post, rfl, ho, hb, rfl⟩ := ih ⟨file - a.csize, block⟩ q hw hq
        simp only [Offset.mk.injEq, and_true] at ho
        exact ⟨a :: pre, m, post, rfl, by simp only [csum, Offset.mk.injEq, and_true]; omega, hb,
          by simp only [flatLen]; omega⟩

theorem seekTarget_member (f : File) (o : Offset) (p : Nat) (h : WF f)
    (hs : seekTarget (layoutOf f) o = some p) :
    ∃ pre m post, f = pre ++ m :: post ∧ o = ⟨csum pre, o.block⟩ ∧ o.block ≤ m.data.length ∧
      p = flatLen pre + o.block ∧ memberAt f o.file = .ok m ∧ o.block % 65536 = o.block := by
  obtain ⟨pre, m, post, hF, ho, hb, hp⟩ := seekTarget_some f o p h hs
  refine ⟨pre, m, post, hF, ho, hb, hp, ?_, Nat.mod_eq_of_lt (by have := (WF.mid (hF ▸ h)).2; omega)⟩
  rw [ho, hF]; exact memberAt_mid (hF ▸ h)

theorem offBefore_split (pre post : File) (m : Member) (k : Nat) (hk : k < m.data.length) :
    offBefore (layoutOf (pre ++ m :: post)) (flatLen pre + k) = ⟨csum pre, k⟩ := by
  induction pre with
  | nil => simp [layoutOf, offBefore, csum, flatLen, hk]
  | cons a pre ih =>
    simp only [List.cons_append, layoutOf, csum, flatLen, Nat.add_assoc]
    rw [offBefore_cons_ge (Nat.le_add_right _ _), Nat.add_sub_cancel_left, ih, Offset.shift_mk, Nat.add_comm]

theorem offAfter_split (pre post : File) (m : Member) (k : Nat) (hk0 : 0 < k)
    (hk : k ≤ m.data.length) :
    offAfter (layoutOf (pre ++ m :: post)) (flatLen pre + k) = ⟨csum pre, k⟩ := by
  induction pre with
  | nil => simp [layoutOf, offAfter, csum, flatLen, hk]
  | cons a pre ih =>
    simp only [List.cons_append, layoutOf, csum, flatLen, Nat.add_assoc]
    rw [offAfter_cons_gt (Nat.lt_add_of_pos_right (Nat.add_pos_right _ hk0)), Nat.add_sub_cancel_left, ih,
      Offset.shift_mk, Nat.add_comm]

theorem blockRem_split (pre post : File) (m : Member) (k : Nat) (hk : k < m.data.length) :
    blockRem (layoutOf (pre ++ m :: post)) (flatLen pre + k) = m.data.length - k := by
  induction pre with
  | nil => simp [layoutOf, blockRem, flatLen, hk]
  | cons a pre ih =>
    simp only [List.cons_append, layoutOf, flatLen, Nat.add_assoc]
    rw [blockRem_cons_ge (Nat.le_add_right _ _), Nat.add_sub_cancel_left, ih]

theorem flatBytes_drop_split (pre post : File) (m : Member) (k : Nat) (hk : k ≤ m.data.length) :
    (flatBytes (pre ++ m :: post)).drop (flatLen pre + k) = m.data.drop k ++ flatBytes post := by
  rw [flatBytes_append, ← flatBytes_length pre, List.drop_length_add_append, flatBytes,
    List.drop_append_of_le_length hk]

theorem take_drop_flat {F pre post : File} {m : Member} (hF : F = pre ++ m :: post) (k a : Nat)
    (ha : k + a ≤ m.data.length) :
    (m.data.drop k).take a = ((flatBytes F).drop (flatLen pre + k)).take a := by
  rw [hF, flatBytes_drop_split pre post m k (by omega), List.take_append]
  have : a - (m.data.drop k).length = 0 := by simp; omega
  rw [this, List.take_zero, List.append_nil]

end Hts.Model.Bgzf
