/-
C11 on the SAM text model of C06 (`Hts.Model.SamText`, tied to the code by C06's correspondence
check): no `Fault.panic` outcome is reachable from `ParseCigar`, `ParseAux`, `Record.UnmarshalSAM` or the
`sam.Reader` loops, for arbitrary bytes.

In that model the two places where the Go code could panic are explicit: `NewCigarOp` with a negative
length (`emitOps … = none`) and `Cigar.IsValid` reaching `Consumes` of an undefined operation
(`cigarIsValid … = none`); field access `f[0]..f[10]`, `f[11:]` is the pattern match on at least eleven
fields (the `len(f) < 11` test), `text[0..4]`/`text[5:]` the pattern match on at least five bytes.
-/
import Hts.Model.SamText
import Hts.Model.DecodersSam
import Hts.Lemmas.Decoders
namespace Hts.Model.SamText

theorem bind_ne_panic {α β : Type} {x : Except Fault α} {f : α → Except Fault β}
    (hx : x ≠ .error .panic) (hf : ∀ a, f a ≠ .error .panic) : (x >>= f) ≠ .error .panic := by
  cases x with
  | error e => exact fun h => hx (by cases h; rfl)
  | ok a => exact hf a

theorem map_ne_panic {α β : Type} {x : Except Fault α} (f : α → β)
    (hx : x ≠ .error .panic) : (x.map f) ≠ .error .panic := by
  cases x with
  | error e => exact fun h => hx (by cases h; rfl)
  | ok a => nofun

theorem ite_ne_panic {α : Type} {c : Prop} [Decidable c] {a b : Except Fault α} (ha : a ≠ .error .panic)
    (hb : b ≠ .error .panic) : (if c then a else b) ≠ .error .panic :=
  Hts.Model.Decoders.ite_prop (p := (· ≠ _)) ha hb

theorem ofOpt_ne_panic {α : Type} (o : Option α) : ofOpt o ≠ .error .panic := by
  cases o <;> nofun

theorem mapM_ne_panic {α β : Type} {f : α → Except Fault β} (hf : ∀ a, f a ≠ .error .panic) :
    ∀ l : List α, l.mapM f ≠ .error .panic
  | [] => by rw [List.mapM_nil]; nofun
  | a :: as => by
    rw [List.mapM_cons]
    exact bind_ne_panic (hf a) fun _ => bind_ne_panic (mapM_ne_panic hf as) fun _ => nofun

theorem emitOps_nat (op v : Nat) : ∃ r, emitOps op (v : Int) = some r :=
  ⟨_, if_neg (Int.not_lt.mpr (Int.natCast_nonneg v))⟩

theorem parseCigarLoop_ne_panic : ∀ (b cur : Bytes) (op : Nat) (n : Int),
    parseCigarLoop b cur op n ≠ .error .panic
  | [], _, _, _ => ite_ne_panic nofun nofun
  | c :: rest, cur, op, n => by
    rw [parseCigarLoop]
    refine ite_ne_panic (parseCigarLoop_ne_panic _ _ _ _) ?_
    split
    · nofun
    · rename_i v _
      refine ite_ne_panic nofun ?_
      obtain ⟨r, hr⟩ := emitOps_nat (opOfLetter c) v
      rw [hr]
      exact map_ne_panic _ (parseCigarLoop_ne_panic _ _ _ _)

theorem parseCigar_ne_panic (b : Bytes) : parseCigar b ≠ .error .panic :=
  ite_ne_panic nofun (parseCigarLoop_ne_panic _ _ _ _)

theorem parseAux_ne_panic (ft : FloatText) : ∀ text : Bytes, parseAux ft text ≠ .error .panic
  | _ :: _ :: _ :: _ :: _ :: _ => ite_ne_panic nofun (by split <;> nofun)
  | [] | [_] | [_, _] | [_, _, _] | [_, _, _, _] => nofun

theorem referenceForName_ne_panic (h : Option Header) (name : Bytes) : referenceForName h name ≠ .error .panic := by
  refine ite_ne_panic nofun ?_
  split
  · nofun
  · split <;> nofun

theorem checkCigar_ne_panic (hasSeq : Bool) (cigar : List Hts.Model.Coord.CigarOp) (seqLen : Nat) :
    checkCigar hasSeq cigar seqLen ≠ .error .panic := by
  refine ite_ne_panic ?_ nofun
  obtain ⟨v, hv⟩ := Hts.Model.Coord.cigarIsValid_total cigar seqLen
  rw [hv]
  cases v <;> nofun

theorem checkQualLen_ne_panic (qual : Option Bytes) (seqLen : Nat) : checkQualLen qual seqLen ≠ .error .panic := by
  cases qual with
  | none => nofun
  | some q => exact ite_ne_panic nofun nofun

theorem parseMateRef_ne_panic (h : Option Header) (ref : Option Ref) (f2 f6 : Bytes) :
    parseMateRef h ref f2 f6 ≠ .error .panic :=
  ite_ne_panic nofun (referenceForName_ne_panic _ _)

theorem parseRecord_ne_panic (ft : FloatText) (h : Option Header) (b : Bytes) :
    parseRecord ft h b ≠ .error .panic := by
  unfold parseRecord
  split
  · refine bind_ne_panic (ofOpt_ne_panic _) fun flags => ?_
    refine bind_ne_panic (referenceForName_ne_panic _ _) fun ref => ?_
    refine bind_ne_panic (ofOpt_ne_panic _) fun pos => bind_ne_panic (ofOpt_ne_panic _) fun mapq => ?_
    refine bind_ne_panic (parseCigar_ne_panic _) fun cigar => ?_
    refine bind_ne_panic (parseMateRef_ne_panic _ _ _ _) fun mate => ?_
    refine bind_ne_panic (ofOpt_ne_panic _) fun matePos => bind_ne_panic (ofOpt_ne_panic _) fun tlen => ?_
    refine bind_ne_panic (checkCigar_ne_panic _ _ _) fun _ => bind_ne_panic (checkQualLen_ne_panic _ _) fun _ => ?_
    exact bind_ne_panic (mapM_ne_panic (parseAux_ne_panic ft) _) fun aux => nofun
  · nofun

theorem noHeaderLoop_ne_panic (ft : FloatText) : ∀ (ls seen : List Bytes),
    ∀ r ∈ noHeaderLoop ft ls seen, r ≠ .error .panic
  | [], _, _, hr => nomatch hr
  | l :: rest, seen, r, hr => by
    unfold noHeaderLoop at hr
    have hp := parseRecord_ne_panic ft none l
    split at hr
    · rename_i e he
      rcases List.mem_cons.mp hr with rfl | h
      · exact he ▸ hp
      · exact noHeaderLoop_ne_panic ft _ _ r h
    · rcases List.mem_cons.mp hr with rfl | h
      · nofun
      · exact noHeaderLoop_ne_panic ft _ _ r h

end Hts.Model.SamText

namespace Hts.Model.Decoders
open Outcome (ok err)

theorem readerLineIdx_eq (b : Bytes) (terminated : Bool) :
    readerLineIdx b terminated =
      if terminated then ok (Hts.Model.SamText.stripCR (b.take (b.length - 1)))
      else if b.length = 0 then err else ok (Hts.Model.SamText.stripCR b) := by
  unfold readerLineIdx
  -- `strip`: the second statement of the `do` block
  extract_lets strip
  have hstrip (b : Bytes) : strip b = ok (Hts.Model.SamText.stripCR b) := by
    unfold strip Hts.Model.SamText.stripCR
    split
    · rename_i h0
      rw [indexInt_last h0, ok_bind, List.getLast?_eq_getElem?, List.getElem?_eq_getElem (by omega),
        sliceTo_of_le (Nat.sub_le ..), List.dropLast_eq_take]
      simp only [Option.some.injEq]
      exact (apply_ite ok ..).symm
    · rw [List.eq_nil_of_length_eq_zero (l := b) (Decidable.of_not_not ‹_›)]
      rfl
  simp only [sliceTo_of_le (Nat.sub_le ..), pure_eq_ok, ok_bind, hstrip]
  rfl

theorem readerLineIdx_terminated (line : Bytes) :
    readerLineIdx (line ++ [10]) true = ok (Hts.Model.SamText.stripCR line) := by
  rw [readerLineIdx_eq, if_pos rfl, List.length_append, List.take_left']
  rfl

theorem readerLineIdx_total (b : Bytes) (terminated : Bool) : (readerLineIdx b terminated).isPanic = false := by
  rw [readerLineIdx_eq]
  repeat' apply ite_prop (p := (Outcome.isPanic · = false))
  all_goals rfl

end Hts.Model.Decoders
