/-
The ITF-8 / LTF-8 codecs' own facts, without the specification.  An OR/shift chain of bytes is turned into a sum by
`or_step`, applied once per byte through `Holds`.  `decode` of either codec is `decodeU` around the value it computes
(`decode_eq`: one `rfl` per width); besides `decode_eq` only `tie_itf8_decode`/`tie_ltf8_decode` (Hts.Tie.C20), which
compare its text with the generated one, unfold `decode`, and `decode_nil` (Hts.Lemmas.Itf8) evaluates it.
-/
import Hts.Model.Itf8
import Hts.Model.Ltf8
import Hts.Lemmas.Bytes
namespace Hts.Lemmas.Kernel
open Hts.Lemmas

theorem or_step (w : Nat) (acc x : BitVec w) (k m : Nat) (hacc : acc.toNat < 2 ^ k) (hx : x.toNat < 2 ^ m)
    (hk : k + m ≤ w) : (acc ||| x <<< k).toNat = acc.toNat + x.toNat * 2 ^ k := by
  rw [BitVec.toNat_or, BitVec.toNat_shiftLeft]
  have hlt : x.toNat <<< k < 2 ^ w := by
    rw [Nat.shiftLeft_eq]
    calc x.toNat * 2 ^ k < 2 ^ m * 2 ^ k := Nat.mul_lt_mul_of_pos_right hx (Nat.pow_pos (by omega))
      _ = 2 ^ (m + k) := (Nat.pow_add 2 m k).symm
      _ ≤ 2 ^ w := Nat.pow_le_pow_right (by omega) (by omega)
  rw [Nat.mod_eq_of_lt hlt, or_shl _ _ k hacc]

/-- `x` is the number `n`, and `n` has at most `k` bits.  The bound is what lets the next byte be
OR-ed in above it, so a chain of `k` bytes is `k` steps (`holds_byte`, then `byte`, `low` for a masked
one) and no arithmetic on the growing sum. -/
def Holds {w : Nat} (x : BitVec w) (n k : Nat) : Prop := x.toNat = n ∧ n < 2 ^ k

theorem holds_setWidth {w m : Nat} (b : BitVec 8) (hb : b.toNat < 2 ^ m) (hm : m ≤ w) :
    Holds (b.setWidth w) b.toNat m :=
  ⟨(BitVec.toNat_setWidth ..).trans
    (Nat.mod_eq_of_lt (Nat.lt_of_lt_of_le hb (Nat.pow_le_pow_right (by decide) hm))), hb⟩

theorem Holds.or {w n k m : Nat} {acc : BitVec w} (h : Holds acc n k) (b : BitVec 8)
    (hb : b.toNat < 2 ^ m) (hk : k + m ≤ w) :
    Holds (acc ||| b.setWidth w <<< k) (b.toNat * 2 ^ k + n) (k + m) := by
  obtain ⟨rfl, hn⟩ := h
  have hx := (holds_setWidth (w := w) b hb (by omega)).1
  refine ⟨by rw [or_step w acc _ k m hn (hx ▸ hb) hk, hx, Nat.add_comm], ?_⟩
  calc b.toNat * 2 ^ k + acc.toNat < b.toNat * 2 ^ k + 2 ^ k := Nat.add_lt_add_left hn _
    _ = (b.toNat + 1) * 2 ^ k := (Nat.succ_mul ..).symm
    _ ≤ 2 ^ m * 2 ^ k := Nat.mul_le_mul_right _ hb
    _ = 2 ^ (k + m) := by rw [Nat.pow_add, Nat.mul_comm]

theorem holds_byte {w : Nat} (b : BitVec 8) (hw : 8 ≤ w := by decide) : Holds (b.setWidth w) b.toNat 8 :=
  holds_setWidth b b.isLt hw

theorem Holds.byte {w n k : Nat} {acc : BitVec w} (h : Holds acc n k) (b : BitVec 8)
    (hk : k + 8 ≤ w := by decide) : Holds (acc ||| b.setWidth w <<< k) (b.toNat * 2 ^ k + n) (k + 8) :=
  h.or b b.isLt hk

theorem holds_low {w : Nat} (b : BitVec 8) (p : Nat) (hp : p ≤ 8 := by decide) (hw : p ≤ w := by decide) :
    Holds ((b &&& BitVec.ofNat 8 (2 ^ p - 1)).setWidth w) (b.toNat % 2 ^ p) p :=
  low_mask b p hp ▸ holds_setWidth _ (low_mask b p hp ▸ Nat.mod_lt _ (Nat.pow_pos (by decide))) hw

theorem Holds.low {w n k : Nat} {acc : BitVec w} (h : Holds acc n k) (b : BitVec 8) (p : Nat)
    (hp : p ≤ 8 := by decide) (hk : k + p ≤ w := by decide) :
    Holds (acc ||| (b &&& BitVec.ofNat 8 (2 ^ p - 1)).setWidth w <<< k) (b.toNat % 2 ^ p * 2 ^ k + n) (k + p) :=
  low_mask b p hp ▸ h.or _ (low_mask b p hp ▸ Nat.mod_lt _ (Nat.pow_pos (by decide))) hk

/-- The `k + 1` bytes `b[i], …, b[i+k]` as one big-endian number, by the OR/shift chain that the Go code
writes out for each width (`getD` as in the models, so that a chain of theirs is one of these by `rfl`). -/
def orFrom (W : Nat) (b : List (BitVec 8)) (i : Nat) : Nat → BitVec W
  | 0 => (b.getD i 0).setWidth W
  | k + 1 => orFrom W b (i + 1) k ||| (b.getD i 0).setWidth W <<< (8 * (k + 1))

/-- What both decoders return for a first byte that announces `w` more bytes (LTF-8: `w ≤ 8`, ITF-8: `w ≤ 3`):
the chain of those bytes, with the `8 - (w + 1)` payload bits of the first byte on top while it has any. -/
def valU (W : Nat) (b : List (BitVec 8)) : Nat → BitVec W
  | 0 => (b.getD 0 0).setWidth W
  | k + 1 =>
    if k < 6 then
      orFrom W b 1 k ||| (b.getD 0 0 &&& BitVec.ofNat 8 (2 ^ (8 - (k + 1 + 1)) - 1)).setWidth W <<< (8 * (k + 1))
    else orFrom W b 1 k

/-- `Decode` of either codec around the value `val b w` it computes from `w + 1` bytes -/
def decodeU {W : Nat} (wd : BitVec 8 → Int) (val : List (BitVec 8) → Nat → BitVec W) (b : List (BitVec 8)) :
    BitVec W × Int × Bool :=
  if b.length = 0 then (0#W, 0, false)
  else
    let n := wd (b.getD 0 0)
    if (b.length : Int) < n then (0#W, n, false) else (val b (n.toNat - 1), n, true)

theorem width_succ {n : Int} (h : 1 ≤ n) : ∃ w : Nat, n = ((w + 1 : Nat) : Int) := ⟨n.toNat - 1, by omega⟩

theorem decodeU_cons {W : Nat} (wd : BitVec 8 → Int) (val : List (BitVec 8) → Nat → BitVec W) (b0 : BitVec 8)
    (t : List (BitVec 8)) (h : wd b0 ≤ ((t.length + 1 : Nat) : Int)) :
    decodeU wd val (b0 :: t) = (val (b0 :: t) ((wd b0).toNat - 1), wd b0, true) :=
  (if_neg (Nat.succ_ne_zero t.length)).trans (if_neg (Int.not_lt.mpr h))

theorem decodeU_snd {W : Nat} (wd : BitVec 8 → Int) (val : List (BitVec 8) → Nat → BitVec W) (b0 : BitVec 8)
    (t : List (BitVec 8)) :
    (decodeU wd val (b0 :: t)).2 = (wd b0, decide (wd b0 ≤ ((t.length + 1 : Nat) : Int))) := by
  by_cases h : wd b0 ≤ ((t.length + 1 : Nat) : Int)
  · rw [decodeU_cons wd val b0 t h, decide_eq_true h]
  · rw [decide_eq_false h]
    exact congrArg Prod.snd ((if_neg (Nat.succ_ne_zero t.length)).trans (if_pos (Int.not_le.mp h)))

theorem vbyte {w : Nat} (v : BitVec w) (s : Nat) : ((v >>> s).setWidth 8).toNat = v.toNat / 2 ^ s % 256 := by
  rw [BitVec.toNat_setWidth, BitVec.toNat_ushiftRight, Nat.shiftRight_eq_div_pow]

namespace Itf8K

theorem vbyte (v : BitVec 32) (s : Nat) : ((v >>> s).setWidth 8).toNat = v.toNat / 2 ^ s % 256 :=
  Kernel.vbyte v s

end Itf8K

namespace Ltf8K

theorem vbyte (v : BitVec 64) (s : Nat) : ((v >>> s).setWidth 8).toNat = v.toNat / 2 ^ s % 256 :=
  Kernel.vbyte v s

end Ltf8K
end Hts.Lemmas.Kernel

namespace Hts.Model.Itf8
open Hts.Lemmas Hts.Lemmas.Kernel

theorem width_range (x : Byte) : 1 ≤ width x ∧ width x ≤ 5 := by
  unfold width; omega

theorem width_pos (x : Byte) : 1 ≤ width x := (width_range x).1

/-- the common form up to four bytes; the five-byte form has 4 + 8 + 8 + 8 + 4 bits -/
def val (b : List Byte) (w : Nat) : BitVec 32 :=
  if w = 4 then
    z (b.getD 4 0 &&& 0x0f#8) ||| z (b.getD 3 0) <<< 4 ||| z (b.getD 2 0) <<< 12 ||| z (b.getD 1 0) <<< 20
      ||| z (b.getD 0 0 &&& 0x0f#8) <<< 28
  else valU 32 b w

theorem decode_eq (b : List Byte) : decode b = decodeU width val b := by
  unfold decode decodeU
  refine ite_congr rfl (fun _ => rfl) fun _ => ?_
  have hr := width_range (b.getD 0 0)
  generalize width (b.getD 0 0) = n at hr ⊢
  refine ite_congr rfl (fun _ => rfl) fun _ => ?_
  obtain rfl | rfl | rfl | rfl | rfl : n = 1 ∨ n = 2 ∨ n = 3 ∨ n = 4 ∨ n = 5 := by omega
  all_goals rfl

theorem decode_snd (b0 : Byte) (t : List Byte) :
    (decode (b0 :: t)).2 = (width b0, decide (width b0 ≤ ((t.length + 1 : Nat) : Int))) :=
  decode_eq _ ▸ decodeU_snd width val b0 t

end Hts.Model.Itf8

namespace Hts.Model.Ltf8
open Hts.Lemmas Hts.Lemmas.Kernel

theorem width_range (x : Byte) : 1 ≤ width x ∧ width x ≤ 9 := by
  unfold width; omega

theorem width_pos (x : Byte) : 1 ≤ width x := (width_range x).1

theorem decode_eq (b : List Byte) : decode b = decodeU width (valU 64) b := by
  unfold decode decodeU
  refine ite_congr rfl (fun _ => rfl) fun _ => ?_
  have hr := width_range (b.getD 0 0)
  generalize width (b.getD 0 0) = n at hr ⊢
  refine ite_congr rfl (fun _ => rfl) fun _ => ?_
  obtain rfl | rfl | rfl | rfl | rfl | rfl | rfl | rfl | rfl :
    n = 1 ∨ n = 2 ∨ n = 3 ∨ n = 4 ∨ n = 5 ∨ n = 6 ∨ n = 7 ∨ n = 8 ∨ n = 9 := by omega
  all_goals rfl

theorem decode_snd (b0 : Byte) (t : List Byte) :
    (decode (b0 :: t)).2 = (width b0, decide (width b0 ≤ ((t.length + 1 : Nat) : Int))) :=
  decode_eq _ ▸ decodeU_snd width (valU 64) b0 t

end Hts.Model.Ltf8
