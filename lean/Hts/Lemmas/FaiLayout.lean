/-
C19: in the rendering of a well-formed record the bases of one line are contiguous at `position`, i.e. the
true entry is `Good` for the file (`good_rec`).  `record_in_file` puts this together with the index of a well-formed
file: it is the statement the theorems about `Position` and `Read` start from.
-/
import Hts.Lemmas.FaiIndex
import Hts.Lemmas.FaiRead
namespace Hts.Lemmas.Fai
open Hts.Model.Fai
open Hts.Spec.Fasta (isGraphic isBase isDescByte isBlankByte Rec Eol Entry seqLines terminate blankLines
  entriesFrom recsWf namesDistinct descOK)

theorem body_prefix (w : Nat) (eol : Bytes) (fin : Bool) (hw : 1 ≤ w) (bs : Bytes) (hne : bs ≠ []) :
    ∃ rest, body w eol fin bs = bs.take w ++ rest := by
  by_cases hlen : bs.length ≤ w
  · exact ⟨_, by rw [body_single w eol fin bs hne hlen, List.take_of_length_le hlen]⟩
  · exact ⟨_, by rw [body_multi w eol fin bs hw (by omega), List.append_assoc]⟩

theorem take_drop_append_left (b c : Bytes) (p n : Nat) (h : p + n ≤ b.length) :
    ((b ++ c).drop p).take n = (b.drop p).take n := by
  rw [List.drop_append_of_le_length (Nat.le_trans (Nat.le_add_right ..) h),
    List.take_append_of_le_length (by rw [List.length_drop]; exact Nat.le_sub_of_add_le' h)]

theorem body_slice (w : Nat) (eol : Bytes) (fin : Bool) (hw : 1 ≤ w) (col n : Nat) (hn : 1 ≤ n)
    (hcn : col + n ≤ w) :
    ∀ (line : Nat) (bs : Bytes), line * w + col + n ≤ bs.length →
      ((body w eol fin bs).drop (line * (w + eol.length) + col)).take n = (bs.drop (line * w + col)).take n := by
  intro line
  induction line with
  | zero =>
    intro bs hle
    rw [Nat.zero_mul, Nat.zero_add] at hle
    obtain ⟨rest, h⟩ := body_prefix w eol fin hw bs (List.ne_nil_of_length_pos (Nat.lt_of_lt_of_le (by omega) hle))
    rw [h, Nat.zero_mul, Nat.zero_mul, Nat.zero_add,
      take_drop_append_left _ _ col n (by rw [List.length_take]; exact Nat.le_min.mpr ⟨hcn, hle⟩),
      List.drop_take, List.take_take, Nat.min_eq_left (Nat.le_sub_of_add_le' hcn)]
  | succ line ih =>
    intro bs hle
    rw [Nat.succ_mul, Nat.add_right_comm _ w, Nat.add_right_comm _ w] at hle
    have hlen : w < bs.length := Nat.lt_of_lt_of_le (Nat.lt_add_of_pos_left (by omega)) hle
    have hl : (bs.take w ++ eol).length = w + eol.length := by
      rw [List.length_append, List.length_take, Nat.min_eq_left (Nat.le_of_lt hlen)]
    rw [body_multi w eol fin bs hw hlen,
      Nat.succ_mul, Nat.add_right_comm, Nat.add_comm _ (w + eol.length), ← hl, List.drop_length_add_append, hl,
      ih (bs.drop w) (by rw [List.length_drop]; exact Nat.le_sub_of_add_le hle), List.drop_drop,
      Nat.succ_mul, Nat.add_right_comm _ w, Nat.add_comm _ w]

theorem le_of_take_drop_eq {a b : Bytes} {i j n : Nat} (h : (a.drop i).take n = (b.drop j).take n)
    (hj : j + n ≤ b.length) (hn : 1 ≤ n) : i + n ≤ a.length := by
  have := congrArg List.length h
  rw [List.length_take, List.length_take, List.length_drop, List.length_drop] at this
  omega

theorem readAt_append (a b c : Bytes) (p n : Nat) (h : p + n ≤ b.length) :
    readAt (a ++ (b ++ c)) (a.length + p) n = (b.drop p).take n := by
  rw [readAt, List.drop_length_add_append, take_drop_append_left b c p n h]

theorem good_single (bs A C : Bytes) (hne : bs ≠ []) (R : Record) (hL : R.length = bs.length)
    (hs : R.start = A.length) (hb : R.basesPerLine = bs.length) (hB : R.basesPerLine ≤ R.bytesPerLine) :
    Good (A ++ (bs ++ C)) R bs := by
  refine ⟨hL, fun _ => hb ▸ List.length_pos_iff.mpr hne, hB, fun p n hpn hle => ?_⟩
  by_cases hn : n = 0
  · rw [hn]; rfl
  · rw [position_of_lt R p (by omega), hs]
    exact readAt_append _ _ _ p n hpn

theorem good_multi (w : Nat) (eol : Bytes) (fin : Bool) (hw : 1 ≤ w) (bs A C : Bytes) (R : Record)
    (hL : R.length = bs.length) (hs : R.start = A.length) (hb : R.basesPerLine = w)
    (hB : R.bytesPerLine = w + eol.length) : Good (A ++ (body w eol fin bs ++ C)) R bs := by
  refine ⟨hL, fun _ => hb ▸ hw, by rw [hb, hB]; exact Nat.le_add_right .., fun p n hpn hle => ?_⟩
  by_cases hn : n = 0
  · rw [hn]; rfl
  -- line `q` of the bases starts at base `q * w`, and at byte `q * bytesPerLine` of the body
  have hline := endOfLineOffset_le_line R (hb ▸ hw) p (hL ▸ Nat.le_trans (Nat.le_add_right ..) hpn)
  rw [hb] at hline
  have hsl := body_slice w eol fin hw (p % w) n (Nat.pos_of_ne_zero hn)
    (Nat.add_le_of_le_sub' (Nat.le_of_lt (Nat.mod_lt p hw)) (Nat.le_trans hle hline)) (p / w) bs
    (by rw [Nat.div_add_mod']; exact hpn)
  rw [Nat.div_add_mod'] at hsl
  rw [position_of_pos R p (hb ▸ hw), hs, hb, hB, ← hsl]
  -- `hsl` makes a slice of the body equal to `n` bases, so it has `n` bytes: it lies inside the body
  exact readAt_append _ _ _ _ n (le_of_take_drop_eq hsl hpn (Nat.pos_of_ne_zero hn))

theorem good_rec {r : Rec} (hw : 1 ≤ r.width) (A C : Bytes) :
    Good (A ++ r.render ++ C) (ofEntry (r.entry A.length)) r.bases := by
  by_cases hb : r.bases = []
  · rw [entry_of_no_bases r _ hb, hb]
    refine ⟨rfl, fun h' => absurd rfl h', Nat.le_refl _, fun p n hpn _ => ?_⟩
    have : n = 0 := by simp only [List.length_nil] at hpn; omega
    rw [this]; rfl
  · have hF : A ++ r.render ++ C = (A ++ (r.headerLine ++ r.eol.bytes)) ++
        (body r.width r.eol.bytes r.finalNewline r.bases ++ ((blankLines r.blanksAfter).flatten ++ C)) := by
      rw [render_of_bases r hb]; simp only [List.append_assoc]
    rw [hF, entry_of_bases r _ hb, ← List.length_append]
    by_cases hl : r.bases.length ≤ r.width
    · rw [body_single _ _ _ _ hb hl, List.append_assoc r.bases, List.take_of_length_le hl]
      exact good_single _ _ _ hb _ rfl rfl rfl (Nat.le_add_right ..)
    · rw [List.length_take, Nat.min_eq_left (by omega), if_neg (fun h' => hl h'.1)]
      exact good_multi r.width _ _ hw _ _ _ _ rfl rfl rfl rfl

/-- Everything the read theorems need about one record of a well-formed file. -/
theorem record_in_file (f : Hts.Spec.Fasta.File) (h : f.WF) (idx : Index) (hidx : newIndex f.render = .ok idx)
    (r : Rec) (hr : r ∈ f.recs) :
    ∃ R, idx.lookup r.name = some R ∧ Good f.render R r.bases ∧ ∃ pre post, f.recs = pre ++ r :: post ∧
        R = ofEntry (r.entry (f.leading.length + (pre.map Rec.render).flatten.length)) := by
  rw [newIndex_render f h] at hidx
  cases hidx
  obtain ⟨pre, post, hsplit⟩ := List.append_of_mem hr
  obtain ⟨last, hok⟩ := recOK_of_mem h hr
  refine ⟨ofEntry (r.entry (f.leading.length + (pre.map Rec.render).flatten.length)), ?_, ?_, pre, post, hsplit,
    rfl⟩
  · rw [Hts.Spec.Fasta.File.entries, hsplit]
    exact lookup_entries pre r post _ (hsplit ▸ h.2.2.1)
  · have := good_rec hok.width (f.leading ++ (pre.map Rec.render).flatten) (post.map Rec.render).flatten
    simp only [Hts.Spec.Fasta.File.render, hsplit, List.map_append, List.map_cons, List.flatten_append,
      List.flatten_cons]
    simpa [List.length_append] using this
