/-
The CIGAR loops of the model (`Lengths`, `End`, `IsValid`) compute what the specification says (SAM §1.4.6), for
every CIGAR; for `IsValid` that is `HCond` and `SCond` at every index and the query length.
-/
import Hts.Spec.Coord
namespace Hts.Model.Coord
open Hts.Spec.Coord (refLen queryLen refConsuming queryConsuming refMove posAfter maxReach)

/-- for every `t`: the table has eleven entries and an operation type beyond it consumes nothing (`consumes` is total) -/
theorem consumes_spec (t : Nat) :
    consumes t = some ((if queryConsuming t then 1 else 0),
      (if refConsuming t then 1 else if t = 9 then -1 else 0)) := by
  by_cases h : t < 11
  · exact (by decide : ∀ t : Fin 11, consumes t.1 = some ((if queryConsuming t.1 then 1 else 0),
      (if refConsuming t.1 then 1 else if t.1 = 9 then -1 else 0))) ⟨t, h⟩
  · obtain ⟨k, rfl⟩ := Nat.exists_eq_add_of_le (Nat.le_of_not_lt h)
    rw [Nat.add_comm]
    rfl

theorem mul_ite_one (n : Int) (c : Prop) [Decidable c] : n * (if c then 1 else 0) = if c then n else 0 := by
  split
  · exact Int.mul_one n
  · exact Int.mul_zero n

theorem len_mul_ref (co : CigarOp) :
    (co.len : Int) * (if refConsuming co.typ then 1 else if co.typ = 9 then -1 else 0) = refMove co := by
  unfold refMove
  split
  · omega
  · split <;> omega

theorem refMove_noB (co : CigarOp) (h : co.typ ≠ 9) :
    refMove co = if refConsuming co.typ then (co.len : Int) else 0 := by
  unfold refMove
  rw [if_neg h]

theorem refLen_cons (co : CigarOp) (rest : List CigarOp) :
    refLen (co :: rest) = (if refConsuming co.typ then (co.len : Int) else 0) + refLen rest := rfl
theorem queryLen_cons (co : CigarOp) (rest : List CigarOp) :
    queryLen (co :: rest) = (if queryConsuming co.typ then (co.len : Int) else 0) + queryLen rest := rfl
theorem maxReach_cons (pos : Int) (co : CigarOp) (rest : List CigarOp) :
    maxReach pos (co :: rest) =
      if pos < maxReach (pos + refMove co) rest then maxReach (pos + refMove co) rest else pos := rfl

theorem refLen_nonneg : ∀ c : List CigarOp, 0 ≤ refLen c
  | [] => Int.le_refl 0
  | co :: rest => by have := refLen_nonneg rest; rw [refLen_cons]; omega

theorem lengthsLoop_spec (c : List CigarOp) : ∀ ref read,
    lengthsLoop ref read c = some (ref + refLen c, read + queryLen c) := by
  induction c with
  | nil => intro ref read; rw [lengthsLoop, refLen, queryLen, Int.add_zero, Int.add_zero]
  | cons co rest ih =>
    intro ref read
    rw [lengthsLoop, consumes_spec co.typ]
    simp only [mul_ite_one, len_mul_ref]
    rw [ih, refLen_cons, queryLen_cons]
    -- `B` (type 9) is skipped by `Lengths` and consumes no reference in the specification
    by_cases h9 : co.typ = typB
    · rw [if_neg (not_not_intro h9), h9]
      simp only [typB, refConsuming, queryConsuming]
      simp only [Nat.reduceBEq, Bool.or_self, Bool.false_eq_true, if_false, Int.add_zero, Int.zero_add]
    · rw [if_pos h9, refMove_noB co h9, Int.add_assoc, Int.add_assoc]

theorem maxReach_ge (c : List CigarOp) : ∀ pos, pos ≤ maxReach pos c := by
  induction c with
  | nil => intro pos; exact Int.le_refl _
  | cons co rest ih => intro pos; rw [maxReach_cons]; omega

theorem endLoop_spec (c : List CigarOp) : ∀ pos e, pos ≤ e →
    endLoop pos e c = some (if e < maxReach pos c then maxReach pos c else e) := by
  induction c with
  | nil => intro pos e h; rw [endLoop, maxReach, if_neg (by omega)]
  | cons co rest ih =>
    intro pos e hpe
    rw [endLoop, consumes_spec co.typ]
    simp only [len_mul_ref]
    rw [ih _ _ (by omega), maxReach_cons]
    have := maxReach_ge rest (pos + refMove co)
    congr 1
    generalize maxReach (pos + refMove co) rest = m at *
    generalize pos + refMove co = p at *
    omega

theorem recordEnd_mapped (pos : Int) (c : List CigarOp) (hne : c ≠ []) :
    recordEnd false pos c = some (maxReach pos c) := by
  unfold recordEnd
  rw [Bool.false_or, List.isEmpty_eq_false_iff.2 hne, if_neg Bool.false_ne_true,
    endLoop_spec c pos pos (Int.le_refl _)]
  have := maxReach_ge c pos
  congr 1
  split <;> omega

theorem maxReach_noB (c : List CigarOp) : ∀ pos, (∀ co, co ∈ c → co.typ ≤ 8) →
    maxReach pos c = pos + refLen c := by
  induction c with
  | nil => intro pos _; rw [maxReach, refLen, Int.add_zero]
  | cons co rest ih =>
    intro pos h
    have ht : co.typ ≠ 9 := by have := h co List.mem_cons_self; omega
    rw [maxReach_cons, refLen_cons, ih _ (fun x hx => h x (List.mem_cons_of_mem _ hx)), refMove_noB co ht]
    have := refLen_nonneg rest
    omega

theorem maxReach_is_max (c : List CigarOp) : ∀ pos,
    (∀ k, posAfter pos (c.take k) ≤ maxReach pos c) ∧ (∃ k, maxReach pos c = posAfter pos (c.take k)) := by
  induction c with
  | nil => intro pos; exact ⟨fun k => by rw [List.take_nil]; exact Int.le_refl _, ⟨0, rfl⟩⟩
  | cons co rest ih =>
    intro pos
    obtain ⟨h1, k, hk⟩ := ih (pos + refMove co)
    have hge := maxReach_ge rest (pos + refMove co)
    rw [maxReach_cons]
    constructor
    · intro k'
      cases k' with
      | zero => simp only [List.take_zero, posAfter]; omega
      | succ k' =>
        simp only [List.take_succ_cons, posAfter]
        have := h1 k'
        omega
    · split
      · exact ⟨k + 1, by simp only [List.take_succ_cons, posAfter]; exact hk⟩
      · exact ⟨0, rfl⟩

def typAt (c : List CigarOp) (i : Nat) : Option Nat := (c[i]?).map (·.typ)

/-- SAM §1.4.6: `H` can only be present as the first and/or last operation -/
def HCond (c : List CigarOp) (i : Nat) : Prop :=
  typAt c i = some typH → i = 0 ∨ i = c.length - 1

/-- `S` may only have `H` operations between it and the ends of the CIGAR string
(as the library reads it: an inner `S` must be adjacent to an `H`) -/
def SCond (c : List CigarOp) (i : Nat) : Prop :=
  typAt c i = some typS → i = 0 ∨ i = c.length - 1 ∨ typAt c (i - 1) = some typH ∨ typAt c (i + 1) = some typH

theorem typAt_mid (pre : List CigarOp) (co : CigarOp) (rest : List CigarOp) :
    typAt (pre ++ co :: rest) pre.length = some co.typ := by
  rw [typAt, List.getElem?_append_right (Nat.le_refl _), Nat.sub_self]
  rfl

theorem typAt_next (pre : List CigarOp) (co : CigarOp) (rest : List CigarOp) :
    typAt (pre ++ co :: rest) (pre.length + 1) = rest.head?.map (·.typ) := by
  unfold typAt
  rw [List.getElem?_append_right (by omega), show pre.length + 1 - pre.length = 1 by omega]
  cases rest <;> rfl

theorem typAt_prev (pre : List CigarOp) (co : CigarOp) (rest : List CigarOp) (h : pre.length ≠ 0) :
    typAt (pre ++ co :: rest) (pre.length - 1) = pre.getLast?.map (·.typ) := by
  unfold typAt
  rw [List.getElem?_append_left (by omega), List.getLast?_eq_getElem?]

theorem typAt_none (c : List CigarOp) (j : Nat) (h : c.length ≤ j) : typAt c j = none := by
  unfold typAt; rw [List.getElem?_eq_none h]; rfl

/-- The right side is: neither early `some false` of `isValidLoop` is taken at index `pre.length`. -/
theorem conds_here (pre : List CigarOp) (co : CigarOp) (rest : List CigarOp) :
    HCond (pre ++ co :: rest) pre.length ∧ SCond (pre ++ co :: rest) pre.length ↔
      ¬ (co.typ = typH ∧ (pre.length ≠ 0 ∧ pre.length ≠ (pre ++ co :: rest).length - 1)) ∧
      ¬ (co.typ = typS ∧ (pre.length ≠ 0 ∧ pre.length ≠ (pre ++ co :: rest).length - 1) ∧
          pre.getLast?.map (·.typ) ≠ some typH ∧ rest.head?.map (·.typ) ≠ some typH) := by
  unfold HCond SCond
  rw [typAt_mid, typAt_next, Option.some.injEq, Option.some.injEq]
  by_cases h0 : pre.length = 0
  · exact ⟨fun _ => ⟨fun h => h.2.1 h0, fun h => h.2.1.1 h0⟩, fun _ => ⟨fun _ => Or.inl h0, fun _ => Or.inl h0⟩⟩
  · rw [typAt_prev pre co rest h0]
    constructor
    · rintro ⟨hH, hS⟩
      exact ⟨fun ⟨e, _, h1⟩ => (hH e).elim h0 h1,
        fun ⟨e, ⟨_, h1⟩, hp, hn⟩ => (hS e).elim h0 (·.elim h1 (·.elim hp hn))⟩
    · rintro ⟨hH, hS⟩
      refine ⟨fun e => ?_, fun e => ?_⟩
      · exact Decidable.byContradiction fun hn => hH ⟨e, h0, fun h => hn (Or.inr h)⟩
      · exact Decidable.byContradiction fun hn => hS ⟨e, ⟨h0, fun h => hn (Or.inr (Or.inl h))⟩,
          fun h => hn (Or.inr (Or.inr (Or.inl h))), fun h => hn (Or.inr (Or.inr (Or.inr h)))⟩

theorem forall_ge_succ {P : Nat → Prop} (n : Nat) : (∀ j, n ≤ j → P j) ↔ P n ∧ ∀ j, n + 1 ≤ j → P j :=
  ⟨fun h => ⟨h n (Nat.le_refl _), fun j hj => h j (Nat.le_of_succ_le hj)⟩,
   fun ⟨h0, h⟩ j hj => (Nat.eq_or_lt_of_le hj).elim (fun e => e ▸ h0) (h j)⟩

theorem isValidLoop_spec (c : List CigarOp) (hstd : ∀ co, co ∈ c → co.typ ≤ 8) :
    ∀ (suf pre : List CigarOp) (pos length : Int), c = pre ++ suf → 0 ≤ pos →
    ∃ b, isValidLoop c.length pre.length pre.getLast? pos length suf = some b ∧
      (b = true ↔ (∀ j, pre.length ≤ j → HCond c j ∧ SCond c j) ∧ length = queryLen suf) := by
  intro suf
  induction suf with
  | nil =>
    intro pre pos length hc _
    refine ⟨length == 0, rfl, ?_⟩
    rw [beq_iff_eq]
    refine ⟨fun h => ⟨fun j hj => ?_, h⟩, fun h => h.2⟩
    have : typAt c j = none := typAt_none c j (by rw [hc, List.append_nil]; exact hj)
    exact ⟨fun h => (nomatch this.symm.trans h), fun h => (nomatch this.symm.trans h)⟩
  | cons co rest ih =>
    intro pre pos length hc hpos
    have hco : co.typ ≤ 8 := hstd co (hc ▸ List.mem_append_right _ List.mem_cons_self)
    have hhere := conds_here pre co rest
    rw [← hc] at hhere
    obtain ⟨b, hb, hiff⟩ := ih (pre ++ [co]) (pos + (if refConsuming co.typ then (co.len : Int) else 0))
      (length - (if queryConsuming co.typ then (co.len : Int) else 0)) (by rw [hc, List.append_assoc]; rfl) (by omega)
    rw [List.length_append, List.length_singleton, List.getLast?_concat] at hb
    rw [List.length_append, List.length_singleton] at hiff
    rw [isValidLoop, forall_ge_succ, hhere]
    by_cases hH : co.typ = typH ∧ (pre.length ≠ 0 ∧ pre.length ≠ c.length - 1)
    · rw [if_pos hH]
      exact ⟨false, rfl, ⟨fun h => Bool.noConfusion h, fun h => absurd hH h.1.1.1⟩⟩
    · rw [if_neg hH]
      by_cases hS : co.typ = typS ∧ (pre.length ≠ 0 ∧ pre.length ≠ c.length - 1) ∧
          (pre.getLast?.map (·.typ)) ≠ some typH ∧ (rest.head?.map (·.typ)) ≠ some typH
      · rw [if_pos hS]
        exact ⟨false, rfl, ⟨fun h => Bool.noConfusion h, fun h => absurd hS h.1.1.2⟩⟩
      · rw [if_neg hS, consumes_spec co.typ]
        simp only [mul_ite_one, len_mul_ref]
        -- `refMove` is only where `len_mul_ref` lands; there is no `B` here, so it opens again
        rw [if_neg (by omega), refMove_noB co (by omega)]
        refine ⟨b, hb, ?_⟩
        rw [hiff, queryLen_cons]
        constructor
        · rintro ⟨hall, hq⟩; exact ⟨⟨⟨hH, hS⟩, hall⟩, by omega⟩
        · rintro ⟨⟨_, hall⟩, hq⟩; exact ⟨hall, by omega⟩

end Hts.Model.Coord
