/-
Writer LTS with the compression-failure oracle `cfg.cfault`: a block whose compression fails is never
delivered, and (without I/O faults) the delivered blocks are exactly the blocks before the first one whose
compression fails (`output_of_idle_cf`: what the protocol hands to the composition with the byte-level writer,
Lemmas/WriterCompose).
-/
import Hts.Lemmas.WriterLTSAcc
namespace Hts.Model.WriterLTS

variable {cfg : Cfg} {s t : State} {e : Option Ev}

theorem out_ok_trans (ho : ∀ b ∈ s.out, cfg.cfault b = false) (h : Trans cfg s e t) :
    ∀ b ∈ t.out, cfg.cfault b = false := by
  cases h with
  | api h => cases h <;> exact ho
  | em h =>
    cases h
    case write hcf _ _ =>
      intro b hb
      rcases List.mem_append.1 hb with hb | hb
      · exact ho b hb
      · rwa [List.mem_singleton.1 hb]
    all_goals exact ho
  | finQ => exact ho
  | finE => exact ho

theorem reachable_out_ok (h : Reachable cfg s) : ∀ b ∈ s.out, cfg.cfault b = false :=
  h.induct nofun fun _ ho ht => out_ok_trans ho ht

theorem out_ok_of_lt (hi : Inv cfg s) (h : Reachable cfg s) {b : Nat} (hb : b < s.out.length) : cfg.cfault b = false :=
  reachable_out_ok h b (by rw [hi.pref]; simpa using hb)

/-- without I/O faults: once wedged, the block that would be delivered next is a submitted one whose compression
    failed -/
theorem stuck_trans (hr : cfg.repaired = true) (hnf : ∀ i, cfg.fault i = false) (hi : Inv cfg s)
    (hc : wedged s = true → cfg.cfault s.out.length = true ∧ s.out.length < s.submitted) (h : Trans cfg s e t)
    (hw' : wedged t = true) : cfg.cfault t.out.length = true ∧ t.out.length < t.submitted := by
  cases h with
  | api h =>
    have ho : t.out = s.out := by cases h <;> rfl
    have hs := (trans_mono (.api h)).sub
    have hw : wedged s = true := by
      cases h
      case cComp => simpa [wedged] using hw'
      case cEofFail hf => simp [hnf] at hf
      all_goals exact hw'
    have := hc hw
    rw [ho]; exact ⟨this.1, by omega⟩
  | em h =>
    cases h
    case cfail hem _ hcf _ =>
      cases hw : wedged s with
      | true => exact hc hw
      | false =>
        have he : s.err = false := by simp_all [wedged]
        obtain ⟨hb1, -, hb2⟩ := hold_next hi hem he
        exact ⟨hb1 ▸ hcf, by simp only; omega⟩
    -- `write` needs the latch clear and leaves no failure behind, `wfail` needs an I/O fault, `cfailOld` and `doneOld`
    -- the unchanged protocol: each contradicts a hypothesis
    case write | wfail | cfailOld | doneOld => simp_all [wedged, emFailed]
    -- every other rule leaves `out` and `submitted` alone and starts from a wedged state
    all_goals exact hc (by simp_all [wedged, emFailed])
  | finQ => exact hc hw'
  | finE hem => exact hc (by simpa [wedged, hem, emFailed] using hw')

theorem reachable_stuck (hr : cfg.repaired = true) (hnf : ∀ i, cfg.fault i = false) (h : Reachable cfg s) :
    wedged s = true → cfg.cfault s.out.length = true ∧ s.out.length < s.submitted :=
  h.induct (by simp [init, wedged, emFailed]) fun hs hc ht => stuck_trans hr hnf (reachable_inv hr hs) hc ht

/-- the first block (in submission order) among the first `n` whose compression fails, else `n` -/
def firstFail (cf : Nat → Bool) : Nat → Nat
  | 0 => 0
  | n + 1 => if firstFail cf n < n then firstFail cf n else if cf n then n else n + 1

theorem firstFail_le (cf : Nat → Bool) : ∀ n, firstFail cf n ≤ n
  | 0 => Nat.le_refl _
  | n + 1 => by
    simp only [firstFail]; split
    · omega
    · split <;> omega

theorem firstFail_spec (cf : Nat → Bool) : ∀ n,
    (∀ b, b < firstFail cf n → cf b = false) ∧ (firstFail cf n < n → cf (firstFail cf n) = true)
  | 0 => ⟨fun b hb => by simp [firstFail] at hb, fun h => by simp [firstFail] at h⟩
  | n + 1 => by
    obtain ⟨h1, h2⟩ := firstFail_spec cf n
    have hle := firstFail_le cf n
    simp only [firstFail]
    split
    · rename_i hlt; exact ⟨h1, fun _ => h2 hlt⟩
    · rename_i hge
      split
      · rename_i hcf; exact ⟨fun b hb => h1 b (by omega), fun _ => hcf⟩
      · rename_i hcf
        refine ⟨fun b hb => ?_, fun h => by omega⟩
        by_cases hb' : b < n
        · exact h1 b (by omega)
        · have : b = n := by omega
          subst this; simpa using hcf

theorem firstFail_unique (cf : Nat → Bool) (n k : Nat) (hk : k ≤ n) (h1 : ∀ b, b < k → cf b = false)
    (h2 : k < n → cf k = true) : firstFail cf n = k := by
  obtain ⟨g1, g2⟩ := firstFail_spec cf n
  have hle := firstFail_le cf n
  by_cases hlt : firstFail cf n < k
  · have := h1 _ hlt
    have := g2 (by omega)
    simp_all
  · by_cases hgt : k < firstFail cf n
    · have := g1 _ hgt
      have := h2 (by omega)
      simp_all
    · omega

theorem firstFail_eq_self (cf : Nat → Bool) (n : Nat) (h : ∀ b, b < n → cf b = false) : firstFail cf n = n :=
  firstFail_unique _ _ _ (Nat.le_refl _) h fun h => absurd h (Nat.lt_irrefl _)

theorem output_of_idle_cf (hr : cfg.repaired = true) (hnf : ∀ i, cfg.fault i = false) (h : Reachable cfg s)
    (hidle : AllIdle s) :
    s.out = List.range (firstFail cfg.cfault (seqBlocks cfg.script false)) ∧
    s.eof = (hasClose cfg.script && decide (firstFail cfg.cfault (seqBlocks cfg.script false) = seqBlocks cfg.script false)) := by
  have hi := reachable_inv hr h
  have ha := reachable_acc h
  obtain ⟨⟨hapi, hs⟩, -, hp, -⟩ := hidle
  have hat := hi.atPc
  rw [hapi] at hat
  -- hat : Outside s, i.e. active.isSome = !closed ∧ (closed → em = .done ∧ eof = !err)
  have hlow : ∀ b, b < s.out.length → cfg.cfault b = false := fun _ => out_ok_of_lt hi h
  -- in both cases the first failing block is block number `s.out.length`
  cases hw : wedged s with
  | false =>
    have he : s.err = false := (Bool.or_eq_false_iff.1 hw).1
    have hb := ha.blocks he
    simp only [hapi, hs, pcRem, seqBlocks, Nat.add_zero] at hb
    rw [← hb, ← pend_zero_out hi hp he,
      firstFail_eq_self _ _ hlow]
    refine ⟨hi.pref, ?_⟩
    have hcl := ha.close
    simp only [restClosed, hapi, inClose, hs, hasClose, List.contains_nil, Bool.or_false] at hcl
    simp only [hasClose, hcl, decide_true, Bool.and_true]
    cases hcd : s.closed with
    | true => rw [(hat.2 hcd).2, he]; rfl
    | false => exact Bool.eq_false_iff.2 fun hf => by simp [hi.eofClosed hf] at hcd
  | true =>
    obtain ⟨hcf, hlt⟩ := reachable_stuck hr hnf h hw
    -- the failing block is one the script submits: it was submitted
    have := reachable_owed h
    unfold owed at this
    rw [firstFail_unique _ _ _ (by omega) hlow fun _ => hcf]
    refine ⟨hi.pref, ?_⟩
    rw [decide_eq_false (by omega), Bool.and_false]
    exact Bool.eq_false_iff.2 fun hf => by
      have := hat.2 (hi.eofClosed hf)
      simp [wedged, this.1, emFailed] at hw
      simp [hw, hf] at this

end Hts.Model.WriterLTS
