/-
What `Inv` gives in every reachable state of the read-ahead protocol: some thread can step as long as the
consumer has work left, and inside a call every step of either thread decreases the measure `mu`. Beside it, and
without `Inv` or `cfg.OK`: every block in the system is the result of a load at its base (`wf_reachable`), without
I/O faults exactly the sequential one, `⟨base, chain base⟩` (`exact_reachable`, `ExactInv`).
-/
import Hts.Lemmas.ReaderLTSInv
namespace Hts.Model.ReadAhead

variable {cfg : Cfg} {s t : State} {ev : Option Ev}

/-- Configurations covered: at least two decompressors, member sizes positive. -/
structure Cfg.OK (cfg : Cfg) : Prop where
  rd2 : 2 ≤ cfg.rd
  mono : Mono cfg.chain

theorem inv_init (hc : cfg.OK) : Inv cfg (init cfg) := by
  refine ⟨hc.rd2, hc.mono, by simp [init, Worker.holds, Cons.holds], by simp [init, WFBlk],
    by simp [init], by simp [init], by simp [init, Closing], by simp [init], by simp [init], by simp [init],
    ?_, by simp [init], by simp [init], by simp [init], by simp [init]⟩
  intro _ e he
  refine ⟨[], [], 0, cfg.chain 0, by simp [stream, init, Worker.committed], ?_, by simpa [init, adv] using he,
    by have := hc.rd2; simp; omega⟩
  simp [init, ChainFrom, Worker.natural]

theorem inv_next {l : Label} (hi : Inv cfg s) (h : next cfg s l = some (ev, t)) : Inv cfg t :=
  (next_sound h).elim (·.inv rfl hi) (·.inv rfl hi)

theorem inv_reachable (hc : cfg.OK) (h : Reachable cfg s) : Inv cfg s := by
  induction h with
  | init => exact inv_init hc
  | step _ hs ih =>
    obtain ⟨l, e, hn⟩ := hs
    exact inv_next ih hn

theorem ApiStep.fires {pc : Cons} (h : ApiStep cfg s pc ev t) (hc : s.cons = pc) :
    ∃ l e t, ReadAhead.next cfg s l = some (e, t) :=
  have ⟨c, f, h⟩ := h.complete hc
  ⟨.api c f, ev, t, h⟩

theorem WkStep.fires {pc : Worker} (h : WkStep cfg s pc ev t) (hw : s.worker = pc) :
    ∃ l e t, next cfg s l = some (e, t) :=
  have ⟨f, h⟩ := h.complete hw
  ⟨.wk f, ev, t, h⟩

theorem wk_fires (hidle : ∀ nx, s.worker = .idle nx → 0 < s.waiting ∨ s.wtClosed = true)
    (hhave : s.worker = .have none → s.control = none → s.ctlClosed = true)
    (hpush : ∀ b, s.worker = .push b → s.working.length < cfg.rd) (hex : ∀ h, s.worker ≠ .exited h) :
    ∃ l e t, next cfg s l = some (e, t) := by
  cases hw : s.worker with
  | idle nx =>
    by_cases hp : 0 < s.waiting
    · exact (WkStep.take hp).fires hw
    · exact (WkStep.exitIdle (by omega) ((hidle nx hw).resolve_left hp)).fires hw
  | «have» nx =>
    cases hc : s.control with
    | some v =>
      by_cases hn : nx = none ∧ v = none
      · obtain ⟨rfl, rfl⟩ := hn; exact (WkStep.stay hc).fires hw
      · exact (WkStep.redirect hc hn).fires hw
    | none =>
      cases hcl : s.ctlClosed with
      | true => exact (WkStep.exitHeld hc hcl).fires hw
      | false =>
        cases nx with
        | some b => exact (WkStep.goOn hc hcl).fires hw
        | none => rw [hhave hw hc] at hcl; cases hcl
  | load x =>
    obtain ⟨⟨b, hd, e⟩, hr⟩ := doLoad_enabled cfg s x
    exact (WkStep.load hr).fires hw
  | push b => exact (WkStep.push (hpush b hw)).fires hw
  | exited h => exact absurd hw (hex h)

/-- The exception `ApiDone` is needed: once the consumer has finished its script without `Close`, the worker may
be parked on a channel for ever, and nobody waits for it. -/
theorem inv_progress (hi : Inv cfg s) : (∃ l e t, next cfg s l = some (e, t)) ∨ ApiDone s := by
  have hcount := hi.count
  have hrd2 := hi.rd2
  have hwh : s.worker.holds ≤ 1 := by cases s.worker <;> simp [Worker.holds] <;> split <;> simp
  cases hc : s.cons with
  | idle =>
    cases hs : s.script with
    | nil => exact .inr (.inl ⟨hc, hs⟩)
    | cons op rest =>
      left
      cases op with
      | nexts => exact (ApiStep.nextsDone hs).fires hc
      | next =>
        cases hn : s.cur.next with
        | some e => exact (ApiStep.next hs hn).fires hc
        | none => exact (ApiStep.nextFailed hs hn).fires hc
      | seek off =>
        by_cases hf : s.cur.base = some off ∧ good s.cur = true
        · exact (ApiStep.seekFast hs hf).fires hc
        · exact (ApiStep.seek hs hf).fires hc
      | close => exact (ApiStep.close hs).fires hc
      | note id => exact (ApiStep.note hs).fires hc
  | scan e i =>
    left
    cases hw : s.working with
    | cons b rest =>
      by_cases hb : b.base = some e
      · exact (ApiStep.scanHit hw hb).fires hc
      by_cases hn : b.next = none
      · exact (ApiStep.scanFailed hw hb hn).fires hc
      by_cases hrd : i + 1 = cfg.rd
      · exact (ApiStep.scanPanic hw hb hn hrd).fires hc
      · exact (ApiStep.scanSkip hw hb hn hrd).fires hc
    | nil =>
      -- nothing to receive: the worker is on its way to deliver.  It cannot be parked at `.have none` with `control`
      -- empty: the stream would be empty, so `new = []` and `T` is the worker's `natural`, `none`, `d` members
      -- behind which no `e` lies (`adv_none`; the same ending as in `WkStep.expect`, `stay`)
      have hx := hi.expScan e i hc
      have hnc := not_closing_flags hi (by simp [Closing, hc])
      simp only [hc, hw, Cons.holds, List.length_nil] at hcount
      refine wk_fires (fun _ _ => .inl (by omega)) (fun hwk hctl => ?_) (fun _ _ => by rw [hw]; simp; omega)
        (fun h hwk => by have := hi.exited h hwk; rw [hnc.1] at this; cases this)
      exfalso
      obtain ⟨old, new, d, T, hst, hcl, hadv, _⟩ := hx
      have hs0 : stream s = [] := by simp [stream, hw, hwk, Worker.committed]
      rw [hs0] at hst
      obtain rfl : new = [] := (List.append_eq_nil_iff.mp hst.symm).2
      simp only [hctl, ChainFrom, hwk, Worker.natural] at hcl
      rw [← hcl, adv_none] at hadv; cases hadv
  | fetch e =>
    obtain ⟨⟨b, hd, ev⟩, hr⟩ := doLoad_enabled cfg s (some e)
    exact .inl ((ApiStep.fetch hr).fires hc)
  | sync off =>
    obtain ⟨⟨b, hd, ev⟩, hr⟩ := doLoad_enabled cfg s (some off)
    exact .inl ((ApiStep.sync hr).fires hc)
  | sel off =>
    left
    by_cases hwt : 0 < s.waiting
    · exact (ApiStep.selIdle hwt).fires hc
    · cases hw : s.working with
      | nil => simp only [hc, hw, Cons.holds, List.length_nil] at hcount; omega
      | cons b rest =>
        by_cases hg : good b = true ∧ b.base = some off
        · exact (ApiStep.selHit hw hg).fires hc
        · exact (ApiStep.selStale hw hg).fires hc
  | drain w => exact .inl (ApiStep.drain.fires hc)
  | send w => exact .inl ((ApiStep.send (hi.atSend w hc).2).fires hc)
  | ret ok => exact .inl (ApiStep.ret.fires hc)
  | closeW => exact .inl (ApiStep.closeW.fires hc)
  | join =>
    left
    cases hwk : s.worker with
    | exited h => exact (ApiStep.join hwk).fires hc
    | _ =>
      -- both channels are closed: the worker runs to its end
      simp only [hc, Cons.holds] at hcount
      exact wk_fires (fun _ _ => .inr (hi.wt.mpr (.inl hc))) (fun _ _ => hi.ctl.mpr (by simp [Closing, hc]))
        (fun b hb => by rw [hb] at hcount; simp only [Worker.holds] at hcount; omega)
        (fun h hh => by rw [hwk] at hh; cases hh)
  | closed => exact .inr (.inr hc)
  | panicked => exact absurd hc hi.nopanic


/-- What a fault-free load at the block's base returns. -/
def Exact (chain : Chain) (b : Blk) : Prop :=
  match b.base with
  | some t => b.next = chain t
  | none => b.next = none

theorem blk_eq_of_exact {chain : Chain} {b : Blk} {e : Nat} (h1 : b.base = some e) (h2 : Exact chain b) :
    b = ⟨some e, chain e⟩ := by
  obtain ⟨base, nx⟩ := b
  cases h1
  cases (h2 : nx = chain e)
  rfl

structure ExactInv (cfg : Cfg) (s : State) : Prop where
  cur : Exact cfg.chain s.cur
  working : ∀ b ∈ s.working, Exact cfg.chain b
  push : ∀ b, s.worker = .push b → Exact cfg.chain b

theorem doLoad_exact {tgt : Option Nat} {fail : Bool} {b : Blk} {h : Option Nat} {e : Ev}
    (hf : cfg.faults = false) (hl : doLoad cfg s tgt fail = some (b, h, e)) : Exact cfg.chain b := by
  obtain ⟨hb, hn⟩ := doLoad_blk hl
  have hn := hn.resolve_right (by simp [hf])
  unfold Exact
  cases tgt <;> simpa [hb] using hn

/-- Needs neither `Inv` nor `cfg.OK`; with `Phase` (Lemmas/ReaderOverLTSCall.lean) it is all that `over_eq_seq`, hence
`C02.readahead_bytes_refine_flat`, takes from the protocol. -/
theorem exact_reachable (hf : cfg.faults = false) (h : Reachable cfg s) : ExactInv cfg s := by
  induction h with
  | init => exact ⟨by simp [init, Exact], by simp [init], by simp [init]⟩
  | step _ hs ih =>
    obtain ⟨l, e, hn⟩ := hs
    have hb : Blocks (Exact cfg.chain) _ := ⟨ih.cur, ih.working, ih.push⟩
    have := (next_sound hn).elim (·.blocks (doLoad_exact hf) hb) (·.blocks rfl (doLoad_exact hf) hb)
    exact ⟨this.1, this.2.1, this.2.2⟩

theorem wf_reachable (h : Reachable cfg s) : Blocks (WFBlk cfg.chain) s := by
  induction h with
  | init => exact ⟨by simp [init, WFBlk], by simp [init], by simp [init]⟩
  | step _ hs ih =>
    obtain ⟨l, e, hn⟩ := hs
    exact (next_sound hn).elim (·.blocks (fun hl => (doLoad_spec hl).2) ih) (·.blocks rfl (fun hl => (doLoad_spec hl).2) ih)

/-- consumer steps still to go in the current call (an upper bound) -/
def consWeight (rd : Nat) : Cons → Nat
  | .idle => 0
  | .ret _ => 1
  | .send _ => 2
  | .drain _ => 3
  | .fetch _ => 4
  | .sync _ => 4
  | .sel _ => 5
  | .scan _ i => 6 + (rd - i)
  | .closeW => 2
  | .join => 1
  | .closed => 0
  | .panicked => 0

def workerWeight : Worker → Nat
  | .exited _ => 0
  | .idle _ => 1
  | .push _ => 2
  | .load _ => 3
  | .have _ => 4

/-- The termination measure of a call: while the consumer is not `idle`, every step of either thread decreases it
(`mu_decreases`). -/
def mu (cfg : Cfg) (s : State) : Nat :=
  7 * consWeight cfg.rd s.cons + 5 * s.waiting + workerWeight s.worker + (if s.control.isSome then 1 else 0)

theorem WkStep.mu {pc : Worker} (h : WkStep cfg s pc ev t) (hw : s.worker = pc) : mu cfg t < mu cfg s := by
  cases h with
  -- `take` raises the worker's weight from 1 to 4: the decompressor it takes out of `waiting` counts 5
  | take | exitIdle | load | push => simp only [ReadAhead.mu, hw, workerWeight]; omega
  | stay hc | redirect hc | exitHeld hc | goOn hc => simp [ReadAhead.mu, hw, hc, workerWeight]

theorem ApiStep.weight {pc : Cons} (h : ApiStep cfg s pc ev t) (hne : pc ≠ .idle)
    (hroom : ∀ e i, pc = .scan e i → i + 1 ≤ cfg.rd) :
    consWeight cfg.rd t.cons < consWeight cfg.rd pc ∧ t.waiting ≤ s.waiting + 1 := by
  cases h with
  | nextsDone | nextsMore | next | nextFailed | seekFast | seek | close | note => exact absurd rfl hne
  | scanHit | scanFailed | scanPanic | scanSkip =>
    have := hroom _ _ rfl
    exact ⟨by simp only [consWeight]; omega, by simp⟩
  | _ => exact ⟨by simp only [consWeight]; omega, by simp only []; omega⟩

theorem ApiStep.mu {pc : Cons} (h : ApiStep cfg s pc ev t) (hc : s.cons = pc) (hi : Inv cfg s)
    (hne : s.cons ≠ .idle) : mu cfg t < mu cfg s := by
  have ⟨h1, h2⟩ := h.weight (hc ▸ hne) fun e i hp => (hi.expScan e i (hc.trans hp)).room
  have h3 : (if t.control.isSome then 1 else 0) ≤ 1 := by split <;> omega
  -- the factor 7 pays for a decompressor handed back (5) and a redirect left in `control` (1)
  simp only [ReadAhead.mu, h.worker, hc]
  omega

theorem mu_decreases {l : Label} (hi : Inv cfg s) (h : next cfg s l = some (ev, t)) (hne : s.cons ≠ .idle) :
    mu cfg t < mu cfg s :=
  (next_sound h).elim (·.mu rfl hi hne) (·.mu rfl)

end Hts.Model.ReadAhead
