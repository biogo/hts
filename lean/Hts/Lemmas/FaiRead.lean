/-
C19: the loop of `Seq.Read` returns the requested bases, for any record whose layout is `Good` for the file
(the bases of one line are contiguous at `position`).  `readLoopG`/`Seq.read` are `readLoopE`/`Seq.readE` over a
reader that never reports io.EOF with a complete read (`readLoopE_false`), and what they return is derived from the
general case.  Inductions over `readLoopG` itself: `readLoopE_false`, `readLoopG_congr`, `readLoopG_err_ne_*`.
-/
import Hts.Model.Fai
namespace Hts.Lemmas.Fai
open Hts.Model.Fai

theorem seqRange_ok (idx : Index) (name : Bytes) (s e : Int) (sq : Seq) (h : seqRange idx name s e = .ok sq) :
    ∃ r, idx.lookup name = some r ∧ 0 ≤ s ∧ s ≤ e ∧ e ≤ r.length ∧ sq = ⟨r, s.toNat, s.toNat, e.toNat⟩ := by
  unfold seqRange at h
  split at h
  · cases h
  · split at h
    · cases h
    · split at h
      · cases h
      · rename_i hn r hr hl
        cases h
        exact ⟨r, hr, by omega, by omega, by omega, rfl⟩

theorem seqRange_bounds (idx : Index) (name : Bytes) (s e : Int) (sq : Seq) (h : seqRange idx name s e = .ok sq) :
    sq.cur ≤ sq.stop ∧ sq.stop ≤ sq.rcd.length ∧ idx.lookup name = some sq.rcd := by
  obtain ⟨r, hr, h0, h1, h2, rfl⟩ := seqRange_ok idx name s e sq h
  exact ⟨Int.toNat_le_toNat h1, by show e.toNat ≤ r.length; omega, hr⟩

theorem seqWhole_bounds (idx : Index) (name : Bytes) (sq : Seq) (h : seqWhole idx name = .ok sq) :
    sq.cur ≤ sq.stop ∧ sq.stop ≤ sq.rcd.length ∧ idx.lookup name = some sq.rcd := by
  unfold seqWhole at h
  split at h
  · cases h
  · rename_i r hr
    cases h
    exact ⟨Nat.zero_le _, Nat.le_refl _, hr⟩

theorem lookup_mem (idx : Index) (name : Bytes) (R : Record) (h : idx.lookup name = some R) : R ∈ idx := by
  unfold Index.lookup at h
  exact List.mem_of_find?_eq_some h

theorem readLoopE_ge (eager : Nat → Nat → Bool) (file : Bytes) (pos eol : Nat → Nat) (endPos stop cur k : Nat)
    (acc : Bytes) (h : ¬ cur < stop) :
    readLoopE eager file pos eol endPos stop cur k acc = ⟨acc, .eof, cur⟩ := by
  rw [readLoopE, dif_neg h]

theorem readLoopE_full (eager : Nat → Nat → Bool) (file : Bytes) (pos eol : Nat → Nat) (endPos stop cur k : Nat)
    (acc : Bytes) (h : cur < stop) (hpos : pos cur < endPos) {a : Nat}
    (ha : min (min (eol cur) (endPos - pos cur)) k = a) (ha0 : a ≠ 0)
    (hlen : (readAt file (pos cur) a).length = a) :
    readLoopE eager file pos eol endPos stop cur k acc =
      if eager (pos cur) a = true ∧ pos cur + a = file.length then
        ⟨acc ++ readAt file (pos cur) a, .eof, cur + a⟩
      else if k - a = 0 then ⟨acc ++ readAt file (pos cur) a, .nil, cur + a⟩
      else readLoopE eager file pos eol endPos stop (cur + a) (k - a) (acc ++ readAt file (pos cur) a) := by
  rw [readLoopE, dif_pos h, if_neg (Nat.not_le.mpr hpos)]
  simp only [ha, dif_neg ha0, hlen, Nat.lt_irrefl, dite_false]

theorem readLoopE_false (file : Bytes) (pos eol : Nat → Nat) (endPos stop cur k : Nat) (acc : Bytes) :
    readLoopE (fun _ _ => false) file pos eol endPos stop cur k acc =
      readLoopG file pos eol endPos stop cur k acc := by
  fun_induction readLoopG file pos eol endPos stop cur k acc <;> rw [readLoopE] <;>
    simp +zetaDelta only [*, dite_true, dite_false, if_true, if_false, Bool.false_eq_true, false_and]

theorem readE_false (file : Bytes) (s : Seq) (k : Nat) : s.readE (fun _ _ => false) file k = s.read file k := by
  simp only [Seq.readE, Seq.read, readLoop, readLoopE_false]

theorem readCallsE_false (file : Bytes) (ks : List Nat) :
    ∀ (s : Seq), readCallsE (fun _ _ => false) file s ks = readCalls file s ks := by
  induction ks with
  | nil => intro s; rfl
  | cons k ks ih => intro s; simp only [readCallsE, readCalls, readE_false, ih]

/-- `p < stop` is the guard under which the regenerated `endOfLineOffset`/`position` are tied to the model
(`Hts.Tie.C19.tie_readLoop`). -/
theorem readLoopG_congr (file : Bytes) (pos eol pos' eol' : Nat → Nat) (endPos stop : Nat)
    (h : ∀ p, p < stop → pos p = pos' p ∧ eol p = eol' p) (cur k : Nat) (acc : Bytes) :
    readLoopG file pos eol endPos stop cur k acc = readLoopG file pos' eol' endPos stop cur k acc := by
  fun_induction readLoopG file pos' eol' endPos stop cur k acc
  case case6 hge => rw [readLoopG, dif_neg hge]
  all_goals
    rw [readLoopG]
    simp +zetaDelta only [(h _ ‹_ < stop›).1, (h _ ‹_ < stop›).2, *, -h, dite_true, dite_false, if_true, if_false]

theorem readLoopG_err_ne_panicDiv (file : Bytes) (pos eol : Nat → Nat) (endPos stop cur k : Nat) (acc : Bytes) :
    (readLoopG file pos eol endPos stop cur k acc).err ≠ .panicDiv := by
  fun_induction readLoopG file pos eol endPos stop cur k acc with
  | case5 _ _ _ _ _ _ _ _ _ _ ih => exact ih
  | _ => simp

theorem readLoopG_err_ne_badLayout (file : Bytes) (pos eol : Nat → Nat) (endPos stop cur k : Nat) (acc : Bytes)
    (h : ∀ c, c < stop → pos c < endPos ∧ 0 < eol c) (hk : 0 < k) :
    (readLoopG file pos eol endPos stop cur k acc).err ≠ .badLayout := by
  fun_induction readLoopG file pos eol endPos stop cur k acc with
  | case1 cur _ _ hlt hp => exact absurd (h cur hlt).1 (Nat.not_lt.mpr hp)
  | case2 cur k _ hlt _ want h0 =>
    have := h cur hlt
    omega
  | case5 _ _ _ _ _ _ _ _ _ hk' ih => exact ih (Nat.pos_of_ne_zero hk')
  | _ => simp

theorem position_of_pos (R : Record) (p : Nat) (h : 0 < R.basesPerLine) :
    R.position p = R.start + (p / R.basesPerLine * R.bytesPerLine + p % R.basesPerLine) :=
  if_neg (Nat.ne_of_gt h)

theorem position_of_lt (R : Record) (p : Nat) (h : p < R.basesPerLine) : R.position p = R.start + p := by
  rw [position_of_pos R p (Nat.zero_lt_of_lt h), Nat.div_eq_of_lt h, Nat.mod_eq_of_lt h, Nat.zero_mul, Nat.zero_add]

theorem position_add_le (R : Record) (hw : 0 < R.basesPerLine) (hle : R.basesPerLine ≤ R.bytesPerLine)
    (p n : Nat) : R.position p + n ≤ R.position (p + n) := by
  rw [position_of_pos R _ hw, position_of_pos R _ hw]
  obtain ⟨d, hd⟩ := Nat.exists_eq_add_of_le (Nat.div_le_div_right (c := R.basesPerLine) (Nat.le_add_right p n))
  have e1 := Nat.div_add_mod p R.basesPerLine
  have e2 := Nat.div_add_mod (p + n) R.basesPerLine
  -- `d` further lines: `d * basesPerLine` more bases, `d * bytesPerLine` more bytes
  rw [hd, Nat.mul_add, Nat.mul_comm _ d] at e2
  rw [hd, Nat.add_mul]
  have := Nat.mul_le_mul_left d hle
  omega

theorem position_lt (R : Record) (hw : 0 < R.basesPerLine) (hle : R.basesPerLine ≤ R.bytesPerLine)
    (p q : Nat) (hpq : p < q) : R.position p < R.position q := by
  have := position_add_le R hw hle p (q - p)
  rw [Nat.add_sub_cancel' (Nat.le_of_lt hpq)] at this
  omega

theorem endOfLineOffset_pos (R : Record) (hw : 0 < R.basesPerLine) (p : Nat) (hp : p < R.length) :
    0 < R.endOfLineOffset p := by
  unfold Record.endOfLineOffset
  have := Nat.mod_lt p hw
  split <;> omega

theorem endOfLineOffset_le_line (R : Record) (hw : 0 < R.basesPerLine) (p : Nat) (hp : p ≤ R.length) :
    R.endOfLineOffset p ≤ R.basesPerLine - p % R.basesPerLine := by
  unfold Record.endOfLineOffset
  split
  · rename_i hq
    have e1 := Nat.div_add_mod p R.basesPerLine
    have e2 := Nat.div_add_mod R.length R.basesPerLine
    rw [hq] at e1
    have := Nat.mod_lt R.length hw
    omega
  · exact Nat.le_refl _

theorem chunk_le (R : Record) (hw : 0 < R.basesPerLine) (cur stop : Nat) (h1 : cur < stop)
    (h2 : stop ≤ R.length) :
    min (R.endOfLineOffset cur) (R.position stop - R.position cur) ≤ stop - cur := by
  have ec := Nat.div_add_mod cur R.basesPerLine
  have es := Nat.div_add_mod stop R.basesPerLine
  -- on the line of `stop` the positions differ by `stop - cur`; on an earlier line the rest of the line ends
  -- before `stop`
  by_cases hq : cur / R.basesPerLine = stop / R.basesPerLine
  · apply Nat.le_trans (Nat.min_le_right ..)
    rw [position_of_pos R _ hw, position_of_pos R _ hw, hq]
    rw [hq] at ec
    omega
  · apply Nat.le_trans (Nat.min_le_left ..) (Nat.le_trans (endOfLineOffset_le_line R hw cur (by omega)) _)
    have hlt : cur / R.basesPerLine + 1 ≤ stop / R.basesPerLine :=
      Nat.lt_of_le_of_ne (Nat.div_le_div_right (Nat.le_of_lt h1)) hq
    have hnext := Nat.mul_le_mul_left R.basesPerLine hlt
    rw [Nat.mul_add, Nat.mul_one] at hnext
    omega

/-- The layout facts the read loop relies on. `B` are the bases of the record described by `R` in file `F`. -/
structure Good (F : Bytes) (R : Record) (B : Bytes) : Prop where
  len : R.length = B.length
  bpl_pos : B ≠ [] → 0 < R.basesPerLine
  bpl_le : R.basesPerLine ≤ R.bytesPerLine
  slice : ∀ p n, p + n ≤ B.length → n ≤ R.endOfLineOffset p →
    readAt F (R.position p) n = (B.drop p).take n

theorem Good.bpl_pos' {F : Bytes} {R : Record} {B : Bytes} (g : Good F R B) {p : Nat} (hp : p < B.length) :
    0 < R.basesPerLine :=
  g.bpl_pos (List.ne_nil_of_length_pos (Nat.zero_lt_of_lt hp))

theorem Good.getElem?_position {F : Bytes} {R : Record} {B : Bytes} (g : Good F R B) {p : Nat}
    (hp : p < B.length) : F[R.position p]? = B[p]? := by
  have h := congrArg List.head?
    (g.slice p 1 hp (endOfLineOffset_pos R (g.bpl_pos' hp) p (g.len ▸ hp)))
  rwa [readAt, List.head?_take, List.head?_take, if_neg Nat.one_ne_zero, List.head?_drop, List.head?_drop] at h

theorem Good.position_lt_length {F : Bytes} {R : Record} {B : Bytes} (g : Good F R B) {p : Nat}
    (hp : p < B.length) : R.position p < F.length := by
  have h := congrArg List.length
    (g.slice p 1 hp (endOfLineOffset_pos R (g.bpl_pos' hp) p (g.len ▸ hp)))
  simp only [readAt, List.length_take, List.length_drop] at h
  omega

theorem Good.seqRange_nat {F : Bytes} {R : Record} {B : Bytes} (g : Good F R B) {idx : Index} {name : Bytes}
    (hl : idx.lookup name = some R) {s e : Nat} (hse : s ≤ e) (he : e ≤ B.length) :
    seqRange idx name s e = .ok ⟨R, s, s, e⟩ := by
  have := g.len
  unfold seqRange
  rw [if_neg (by omega)]
  simp only [hl]
  rw [if_neg (by omega)]
  rfl

/-- The conjunct on `F.length` is for a reader that reports io.EOF with a complete read (the `eager` branch of
`readLoopE`): a read can end at the end of the file only if it ends the segment. -/
theorem Good.step {F : Bytes} {R : Record} {B : Bytes} (g : Good F R B) {stop cur k : Nat}
    (hstop : stop ≤ B.length) (hlt : cur < stop) (hk : 1 ≤ k) :
    ∃ a, min (min (R.endOfLineOffset cur) (R.position stop - R.position cur)) k = a ∧ 1 ≤ a ∧ a ≤ k ∧
      a ≤ stop - cur ∧ R.position cur < R.position stop ∧ (R.position cur + a = F.length → cur + a = stop) ∧
      readAt F (R.position cur) a = (B.drop cur).take a := by
  have hcur : cur < B.length := Nat.lt_of_lt_of_le hlt hstop
  have hw := g.bpl_pos' hcur
  have hP := position_lt R hw g.bpl_le cur stop hlt
  obtain ⟨a, ha⟩ : ∃ a, min (min (R.endOfLineOffset cur) (R.position stop - R.position cur)) k = a := ⟨_, rfl⟩
  have h1 : 1 ≤ a := ha ▸
    Nat.le_min.mpr ⟨Nat.le_min.mpr ⟨endOfLineOffset_pos R hw cur (g.len ▸ hcur), Nat.sub_pos_of_lt hP⟩, hk⟩
  have h3 : a ≤ stop - cur := ha ▸
    Nat.le_trans (Nat.min_le_left ..) (chunk_le R hw cur stop hlt (g.len ▸ hstop))
  have h4 : a ≤ R.endOfLineOffset cur := ha ▸ Nat.le_trans (Nat.min_le_left ..) (Nat.min_le_left ..)
  have hca : cur + a ≤ stop := Nat.add_le_of_le_sub' (Nat.le_of_lt hlt) h3
  refine ⟨a, ha, h1, ha ▸ Nat.min_le_right _ k, h3, hP, fun hend => ?_, g.slice cur a (Nat.le_trans hca hstop) h4⟩
  -- otherwise base `cur + a` lies in the file, at or after offset `position cur + a`
  apply Classical.byContradiction
  intro hne
  have h5 := g.position_lt_length (Nat.lt_of_lt_of_le (Nat.lt_of_le_of_ne hca hne) hstop)
  exact absurd (hend ▸ position_add_le R hw g.bpl_le cur a) (Nat.not_le.mpr h5)

/-- What one `Read` call with a buffer of `k` bytes returns over any reader.  `ends`: nil with a filled buffer, or
io.EOF, which comes only with the end of the segment, and from a reader that never reports it with a complete read only
with a buffer that is not filled. -/
structure CallOK (eager : Nat → Nat → Bool) (B : Bytes) (stop cur k : Nat) (acc : Bytes) (res : RdRes) : Prop where
  hdata : res.data = acc ++ (B.drop cur).take (min k (stop - cur))
  hcur : res.cur = cur + min k (stop - cur)
  ends : (res.err = .nil ∧ k ≤ stop - cur) ∨
    (res.err = .eof ∧ stop - cur ≤ k ∧ ((∀ p n, eager p n = false) → stop - cur < k))

theorem CallOK.done (eager : Nat → Nat → Bool) (B : Bytes) {stop cur k : Nat} (acc : Bytes) (h : cur = stop)
    (hk : 1 ≤ k) : CallOK eager B stop cur k acc ⟨acc, .eof, cur⟩ := by
  subst h
  have e : min k (cur - cur) = 0 := by omega
  exact ⟨by rw [e, List.take_zero, List.append_nil], by rw [e]; rfl, .inr ⟨rfl, Nat.sub_self cur ▸ Nat.zero_le k, fun _ => Nat.sub_self cur ▸ hk⟩⟩

theorem min_sub_add {a k s : Nat} (h1 : a ≤ k) (h2 : a ≤ s) : min k s = a + min (k - a) (s - a) := by
  rw [← Nat.add_min_add_left, Nat.add_sub_cancel' h1, Nat.add_sub_cancel' h2]

theorem readLoopE_spec (eager : Nat → Nat → Bool) {F : Bytes} {R : Record} {B : Bytes} (g : Good F R B)
    (stop : Nat) (hstop : stop ≤ B.length) (cur k : Nat) (acc : Bytes) (hcs : cur ≤ stop) (hk : 1 ≤ k) :
    CallOK eager B stop cur k acc
      (readLoopE eager F R.position R.endOfLineOffset (R.position stop) stop cur k acc) := by
  induction hn : stop - cur using Nat.strongRecOn generalizing cur k acc with
  | _ n ih =>
    by_cases hlt : cur < stop
    · obtain ⟨a, ha, h1, h2, h3, hP, hend, hread⟩ := g.step hstop hlt hk
      rw [readLoopE_full eager F _ _ _ stop cur k acc hlt hP ha (Nat.ne_of_gt h1)
        (by rw [hread, List.length_take, List.length_drop]
            exact Nat.min_eq_left (Nat.le_trans h3 (Nat.sub_le_sub_right hstop cur))), hread]
      split
      · -- io.EOF together with a complete read that ends at the end of the file: the segment is complete
        rename_i he
        have hsc : stop - cur = a := by rw [← hend he.2, Nat.add_sub_cancel_left]
        have hm : min k (stop - cur) = a := by rw [hsc]; exact Nat.min_eq_right h2
        exact ⟨by rw [hm], by rw [hm], .inr ⟨rfl, hsc ▸ h2, fun hf => by rw [hf] at he; cases he.1⟩⟩
      · split
        · rename_i hk0
          cases Nat.le_antisymm (Nat.le_of_sub_eq_zero hk0) h2
          have hm : min k (stop - cur) = k := Nat.min_eq_left h3
          exact ⟨by rw [hm], by rw [hm], .inl ⟨rfl, h3⟩⟩
        · rename_i hk0
          have e : stop - (cur + a) = stop - cur - a := Nat.sub_add_eq ..
          have c := ih _ (hn ▸ Nat.sub_lt_sub_left hlt (Nat.lt_add_of_pos_right h1)) (cur + a) (k - a)
            (acc ++ (B.drop cur).take a) (Nat.add_le_of_le_sub' hcs h3) (Nat.pos_of_ne_zero hk0) rfl
          have hm : min k (stop - cur) = a + min (k - a) (stop - (cur + a)) := e ▸ min_sub_add h2 h3
          exact ⟨by rw [c.hdata, hm, List.take_add, List.drop_drop, List.append_assoc],
            by rw [c.hcur, hm, Nat.add_assoc],
            c.ends.imp (fun ⟨he, h⟩ => ⟨he, (Nat.sub_le_sub_iff_right h3).1 (e ▸ h)⟩) fun ⟨he, h, hs⟩ =>
              ⟨he, (Nat.sub_le_sub_iff_right h2).1 (e ▸ h), fun hf => (Nat.sub_lt_sub_iff_right h3).1 (e ▸ hs hf)⟩⟩
    · rw [readLoopE_ge _ _ _ _ _ _ _ _ _ hlt]
      exact CallOK.done eager B acc (by omega) hk

theorem readE_spec (eager : Nat → Nat → Bool) {F B : Bytes} (s : Seq) (g : Good F s.rcd B)
    (h1 : s.cur ≤ s.stop) (h2 : s.stop ≤ B.length) (k : Nat) :
    CallOK eager B s.stop s.cur k [] (s.readE eager F k) := by
  unfold Seq.readE
  by_cases hk : k = 0
  · rw [if_pos hk, hk]
    exact ⟨by rw [Nat.zero_min]; rfl, by rw [Nat.zero_min]; rfl, .inl ⟨rfl, Nat.zero_le _⟩⟩
  rw [if_neg hk]
  by_cases hc : s.stop ≤ s.cur
  · rw [if_pos hc]
    exact CallOK.done eager B [] (by omega) (by omega)
  · have hw := g.bpl_pos' (p := s.cur) (by omega)
    rw [if_neg hc, if_neg (by omega)]
    exact readLoopE_spec eager g s.stop h2 s.cur k [] h1 (by omega)

theorem read_spec {F B : Bytes} (s : Seq) (g : Good F s.rcd B) (h1 : s.cur ≤ s.stop) (h2 : s.stop ≤ B.length)
    (k : Nat) :
    s.read F k = ⟨(B.drop s.cur).take (min k (s.stop - s.cur)),
                  if k ≤ s.stop - s.cur then .nil else .eof,
                  s.cur + min k (s.stop - s.cur)⟩ := by
  have c := readE_spec (fun _ _ => false) s g h1 h2 k
  rw [readE_false] at c
  have herr : (s.read F k).err = if k ≤ s.stop - s.cur then .nil else .eof := by
    rcases c.ends with ⟨he, hk⟩ | ⟨he, _, hlt⟩
    · rw [he, if_pos hk]
    · rw [he, if_neg (Nat.not_le_of_lt (hlt fun _ _ => rfl))]
  calc s.read F k = ⟨(s.read F k).data, (s.read F k).err, (s.read F k).cur⟩ := rfl
    _ = _ := by rw [c.hdata, herr, c.hcur, List.nil_append]

/-- What a run of `Read` calls with buffer sizes `ks` may return from cursor `cur`: each call that fills its buffer
takes the next `k` bases; the run ends with the call that delivers the rest together with io.EOF, which needs a buffer at
least as large as the rest — larger, over a `strict` reader (one that reports io.EOF only with a short read). -/
inductive Run (strict : Prop) (B : Bytes) (stop : Nat) : Nat → List Nat → List (Bytes × RdErr) → Prop
  | nil (cur : Nat) : Run strict B stop cur [] []
  | more {cur k : Nat} {ks : List Nat} {run : List (Bytes × RdErr)} : k ≤ stop - cur →
      Run strict B stop (cur + k) ks run → Run strict B stop cur (k :: ks) (((B.drop cur).take k, .nil) :: run)
  | last {cur k : Nat} (ks : List Nat) : stop - cur ≤ k → (strict → stop - cur < k) →
      Run strict B stop cur (k :: ks) [((B.drop cur).take (stop - cur), .eof)]

variable {strict : Prop} {B : Bytes} {stop cur : Nat} {ks : List Nat} {run : List (Bytes × RdErr)}

theorem Run.data (h : Run strict B stop cur ks run) :
    (run.map (·.1)).flatten = (B.drop cur).take (min (stop - cur) ks.sum) := by
  induction h with
  | nil cur => simp
  | @more cur k ks run hk _ ih =>
    have : min (stop - cur) (k + ks.sum) = k + min (stop - (cur + k)) ks.sum := by
      rw [Nat.min_comm, min_sub_add (Nat.le_add_right k _) hk, Nat.add_sub_cancel_left, Nat.sub_add_eq, Nat.min_comm]
    rw [List.map_cons, List.flatten_cons, ih, List.sum_cons, this, List.take_add, List.drop_drop]
  | @last cur k ks hk _ =>
    rw [List.sum_cons, Nat.min_eq_left (Nat.le_trans hk (Nat.le_add_right ..))]
    simp

theorem Run.eof (h : Run strict B stop cur ks run) (hs : stop - cur < ks.sum) :
    ∃ pre d, run = pre ++ [(d, .eof)] ∧ ∀ r ∈ pre, r.2 = .nil := by
  induction h with
  | nil cur => cases hs
  | @more cur k ks run hk _ ih =>
    obtain ⟨pre, d, h1, h2⟩ := ih (by rw [List.sum_cons] at hs; omega)
    exact ⟨_ :: pre, d, by rw [h1]; rfl, List.forall_mem_cons.mpr ⟨rfl, h2⟩⟩
  | last ks hk => exact ⟨[], _, rfl, nofun⟩

theorem Run.errs (h : Run strict B stop cur ks run) : ∀ r ∈ run, r.2 = .nil ∨ r.2 = .eof := by
  induction h with
  | nil cur => nofun
  | more _ _ ih => exact List.forall_mem_cons.mpr ⟨.inl rfl, ih⟩
  | last ks hk => exact List.forall_mem_cons.mpr ⟨.inr rfl, nofun⟩

/-- `start` is only carried in the handle: `Seq.reset` alone reads it. -/
theorem readCallsE_run (eager : Nat → Nat → Bool) (hs : strict → ∀ p n, eager p n = false) {F : Bytes} {R : Record}
    (g : Good F R B) (start : Nat) (h2 : stop ≤ B.length) (ks : List Nat) :
    ∀ cur, cur ≤ stop → Run strict B stop cur ks (readCallsE eager F ⟨R, cur, start, stop⟩ ks) := by
  induction ks with
  | nil => intro cur _; exact .nil cur
  | cons k ks ih =>
    intro cur hc
    have c : CallOK eager B stop cur k [] _ := readE_spec eager ⟨R, cur, start, stop⟩ g hc h2 k
    rw [readCallsE]
    rcases c.ends with ⟨he, hk⟩ | ⟨he, hk, hlt⟩
    · -- nil: the buffer was filled, the run continues
      simp only [he, c.hdata, c.hcur, Nat.min_eq_left hk, List.nil_append]
      exact .more hk (ih (cur + k) (by omega))
    · -- io.EOF: the segment is complete and the run stops
      simp only [he, c.hdata, Nat.min_eq_right hk, List.nil_append]
      exact .last ks hk fun h => hlt (hs h)

/-- what a run of `Read` calls must return over a reader that reports io.EOF only with a short read, stated
without the model: each call takes the next `k` bases while at least `k` remain; the first call that cannot be
filled returns the rest together with io.EOF. -/
def expectedCalls (B : Bytes) (stop : Nat) : Nat → List Nat → List (Bytes × RdErr)
  | _, [] => []
  | cur, k :: ks =>
    if k ≤ stop - cur then ((B.drop cur).take k, .nil) :: expectedCalls B stop (cur + k) ks
    else [((B.drop cur).take (stop - cur), .eof)]

theorem Run.eq_expected (h : Run True B stop cur ks run) : run = expectedCalls B stop cur ks := by
  induction h with
  | nil cur => rfl
  | more hk _ ih => rw [expectedCalls, if_pos hk, ih]
  | last ks _ hk => rw [expectedCalls, if_neg (Nat.not_le_of_lt (hk trivial))]

theorem expectedCalls_nil (B : Bytes) (stop : Nat) (ks : List Nat) :
    ∀ cur, ks.sum ≤ stop - cur → ∀ r ∈ expectedCalls B stop cur ks, r.2 = .nil := by
  induction ks with
  | nil => intro cur _ r hr; simp [expectedCalls] at hr
  | cons k ks ih =>
    intro cur h r hr
    simp only [List.sum_cons] at h
    have hk : k ≤ stop - cur := by omega
    simp only [expectedCalls, hk, if_true, List.mem_cons] at hr
    rcases hr with rfl | hr
    · rfl
    · exact ih (cur + k) (by omega) r hr

theorem readCalls_run {F : Bytes} {R : Record} (g : Good F R B) (start : Nat) (h2 : stop ≤ B.length) (ks : List Nat)
    (cur : Nat) (hc : cur ≤ stop) : Run True B stop cur ks (readCalls F ⟨R, cur, start, stop⟩ ks) :=
  readCallsE_false F ks _ ▸ readCallsE_run _ (fun _ _ _ => rfl) g start h2 ks cur hc

end Hts.Lemmas.Fai
