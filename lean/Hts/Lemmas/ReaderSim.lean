/-
Refinement relation between the reader model and the flat specification, and its preservation by `read`.
-/
import Hts.Lemmas.ReaderRead
namespace Hts.Model.Bgzf
open Hts.Spec.Flat

/-- The concrete reader `r` represents the state `s` of the flat model of `F`. -/
structure Sim (F : File) (r : Reader) (s : State) : Prop where
  file : r.file = F
  blocked : r.blocked = s.blocked
  last : r.lastChunk = s.last
  pos : (∃ pre m post k, At F r pre m post k ∧ s.pos = flatLen pre + k) ∨ (AtEOF F r ∧ s.pos = flatLen F)

def errOf (eof : Bool) : Option Err := if eof then some .eof else none

variable {F : File} {r : Reader} {s : State}

theorem At.sim {pre : File} {m : Member} {post : File} {k : Nat} (h : At F r pre m post k) :
    Sim F r ⟨flatLen pre + k, r.blocked, r.lastChunk⟩ :=
  ⟨h.file, rfl, rfl, Or.inl ⟨pre, m, post, k, h, rfl⟩⟩

theorem flat_read_blocked_at {pre post : File} {m : Member} (hF : F = pre ++ m :: post) {k : Nat}
    (hk : k < m.data.length) (s : State) (hp : s.pos = flatLen pre + k) (hb : s.blocked = true) (n : Nat) :
    Hts.Spec.Flat.read (flatOf F) s n =
      ⟨(m.data.drop k).take n, decide (m.data.length - k < n),
       ⟨s.pos + min n (m.data.length - k), true,
        ⟨⟨csum pre, k⟩, ⟨csum pre, k + min n (m.data.length - k)⟩⟩⟩⟩ := by
  subst hF
  have hlt : ¬ (flatLen pre + (m.data.length + flatLen post) ≤ flatLen pre + k) := by omega
  have ht : ((m.data.drop k ++ flatBytes post).take (min n (m.data.length - k))) = (m.data.drop k).take n := by
    rw [List.take_append_of_le_length (by simp; omega), List.take_eq_take_iff]; simp
  simp only [Hts.Spec.Flat.read, flatOf, total_layoutOf, flatLen_append, flatLen, hp, hlt, if_false, hb, if_true,
    blockRem_split pre post m k hk, offBefore_split pre post m k hk,
    flatBytes_drop_split pre post m k (Nat.le_of_lt hk), ht, Bool.not_true, Bool.false_eq_true, and_false]
  by_cases hn : n = 0
  · simp [hn]
  · rw [if_neg hn, Nat.add_assoc, offAfter_split pre post m _ (by omega) (by omega)]

theorem flat_read_unblocked_at {pre post : File} {m : Member} (hF : F = pre ++ m :: post) {k : Nat}
    (hk : k < m.data.length) (s : State) (hp : s.pos = flatLen pre + k) (hb : s.blocked = false) (n : Nat) :
    Hts.Spec.Flat.read (flatOf F) s n =
      ⟨(m.data.drop k ++ flatBytes post).take n, decide ((m.data.drop k ++ flatBytes post).length < n),
       ⟨s.pos + min n (m.data.drop k ++ flatBytes post).length, false,
        ⟨⟨csum pre, k⟩,
         if n = 0 then ⟨csum pre, k⟩
         else if (m.data.drop k ++ flatBytes post).length < n then ⟨csum F, 0⟩
         else offAfter (layoutOf F) (s.pos + n)⟩⟩⟩ := by
  subst hF
  have hlt : ¬ (flatLen pre + (m.data.length + flatLen post) ≤ flatLen pre + k) := by omega
  have hal : flatLen pre + (m.data.length + flatLen post) - (flatLen pre + k) =
      (m.data.drop k ++ flatBytes post).length := by simp; omega
  simp only [Hts.Spec.Flat.read, flatOf, total_layoutOf, fileLen_layoutOf, flatLen_append, flatLen, hp, hlt,
    if_false, hb, Bool.false_eq_true, hal, offBefore_split pre post m k hk,
    flatBytes_drop_split pre post m k (Nat.le_of_lt hk), Bool.not_false, and_true]
  generalize m.data.drop k ++ flatBytes post = avail
  congr 1
  · rw [List.take_eq_take_iff]; simp
  · by_cases hlt2 : avail.length < n
    · simp [hlt2]
    · simp only [hlt2, if_false, show min n avail.length = n by omega]

theorem sim_read (hwf : WF F) (h : Sim F r s) (n : Nat) :
    ∃ r', r.read n = (r', (Hts.Spec.Flat.read (flatOf F) s n).bytes,
        errOf (Hts.Spec.Flat.read (flatOf F) s n).eof) ∧
      Sim F r' (Hts.Spec.Flat.read (flatOf F) s n).st := by
  obtain ⟨hfile, hblk, hlast, hpos⟩ := h
  rcases hpos with ⟨pre, m, post, k, hat, hp⟩ | ⟨heof, hp⟩
  · obtain ⟨hfr, ⟨pre1, m1, post1, k1, hat1, hk1, hp1, -⟩ | ⟨heof1, hpe⟩⟩ := skipEmpty_at hwf hat hat.skipFuel
    · -- the read starts at offset `k1 < len` of `m1`
      rw [read_skip_idem hat1 hk1 hat.err]
      have hb1 : (r.skipEmpty r.skipFuel).blocked = s.blocked := hfr.2.2.trans hblk
      generalize r.skipEmpty r.skipFuel = r1 at hat1 hb1
      have hps : s.pos = flatLen pre1 + k1 := by omega
      have hF := hat1.split
      cases hsb : s.blocked
      · rw [hsb] at hb1
        rw [flat_read_unblocked_at hF hk1 s hps hsb]
        by_cases hn : n = 0
        · subst hn
          rw [read_zero_canon hat1 hk1]
          exact ⟨_, rfl, hat1.file, hb1, by simp [Reader.setEnd, Reader.setBgn, hat1.cur],
            Or.inl ⟨_, _, _, _, hat1.setBgn.setEnd, hps⟩⟩
        · have hres := read_unblocked_canon hwf hat1 hk1 hb1 n (by omega)
          have htl : flatLen F = s.pos + (m1.data.drop k1 ++ flatBytes post1).length := by
            rw [hF, hps]; simp [flatLen]; omega
          generalize m1.data.drop k1 ++ flatBytes post1 = avail at hres htl ⊢
          generalize r1.read n = res at hres ⊢
          have hbg : res.1.lastChunk.bgn = ⟨csum pre1, k1⟩ := by
            rw [hres.frame.2.2]; simp [Reader.setBgn, hat1.cur]
          have hlc : res.1.lastChunk = ⟨res.1.lastChunk.bgn, res.1.lastChunk.fin⟩ := rfl
          refine ⟨res.1, Prod.ext rfl (Prod.ext hres.bytes ?_), hres.frame.2.1.trans hat1.file,
            hres.frame.1.trans hb1, ?_, ?_⟩
          · by_cases hlt : avail.length < n
            · simp [errOf, hlt, (hres.eof hlt).1]
            · simp [errOf, hlt, (hres.ok (by omega)).1]
          · rw [hlc, hbg, if_neg hn]
            by_cases hlt : avail.length < n
            · rw [if_pos hlt, (hres.eof hlt).2.2]
            · rw [if_neg hlt, (hres.ok (by omega)).2.1, hps]
          · by_cases hlt : avail.length < n
            · refine Or.inr ⟨(hres.eof hlt).2.1, ?_⟩
              show s.pos + min n avail.length = flatLen F
              omega
            · obtain ⟨_, _, pre', m', post', k', hat', hpos'⟩ := hres.ok (by omega)
              exact Or.inl ⟨pre', m', post', k', hat', by
                show s.pos + min n avail.length = _
                rw [show min n avail.length = n by omega, hps]; exact hpos'⟩
      · rw [hsb] at hb1
        obtain ⟨r', heq, hat', hb', hl'⟩ := read_blocked_canon hwf hat1 hk1 hb1 n
        rw [heq, flat_read_blocked_at hF hk1 s hps hsb]
        exact ⟨r', by simp [errOf], hat'.file, hb', hl', Or.inl ⟨pre1, m1, post1, _, hat', by simp only [hps]; omega⟩⟩
    · -- only empty members follow: the data has ended
      have hp' : s.pos = flatLen F := hp.trans hpe
      rw [read_skip_err r n .eof hat.err heof1.err,
        flat_read_eof (flatOf F) s n (Nat.le_of_eq ((total_layoutOf F).trans hp'.symm))]
      exact ⟨_, rfl, heof1.file, hfr.2.2.trans hblk, hfr.2.1.trans hlast, Or.inr ⟨heof1, hp'⟩⟩
  · -- sticky EOF
    rw [read_err r n .eof heof.err, flat_read_eof (flatOf F) s n (Nat.le_of_eq ((total_layoutOf F).trans hp.symm))]
    exact ⟨_, rfl, hfile, hblk, hlast, Or.inr ⟨heof, hp⟩⟩

end Hts.Model.Bgzf

namespace Hts.Model.Bgzf

theorem errOf_cases (eof : Bool) : errOf eof = none ∨ errOf eof = some .eof := by
  cases eof
  · exact .inl rfl
  · exact .inr rfl

theorem errOf_eq_none {b : Bool} (h : errOf b = none) : b = false := by
  cases b
  · rfl
  · cases h

theorem AtEOF.sim {F : File} {r : Reader} (h : AtEOF F r) : Sim F r ⟨flatLen F, r.blocked, r.lastChunk⟩ :=
  ⟨h.file, rfl, rfl, Or.inr ⟨h, rfl⟩⟩

end Hts.Model.Bgzf
