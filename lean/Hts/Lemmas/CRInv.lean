/-
ChunkReader: position of a chunk end relative to the reader (`toLogical_cases`), chunk
specifications, what remains to be delivered, the invariant between calls, and the chunk-skipping loop.
The invariant is on the zipper (`At`), not on `Sim`: `Read` is taken from `read_blocked_canon` and `skipEmpty_at`
(Lemmas/ReaderRead.lean, ReaderZip.lean), `Seek` from `seek_at` (ReaderSteps); the flat specification's `read` is not used.
-/
import Hts.Lemmas.ReaderSteps
import Hts.Model.ChunkReader
namespace Hts.Model.Bgzf
open Hts.Spec.Flat

theorem toLogical_cases {F pre post : File} {m : Member} (hwf : WF F) (hF : F = pre ++ m :: post)
    {E : Offset} {q : Nat} (h : toLogical (layoutOf F) E = some q) :
    E.block < 65536 ∧
    ((E.file < csum pre ∧ q ≤ flatLen pre) ∨
     (E.file = csum pre ∧ E.block ≤ m.data.length ∧ q = flatLen pre + E.block) ∨
     (csum pre + m.csize ≤ E.file ∧ flatLen pre + m.data.length + E.block ≤ q)) := by
  unfold toLogical at h
  cases hst : seekTarget (layoutOf F) E with
  | none =>
    simp [hst] at h
    obtain ⟨⟨h1, h2⟩, h3⟩ := h
    subst hF
    simp only [csum_append, csum, flatLen_append, flatLen] at h1 h3
    exact ⟨by omega, Or.inr (Or.inr ⟨by omega, by omega⟩)⟩
  | some p =>
    simp only [hst, Option.some.injEq] at h
    subst h
    obtain ⟨preE, mE, postE, hFE, hE, hb, hp⟩ := seekTarget_some F E p hwf hst
    have hfile : E.file = csum preE := by rw [hE]
    have hlen := (WF.mid (hFE ▸ hwf)).2
    refine ⟨by omega, ?_⟩
    rcases Nat.lt_trichotomy (csum preE) (csum pre) with hlt | heq | hgt
    · obtain ⟨mid, rfl⟩ := split_lt (hFE.symm.trans hF) hlt
      simp only [flatLen_append, flatLen]
      exact Or.inl ⟨by omega, by omega⟩
    · obtain ⟨rfl, rfl, rfl⟩ := split_unique (hFE ▸ hwf) (hFE.symm.trans hF) heq
      exact Or.inr (Or.inl ⟨hfile, hb, hp⟩)
    · obtain ⟨mid, rfl⟩ := split_lt (hF.symm.trans hFE) hgt
      simp only [csum_append, csum, flatLen_append, flatLen] at hfile hp
      exact Or.inr (Or.inr ⟨by omega, by omega⟩)

/-- A chunk with the logical positions its offsets name. -/
structure CSpec where
  c : Chunk
  p : Nat
  q : Nat

/-- `Begin` is a seek target, `End` an offset (possibly `(fileLen, 0)`), and the chunk is not inverted. -/
structure CSpec.Valid (F : File) (x : CSpec) : Prop where
  bgn : seekTarget (layoutOf F) x.c.bgn = some x.p
  fin : toLogical (layoutOf F) x.c.fin = some x.q
  le : x.p ≤ x.q

/-- Ordered and non-overlapping (chunks may touch and may be empty). -/
def Ordered : List CSpec → Prop
  | [] => True
  | [_] => True
  | x :: y :: rest => x.q ≤ y.p ∧ Ordered (y :: rest)

/-- The flat bytes between two logical positions. -/
def slice (F : File) (p q : Nat) : List UInt8 := ((flatBytes F).drop p).take (q - p)

/-- What a ChunkReader over these chunks has to deliver. -/
def expected (F : File) : List CSpec → List UInt8
  | [] => []
  | x :: xs => slice F x.p x.q ++ expected F xs

/-- What is still to be delivered when the reader stands at `pos` inside the first chunk. -/
def todo (F : File) : List CSpec → Nat → List UInt8
  | [], _ => []
  | x :: rest, pos => slice F pos x.q ++ expected F rest

variable {F : File} {r : Reader} {s : State} {xs : List CSpec} {pos rem : Nat}

theorem slice_self (F : File) (p : Nat) : slice F p p = [] := by simp [slice]

theorem slice_beyond (F : File) (p q : Nat) (h : flatLen F ≤ p) : slice F p q = [] := by
  simp [slice, List.drop_eq_nil_of_le, h]

theorem slice_split (F : File) (p a q : Nat) (h1 : p ≤ a) (h2 : a ≤ q) :
    slice F p q = slice F p a ++ slice F a q := by
  simp only [slice]
  have : q - p = (a - p) + (q - a) := by omega
  rw [this, List.take_add, List.drop_drop]
  congr 3; omega

theorem slice_prefix_at {pre post : File} {m : Member} (hF : F = pre ++ m :: post) (k x q : Nat)
    (hx : k + x ≤ m.data.length) (hq : flatLen pre + k + x ≤ q) :
    slice F (flatLen pre + k) q = (m.data.drop k).take x ++ slice F (flatLen pre + k + x) q := by
  rw [slice_split F _ (flatLen pre + k + x) q (by omega) hq]
  congr 1
  rw [slice, Nat.add_sub_cancel_left, take_drop_flat hF k x hx]

theorem Ordered.tail {x : CSpec} (h : Ordered (x :: xs)) : Ordered xs := by
  cases xs with
  | nil => trivial
  | cons y ys => exact h.2

theorem ordered_ge (xs : List CSpec) (x : CSpec) (ho : Ordered (x :: xs)) (hv : ∀ y ∈ x :: xs, y.Valid F) :
    ∀ y ∈ xs, x.q ≤ y.p := by
  induction xs generalizing x with
  | nil => exact List.forall_mem_nil _
  | cons z zs ih =>
    intro y hy
    rcases List.mem_cons.mp hy with rfl | hy
    · exact ho.1
    · have h1 := ih z ho.2 (fun w hw => hv w (by simp [hw])) y hy
      have h2 := (hv z (by simp)).le
      have h3 := ho.1
      omega

theorem expected_beyond (xs : List CSpec) (t : Nat) (ht : flatLen F ≤ t)
    (h : ∀ y ∈ xs, t ≤ y.p) : expected F xs = [] := by
  induction xs with
  | nil => rfl
  | cons y ys ih =>
    simp only [expected]
    rw [slice_beyond F y.p y.q (by have := h y (by simp); omega), ih (fun w hw => h w (by simp [hw]))]
    rfl

/-- The invariant of a ChunkReader between calls: the bgzf reader stands at logical position `pos` inside
the first chunk, in Blocked mode, and its last `End` is its concrete position. `rem` = members after the
current one (for the progress measure). -/
structure CRInv (F : File) (r : Reader) (xs : List CSpec) (pos rem : Nat) : Prop where
  valid : ∀ x ∈ xs, x.Valid F
  ordered : Ordered xs
  blocked : r.blocked = true
  at_ : ∃ pre m post k, At F r pre m post k ∧ pos = flatLen pre + k ∧
      r.lastChunk.fin = ⟨csum pre, k⟩ ∧ rem = post.length
  range : ∀ x rest, xs = x :: rest → x.p ≤ pos ∧ pos ≤ x.q

theorem exhausted_pos {pre post : File} {m : Member} {k : Nat} (hwf : WF F) (hF : F = pre ++ m :: post)
    (hk : k ≤ m.data.length) {E : Offset} {q : Nat} (hE : toLogical (layoutOf F) E = some q)
    (hv : vOffset E ≤ vOffset ⟨csum pre, k⟩) : q ≤ flatLen pre + k := by
  have hm := WF.mid (hF ▸ hwf)
  obtain ⟨hb, hc⟩ := toLogical_cases hwf hF hE
  rw [vOffset_le_iff hb (Nat.lt_of_le_of_lt hk hm.2)] at hv
  simp only at hv
  omega

theorem CRInv.todo_nil {x : CSpec} (h : CRInv F r (x :: xs) pos rem) (hp : flatLen F ≤ pos) :
    todo F (x :: xs) pos = [] := by
  have hr := (h.range x xs rfl).2
  simp only [todo]
  rw [slice_beyond F pos x.q hp, expected_beyond xs pos hp, List.append_nil]
  intro y hy
  exact Nat.le_trans hr (ordered_ge xs x h.ordered h.valid y hy)

theorem todo_head (F : File) (y : CSpec) (rest : List CSpec) :
    todo F (y :: rest) y.p = expected F (y :: rest) := rfl

theorem CRInv.rem_lt (h : CRInv F r xs pos rem) :
    rem < F.length := by
  obtain ⟨pre, m, post, k, hat, _, _, hrem⟩ := h.at_
  rw [hrem, hat.split]; simp; omega

theorem CRInv.of_seek (hwf : WF F) (hsim : Sim F r s) (hb : r.blocked = true)
    {y : CSpec} {ys : List CSpec} (hv : ∀ w ∈ y :: ys, w.Valid F) (ho : Ordered (y :: ys)) :
    ∃ r1 rem1, r.seek y.c.bgn = (r1, none) ∧ CRInv F r1 (y :: ys) y.p rem1 := by
  have hvy := hv y (by simp)
  obtain ⟨r1, hsk, hlast, hblk, pre, m, post, hat, hbgn, hp⟩ := seek_at hwf hsim y.c.bgn y.p hvy.bgn
  refine ⟨r1, post.length, hsk, hv, ho, hblk.trans hb,
    ⟨pre, m, post, _, hat, hp, by rw [hlast]; exact hbgn, rfl⟩, ?_⟩
  intro w ws hw
  cases hw
  exact ⟨Nat.le_refl _, hvy.le⟩

/-- Progress measure of a ChunkReader state: chunks left (weighted so that the seek to the next chunk, which
resets `rem` to less than `F.length`, still lowers it), members behind the reader, bytes still to deliver. -/
def mu (F : File) (xs : List CSpec) (rem pos : Nat) : Nat :=
  xs.length * (F.length + 2) + rem + (todo F xs pos).length

theorem advance_spec (hwf : WF F) (xs : List CSpec) (r : Reader) (pos rem : Nat) (h : CRInv F r xs pos rem) :
      (∃ r' ch, ChunkReader.advance r (xs.map (·.c)) = (r', ch, some .eof) ∧ todo F xs pos = []) ∨
      (∃ r' x xs' pos' rem', ChunkReader.advance r (xs.map (·.c)) = (r', (x :: xs').map (·.c), none) ∧
        CRInv F r' (x :: xs') pos' rem' ∧ todo F xs pos = todo F (x :: xs') pos' ∧
        vOffset r'.lastChunk.fin < vOffset x.c.fin ∧ mu F (x :: xs') rem' pos' ≤ mu F xs rem pos) := by
  induction xs generalizing r pos rem with
  | nil => exact Or.inl ⟨r, [], rfl, rfl⟩
  | cons x rest ih =>
    by_cases hex : vOffset x.c.fin ≤ vOffset r.lastChunk.fin
    · -- the first chunk has nothing left
      obtain ⟨pre, m, post, k, hat, hpos, hfin, _⟩ := h.at_
      have hq : x.q ≤ pos := by
        rw [hpos]; rw [hfin] at hex
        exact exhausted_pos hwf hat.split hat.le (h.valid x (by simp)).fin hex
      have htodo : todo F (x :: rest) pos = expected F rest := by
        have hpq : pos = x.q := by have := h.range x rest rfl; omega
        simp [todo, hpq, slice_self]
      cases rest with
      | nil => exact Or.inl ⟨r, [], by simp [ChunkReader.advance, hex], by rw [htodo]; rfl⟩
      | cons y rest' =>
        obtain ⟨r1, rem1, hsk, hinv⟩ := CRInv.of_seek hwf hat.sim h.blocked
          (fun w hw => h.valid w (by simp [hw])) h.ordered.tail
        have hadv : ChunkReader.advance r ((x :: y :: rest').map (·.c)) =
            ChunkReader.advance r1 ((y :: rest').map (·.c)) := by
          simp [ChunkReader.advance, hex, hsk]
        rw [hadv, htodo, ← todo_head]
        rcases ih r1 y.p rem1 hinv with ⟨r', ch, e1, e2⟩ | ⟨r', x', xs', pos', rem', e1, e2, e3, e4, e5⟩
        · exact Or.inl ⟨r', ch, e1, e2⟩
        · refine Or.inr ⟨r', x', xs', pos', rem', e1, e2, e3, e4, Nat.le_trans e5 ?_⟩
          have := hinv.rem_lt
          simp only [mu, htodo, ← todo_head, List.length_cons, Nat.succ_mul]
          omega
    · exact Or.inr ⟨r, x, rest, pos, rem, by simp [ChunkReader.advance, hex], h, rfl, by omega, Nat.le_refl _⟩

end Hts.Model.Bgzf
