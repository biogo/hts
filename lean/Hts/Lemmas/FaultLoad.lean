/-
The loops of the sequential reader over a source that may fail (Model/BgzfReaderFaults.lean), against the flat
bytes of the file: after each, the reader either stands inside the file at the position that the bytes delivered
account for, or has the error of a failed load latched on a block without data.
The loops are proved on their own here, not through C02's lemmas about `Reader` (Lemmas/FaultNoFault.lean relates the two
models at the empty oracle only); shared are `At` and the leaf facts of ReaderBasic/ReaderZip.
Twins: `fnextBlock_at` ‖ `nextBlock_nil/_cons` (ReaderZip);
`fskipEmpty_spec` ‖ `skipEmpty_at` (ReaderZip); `freadLoop_spec` ‖ `readLoop_step/_end_*` (ReaderZip) with
`readLoop_blocked`, `readLoop_unblocked_*` (ReaderRead); in Lemmas/FaultOps.lean `fread_spec` ‖ `sim_read` (ReaderSim),
`freadByte_spec` ‖ `readByte_eq_read`, `fseek_spec` ‖ `seek_split`/`seek_at`, `finv_new` ‖ `sim_new`, `frun_ok` ‖
`run_refines` (ReaderSteps), the invariant `FInv` ‖ `Sim`.
-/
import Hts.Model.BgzfReaderFaults
import Hts.Lemmas.ReaderZip
namespace Hts.Model.Bgzf
open Hts.Spec.Flat

/-- The oracle never makes the source report a clean end of input where a member starts. -/
def NoEof (o : List LoadFault) : Prop := ∀ f ∈ o, f ≠ LoadFault.eof

theorem NoEof.tail {o : List LoadFault} (h : NoEof o) : NoEof o.tail :=
  fun f hf => h f (List.mem_of_mem_tail hf)

/-- The results of one load attempt `x.loadAt base`: what the file holds at `base` (`Block.load`), or one of the two
faults of the oracle. -/
inductive LoadOut (F : File) (x : FReader) (base : Nat) (res : FReader × Option Err) : Prop where
  | file (he : res.2 = (x.r.cur.load F base).2) (hc : res.1.r = { x.r with cur := (x.r.cur.load F base).1 })
  | faultErr (he : res.2 = some .other) (hc : res.1.r = { x.r with cur := Block.failed base })
  | faultEof (ho : LoadFault.eof ∈ x.oracle) (he : res.2 = some .eof)
      (hc : res.1.r = { x.r with cur := Block.failed base })

theorem loadAt_out {F : File} (x : FReader) (base : Nat) (hf : x.r.file = F) :
    LoadOut F x base (x.loadAt base) ∧ (x.loadAt base).1.oracle = x.oracle.tail := by
  unfold FReader.loadAt
  subst hf
  cases ho : x.oracle with
  | nil => exact ⟨.file rfl rfl, rfl⟩
  | cons f rest =>
    cases f with
    | ok => exact ⟨.file rfl rfl, rfl⟩
    | err => exact ⟨.faultErr rfl rfl, rfl⟩
    | eof => exact ⟨.faultEof (by simp [ho]) rfl rfl, rfl⟩

theorem fnextBlock_at {F : File} (hwf : WF F) {x : FReader} {pre : File} {m : Member} {post : File} {k : Nat}
    {tx : Offset} (hfile : x.r.file = F) (hsplit : F = pre ++ m :: post)
    (hcur : x.r.cur = ⟨csum pre, m.csize, m.data, k, tx⟩) :
    x.nextBlock.1.oracle = x.oracle.tail ∧
    ((∃ m' post', post = m' :: post' ∧ x.nextBlock.2 = none ∧
        x.nextBlock.1.r = { x.r with cur := ⟨csum (pre ++ [m]), m'.csize, m'.data, 0, ⟨csum (pre ++ [m]), 0⟩⟩ }) ∨
     (∃ e, x.nextBlock.2 = some e ∧ x.nextBlock.1.r = { x.r with cur := Block.failed (csum pre + m.csize) } ∧
        (e = .eof ∨ e = .other) ∧ (e = .eof → NoEof x.oracle → post = []))) := by
  have hb : x.r.cur.nextBase = csum pre + m.csize := by rw [hcur]; rfl
  have ⟨hout, hor⟩ := loadAt_out x (csum pre + m.csize) hfile
  unfold FReader.nextBlock
  rw [hb]
  refine ⟨hor, ?_⟩
  cases hout with
  | file he hc =>
    rw [load_after hwf hsplit] at he hc
    cases post with
    | nil => exact Or.inr ⟨.eof, he, hc, Or.inl rfl, fun _ _ => rfl⟩
    | cons m' post' => exact Or.inl ⟨m', post', rfl, he, hc⟩
  | faultErr he hc => exact Or.inr ⟨.other, he, hc, Or.inr rfl, fun h => by cases h⟩
  | faultEof ho he hc => exact Or.inr ⟨.eof, he, hc, Or.inl rfl, fun _ hn => absurd rfl (hn _ ho)⟩

/-- The reader holds the block of a failed load and has the error latched (`bg.err`). -/
def Latched (x : FReader) (e : Err) : Prop := x.r.err = some e ∧ x.r.cur.hasData = false

structure SkipRes (F : File) (x x' : FReader) (pos : Nat) : Prop where
  file : x'.r.file = F
  last : x'.r.lastChunk = x.r.lastChunk
  blocked : x'.r.blocked = x.r.blocked
  noeof : NoEof x.oracle → NoEof x'.oracle
  out : (∃ pre' m' post' k', At F x'.r pre' m' post' k' ∧ k' < m'.data.length ∧ flatLen pre' + k' = pos ∧
          post'.length ≤ F.length) ∨
        (∃ e, Latched x' e ∧ (e = .eof ∨ e = .other) ∧ (e = .eof → NoEof x.oracle → pos = flatLen F))

theorem fskipEmpty_spec {F : File} (hwf : WF F) :
    ∀ (fuel : Nat) (x : FReader) (pre : File) (m : Member) (post : File) (k : Nat),
      At F x.r pre m post k → post.length < fuel →
      SkipRes F x (x.skipEmpty fuel) (flatLen pre + k) := by
  intro fuel
  induction fuel with
  | zero => intro x pre m post k _ hf; omega
  | succ fuel ih =>
    intro x pre m post k h hfuel
    have hplen : post.length ≤ F.length := by rw [h.split]; simp; omega
    have hlen := h.cur_len
    have hle := h.le
    by_cases hl : x.r.cur.len = 0
    · -- at the end of `m`: one load attempt at the next base
      have hk : k = m.data.length := by omega
      have ⟨hor, hnb⟩ := fnextBlock_at hwf h.file h.split h.cur
      simp only [FReader.skipEmpty, hl, if_true]
      rcases hx : x.nextBlock with ⟨x', e'⟩
      rw [hx] at hor hnb
      simp only at hor hnb ⊢
      have htail : NoEof x.oracle → NoEof x'.oracle := fun hn => hor ▸ hn.tail
      rcases hnb with ⟨m', post', hp, rfl, hc⟩ | ⟨e, rfl, hc, hee, heof⟩
      · -- the next member is loaded: the loop goes on from its start, at the same position
        have h1 : At F (x'.withR fun r => { r with err := none }).r (pre ++ [m]) m' post' 0 :=
          (hp ▸ h).next (by simp [FReader.withR, hc]) (by simp [FReader.withR, hc]) rfl
        have := ih _ (pre ++ [m]) m' post' 0 h1 (by rw [hp] at hfuel; simp at hfuel; omega)
        have hpos : flatLen (pre ++ [m]) + 0 = flatLen pre + k := by simp [flatLen, hk]
        rw [hpos] at this
        refine ⟨this.file, ?_, ?_, fun hn => this.noeof (htail hn), ?_⟩
        · rw [this.last]; simp [FReader.withR, hc]
        · rw [this.blocked]; simp [FReader.withR, hc]
        · exact this.out.imp_right fun ⟨e, hL, he1, he2⟩ => ⟨e, hL, he1, fun h1 h2 => he2 h1 (htail h2)⟩
      · -- the load fails (end of the file, or a fault): the error is latched on `failAt`'s block
        refine ⟨by simp [FReader.withR, hc, h.file], by simp [FReader.withR, hc], by simp [FReader.withR, hc],
          htail, Or.inr ⟨e, ?_, hee, ?_⟩⟩
        · exact ⟨by simp [FReader.withR], by simp [FReader.withR, hc, Block.hasData, Block.failed]⟩
        · intro he1 hn
          rw [h.split, heof he1 hn, hk]; simp [flatLen]
    · -- bytes left in `m`: the loop does nothing
      simp only [FReader.skipEmpty, hl, if_false]
      have hk : k < m.data.length := by omega
      exact ⟨h.file, rfl, rfl, id, Or.inl ⟨pre, m, post, k, h, hk, rfl, hplen⟩⟩

/-- What a read delivers under faults: a prefix of the flat bytes at the position; either the reader still
stands inside the file behind those bytes, or the error returned is latched on a failed block.  `e' = .eof ∨ e' = .other`
(here, in `SkipRes`, `FInv.dead` and `FaultStepOK`) says that the model's own outcomes `fuel`, `short`, `panic` never
come out. -/
structure ReadRes (F : File) (x x' : FReader) (pos want : Nat) (bytes : List UInt8) (e : Option Err) : Prop where
  bytes_ok : bytes = ((flatBytes F).drop pos).take bytes.length
  le : bytes.length ≤ want
  file : x'.r.file = F
  blocked : x'.r.blocked = x.r.blocked
  noeof : NoEof x.oracle → NoEof x'.oracle
  alive : x'.r.err = none →
    (∃ pre' m' post' k', At F x'.r pre' m' post' k' ∧ flatLen pre' + k' = pos + bytes.length) ∧
    (e = none ∨ (e = some .eof ∧ x.r.blocked = true))
  latched : ∀ e', x'.r.err = some e' → e = some e' ∧ x'.r.cur.hasData = false ∧ (e' = .eof ∨ e' = .other)
  eofEnd : e = some .eof → x.r.blocked = false → NoEof x.oracle → pos + bytes.length = flatLen F

/-- With `out := []`: the same result seen from an earlier state `x` with the same `blocked` and a longer oracle (the
state before the skip loop or before a load). -/
theorem ReadRes.prepend {F : File} {x x1 x' : FReader} {pos want : Nat} {out rest : List UInt8}
    {e : Option Err} (h : ReadRes F x1 x' (pos + out.length) (want - out.length) rest e)
    (hout : out = ((flatBytes F).drop pos).take out.length) (hle : out.length ≤ want)
    (hb : x1.r.blocked = x.r.blocked) (ho : NoEof x.oracle → NoEof x1.oracle) :
    ReadRes F x x' pos want (out ++ rest) e := by
  refine ⟨?_, by simp; have := h.le; omega, h.file, h.blocked.trans hb, fun hn => h.noeof (ho hn), ?_, h.latched,
    ?_⟩
  · rw [List.length_append, List.take_add, ← hout]
    congr 1
    rw [List.drop_drop]; exact h.bytes_ok
  · intro he
    have ⟨h1, h2⟩ := h.alive he
    refine ⟨?_, by rw [← hb]; exact h2⟩
    obtain ⟨pre', m', post', k', hat, hp⟩ := h1
    exact ⟨pre', m', post', k', hat, by simp; omega⟩
  · intro he hbl hn
    have := h.eofEnd he (by rw [hb]; exact hbl) (ho hn)
    simp; omega

/-- The fuel asked for: two rounds for every member behind `m` (load it, copy from it) and, for `m` itself, two if
it still holds bytes and one if not. -/
theorem freadLoop_spec {F : File} (hwf : WF F) :
    ∀ (fuel : Nat) (x : FReader) (pre : File) (m : Member) (post : File) (k want : Nat),
      At F x.r pre m post k → 1 ≤ fuel →
      (0 < want → 2 * post.length + (if k < m.data.length then 2 else 1) ≤ fuel) →
      ReadRes F x (x.readLoop fuel want).1 (flatLen pre + k) want (x.readLoop fuel want).2.1
        (x.readLoop fuel want).2.2 := by
  intro fuel
  induction fuel with
  | zero => intro x pre m post k want _ h1 _; omega
  | succ fuel ih =>
    intro x pre m post k want h _ hfuel
    have hm : m.data.length < 65536 := (WF.mid (h.split ▸ hwf)).2
    by_cases hw : 0 < want
    · have hfuel := hfuel hw
      obtain ⟨xr, xo⟩ := x
      obtain ⟨rf, rc, rl, re, rb⟩ := xr
      obtain ⟨hf, hs, hc, hle, he⟩ := h
      simp only at hf hc he
      subst hf hc he
      by_cases hk : k < m.data.length
      · -- inside `m`: `a` bytes are copied, the loop goes on behind them
        simp only [hk, if_true] at hfuel
        have hl : ((m.data.drop k).take want).length = min want (m.data.length - k) := by simp
        simp only [FReader.readLoop, hw, and_self, if_true, Block.read_mk_lt _ _ _ _ _ _ hk hm, hl, FReader.withR]
        generalize ha : min want (m.data.length - k) = a
        let x1 : FReader := ⟨⟨rf, ⟨csum pre, m.csize, m.data, k + a, ⟨csum pre, k + a⟩⟩, rl, none, rb⟩, xo⟩
        have h1 : At rf x1.r pre m post (k + a) := ⟨rfl, hs, rfl, by omega, rfl⟩
        have := ih x1 pre m post (k + a) (want - a) h1 (by omega) (by
            intro hw'
            have : ¬ (k + a < m.data.length) := by omega
            simp only [this, if_false]; omega)
        exact ReadRes.prepend (x1 := x1) (out := (m.data.drop k).take want)
          (by rw [hl, ha, show flatLen pre + k + a = flatLen pre + (k + a) by omega]; exact this)
          (by rw [hl, ha, ← take_drop_flat hs k a (by omega)]
              rw [List.take_eq_take_iff]; simp; omega)
          (by rw [hl]; omega) rfl id
      · have hkl : k = m.data.length := by omega
        subst hkl
        simp only [Nat.lt_irrefl, if_false] at hfuel
        have hw0 : ¬ (want = 0) := by omega
        cases rb with
        | true =>
          -- at the end of `m`, Blocked: `io.EOF` is returned and not latched
          simp only [FReader.readLoop, hw, and_self, if_true, Block.read_mk_ge _ _ _ _ _ _ (Nat.le_refl _),
            List.length_nil, Nat.sub_zero, hw0, if_false, FReader.withR]
          refine { bytes_ok := by simp, le := by simp, file := rfl, blocked := rfl, noeof := id,
                   alive := fun _ => ⟨⟨pre, m, post, m.data.length, ⟨rfl, hs, rfl, Nat.le_refl _, rfl⟩, by simp⟩,
                     Or.inr ⟨rfl, rfl⟩⟩,
                   latched := ?_, eofEnd := ?_ }
          · intro e' he'; simp [Reader.setEnd] at he'
          · intro _ hb; cases hb
        | false =>
          -- at the end of `m`, not Blocked: one load attempt at the next base
          simp only [FReader.readLoop, hw, and_self, if_true, Block.read_mk_ge _ _ _ _ _ _ (Nat.le_refl _),
            List.length_nil, Nat.sub_zero, hw0, if_false, FReader.withR, Bool.false_eq_true]
          have ⟨hor, hnb⟩ := fnextBlock_at (x := ⟨⟨rf, ⟨csum pre, m.csize, m.data, m.data.length,
            ⟨csum pre, m.data.length⟩⟩, rl, some .eof, false⟩, xo⟩) hwf rfl hs rfl
          rcases hx : FReader.nextBlock _ with ⟨⟨xr', xo'⟩, e'⟩
          rw [hx] at hor hnb
          simp only at hor hnb ⊢
          subst hor
          rcases hnb with ⟨m', post', hp, rfl, rfl⟩ | ⟨e, rfl, rfl, hee, heof⟩
          · -- loaded: the loop goes on from the start of the next member
            have h1 : At rf (⟨rf, ⟨csum (pre ++ [m]), m'.csize, m'.data, 0, ⟨csum (pre ++ [m]), 0⟩⟩, rl, none, false⟩ : Reader)
                (pre ++ [m]) m' post' 0 := ⟨rfl, by rw [hs, hp]; simp, rfl, Nat.zero_le _, rfl⟩
            have := ih ⟨_, xo.tail⟩ (pre ++ [m]) m' post' 0 want h1 (by rw [hp] at hfuel; simp at hfuel; omega) (by
                intro _; rw [hp] at hfuel; simp at hfuel; split <;> omega)
            have hpos : flatLen (pre ++ [m]) + 0 = flatLen pre + m.data.length + ([] : List UInt8).length := by
              simp [flatLen]
            rw [hpos] at this
            exact ReadRes.prepend (out := []) this rfl (Nat.zero_le _) rfl NoEof.tail
          · -- the load fails: its error is returned and latched on `failAt`'s block
            refine ⟨by simp, by simp, rfl, rfl, fun hn => hn.tail, ?_, ?_, ?_⟩
            · intro he; simp [Reader.setEnd] at he
            · intro e' he'
              simp only [Reader.setEnd, Option.some.injEq] at he'
              subst he'
              exact ⟨rfl, by simp [Reader.setEnd, Block.hasData, Block.failed], hee⟩
            · intro he1 _ hn
              simp only [Option.some.injEq] at he1
              rw [hs, heof he1 hn]; simp [flatLen]
    · -- nothing more is wanted: the loop ends where it stands
      have hw0 : want = 0 := by omega
      subst hw0
      simp only [FReader.readLoop, Nat.lt_irrefl, false_and, if_false, FReader.withR]
      refine { bytes_ok := by simp, le := by simp, file := h.file, blocked := rfl, noeof := id,
               alive := fun _ => ⟨⟨pre, m, post, k, h.setEnd, by simp⟩, Or.inl h.err⟩, latched := ?_, eofEnd := ?_ }
      · intro e' he'; simp [Reader.setEnd, h.err] at he'
      · intro he; rw [h.err] at he; cases he

end Hts.Model.Bgzf
