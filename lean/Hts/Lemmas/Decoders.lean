/-
The decoders of C11 are total.  Specifications are stated with `Outcome.Sat`; a proof follows the `do` block of the
model function (`Sat.ite`, `Sat.bind`, `Sat.bind_eq` at a partial operation whose guard holds there, `Sat.elim` at a
`match` on an outcome).  Not every theorem of Props/C11 is on `Outcome`: those about the value-level models of C06, C07,
C15 and C19 use those models' own judgements (Lemmas/DecodersSam, HeaderParse, IndexIORead, FaiSane), and `DecodersBam`
states equations with C05's reader.  The file ends with the totality of C16's own `Coord` functions (`lengthsLoop`,
`endLoop`, `recordEnd` from the `…Go_spec` lemmas here, `isValidLoop` directly).
-/
import Hts.Model.Decoders
import Hts.Lemmas.Bytes
namespace Hts.Model.Decoders
open Outcome (ok err)
open Hts.Model.Coord (CigarOp consumeTab)

@[simp] theorem isPanic_ok {α} (v : α) : (ok v : Outcome α).isPanic = false := rfl
@[simp] theorem isPanic_err {α} : (err : Outcome α).isPanic = false := rfl
@[simp] theorem isPanic_panic {α} (s : String) : (Outcome.panic s : Outcome α).isPanic = true := rfl

namespace Outcome
variable {α β : Type} {Q : α → Prop} {x : Outcome α}

/-- `x` is not a panic, and a value it returns satisfies `Q` -/
def Sat (Q : α → Prop) : Outcome α → Prop
  | ok v => Q v
  | err => True
  | panic _ => False

/-- Case analysis on an outcome that satisfies `R`, whatever surrounds it: a `>>=`, or one of the model's own
`match x with | ok v => … | err => err | .panic s => .panic s`, which is `x >>= …` only up to unfolding a matcher
(the elaborator does not unfold those; the motive is found by abstracting `x` from the goal). -/
@[elab_as_elim] theorem Sat.elim {R : α → Prop} {motive : Outcome α → Prop} (h : x.Sat R)
    (err : motive err) (ok : ∀ v, R v → motive (ok v)) : motive x := by
  cases x with
  | ok v => exact ok v h
  | err => exact err
  | panic s => exact h.elim

theorem Sat.isPanic (h : x.Sat Q) : x.isPanic = false := h.elim rfl fun _ _ => rfl

theorem Sat.of_ok {v : α} (h : x.Sat Q) (e : x = ok v) : Q v := by subst e; exact h

theorem Sat.of_isPanic (h : x.isPanic = false) : x.Sat fun _ => True := by
  cases x with
  | panic s => cases h
  | _ => trivial

theorem Sat.mono {R : α → Prop} (h : x.Sat R) (hq : ∀ v, R v → Q v) : x.Sat Q := h.elim trivial hq

theorem Sat.bind {R : α → Prop} {Q : β → Prop} {f : α → Outcome β} (h : x.Sat R)
    (hf : ∀ v, R v → (f v).Sat Q) : (x >>= f).Sat Q := h.elim trivial hf

theorem Sat.bind_eq {Q : β → Prop} {v : α} {f : α → Outcome β} (e : x = ok v) (h : (f v).Sat Q) :
    (x >>= f).Sat Q := by subst e; exact h

theorem Sat.ite {c : Prop} [Decidable c] {a b : Outcome α} (ha : c → a.Sat Q) (hb : ¬c → b.Sat Q) :
    (if c then a else b).Sat Q := by
  split
  · exact ha ‹_›
  · exact hb ‹_›

theorem Sat.ite_err {c : Prop} [Decidable c] {b : Outcome α} (hb : ¬c → b.Sat Q) : (if c then err else b).Sat Q :=
  .ite (fun _ => trivial) hb

end Outcome
open Outcome (Sat)

theorem ite_prop {α} {p : α → Prop} {c : Prop} [Decidable c] {a b : α} (ha : p a) (hb : p b) :
    p (if c then a else b) :=
  iteInduction (fun _ => ha) fun _ => hb

@[simp] theorem ok_bind {α β} (v : α) (f : α → Outcome β) : (ok v >>= f) = f v := rfl
theorem pure_eq_ok {α} (v : α) : (pure v : Outcome α) = ok v := rfl

theorem index_of_lt {α} {site : String} {l : List α} {i : Nat} (h : i < l.length) :
    index site l i = ok l[i] := by
  unfold index
  rw [List.getElem?_eq_getElem h]

theorem index_mem {α} (site : String) (l : List α) (i : Nat) (x : α) (h : index site l i = ok x) : x ∈ l := by
  unfold index at h
  split at h
  · rename_i y hy
    cases h
    exact List.mem_of_getElem? hy
  · cases h

theorem indexInt_of_lt {α} {site : String} {l : List α} {i : Int} (h0 : 0 ≤ i) (h : i.toNat < l.length) :
    indexInt site l i = ok l[i.toNat] :=
  (if_neg (Int.not_lt.mpr h0)).trans (index_of_lt h)

theorem indexInt_last {α} {site : String} {l : List α} (h : l.length ≠ 0) :
    indexInt site l ((l.length : Int) - 1) = ok (l[l.length - 1]'(by omega)) := by
  rw [indexInt_of_lt (by omega) (by omega)]
  simp only [show ((l.length : Int) - 1).toNat = l.length - 1 by omega]

theorem sliceFrom_of_le {α} {site : String} {l : List α} {lo : Nat} (h : lo ≤ l.length) :
    sliceFrom site l lo = ok (l.drop lo) := if_pos h

theorem sliceTo_of_le {α} {site : String} {l : List α} {hi : Nat} (h : hi ≤ l.length) :
    sliceTo site l hi = ok (l.take hi) := if_pos h

theorem slice_of_le {α} {site : String} {l : List α} {lo hi : Nat} (h1 : lo ≤ hi) (h2 : hi ≤ l.length) :
    slice site l lo hi = ok ((l.take hi).drop lo) := if_pos ⟨h1, h2⟩

theorem makeLen_of_nonneg {site : String} {n : Int} (h : 0 ≤ n) : makeLen site n = ok n.toNat :=
  if_neg (Int.not_lt.mpr h)

theorem ofOption_sat {α} (o : Option α) : (ofOption o).Sat (o = some ·) := by
  cases o with
  | none => trivial
  | some v => exact rfl

theorem ofOption_total {α} (o : Option α) : (ofOption o).isPanic = false := (ofOption_sat o).isPanic

theorem ofOption_ok {α} (o : Option α) (v : α) (h : ofOption o = ok v) : o = some v := (ofOption_sat o).of_ok h

theorem powers_nonneg : ∀ p ∈ powers, (0 : Int) ≤ p := by decide

theorem atoiLoop_spec (k : Int) (hk : k ≤ 12) : ∀ (b : Bytes) (i n : Int), 0 ≤ i → i + b.length ≤ k + 1 → 0 ≤ n →
    (atoiLoop k i b n).Sat (0 ≤ ·)
  | [], _, _, _, _, hn => hn
  | v :: rest, i, n, hi, hlen, hn => by
    simp only [List.length_cons] at hlen
    have hj : (k - i).toNat < powers.length := by show _ < 13; omega
    rw [atoiLoop, indexInt_of_lt (by omega) hj]
    exact atoiLoop_spec k hk rest (i + 1) _ (by omega) (by omega)
      (Int.add_nonneg hn (Int.mul_nonneg (Int.natCast_nonneg _) (powers_nonneg _ (List.getElem_mem hj))))

theorem atoi_spec (b : Bytes) : (atoi b).Sat (0 ≤ ·) := by
  have hl : powers.length = 13 := rfl
  exact .ite_err fun _ => atoiLoop_spec _ (by omega) b 0 0 (Int.le_refl _) (by omega) (Int.le_refl _)

theorem newCigarOp_ok {t : Nat} {n : Int} (h0 : 0 ≤ n) (h1 : n ≤ maxOpLen) :
    newCigarOp t n = ok ⟨t, n.toNat⟩ :=
  if_neg (by omega)

theorem splitOp_total (t : Nat) (n : Int) (acc : List CigarOp) (hn : 0 ≤ n) :
    ∃ r, splitOp t n acc = ok r := by
  have hM : maxOpLen = 268435455 := rfl
  rw [splitOp, newCigarOp_ok (by split <;> omega) (by split <;> omega)]
  dsimp only
  split
  · exact ⟨_, rfl⟩
  · exact splitOp_total t (n - maxOpLen) _ (by omega)
termination_by n.toNat
decreasing_by omega

theorem scanOp_spec (b : Bytes) (fuel j : Nat) (h : b.length ≤ fuel + j) :
    (scanOp b (fuel + 1) j).Sat fun o => ∀ k, o = some k → j ≤ k ∧ k < b.length := by
  induction fuel generalizing j with
  | zero => exact .ite (fun _ _ e => nomatch e) fun _ => by omega
  | succ fuel ih =>
    rw [scanOp]
    refine .ite (fun _ _ e => nomatch e) fun hj => ?_
    rw [index_of_lt (by omega)]
    refine .ite (fun _ => (ih (j + 1) (by omega)).mono fun o ho k e => ⟨by have := ho k e; omega, (ho k e).2⟩)
      fun _ k e => ?_
    cases e
    exact ⟨Nat.le_refl _, by omega⟩

theorem parseOpsFrom_total (b : Bytes) (fuel i : Nat) (acc : List CigarOp) (h : b.length ≤ fuel + i) :
    (parseOpsFrom b (fuel + 1) i acc).isPanic = false := by
  induction fuel generalizing i acc with
  | zero => rw [parseOpsFrom, if_pos (by omega)]; rfl
  | succ fuel ih =>
    rw [parseOpsFrom]
    split
    · rfl
    refine (scanOp_spec b b.length i (by omega)).elim rfl fun o ho => ?_
    cases o with
    | none => rfl
    | some j =>
      obtain ⟨h2, h3⟩ := ho j rfl
      dsimp only
      rw [slice_of_le h2 (by omega)]
      dsimp only
      refine (atoi_spec ((b.take j).drop i)).elim rfl fun n hn => ?_
      dsimp only
      rw [index_of_lt h3]
      dsimp only
      split
      · rfl
      obtain ⟨r, hr⟩ := splitOp_total (opLookup b[j]) n acc hn
      rw [hr]
      exact ih (j + 1) r (by omega)

theorem auxType_of_wf {a : Bytes} {t : UInt8} (ht : a[2]? = some t) : auxType a = ok t ∧ 2 < a.length := by
  obtain ⟨h2, e⟩ := List.getElem?_eq_some_iff.mp ht
  exact ⟨e ▸ index_of_lt h2, h2⟩

theorem auxValueArray_wf {a : Bytes} {size : Nat} (h8 : 8 ≤ a.length) (hs : elemSize (a.getD 3 0) = some size)
    (hn : u32le ((a.take 8).drop 4) < 2147483648) (hd : u32le ((a.take 8).drop 4) * size + 8 ≤ a.length) :
    auxValueArray a = ok true := by
  have e3 : a[3]'(by omega) = a.getD 3 0 := by
    rw [List.getD_eq_getElem?_getD, List.getElem?_eq_getElem, Option.getD_some]
  unfold auxValueArray
  rw [slice_of_le (by omega) h8, ok_bind, index_of_lt (by omega), ok_bind, e3, hs]
  dsimp only
  split
  · rw [sliceFrom_of_le h8]; rfl
  · rw [asInt32, if_pos hn, makeLen_of_nonneg (Int.natCast_nonneg _), ok_bind, sliceFrom_of_le h8, ok_bind,
      if_neg]
    · rfl
    · simp only [List.length_drop, Int.toNat_natCast]; omega

theorem auxValue_wf {a : Bytes} {t : UInt8} (ht : a[2]? = some t) (h : wfAux a = true) :
    ∃ v, auxValue a = ok v ∧ (t = 66 → v = true ∧ 8 ≤ a.length) := by
  obtain ⟨hty, h2⟩ := auxType_of_wf ht
  simp only [wfAux, ht] at h
  rw [auxValue, hty, ok_bind]
  by_cases c1 : t = 65 ∨ t = 99 ∨ t = 67
  · rw [if_pos c1] at h ⊢
    rw [index_of_lt (Nat.lt_of_succ_le (of_decide_eq_true h))]
    exact ⟨false, rfl, by intro e; subst e; simp at c1⟩
  rw [if_neg c1] at h ⊢
  by_cases c2 : t = 115 ∨ t = 83
  · rw [if_pos c2] at h ⊢
    rw [slice_of_le (by omega) (of_decide_eq_true h)]
    exact ⟨false, rfl, by intro e; subst e; simp at c2⟩
  rw [if_neg c2] at h ⊢
  by_cases c3 : t = 105 ∨ t = 73 ∨ t = 102
  · rw [if_pos c3] at h ⊢
    rw [slice_of_le (by omega) (of_decide_eq_true h)]
    exact ⟨false, rfl, by intro e; subst e; simp at c3⟩
  rw [if_neg c3] at h ⊢
  by_cases c4 : t = 90 ∨ t = 72
  · rw [if_pos c4, sliceFrom_of_le (by omega)]
    exact ⟨_, rfl, by intro e; subst e; simp at c4⟩
  rw [if_neg c4] at h ⊢
  by_cases c5 : t = 66
  · rw [if_pos c5] at h ⊢
    simp only [Bool.and_eq_true, decide_eq_true_eq] at h
    split at h
    · simp at h
    · rename_i size hs
      simp only [Bool.and_eq_true, decide_eq_true_eq] at h
      exact ⟨true, auxValueArray_wf h.1 hs h.2.1 h.2.2, fun _ => ⟨rfl, h.1⟩⟩
  · rw [if_neg c5] at h
    cases h

theorem auxSweep_wf (a : Bytes) (h : wfAux a = true) : auxSweep a = ok () := by
  cases ht : a[2]? with
  | none => simp only [wfAux, ht, Bool.false_eq_true] at h
  | some t =>
    obtain ⟨hty, h2⟩ := auxType_of_wf ht
    obtain ⟨v, hv, h66⟩ := auxValue_wf ht h
    have htag : auxTag a = ok (a.take 2) := sliceTo_of_le (by omega)
    have hstr : auxString a = ok () := by
      rw [auxString, hty, ok_bind, htag, ok_bind, hv, ok_bind]
      split
      · rw [index_of_lt (by have := h66 ‹_›; omega)]; rfl
      · rfl
    have hsam : samAuxString a = ok () := by
      rw [samAuxString, hty, ok_bind, htag, ok_bind, hv, ok_bind]
      split
      · rw [(h66 ‹_›).1, index_of_lt (by have := h66 ‹_›; omega)]; rfl
      · rfl
    have hmat : auxMatches a = ok () := by
      rw [auxMatches, index_of_lt (by omega), ok_bind, index_of_lt (by omega)]; rfl
    rw [auxSweep, hmat, ok_bind, htag, ok_bind, hty, ok_bind, hv, ok_bind, hstr, ok_bind, hsam]

theorem newAuxInt_spec (t0 t1 : UInt8) (v : Int) : (newAuxInt t0 t1 v).Sat (wfAux · = true) :=
  .ite (fun _ => rfl) fun _ => .ite (fun _ => rfl) fun _ => .ite (fun _ => rfl) fun _ => trivial

theorem newAuxUint_spec (t0 t1 : UInt8) (v : Int) : (newAuxUint t0 t1 v).Sat (wfAux · = true) :=
  .ite (fun _ => rfl) fun _ => .ite (fun _ => rfl) fun _ => .ite (fun _ => rfl) fun _ => trivial

theorem byteOf_natCast (m : Nat) : (byteOf (m : Int)).toNat = m % 256 := by
  rw [byteOf, UInt8.toNat_ofNat']
  omega

theorem u32le_le32 (n : Nat) (h : n < 4294967296) : u32le (le32 n) = n := by
  show (byteOf (n : Int)).toNat + 256 * (byteOf ((n : Int) / (256 : Nat))).toNat +
    65536 * (byteOf ((n : Int) / (65536 : Nat))).toNat + 16777216 * (byteOf ((n : Int) / (16777216 : Nat))).toNat = n
  simp only [← Int.natCast_ediv, byteOf_natCast, Hts.Lemmas.digits4, Nat.mod_eq_of_lt h]

theorem splitOn_length (sep : UInt8) (b : Bytes) : (splitOn sep b).length ≤ b.length + 1 := by
  induction b with
  | nil => exact Nat.le_refl 1
  | cons c rest ih =>
    unfold splitOn
    split
    · simp only [List.length_cons]; omega
    · split
      · exact Nat.le_add_left ..
      · rename_i f fs hf
        rw [hf] at ih
        exact Nat.le_succ_of_le ih

theorem parseAll_length (p : Bytes → Option Int) : ∀ (l : List Bytes) (vs : List Int),
    parseAll p l = some vs → vs.length = l.length
  | [], _, h => by cases h; rfl
  | f :: fs, vs, h => by
    unfold parseAll at h
    split at h
    · rename_i v vs' _ hvs
      cases h
      exact congrArg (· + 1) (parseAll_length p fs vs' hvs)
    · cases h

theorem arrayParser_fst (P : Parsers) (sub : UInt8) : (arrayParser P sub).map Prod.fst = elemSize sub := by
  by_cases h : sub = 99 ∨ sub = 67 ∨ sub = 115 ∨ sub = 83 ∨ sub = 105 ∨ sub = 73 ∨ sub = 102
  · rcases h with rfl | rfl | rfl | rfl | rfl | rfl | rfl <;> rfl
  · simp only [not_or] at h
    simp only [arrayParser, elemSize, h, if_false, or_self, Option.map_none]

theorem elemSize_pos {sub : UInt8} {size : Nat} (h : elemSize sub = some size) : size = 1 ∨ size = 2 ∨ size = 4 := by
  unfold elemSize at h
  split at h
  · exact .inl (Option.some.inj h).symm
  split at h
  · exact .inr (.inl (Option.some.inj h).symm)
  split at h
  · exact .inr (.inr (Option.some.inj h).symm)
  · cases h

theorem length_flatMap_leN {size : Nat} (h : size = 1 ∨ size = 2 ∨ size = 4) (vs : List Int) :
    (vs.flatMap (leN size)).length = vs.length * size :=
  Hts.Lemmas.flatMap_length_const _ size vs fun _ => by rcases h with rfl | rfl | rfl <;> rfl

theorem wfAux_of_array {a : Bytes} {size : Nat} (h66 : a[2]? = some 66) (h8 : 8 ≤ a.length)
    (hs : elemSize (a.getD 3 0) = some size) (hn : u32le ((a.take 8).drop 4) < 2147483648)
    (hd : u32le ((a.take 8).drop 4) * size + 8 ≤ a.length) : wfAux a = true := by
  simp only [wfAux, h66, hs]
  simp [h8, hn, hd]

theorem newAuxArray_wf (t0 t1 : UInt8) {sub : UInt8} {size : Nat} {vs : List Int} (hs : elemSize sub = some size)
    (hn : vs.length < 2147483648) : wfAux (newAuxArray t0 t1 sub size vs) = true := by
  have hl := length_flatMap_leN (elemSize_pos hs) vs
  have hu : u32le (le32 vs.length) = vs.length := u32le_le32 vs.length (by omega)
  refine wfAux_of_array (size := size) rfl ?_ hs ?_ ?_
  · exact Nat.le_add_left 8 (vs.flatMap (leN size)).length
  · exact hu ▸ hn
  · show u32le (le32 vs.length) * size + 8 ≤ (vs.flatMap (leN size)).length + 8
    rw [hu, hl]
    exact Nat.le_refl _

theorem parseAuxArray_spec (P : Parsers) (t0 t1 : UInt8) (txt : Bytes) :
    (parseAuxArray P t0 t1 txt).Sat fun a => txt.length < 2147483647 → wfAux a = true := by
  unfold parseAuxArray
  refine .ite_err fun h0 => ?_
  -- the `do` block shares what follows each `if 1 < len(txt)` as a local function
  extract_lets parse afterComma
  have hparse (nf : List Bytes) (hnf : nf.length ≤ txt.length) :
      (parse nf).Sat fun a => txt.length < 2147483647 → wfAux a = true := by
    refine .bind_eq (index_of_lt (by omega)) ?_
    refine (ofOption_sat _).bind fun sp hp => (ofOption_sat _).bind fun vs hv hlen => ?_
    have hs : elemSize txt[0] = some sp.1 := by rw [← arrayParser_fst P, hp]; rfl
    have hvs := parseAll_length sp.2 _ vs hv
    exact newAuxArray_wf _ _ hs (by omega)
  have hafter (bad : Bool) : (afterComma bad).Sat fun a => txt.length < 2147483647 → wfAux a = true := by
    refine .ite_err fun _ => .ite (fun h1 => ?_) fun _ => hparse [] (Nat.zero_le _)
    refine .bind_eq (sliceFrom_of_le (by omega)) (hparse _ ?_)
    have := splitOn_length 44 (txt.drop 2)
    simp only [List.length_drop] at this
    omega
  exact .ite (fun h1 => .bind_eq (index_of_lt h1) (hafter _)) fun _ => hafter false

theorem parseAux_spec (P : Parsers) (text : Bytes) :
    (parseAux P text).Sat fun a => text.length < 2147483648 → wfAux a = true := by
  unfold parseAux
  refine .ite_err fun h5 => ?_
  refine .bind_eq (index_of_lt (by omega)) (.bind_eq (index_of_lt (by omega)) ?_)
  refine .ite_err fun _ => ?_
  refine .bind_eq (sliceFrom_of_le (by omega)) <| .bind_eq (index_of_lt (by omega)) <|
    .bind_eq (index_of_lt (by omega)) <| .bind_eq (index_of_lt (by omega)) ?_
  refine .ite (fun _ => .ite_err fun h1 => ?_) fun _ => ?_
  · exact .bind_eq (index_of_lt (by omega)) fun _ => rfl
  refine .ite (fun _ => ?_) fun _ => ?_
  · exact (ofOption_sat _).bind fun i _ =>
      .ite (fun _ => (newAuxInt_spec ..).mono fun _ h _ => h) fun _ => (newAuxUint_spec ..).mono fun _ h _ => h
  refine .ite (fun _ => ?_) fun _ => ?_
  · exact (ofOption_sat _).bind fun bits _ _ => rfl
  refine .ite (fun _ _ => rfl) fun _ => ?_
  refine .ite (fun _ => ?_) fun _ => ?_
  · exact (ofOption_sat _).bind fun b _ _ => rfl
  refine .ite (fun _ => ?_) fun _ => trivial
  exact (parseAuxArray_spec ..).mono fun a h hl => h (by simp only [List.length_drop]; omega)

theorem indexZero_lt : ∀ (l : Bytes) (z : Nat), indexZero l = some z → z < l.length
  | c :: rest, z, h => by
    unfold indexZero at h
    split at h
    · cases h; exact Nat.zero_lt_succ _
    · obtain ⟨y, hy, rfl⟩ := Option.map_eq_some_iff.mp h
      exact Nat.succ_lt_succ (indexZero_lt rest y hy)

theorem wfAux_of_jump_pos {a : Bytes} {t : UInt8} (ht : a[2]? = some t) (hj : 0 < jumpOf t)
    (hl : (jumpOf t + 3).toNat ≤ a.length) : wfAux a = true := by
  simp only [wfAux, ht]
  unfold jumpOf at hj hl
  by_cases c1 : t = 65 ∨ t = 99 ∨ t = 67
  · rw [if_pos c1] at hl ⊢; exact decide_eq_true hl
  rw [if_neg c1] at hj hl ⊢
  by_cases c2 : t = 115 ∨ t = 83
  · rw [if_pos c2] at hl ⊢; exact decide_eq_true hl
  rw [if_neg c2] at hj hl ⊢
  by_cases c3 : t = 105 ∨ t = 73 ∨ t = 102
  · rw [if_pos c3] at hl ⊢; exact decide_eq_true hl
  rw [if_neg c3] at hj
  split at hj <;> omega

theorem wfAux_of_text {a : Bytes} {t : UInt8} (ht : a[2]? = some t) (h : t = 90 ∨ t = 72) : wfAux a = true := by
  simp only [wfAux, ht]
  rcases h with rfl | rfl <;> rfl

theorem jumpOf_neg {t : UInt8} (h : jumpOf t < 0) : (t = 90 ∨ t = 72) ∨ t = 66 :=
  Decidable.by_contra fun c => by
    rw [jumpOf, if_neg (c ∘ or_assoc.mpr)] at h
    repeat' split at h
    all_goals exact absurd h (by decide)

theorem auxStepArray_spec (rem : Bytes) (h66 : rem[2]? = some 66) :
    (auxStepArray rem).Sat fun fw =>
      1 ≤ fw.2 ∧ fw.2 ≤ rem.length ∧ (rem.length < 2147483648 → wfAux fw.1 = true) := by
  unfold auxStepArray
  refine .ite_err fun h8 => ?_
  refine .bind_eq (slice_of_le (by omega) (by omega)) <| .bind_eq (index_of_lt (by omega)) ?_
  refine (ofOption_sat _).bind fun size hs => ?_
  refine .ite_err fun hw => .bind_eq (sliceTo_of_le (by omega)) ⟨by omega, by omega, fun hlen => ?_⟩
  have h124 := elemSize_pos hs
  generalize hn : u32le ((rem.take 8).drop 4) = n at hw ⊢
  have hlen : (rem.take (n * size + 8)).length = n * size + 8 := List.length_take_of_le (Nat.le_of_not_lt hw)
  have e48 : ((rem.take (n * size + 8)).take 8).drop 4 = (rem.take 8).drop 4 := by
    rw [List.take_take, Nat.min_eq_left (Nat.le_add_left ..)]
  refine wfAux_of_array (a := rem.take (n * size + 8)) (size := size) ?_ (by rw [hlen]; exact Nat.le_add_left ..) ?_ ?_ ?_
  · rw [List.getElem?_take_of_lt (by omega), h66]
  · rw [List.getD_eq_getElem?_getD, List.getElem?_take_of_lt (by omega), List.getElem?_eq_getElem (by omega)]
    exact hs
  · rw [e48, hn]
    rcases h124 with rfl | rfl | rfl <;> omega
  · rw [e48, hn, hlen]
    exact Nat.le_refl _

/-- `digits` are the `2 * m` hex digits, `3 + m` is the length of the array `decodeHex` makes, `2 * j` the read index,
and the fuel covers the remaining pairs plus the final test. -/
theorem decodeHexLoop_spec {digits : Bytes} {m : Nat} (hm : digits.length = 2 * m) :
    ∀ (fuel j : Nat) (out : Bytes), j ≤ m → m + 1 ≤ fuel + j →
      (decodeHexLoop digits (3 + m) fuel (2 * j) out).Sat fun _ => True
  | 0, _, _, _, _ => by omega
  | fuel + 1, j, out, _, hf => by
    rw [decodeHexLoop]
    refine .ite (fun _ => trivial) fun hlt => ?_
    refine .bind_eq (index_of_lt (by omega)) <| .bind_eq (index_of_lt (by omega)) ?_
    split
    · rw [if_pos (by omega)]
      exact decodeHexLoop_spec hm fuel (j + 1) _ (by omega) (by omega)
    · exact .bind_eq (slice_of_le (by omega) (by omega)) trivial

theorem decodeHexGo_spec (f : Bytes) (h3 : 3 ≤ f.length) : (decodeHexGo f).Sat fun a => a.take 3 = f.take 3 := by
  unfold decodeHexGo
  refine .bind_eq (sliceFrom_of_le h3) <| .ite_err fun hev => ?_
  refine .bind_eq (makeLen_of_nonneg (Int.natCast_nonneg _)) <| .bind_eq (sliceTo_of_le h3) ?_
  rw [Int.toNat_natCast]
  refine (decodeHexLoop_spec (by omega) _ 0 [] (Nat.zero_le _) (by omega)).bind fun body _ => ?_
  have hl : (f.take 3).length = 3 := List.length_take_of_le h3
  exact (List.take_append_of_le_length (Nat.le_of_eq hl.symm)).trans (List.take_of_length_le (Nat.le_of_eq hl))

theorem auxStep_spec (rem : Bytes) (h3 : 2 < rem.length) :
    (auxStep rem).Sat fun fw =>
      1 ≤ fw.2 ∧ fw.2 ≤ rem.length ∧ (rem.length < 2147483648 → wfAux fw.1 = true) := by
  have ht : rem[2]? = some rem[2] := List.getElem?_eq_getElem h3
  unfold auxStep
  refine .bind_eq (index_of_lt h3) ?_
  generalize rem[2] = t at ht
  have htake {w : Nat} (hw : 2 < w) : (rem.take w)[2]? = some t := (List.getElem?_take_of_lt hw).trans ht
  refine .ite (fun hj => .ite_err fun hw => ?_) fun _ => .ite (fun hj => ?_) fun _ => trivial
  · refine .bind_eq (sliceTo_of_le (by omega)) ⟨by omega, by omega, fun _ => ?_⟩
    exact wfAux_of_jump_pos (htake (by omega)) hj (by rw [List.length_take]; omega)
  refine .ite (fun hZH => ?_) fun hZH => ?_
  · refine ((ofOption_sat _).mono (indexZero_lt rem)).bind fun z hz => .ite_err fun hz3 => ?_
    refine .ite (fun _ => ?_) fun _ => ?_ <;> refine .bind_eq (sliceTo_of_le (by omega)) ?_
    · refine (decodeHexGo_spec (rem.take z) (by rw [List.length_take]; omega)).bind fun a ha => ?_
      refine ⟨by omega, by omega, fun _ => wfAux_of_text ?_ hZH⟩
      rw [← List.getElem?_take_of_lt (Nat.lt_succ_self 2), ha, List.take_take,
        List.getElem?_take_of_lt (by omega)]
      exact ht
    · exact ⟨by omega, by omega, fun _ => wfAux_of_text (htake (by omega)) hZH⟩
  · cases (jumpOf_neg hj).resolve_left hZH
    exact auxStepArray_spec rem ht

theorem parseAuxLoop_spec : ∀ (fuel : Nat) (rem : Bytes) (acc : List Bytes), rem.length < fuel →
    (parseAuxLoop fuel rem acc).Sat fun l =>
      rem.length < 2147483648 → (∀ a ∈ acc, wfAux a = true) → ∀ a ∈ l, wfAux a = true
  | 0, _, _, h => by omega
  | fuel + 1, rem, acc, hf => by
    rw [parseAuxLoop]
    refine .ite (fun _ _ hacc => hacc) fun h2 => ?_
    refine (auxStep_spec rem (by omega)).elim trivial fun ⟨f, w⟩ ⟨hw1, hw2, hwf⟩ => ?_
    refine (parseAuxLoop_spec fuel (rem.drop w) (acc ++ [f]) (by simp only [List.length_drop]; omega)).mono
      fun l hl hlen hacc => hl (by simp only [List.length_drop]; omega) fun a ha => ?_
    rcases List.mem_append.mp ha with h | h
    · exact hacc a h
    · cases List.mem_singleton.mp h; exact hwf hlen

theorem parseAuxBam_spec (aux : Bytes) :
    (parseAuxBam aux).Sat fun l => aux.length < 2147483648 → ∀ a ∈ l, wfAux a = true :=
  .ite (fun _ _ _ h => nomatch h) fun _ =>
    (parseAuxLoop_spec (aux.length + 1) aux [] (Nat.lt_succ_self _)).mono fun _ h hlen => h hlen fun _ h => nomatch h

theorem consumesGo_eq (t : Nat) : consumesGo t = ok (consumeTab.getD t (0, 0)) := by
  unfold consumesGo
  rw [List.getD_eq_getElem?_getD]
  split
  · rw [List.getElem?_eq_none ‹_›]; rfl
  · rw [index_of_lt (by omega), List.getElem?_eq_getElem]; rfl

theorem opString_total (t : Nat) : ∃ c, opString t = ok c := by
  refine ⟨_, index_of_lt ?_⟩
  show _ < 11
  unfold lastCigar
  split <;> omega

theorem lengthsGo_spec : ∀ (c : List CigarOp) (ref read : Int),
    ∃ v, lengthsGo ref read c = ok v ∧ Hts.Model.Coord.lengthsLoop ref read c = some v
  | [], _, _ => ⟨_, rfl, rfl⟩
  | co :: rest, ref, read => by
    rw [lengthsGo, consumesGo_eq]
    exact lengthsGo_spec rest _ _

theorem endGo_spec : ∀ (c : List CigarOp) (pos e : Int),
    ∃ v, endGo pos e c = ok v ∧ Hts.Model.Coord.endLoop pos e c = some v
  | [], _, _ => ⟨_, rfl, rfl⟩
  | co :: rest, pos, e => by
    rw [endGo, consumesGo_eq]
    exact endGo_spec rest _ _

theorem recordEndGo_spec (u : Bool) (pos : Int) (c : List CigarOp) :
    ∃ v, recordEndGo u pos c = ok v ∧ Hts.Model.Coord.recordEnd u pos c = some v := by
  unfold recordEndGo Hts.Model.Coord.recordEnd
  split
  · exact ⟨_, rfl, rfl⟩
  · exact endGo_spec c pos pos

theorem clipCheck_spec {c : List CigarOp} {i : Nat} (h1 : i + 1 < c.length) :
    (clipCheck c i).Sat fun _ => True :=
  .bind_eq (index_of_lt (by omega)) <| .ite (fun _ => .bind_eq (index_of_lt h1) trivial) fun _ => trivial

theorem isValidGo_spec (c : List CigarOp) : ∀ (rest : List CigarOp) (i : Nat) (pos length : Int),
    c.drop i = rest → (isValidGo c i pos length rest).Sat fun _ => True
  | [], _, _, _, _ => trivial
  | co :: rest, i, pos, length, hd => by
    have hi : i < c.length := by
      refine Nat.lt_of_not_le fun h => ?_
      rw [List.drop_of_length_le h] at hd
      cases hd
    rw [List.drop_eq_getElem_cons hi] at hd
    rw [isValidGo]
    extract_lets afterClip
    have hafter (bad : Bool) : (afterClip bad).Sat fun _ => True :=
      .ite (fun _ => trivial) fun _ => .bind_eq (consumesGo_eq _) <| .ite (fun _ => trivial) fun _ =>
        isValidGo_spec c rest (i + 1) _ _ (List.cons.inj hd).2
    refine .ite (fun _ => trivial) fun _ => .ite (fun hcl => (clipCheck_spec ?_).bind fun _ _ => hafter _)
      fun _ => hafter false
    have := hcl.2
    simp only [Bool.and_eq_true, decide_eq_true_eq] at this
    omega

theorem indexAll_total {site : String} {b : Bytes} : ∀ {ks : List Nat}, (∀ k ∈ ks, k < b.length) →
    indexAll site b ks = ok ()
  | [], _ => rfl
  | k :: ks, h => by
    rw [indexAll, index_of_lt (h k List.mem_cons_self)]
    exact indexAll_total fun x hx => h x (List.mem_cons_of_mem _ hx)

theorem decodeIdx_total (site : String) (width : UInt8 → Int) (b : Bytes) :
    (decodeIdx site width b).isPanic = false := by
  unfold decodeIdx
  split
  · rfl
  · rw [index_of_lt (by omega)]
    dsimp only
    split
    · rfl
    · rw [indexAll_total fun k hk => by have := List.mem_range.mp hk; omega]
      rfl

theorem streamRead_total (site : String) (width : UInt8 → Int) (bufLen : Nat) (s : Bytes)
    (hw : ∀ b0, 1 ≤ width b0 ∧ width b0 ≤ bufLen) : (streamRead site width bufLen s).isPanic = false := by
  unfold streamRead
  split
  · rfl
  · rename_i b0 rest
    have := hw b0
    dsimp only
    split
    · rfl
    · rw [slice_of_le (by omega) (by rw [List.length_replicate]; omega),
        sliceTo_of_le (by rw [List.length_replicate]; omega)]
      dsimp only
      split <;> rfl

end Hts.Model.Decoders

namespace Hts.Model.Coord
open Hts.Model.Decoders (lengthsGo_spec endGo_spec recordEndGo_spec ite_prop)

theorem consumes_some (t : Nat) : ∃ q r, consumes t = some (q, r) := ⟨_, _, rfl⟩

theorem lengthsLoop_total (c : List CigarOp) : ∀ ref read, ∃ v, lengthsLoop ref read c = some v :=
  fun ref read => let ⟨v, _, h⟩ := lengthsGo_spec c ref read; ⟨v, h⟩

theorem endLoop_total (c : List CigarOp) (pos e : Int) : ∃ v, endLoop pos e c = some v :=
  let ⟨v, _, h⟩ := endGo_spec c pos e; ⟨v, h⟩

theorem recordEnd_total (u : Bool) (pos : Int) (c : List CigarOp) : ∃ v, recordEnd u pos c = some v :=
  let ⟨v, _, h⟩ := recordEndGo_spec u pos c; ⟨v, h⟩

/-- The `match consumes co.typ` of the loop reduces by whnf, `consumes` being `some _` by definition (`consumes_some`; the
repair fixes/C11-1 made it total): the third `ite_prop` meets the `if` under it.  If `consumes` becomes partial, this is the
proof that breaks. -/
theorem isValidLoop_total (n : Nat) : ∀ (c : List CigarOp) i prev pos length, ∃ v, isValidLoop n i prev pos length c = some v
  | [], _, _, _, _ => ⟨_, rfl⟩
  | co :: rest, i, prev, pos, length => by
    rw [isValidLoop]
    exact ite_prop (p := fun o => ∃ v, o = some v) ⟨_, rfl⟩ <| ite_prop (p := fun o => ∃ v, o = some v) ⟨_, rfl⟩ <|
      ite_prop (p := fun o => ∃ v, o = some v) ⟨_, rfl⟩ (isValidLoop_total n rest _ _ _ _)

theorem cigarIsValid_total (c : List CigarOp) (len : Nat) : ∃ v, cigarIsValid c len = some v :=
  isValidLoop_total c.length c 0 none 0 len

end Hts.Model.Coord
