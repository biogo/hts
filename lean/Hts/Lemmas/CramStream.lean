/-
The cram stream readers return exactly the decoded number and consume exactly the announced bytes.
-/
import Hts.Model.CramStream
import Hts.Lemmas.Itf8
namespace Hts.Lemmas.CramStream
open Hts.Model Hts.Model.CramStream

/-- `errorReader.itf8` and `errorReader.ltf8` of cram.go are the same code around `itf8.Decode` and
`ltf8.Decode`: this is that code over any decoder, and what is proved about it below needs of the
decoder only that it reports the announced width and fails exactly on a short input. -/
def reader {α : Type} (dec : List (BitVec 8) → α × Int × Bool) (src : List (BitVec 8)) :
    Except Err (α × List (BitVec 8)) :=
  match readFull 1 src with
  | .error e => .error e
  | .ok (first, rest) =>
    let (i, n, ok) := dec first
    if ok then .ok (i, rest)
    else
      match readFull (n.toNat - 1) rest with
      | .error .eof => .error .eof
      | .error e => .error e
      | .ok (more, rest') =>
        let (i, _, ok) := dec (first ++ more)
        if ok then .ok (i, rest') else .error .undecodable

theorem itf8_eq_reader : itf8 = reader Itf8.decode := rfl
theorem ltf8_eq_reader : ltf8 = reader Ltf8.decode := rfl

theorem readFull_one_cons (b0 : BitVec 8) (t : List (BitVec 8)) : readFull 1 (b0 :: t) = .ok ([b0], t) := rfl

theorem readFull_of_le {n : Nat} {src : List (BitVec 8)} (hn : n ≠ 0) (h : n ≤ src.length) :
    readFull n src = .ok (src.take n, src.drop n) := by
  rw [readFull, if_neg hn, if_neg (by omega), if_neg (by omega)]

theorem readFull_of_lt {n : Nat} {src : List (BitVec 8)} (h : src.length < n) :
    readFull n src = .error (if src.length = 0 then .eof else .unexpectedEOF) := by
  rw [readFull, if_neg (by omega)]
  by_cases h0 : src.length = 0
  · rw [if_pos h0, if_pos h0]
  · rw [if_neg h0, if_neg h0, if_pos h]

section
variable {α : Type} {dec : List (BitVec 8) → α × Int × Bool} {wd : BitVec 8 → Int}
  (hsnd : ∀ b0 t, (dec (b0 :: t)).2 = (wd b0, decide (wd b0 ≤ ((t.length + 1 : Nat) : Int))))
include hsnd

/-- The "failed to decode" branch is unreachable.  A source cut inside the number is the error of the second
`io.ReadFull`: `io.EOF`, not `io.ErrUnexpectedEOF`, if nothing follows the first byte. -/
theorem reader_cons (hpos : ∀ b0, 1 ≤ wd b0) (b0 : BitVec 8) (t : List (BitVec 8)) :
    reader dec (b0 :: t) =
      if wd b0 ≤ ((t.length + 1 : Nat) : Int) then
        .ok ((dec ((b0 :: t).take (wd b0).toNat)).1, (b0 :: t).drop (wd b0).toNat)
      else .error (if t.length = 0 then .eof else .unexpectedEOF) := by
  obtain ⟨w, hw⟩ := Kernel.width_succ (hpos b0)
  have e1 := hsnd b0 []
  have e2 := hsnd b0 (t.take w)
  rw [hw] at e1 e2 ⊢
  rw [Int.toNat_natCast, List.take_succ_cons, List.drop_succ_cons]
  rcases hd : dec [b0] with ⟨v, n, ok⟩
  rw [hd] at e1
  obtain ⟨rfl, rfl⟩ := Prod.mk.inj e1
  simp only [reader, readFull_one_cons, hd, Int.toNat_natCast, Nat.add_sub_cancel]
  by_cases h : ((w + 1 : Nat) : Int) ≤ ((t.length + 1 : Nat) : Int)
  · rw [if_pos h]
    rcases Nat.eq_zero_or_pos w with rfl | hw0
    · -- one byte is the whole number
      rw [if_pos (by decide)]
      exact congrArg (fun x => Except.ok (x, t)) (congrArg Prod.fst hd).symm
    · have hl : w ≤ t.length := by omega
      rw [if_neg (by simp only [List.length_nil, decide_eq_true_eq]; omega), readFull_of_le (by omega) hl]
      rw [List.length_take_of_le hl, decide_eq_true (Int.le_refl _)] at e2
      simp only [List.singleton_append, e2, if_true]
  · rw [if_neg h, if_neg (by simp only [List.length_nil, decide_eq_true_eq]; omega), readFull_of_lt (by omega)]
    by_cases h0 : t.length = 0
    · rw [if_pos h0]
    · rw [if_neg h0]

theorem reader_roundtrip (hpos : ∀ b0, 1 ≤ wd b0) (hnil : (dec []).2.2 = false) (e rest : List (BitVec 8))
    (v : α) (hd : dec e = (v, (e.length : Int), true)) : reader dec (e ++ rest) = .ok (v, rest) := by
  cases e with
  | nil => rw [hd] at hnil; cases hnil
  | cons b0 t =>
    have hw : wd b0 = ((t.length + 1 : Nat) : Int) := by
      have := hsnd b0 t; rw [hd] at this; exact (Prod.mk.inj this).1.symm
    rw [List.cons_append, reader_cons hsnd hpos, if_pos (by rw [hw, List.length_append]; omega), hw,
      Int.toNat_natCast, ← List.cons_append, ← List.length_cons, List.take_left, List.drop_left, hd]

end

namespace Itf8S

theorem width_pos (b0 : BitVec 8) : 1 ≤ (Itf8.width b0).toNat ∧ ((Itf8.width b0).toNat : Int) = Itf8.width b0 := by
  have := Itf8.width_range b0
  omega

theorem stream_empty : itf8 [] = .error .eof := rfl

theorem stream_roundtrip (v : BitVec 32) (rest : List (BitVec 8)) :
    itf8 (Itf8.encode v ++ rest) = .ok (v, rest) :=
  itf8_eq_reader ▸ reader_roundtrip Itf8.decode_snd Itf8.width_pos rfl _ rest v
    (by rw [Itf8.decode_encode, Itf8.encode_length])

end Itf8S

namespace Ltf8S

theorem width_pos (b0 : BitVec 8) : 1 ≤ (Ltf8.width b0).toNat ∧ ((Ltf8.width b0).toNat : Int) = Ltf8.width b0 := by
  have := Ltf8.width_range b0
  omega

theorem stream_empty : ltf8 [] = .error .eof := rfl

theorem stream_roundtrip (v : BitVec 64) (rest : List (BitVec 8)) :
    ltf8 (Ltf8.encode v ++ rest) = .ok (v, rest) :=
  ltf8_eq_reader ▸ reader_roundtrip Ltf8.decode_snd Ltf8.width_pos rfl _ rest v
    (by rw [Ltf8.decode_encode, Ltf8.encode_length])

end Ltf8S

end Hts.Lemmas.CramStream
