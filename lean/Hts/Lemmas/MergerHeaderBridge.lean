/-
Bridge between the two statements about the link table of sam.MergeHeaders:
`Hts.Model.Header.LinksOk` (property C07, proved of the model of MergeHeaders over a heap of reference
objects) implies `Hts.Model.Merger.LinksOK` (the law property C18 assumes of its link function), for the
link function that reads the ID of the linked reference object.
-/
import Hts.Lemmas.HeaderMerge
import Hts.Lemmas.MergerTop
namespace Hts.Model.Merger
open Hts.Model.Header

/-- names of the references a header lists, in header order -/
def refNames (k : KW RefD) (h : Nat) : List Name := (objsOf k h).map (·.name)

/-- m.refLinks[i][x].ID(): the ID of the reference object the link table points to -/
def linkFnOf (k : KW RefD) (ls : List (List Nat)) : LinkFn := fun i x =>
  match ls[i]? with
  | some l =>
    match l[x]? with
    | some o => (match k.heap[o]? with | some y => y.id.toNat | none => 0)
    | none => 0
  | none => 0

theorem linksOK_of_header_LinksOk {k : KW RefD} (hk : KInv k) {hn : Nat} {srcs : List Nat} {ls : List (List Nat)}
    (h : Hts.Model.Header.LinksOk k hn srcs ls) :
    LinksOK (srcs.map (refNames k)) (refNames k hn) (some (linkFnOf k ls)) := by
  intro i names hnames x hx
  simp only [List.getElem?_map, Option.map_eq_some_iff] at hnames
  obtain ⟨s, hs, rfl⟩ := hnames
  obtain ⟨l, hl, _, hlinks⟩ := h.2 i s hs
  have hx' : x < (objsOf k s).length := by simpa [refNames] using hx
  -- the link of `x`: the object `o`, its cell `y`, and the slot `n` of `o` in the table `t` of the merged header, which is its id
  obtain ⟨o, y, t, n, hlo, hy, hname, _, _, ht, hid, hitem⟩ := hlinks x (objsOf k s)[x] (by simp [hx'])
  have hfn : linkFnOf k ls i x = n := by
    unfold linkFnOf
    simp only [hl, hlo, hy, hid]
    simp
  simp only [hfn]
  have hmerged : (refNames k hn)[n]? = some y.name := by
    rw [refNames, List.getElem?_map, (objsOf_get ht (hk.tab _ _ ht) n y).2 ⟨o, hitem, hy⟩]; rfl
  refine ⟨?_, ?_⟩
  · exact (List.getElem?_eq_some_iff.1 hmerged).1
  · rw [hmerged, hname]
    simp [refNames, hx']

end Hts.Model.Merger
