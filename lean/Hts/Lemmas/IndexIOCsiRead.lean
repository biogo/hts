/-
What `csi.ReadFrom` establishes: every CSI index it returns is well-formed (`CWF`), so it can be written
and read back (Hts.Lemmas.IndexIOCsi); and it never panics (Props C11).
-/
import Hts.Lemmas.IndexIOCsi
import Hts.Lemmas.IndexIORead
namespace Hts.Model.IndexIO
open Hts.Model.Index Hts.Model.Csi

theorem rCBinLoop_sat {version dummy : Nat} : ∀ (k : Nat) {acc : List CBin} {st : Option Stats},
    (∀ b, b ∈ acc → CBinRead dummy b) → (∀ s, st = some s → StatsRead s) →
    Sat (rCBinLoop version dummy k acc st) fun r =>
      (∀ b, b ∈ r.1 → CBinRead dummy b) ∧ (∀ s, r.2 = some s → StatsRead s) ∧
        r.1.length + (if r.2.isSome then 1 else 0) ≤ acc.length + (if st.isSome then 1 else 0) + k := by
  intro k
  induction k with
  | zero => exact fun hacc hst _ => .ok ⟨fun b hb => hacc b (List.mem_reverse.1 hb), hst, by simp⟩
  | succ k ih =>
    intro acc st hacc hst bs
    unfold rCBinLoop
    refine rU32_sat.elim bs .err fun bin r1 h1 => ?_
    dsimp only
    refine rOff_sat.elim r1 .err fun left r2 h2 => ?_
    dsimp only
    -- the record count is on the wire in version 2 only
    have hrecs : Good (fun x => x.1 < 18446744073709551616) (if version = 2 then rU64 r2 else .ok (0, r2)) :=
      .ite (fun _ => rU64_sat r2) fun _ => .ok (Nat.zero_lt_succ _)
    refine hrecs.elim .err fun ⟨recs, r3⟩ h3 => ?_
    dsimp only
    refine rI32_sat.elim r3 .err fun n r4 h4 => ?_
    refine .ite (fun _ => .ite_err fun _ => ?_) fun hne => ?_
    · refine rStatsBody_sat.elim r4 .err fun s r5 hs => ?_
      refine (ih hacc (fun s' hs' => Option.some.inj hs' ▸ hs) r5).mono fun r g => ⟨g.1, g.2.1, ?_⟩
      have := g.2.2
      rw [Option.isSome_some, if_pos rfl] at this
      omega
    · refine (rChunks_sat h4.2).elim r4 .err fun cs r5 c => ?_
      refine (ih (acc := ⟨bin, left, recs, cs⟩ :: acc)
        (fun b hb => (List.mem_cons.1 hb).elim (· ▸ ⟨h1, hne, h2, h3, c⟩) (hacc b)) hst r5).mono
        fun r g => ⟨g.1, g.2.1, ?_⟩
      have := g.2.2
      rw [List.length_cons] at this
      omega

theorem rCBins_sat (version binLimit : Nat) : Sat (rCBins version binLimit) fun r =>
    CRefBounds version binLimit ⟨r.1, r.2⟩ ∧ CRefSorted ⟨r.1, r.2⟩ := by
  intro bs
  unfold rCBins
  refine rI32_sat.elim bs .err fun n r1 hn => ?_
  refine .ite (fun _ => .ok ?_) fun _ => .ite_err fun _ => .ite_err fun hlim => ?_
  · exact ⟨{ nb := Nat.zero_le _, nb31 := Nat.zero_lt_succ _, bins := fun _ hb => absurd hb List.not_mem_nil,
             stats := (by intro s hs; cases hs) },
           { bins := List.Pairwise.nil, chunks := fun _ hb => absurd hb List.not_mem_nil }⟩
  refine (rCBinLoop_sat n.toNat (fun _ hb => absurd hb List.not_mem_nil) (by intro s hs; cases hs)).elim r1
    .err fun r _ g => .ok ?_
  have hperm := List.mergeSort_perm r.1 leCBin
  have g3 := g.2.2
  simp only [List.length_nil, Option.isSome_none, Bool.false_eq_true, if_false] at g3
  exact
    ⟨{ nb := by show (r.1.mergeSort leCBin).length + (if r.2.isSome then 1 else 0) ≤ _; rw [hperm.length_eq]; omega
       nb31 := by show (r.1.mergeSort leCBin).length + (if r.2.isSome then 1 else 0) < _; rw [hperm.length_eq]; omega
       bins := fun b hb =>
         have ⟨a1, a2, a3, a4, a5, a6, _⟩ := g.1 b (hperm.mem_iff.1 hb)
         ⟨a1, a2, a3, a4, a5, a6⟩
       stats := g.2.1 },
     { bins := List.pairwise_mergeSort leCBin_trans leCBin_total _
       chunks := fun b hb => (g.1 b (hperm.mem_iff.1 hb)).2.2.2.2.2.2 }⟩

theorem rCRef_sat (version binLimit : Nat) :
    Sat (rCRef version binLimit) fun r => CRefBounds version binLimit r ∧ CRefSorted r := by
  intro bs
  unfold rCRef
  exact (rCBins_sat version binLimit).elim bs .err fun _ _ h => .ok h

theorem rCRefs_sat (version binLimit : Nat) {n : Int} (hn : n < 2147483648) :
    Sat (rCRefs version binLimit n) fun refs =>
      refs.length < 2147483648 ∧ ∀ r, r ∈ refs → CRefBounds version binLimit r ∧ CRefSorted r := fun bs =>
  .ite (fun _ => .ok ⟨Nat.zero_lt_succ _, fun _ hr => absurd hr List.not_mem_nil⟩) fun _ =>
    (counted_sat (rCRef_sat version binLimit) n bs).mono fun _ h => ⟨by omega, h.2.2⟩

theorem rAux_sat {na : Int} (hn : na < 2147483648) : Sat (rAux na) (·.length < 2147483648) := fun bs =>
  .ite (fun _ => (rBytes_sat na.toNat bs).mono fun _ h => by omega) fun _ => .ok (Nat.zero_lt_succ _)

theorem readCsi_good (bs : Bytes) : Good CWF (readCsi bs) := by
  unfold readCsi
  refine (rBytes_sat 3).elim bs .err fun m r1 _ => ?_
  refine .ite_err fun _ => ?_
  cases r1 with
  | nil => exact .err
  | cons v r2 =>
  refine .ite_err fun hv => ?_
  refine rI32_sat.elim r2 .err fun ms r3 h3 => ?_
  refine .ite_err fun hms => ?_
  refine rI32_sat.elim r3 .err fun dp r4 h4 => ?_
  refine .ite_err fun hdp => .ite_err fun hgeom => ?_
  refine rI32_sat.elim r4 .err fun na r5 h5 => ?_
  dsimp only
  refine (rAux_sat h5.2).elim r5 .err fun aux r6 h6 => ?_
  dsimp only
  refine rI32_sat.elim r6 .err fun n r7 h7 => ?_
  dsimp only
  refine (rCRefs_sat v.toNat (csiBinLimit dp.toNat) h7.2).elim r7 .err fun refs r8 h8 => ?_
  dsimp only
  refine (rUnmapped_good r8).elim .err fun um hum => .ok ?_
  exact
    { version := by show v.toNat = 1 ∨ v.toNat = 2; omega
      minShift := by show ms.toNat < _; omega
      geom := by show ms.toNat + 3 * dp.toNat ≤ 62; omega
      aux := h6, nrefs := h8.1, bounds := fun r hr => (h8.2 r hr).1
      flag := fun _ r hr => (h8.2 r hr).2, um := hum }

theorem readCsi_wf {bs : Bytes} {i : CIndex} (h : readCsi bs = .ok i) : CWF i := (readCsi_good bs).of_ok h

/-- C11 on this model: `csi.ReadFrom` never ends in `Fault.panic`, for arbitrary bytes.  In the model every
`make([]T, n)` of the CSI reader is `counted n …` (a negative `n` is the error the code returns with fixes/C11-13) or
follows the `nBins < 0` / `uint32(nBins) > binLimit+1` tests of `readBins` (`rCBins`: `n < 0`, `n.toNat > binLimit + 1`);
the `bins = bins[:len(bins)-1]; i--` step of the statistics pseudo-bin is the loop counter `k` of `rCBinLoop` going down
without a bin being appended. -/
theorem readCsi_ne_panic (bs : Bytes) : readCsi bs ≠ .error .panic := (readCsi_good bs).ne_panic

end Hts.Model.IndexIO
