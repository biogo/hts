/-
Lemmas about the sequential writer model (Hts.Model.BgzfWriter): what `writeLoop` computes, the invariant
of the writer state over arbitrary scripts, and what appending to a script does to the state after it.
Defined here, used in property statements: `hasClose`, `after` (the state after a script at the real block size);
for the lemmas: `BlocksOK`, `Inv`, `State.held`.
-/
import Hts.Model.BgzfWriter
namespace Hts.Model.BgzfWriter
variable {α : Type}

def BlocksOK (bs : Nat) (e : List (List α)) : Prop := ∀ blk ∈ e, 1 ≤ blk.length ∧ blk.length ≤ bs

theorem BlocksOK.append {bs : Nat} {e : List (List α)} {blk : List α} (he : BlocksOK bs e)
    (h1 : 1 ≤ blk.length) (h2 : blk.length ≤ bs) : BlocksOK bs (e ++ [blk]) := by
  intro x hx
  rcases List.mem_append.mp hx with h | h
  · exact he x h
  · simp at h; subst h; exact ⟨h1, h2⟩

theorem writeLoop_flatten (bs : Nat) (hbs : 0 < bs) (b a : List α) (e : List (List α)) :
    (writeLoop bs hbs b a e).2.flatten ++ (writeLoop bs hbs b a e).1 = e.flatten ++ a ++ b := by
  fun_induction writeLoop bs hbs b a e with
  | case1 a e => simp
  | case2 b a e hb hc n active' hemit ih =>
    rw [ih]; simp [active', List.append_assoc]
  | case3 b a e hb hc n active' hemit ih =>
    rw [ih]; simp [active', List.append_assoc]
  | case4 b a e hb hc ih =>
    rw [ih]; simp

theorem writeLoop_blocks (bs : Nat) (hbs : 0 < bs) (b a : List α) (e : List (List α))
    (ha : a.length < bs) (he : BlocksOK bs e) :
    (writeLoop bs hbs b a e).1.length < bs ∧ BlocksOK bs (writeLoop bs hbs b a e).2 := by
  fun_induction writeLoop bs hbs b a e with
  | case1 a e => exact ⟨ha, he⟩
  | case2 b a e hb hc n active' hemit ih =>
    have hpos : 0 < b.length := List.length_pos_iff.mpr hb
    have hl : active'.length = a.length + n := by
      rw [List.length_append, List.length_take, Nat.min_eq_left (Nat.min_le_left _ _)]
    have hn : 1 ≤ n ∧ n ≤ bs - a.length := ⟨by simp only [n]; omega, Nat.min_le_right _ _⟩
    clear_value n active'
    exact ih hbs (BlocksOK.append he (by omega) (by omega))
  | case3 b a e hb hc n active' hemit ih =>
    have hl : active'.length = a.length + n := by
      rw [List.length_append, List.length_take, Nat.min_eq_left (Nat.min_le_left _ _)]
    have hn : n ≤ bs - a.length := Nat.min_le_right _ _
    have : active'.length ≠ bs := fun h => hemit (Or.inl h)
    clear_value n active'
    exact ih (by omega) he
  | case4 b a e hb hc ih =>
    apply ih hbs
    exact BlocksOK.append he (by omega) (by omega)

theorem writeLoop_fits (bs : Nat) (hbs : 0 < bs) (b a : List α) (e : List (List α))
    (hb : b ≠ []) (hfit : a.length + b.length ≤ bs) :
    writeLoop bs hbs b a e = if a.length + b.length = bs then ([], e ++ [a ++ b]) else (a ++ b, e) := by
  have hpos : 0 < b.length := List.length_pos_iff.mpr hb
  have hn : min b.length (bs - a.length) = b.length := by omega
  rw [writeLoop]
  simp only [hb, dite_false, hfit, or_true, dite_true, hn, List.take_length, List.drop_length, List.length_append]
  have h0 : ¬ b.length = 0 := by omega
  simp only [h0, or_false]
  split <;> (rw [writeLoop]; simp)

theorem writeLoop_nofit (bs : Nat) (hbs : 0 < bs) (b a : List α) (e : List (List α))
    (hal : a.length ≤ bs) (hnofit : bs < a.length + b.length) (hb : b.length ≤ bs) :
    writeLoop bs hbs b a e = if b.length = bs then ([], e ++ [a] ++ [b]) else (b, e ++ [a]) := by
  have hbne : b ≠ [] := by intro h; subst h; simp at hnofit; omega
  rw [writeLoop]
  have hc : ¬ (a.length = 0 ∨ a.length + b.length ≤ bs) := by omega
  simp only [hbne, dite_false, hc]
  rw [writeLoop_fits bs hbs b [] _ hbne (by simpa using hb)]
  simp

theorem writeLoop_split (bs : Nat) (hbs : 0 < bs) (b : List α) (e : List (List α)) (hb : bs < b.length) :
    writeLoop bs hbs b [] e = writeLoop bs hbs (b.drop bs) [] (e ++ [b.take bs]) := by
  have hne : b ≠ [] := by intro h; subst h; simp at hb
  have hn : min b.length (bs - 0) = bs := by omega
  rw [writeLoop]
  simp only [hne, dite_false, List.length_nil, true_or, dite_true, hn, List.nil_append, List.length_take]
  rw [if_pos (Or.inl (by omega))]

theorem writeLoop_ext (bs : Nat) (hbs : 0 < bs) (b a : List α) (e : List (List α)) :
    ∃ ext, (writeLoop bs hbs b a e).2 = e ++ ext := by
  fun_induction writeLoop bs hbs b a e with
  | case1 a e => exact ⟨[], by simp⟩
  | case2 b a e hb hc n active' hemit ih => obtain ⟨x, hx⟩ := ih; exact ⟨[active'] ++ x, by rw [hx]; simp⟩
  | case3 b a e hb hc n active' hemit ih => exact ih
  | case4 b a e hb hc ih => obtain ⟨x, hx⟩ := ih; exact ⟨[a] ++ x, by rw [hx]; simp⟩

/-- Invariant of the writer state at API-call boundaries. -/
structure Inv (bs : Nat) (s : State α) : Prop where
  /-- the active block is never full (a full block is queued at once) -/
  active_lt : s.active.length < bs
  open_blocks : s.closed = false → BlocksOK bs s.emitted
  /-- closed: the queue is the data blocks (1..bs bytes each) followed by the block Close queued,
  which may be empty; nothing is left in the active block -/
  closed_blocks : s.closed = true →
    s.active = [] ∧ ∃ pre last, s.emitted = pre ++ [last] ∧ BlocksOK bs pre ∧ last.length < bs

theorem Inv.init (bs : Nat) (hbs : 0 < bs) : Inv bs (State.init : State α) :=
  ⟨by simpa [State.init] using hbs, by intro _ x hx; simp [State.init] at hx, by intro h; simp [State.init] at h⟩

theorem write_open (bs : Nat) (hbs : 0 < bs) (s : State α) (b : List α) (hc : s.closed = false) :
    (write bs hbs s b).1 =
      { s with active := (writeLoop bs hbs b s.active s.emitted).1, emitted := (writeLoop bs hbs b s.active s.emitted).2 } := by
  simp [write, hc]

theorem step_of_closed (bs : Nat) (hbs : 0 < bs) {s : State α} (hc : s.closed = true) (op : Op α) :
    (step bs hbs s op).1 = s := by
  cases op <;> simp [step, write, flush, wait, close, hc]

theorem step_inv (bs : Nat) (hbs : 0 < bs) (s : State α) (op : Op α) (h : Inv bs s) :
    Inv bs (step bs hbs s op).1 := by
  cases hc : s.closed with
  | true => rwa [step_of_closed bs hbs hc]
  | false =>
    cases op with
    | write b =>
      have := writeLoop_blocks bs hbs b s.active s.emitted h.active_lt (h.open_blocks hc)
      rw [step, write_open bs hbs s b hc]
      exact ⟨this.1, fun _ => this.2, by intro h'; simp [hc] at h'⟩
    | flush =>
      simp only [step, flush, hc, Bool.false_eq_true, if_false]
      split
      · exact h
      · refine ⟨by simpa using hbs, fun _ => ?_, by intro h'; simp at h'⟩
        exact BlocksOK.append (h.open_blocks hc) (by omega) (Nat.le_of_lt h.active_lt)
    | wait => exact h
    | close =>
      simp only [step, close, hc, Bool.false_eq_true, if_false]
      exact ⟨by simpa using hbs, by intro h'; simp at h',
        fun _ => ⟨rfl, s.emitted, s.active, rfl, h.open_blocks hc, h.active_lt⟩⟩

theorem run_inv (bs : Nat) (hbs : 0 < bs) (s : State α) (ops : List (Op α)) (h : Inv bs s) :
    Inv bs (run bs hbs s ops).1 := by
  induction ops generalizing s with
  | nil => simpa [run] using h
  | cons op ops ih =>
    simp only [run]
    exact ih _ (step_inv bs hbs s op h)

def State.held (s : State α) : List α := s.emitted.flatten ++ s.active

theorem step_held (bs : Nat) (hbs : 0 < bs) (s : State α) (op : Op α) :
    (step bs hbs s op).1.held = s.held ++ (if s.closed then [] else accepted [op]) := by
  cases hc : s.closed with
  | true => simp [step_of_closed bs hbs hc]
  | false =>
    cases op with
    | write b =>
      rw [step, write_open bs hbs s b hc]
      simpa [accepted, State.held] using writeLoop_flatten bs hbs b s.active s.emitted
    | flush =>
      simp only [step, flush, hc, accepted, State.held, Bool.false_eq_true, if_false]
      split <;> simp
    | wait => simp [step, wait, accepted]
    | close => simp [step, close, hc, accepted, State.held]

theorem step_closed (bs : Nat) (hbs : 0 < bs) (s : State α) (op : Op α) :
    (step bs hbs s op).1.closed = (s.closed || match op with | .close => true | _ => false) := by
  cases op <;> simp only [step, write, flush, wait, close] <;> cases hc : s.closed <;> simp [hc]
  split <;> simp [hc]

theorem run_held (bs : Nat) (hbs : 0 < bs) (s : State α) (ops : List (Op α)) :
    (run bs hbs s ops).1.held = s.held ++ (if s.closed then [] else accepted ops) := by
  induction ops generalizing s with
  | nil => cases s.closed <;> simp [run, accepted]
  | cons op ops ih =>
    simp only [run]
    rw [ih, step_held, step_closed]
    cases s.closed <;> cases op <;> simp [accepted]

theorem flush_emitted_length {s : State α} (hc : s.closed = false) :
    (flush s).1.emitted.length = s.emitted.length + (if s.active.length ≠ 0 then 1 else 0) := by
  simp only [flush, hc, Bool.false_eq_true, if_false]; split <;> simp [*]

theorem close_emitted_length {s : State α} (hc : s.closed = false) :
    (close s).1.emitted.length = s.emitted.length + 1 := by
  simp [close, hc]

theorem step_ext (bs : Nat) (hbs : 0 < bs) (s : State α) (op : Op α) :
    ∃ ext, (step bs hbs s op).1.emitted = s.emitted ++ ext := by
  cases op with
  | write b =>
    by_cases hc : s.closed = true
    · exact ⟨[], by simp [step, write, hc]⟩
    · rw [step, write_open bs hbs s b (eq_false_of_ne_true hc)]
      exact writeLoop_ext bs hbs b s.active s.emitted
  | flush =>
    simp only [step, flush]
    split
    · exact ⟨[], by simp⟩
    · split
      · exact ⟨[], by simp⟩
      · exact ⟨[s.active], rfl⟩
  | wait => exact ⟨[], by simp [step, wait]⟩
  | close =>
    simp only [step, close]
    split
    · exact ⟨[], by simp⟩
    · exact ⟨[s.active], rfl⟩

theorem run_append (bs : Nat) (hbs : 0 < bs) : ∀ (a b : List (Op α)) (s : State α),
    (run bs hbs s (a ++ b)).1 = (run bs hbs (run bs hbs s a).1 b).1
  | [], b, s => by simp [run]
  | op :: a, b, s => by
    simp only [List.cons_append, run]
    exact run_append bs hbs a b _

theorem run_ext (bs : Nat) (hbs : 0 < bs) : ∀ (ops : List (Op α)) (s : State α),
    ∃ ext, (run bs hbs s ops).1.emitted = s.emitted ++ ext
  | [], s => ⟨[], by simp [run]⟩
  | op :: ops, s => by
    obtain ⟨x, hx⟩ := step_ext bs hbs s op
    obtain ⟨y, hy⟩ := run_ext bs hbs ops (step bs hbs s op).1
    exact ⟨x ++ y, by simp only [run]; rw [hy, hx]; simp⟩

/-- a script closes the writer iff it contains a Close -/
def hasClose : List (Op α) → Bool
  | [] => false
  | .close :: _ => true
  | _ :: ops => hasClose ops

theorem run_closed (bs : Nat) (hbs : 0 < bs) (s : State α) (ops : List (Op α)) :
    (run bs hbs s ops).1.closed = (s.closed || hasClose ops) := by
  induction ops generalizing s with
  | nil => simp [run, hasClose]
  | cons op ops ih =>
    simp only [run]; rw [ih, step_closed]
    cases op <;> simp [hasClose]

theorem hasClose_append : ∀ (a b : List (Op α)), hasClose (a ++ b) = (hasClose a || hasClose b)
  | [], _ => rfl
  | op :: a, b => by cases op <;> simp [hasClose, hasClose_append a b]

theorem accepted_append_noclose : ∀ (a b : List (Op α)), hasClose a = false →
    accepted (a ++ b) = accepted a ++ accepted b
  | [], b, _ => by simp [accepted]
  | op :: a, b, hc => by
    cases op <;> simp only [hasClose, Bool.true_eq_false] at hc <;>
      simp [accepted, accepted_append_noclose a b hc]

/-- the writer state after a script, at the real block size -/
def after (ops : List (Op α)) : State α := (run BlockSize blockSize_pos State.init ops).1

theorem after_closed (ops : List (Op α)) : (after ops).closed = hasClose ops := by
  simpa [after, State.init] using run_closed BlockSize blockSize_pos (State.init : State α) ops

theorem after_inv (ops : List (Op α)) : Inv BlockSize (after ops) :=
  run_inv BlockSize blockSize_pos (State.init : State α) ops (Inv.init BlockSize blockSize_pos)

theorem after_held (ops : List (Op α)) : (after ops).emitted.flatten ++ (after ops).active = accepted ops := by
  simpa [after, State.held, State.init] using run_held BlockSize blockSize_pos (State.init : State α) ops

theorem after_prefix_ext (a b : List (Op α)) : ∃ ext, (after (a ++ b)).emitted = (after a).emitted ++ ext := by
  simp only [after, run_append]
  exact run_ext _ _ b _

theorem after_flush_wait_active (pre : List (Op α)) (hnc : hasClose pre = false) :
    (after (pre ++ [.flush, .wait])).active = [] := by
  have hcl : (after pre).closed = false := by rw [after_closed, hnc]
  simp only [after, run_append] at hcl ⊢
  simp only [run, step, flush, wait, hcl, Bool.false_eq_true, if_false]
  split
  · rename_i h0; exact List.eq_nil_of_length_eq_zero h0
  · rfl

theorem after_flush_wait_flatten (pre : List (Op α)) (hnc : hasClose pre = false) :
    (after (pre ++ [.flush, .wait])).emitted.flatten = accepted pre := by
  have := after_held (pre ++ [.flush, .wait])
  rwa [after_flush_wait_active pre hnc, accepted_append_noclose pre _ hnc, List.append_nil,
    show accepted [Op.flush, Op.wait] = ([] : List α) from rfl, List.append_nil] at this

theorem after_open_blocks {ops : List (Op α)} (hopen : hasClose ops = false) : BlocksOK BlockSize (after ops).emitted :=
  (after_inv ops).open_blocks (by rw [after_closed, hopen])

theorem after_closed_blocks {ops : List (Op α)} (hclose : hasClose ops = true) :
    (after ops).active = [] ∧
      ∃ pre last, (after ops).emitted = pre ++ [last] ∧ BlocksOK BlockSize pre ∧ last.length < BlockSize :=
  (after_inv ops).closed_blocks (by rw [after_closed, hclose])

theorem after_blocks_le (ops : List (Op α)) : ∀ p ∈ (after ops).emitted, p.length ≤ BlockSize := by
  intro p hp
  cases hcl : hasClose ops with
  | false => exact (after_open_blocks hcl p hp).2
  | true =>
    obtain ⟨_, pre, last, hem, hpre, hlast⟩ := after_closed_blocks hcl
    rw [hem] at hp
    rcases List.mem_append.mp hp with h' | h'
    · exact (hpre p h').2
    · simp at h'; subst h'; omega

theorem demo_split (bs : Nat) (hbs : 1 < bs) :
    ((run bs (by omega) State.init [Op.write (List.replicate (bs + 1) ()), Op.flush, Op.close]).1.emitted.map List.length)
    = [bs, 1, 0] := by
  have h1 : writeLoop bs (by omega) (List.replicate (bs + 1) ()) [] [] = ([()], [List.replicate bs ()]) := by
    rw [writeLoop_split _ _ _ _ (by rw [List.length_replicate]; omega)]
    rw [List.drop_replicate, List.take_replicate, Nat.add_sub_cancel_left, Nat.min_eq_left (Nat.le_succ _)]
    rw [writeLoop_fits _ _ _ _ _ (by simp) (by simp; omega)]
    have : ¬ (1 = bs) := by omega
    simp [this]
  simp only [run, step, write, flush, close, State.init, h1]
  simp

end Hts.Model.BgzfWriter
