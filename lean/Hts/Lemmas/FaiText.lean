/-
C19: the .fai text form — `readFrom (writeTo idx)` gives the index back.
-/
import Hts.Model.Fai
import Hts.Lemmas.Text
namespace Hts.Lemmas.Fai
open Hts.Model.Fai
open Hts.Lemmas.Sep (splitOn_no_sep splitOn_append_sep splitOn_flatMap)

theorem digit_toNat (d : Nat) (h : d < 10) : (digit d).toNat = 48 + d := by
  unfold digit
  rw [UInt8.toNat_ofNat']
  omega

theorem digitVal_digit (d : Nat) (h : d < 10) : digitVal (digit d) = some d := by
  unfold digitVal
  rw [digit_toNat d h]
  have : 48 ≤ 48 + d ∧ 48 + d ≤ 57 := by omega
  simp only [this, and_self, if_true]
  congr 1; omega

theorem readDigits_append (a b : Bytes) (acc : Nat) :
    readDigits (a ++ b) acc = (readDigits a acc).bind (readDigits b) := by
  induction a generalizing acc with
  | nil => rfl
  | cons x xs ih =>
    simp only [List.cons_append, readDigits]
    cases digitVal x with
    | none => rfl
    | some d => exact ih _

theorem showNat_lt (n : Nat) (h : n < 10) : showNat n = [digit n] := by
  rw [showNat]; simp [h]

theorem showNat_radix : Hts.Lemmas.Radix 10 digit showNat := ⟨by decide, fun n => by rw [showNat]; rfl⟩

def IsDigit (b : UInt8) : Prop := 48 ≤ b.toNat ∧ b.toNat ≤ 57

theorem showNat_spec (n : Nat) :
    readDigits (showNat n) 0 = some n ∧ showNat n ≠ [] ∧ ∀ b ∈ showNat n, IsDigit b :=
  ⟨showNat_radix.read readDigits_append (fun d acc hd => by simp only [readDigits, digitVal_digit d hd]) n,
    showNat_radix.ne_nil n,
    showNat_radix.forall_mem (fun d hd => by unfold IsDigit; rw [digit_toNat d hd]; omega) n⟩

theorem readNat_showNat (n : Nat) : readNat (showNat n) = some n := by
  unfold readNat
  simp [(showNat_spec n).2.1, (showNat_spec n).1]

theorem readInt_showNat (n : Nat) (h : n < 2 ^ 63) : readInt (showNat n) = some (n : Int) := by
  obtain ⟨_, hne, hd⟩ := showNat_spec n
  cases hs : showNat n with
  | nil => exact absurd hs hne
  | cons c rest =>
    have hc : IsDigit c := hd c (by rw [hs]; simp)
    unfold IsDigit at hc
    unfold readInt
    have h1 : ¬ c.toNat = 45 := by omega
    have h2 : ¬ c.toNat = 43 := by omega
    simp only [h1, h2, if_false]
    rw [← hs, readNat_showNat]
    simp [h]

theorem splitOn_eq (sep : UInt8) (l : Bytes) : splitOn sep l = Sep.splitOn sep l := by
  induction l with
  | nil => rfl
  | cons b bs ih => rw [splitOn, Sep.splitOn, ih]; cases Sep.splitOn sep bs <;> rfl

theorem splitOn_ne_nil (sep : UInt8) (l : Bytes) : splitOn sep l ≠ [] :=
  splitOn_eq sep l ▸ Sep.splitOn_ne_nil sep l

/-- `writeRec` without the final LF -/
def lineOf (r : Record) : Bytes :=
  r.name ++ TAB :: (showNat r.length ++ TAB :: (showNat r.start ++ TAB ::
    (showNat r.basesPerLine ++ TAB :: showNat r.bytesPerLine)))

theorem writeRec_eq (r : Record) : writeRec r = lineOf r ++ [LF] := by
  simp [writeRec, lineOf]

/-- bytes allowed in a name for the text form to be readable: no tab, no line feed, no double quote -/
def NameOK (name : Bytes) : Prop := TAB ∉ name ∧ LF ∉ name ∧ DQ ∉ name

/-- the separators and the quote (TAB, LF, CR, `"`) come before the digits -/
theorem digits_no (n : Nat) (x : UInt8) (hx : x.toNat < 48) : x ∉ showNat n :=
  fun hm => Nat.not_le_of_lt hx ((showNat_spec n).2.2 x hm).1

theorem lineOf_no_LF (r : Record) (h : NameOK r.name) : LF ∉ lineOf r := by
  unfold lineOf
  simp only [List.mem_append, List.mem_cons, not_or]
  have hd := fun n => digits_no n LF (by decide)
  have : ¬ LF = TAB := by decide
  exact ⟨h.2.1, this, hd _, this, hd _, this, hd _, this, hd _⟩

theorem lineOf_ne_nil (r : Record) : lineOf r ≠ [] := by
  unfold lineOf
  cases r.name <;> simp

theorem dropCR_lineOf (r : Record) : dropCR (lineOf r) = lineOf r := by
  -- the last byte is a digit
  obtain ⟨_, hne, hd⟩ := showNat_spec r.bytesPerLine
  obtain ⟨ys, y, hy⟩ : ∃ ys y, showNat r.bytesPerLine = ys ++ [y] :=
    ⟨_, _, (List.dropLast_concat_getLast hne).symm⟩
  have hyd : IsDigit y := hd y (by rw [hy]; simp)
  have hyc : ¬ y = CR := fun e => by rw [e] at hyd; exact absurd hyd.1 (by decide)
  have : ∃ pre, lineOf r = pre ++ [y] := by
    refine ⟨r.name ++ TAB :: (showNat r.length ++ TAB :: (showNat r.start ++ TAB ::
      (showNat r.basesPerLine ++ TAB :: ys))), ?_⟩
    unfold lineOf; rw [hy]; simp
  obtain ⟨pre, hpre⟩ := this
  rw [hpre]
  unfold dropCR
  simp [hyc]

theorem splitOn_LF_lines (ls : List Record) (h : ∀ r ∈ ls, NameOK r.name) :
    splitOn LF ((ls.map writeRec).flatten) = ls.map lineOf ++ [[]] := by
  have e : (ls.map writeRec).flatten = (ls.map lineOf).flatMap (· ++ [LF]) := by
    rw [List.flatMap_map, List.flatMap_def, funext writeRec_eq]
  rw [e, splitOn_eq, splitOn_flatMap (List.forall_mem_map.mpr fun r hr => lineOf_no_LF r (h r hr))]

theorem csvLines_writeTo (ls : List Record) (h : ∀ r ∈ ls, NameOK r.name) :
    csvLines ((ls.map writeRec).flatten) = ls.map lineOf := by
  unfold csvLines
  rw [splitOn_LF_lines ls h]
  simp only [List.map_append, List.map_map, List.map_cons, List.map_nil, List.filter_append]
  have h1 : (List.map (dropCR ∘ lineOf) ls).filter (fun x => decide (x ≠ [])) = ls.map lineOf := by
    clear h
    induction ls with
    | nil => rfl
    | cons r rs ih =>
      simp only [List.map_cons, Function.comp, dropCR_lineOf, List.filter_cons, lineOf_ne_nil, ne_eq,
        not_false_eq_true, decide_true, if_true]
      rw [ih]
  rw [h1]
  -- what is left is the empty piece after the last LF, which csv's skipping of empty lines removes
  simp [dropCR]

/-- the columns of `lineOf`, as `csvFields` returns them and `parseRecord` takes them -/
def fieldsOf (r : Record) : List Bytes :=
  [r.name, showNat r.length, showNat r.start, showNat r.basesPerLine, showNat r.bytesPerLine]

theorem splitOn_TAB_lineOf (r : Record) (h : NameOK r.name) : splitOn TAB (lineOf r) = fieldsOf r := by
  have hd := fun n => digits_no n TAB (by decide)
  rw [splitOn_eq, lineOf, splitOn_append_sep h.1, splitOn_append_sep (hd _), splitOn_append_sep (hd _),
    splitOn_append_sep (hd _), splitOn_no_sep (hd _), fieldsOf]

theorem check_ok (fs : List Bytes) (h : ∀ f ∈ fs, DQ ∉ f) : csvFields.check fs = .ok () := by
  induction fs with
  | nil => rfl
  | cons f rest ih =>
    have hf := h f List.mem_cons_self
    have h1 : ¬ (f.head? = some DQ) := by
      intro hh
      cases f with
      | nil => simp at hh
      | cons x xs =>
        simp only [List.head?_cons, Option.some.injEq] at hh
        exact hf (by rw [hh]; simp)
    have h2 : f.contains DQ = false := by
      simp only [List.contains_eq_mem, decide_eq_false_iff_not]; exact hf
    simp only [csvFields.check, h1, h2, if_false, Bool.false_eq_true]
    exact ih (fun g hg => h g (List.mem_cons_of_mem _ hg))

theorem csvFields_lineOf (r : Record) (h : NameOK r.name) : csvFields (lineOf r) = .ok (fieldsOf r) := by
  unfold csvFields
  simp only [splitOn_TAB_lineOf r h]
  have hd := fun n => digits_no n DQ (by decide)
  rw [check_ok]
  · simp [fieldsOf]
  · intro f hf
    simp only [fieldsOf, List.mem_cons, List.not_mem_nil, or_false] at hf
    rcases hf with rfl | rfl | rfl | rfl | rfl
    · exact h.2.2
    all_goals exact hd _

/-- the numeric fields fit Go's `int` -/
def Small (r : Record) : Prop :=
  r.length < 2 ^ 63 ∧ r.start < 2 ^ 63 ∧ r.basesPerLine < 2 ^ 63 ∧ r.bytesPerLine < 2 ^ 63

theorem parseRecord_lineOf (seen : List RawRecord) (r : Record) (hs : Small r)
    (hv : r.toRaw.isValid = true) (hnew : ∀ x ∈ seen, x.name ≠ r.name) :
    parseRecord seen (fieldsOf r) = .ok r.toRaw := by
  unfold parseRecord fieldsOf
  have : seen.any (fun x => x.name == r.name) = false := by
    simp only [List.any_eq_false, beq_iff_eq]; exact hnew
  simp only [this, Bool.false_eq_true, if_false, readInt_showNat _ hs.1, readInt_showNat _ hs.2.1,
    readInt_showNat _ hs.2.2.1, readInt_showNat _ hs.2.2.2]
  have hv' : (RawRecord.mk r.name (r.length : Int) (r.start : Int) (r.basesPerLine : Int)
      (r.bytesPerLine : Int)).isValid = true := hv
  simp only [hv', if_true]
  rfl

theorem readLines_lines (ls : List Record) :
    ∀ (seen : List RawRecord), (∀ r ∈ ls, NameOK r.name) → (∀ r ∈ ls, Small r) →
      (∀ r ∈ ls, r.toRaw.isValid = true) →
      (ls.map (·.name)).Nodup → (∀ r ∈ ls, ∀ x ∈ seen, x.name ≠ r.name) →
      readLines seen (ls.map lineOf) = .ok (seen.reverse ++ ls.map Record.toRaw) := by
  induction ls with
  | nil => intro seen _ _ _ _ _; simp [readLines]
  | cons r rs ih =>
    intro seen hn hs hv hd hnew
    simp only [List.map_cons, readLines, csvFields_lineOf r (hn r List.mem_cons_self)]
    rw [parseRecord_lineOf seen r (hs r List.mem_cons_self) (hv r List.mem_cons_self)
      (hnew r List.mem_cons_self)]
    simp only
    simp only [List.map_cons, List.nodup_cons, List.mem_map, not_exists, not_and] at hd
    rw [ih (r.toRaw :: seen) (fun x hx => hn x (List.mem_cons_of_mem _ hx))
      (fun x hx => hs x (List.mem_cons_of_mem _ hx)) (fun x hx => hv x (List.mem_cons_of_mem _ hx)) hd.2]
    · simp
    · intro x hx y hy
      rcases List.mem_cons.mp hy with rfl | hy
      · exact fun e => hd.1 x hx e.symm
      · exact hnew x (List.mem_cons_of_mem _ hx) y hy

theorem insertByStart_perm (r : Record) (l : List Record) : (insertByStart r l).Perm (r :: l) := by
  induction l with
  | nil => exact List.Perm.refl _
  | cons x xs ih =>
    simp only [insertByStart]
    split
    · exact List.Perm.refl _
    · exact ((List.Perm.cons x ih).trans (List.Perm.swap r x xs))

theorem sortByStart_perm (l : List Record) : (sortByStart l).Perm l := by
  induction l with
  | nil => exact List.Perm.refl _
  | cons x xs ih =>
    simp only [sortByStart, List.foldr_cons]
    exact (insertByStart_perm x _).trans (List.Perm.cons x ih)

theorem sortByStart_of_sorted (l : List Record) (h : l.Pairwise (fun a b => a.start < b.start)) :
    sortByStart l = l := by
  induction l with
  | nil => rfl
  | cons x xs ih =>
    rw [List.pairwise_cons] at h
    simp only [sortByStart, List.foldr_cons]
    have := ih h.2
    simp only [sortByStart] at this
    rw [this]
    cases xs with
    | nil => rfl
    | cons y ys =>
      simp only [insertByStart, h.1 y List.mem_cons_self, if_true]

/-- A representable index: what a Go `Index` built by this package always satisfies, apart from the
double quote; `valid` is the record check `ReadFrom` performs (`Record.isValid`). -/
structure IndexOK (idx : Index) : Prop where
  nodup : (idx.map (·.name)).Nodup
  names : ∀ r ∈ idx, NameOK r.name
  small : ∀ r ∈ idx, Small r
  valid : ∀ r ∈ idx, r.toRaw.isValid = true

theorem readFrom_writeTo (idx : Index) (h : IndexOK idx) :
    readFrom (writeTo idx) = .ok ((sortByStart idx).map Record.toRaw) := by
  have hp := sortByStart_perm idx
  have hn : ∀ r ∈ sortByStart idx, NameOK r.name := fun r hr => h.names r (hp.mem_iff.mp hr)
  rw [readFrom, writeTo, csvLines_writeTo _ hn,
    readLines_lines _ [] hn (fun r hr => h.small r (hp.mem_iff.mp hr)) (fun r hr => h.valid r (hp.mem_iff.mp hr))
      ((hp.map (·.name)).nodup_iff.mpr h.nodup) (fun _ _ _ hx => nomatch hx)]
  rfl

end Hts.Lemmas.Fai
