/-
Lemmas about whole BGZF streams: what `render`/`closeOutput` emit, how the reader model and the
specification's multi-member parser take the stream apart again, and the EOF marker test.
Defined here, used in property statements: `written`, `Fits`, `output`, `writtenBlocks`; for the lemmas: `mb`.
-/
import Hts.Lemmas.BgzfSpec
import Hts.Lemmas.BgzfWriter
namespace Hts.Model.Member
open Hts.Spec

/-- the member for payload `p` under header `h` -/
def mb (c : CodecFns) (h : Header) (p : List Byte) : List Byte := memberBytes c h p (memberLen c h p - 1)

/-- the blocks that reach the underlying writer: the longest prefix of the queue that `writeBlock`
accepts -/
def written (c : CodecFns) (h : Header) : List (List Byte) → List (List Byte)
  | [] => []
  | p :: ps =>
    match writeBlock c h p with
    | .ok _ => p :: written c h ps
    | .error _ => []

/-- `writeBlock` accepts `p` -/
def Fits (c : CodecFns) (h : Header) (p : List Byte) : Prop := HdrOK h ∧ memberLen c h p ≤ BgzfWriter.MaxBlockSize

theorem writeBlock_ok_iff (c : CodecFns) (h : Header) (p : List Byte) :
    (∃ m, writeBlock c h p = .ok m) ↔ Fits c h p := by
  rcases writeBlock_cases c h p with ⟨hk, hl, hw⟩ | ⟨hk, hl, hw⟩ | ⟨hk, hw⟩
  · exact ⟨fun _ => ⟨hk, hl⟩, fun _ => ⟨_, hw⟩⟩
  · refine ⟨fun ⟨m, hm⟩ => ?_, fun hf => ?_⟩
    · rw [hw] at hm; cases hm
    · have := hf.2; omega
  · refine ⟨fun ⟨m, hm⟩ => ?_, fun hf => absurd hf.1 hk⟩
    rw [hw] at hm; cases hm

theorem writeBlock_of_fits (c : CodecFns) (h : Header) (p : List Byte) (hf : Fits c h p) :
    writeBlock c h p = .ok (mb c h p) := writeBlock_ok c h p hf.1 hf.2

theorem writeBlock_error_not_fits (c : CodecFns) (h : Header) (p : List Byte) (e : WErr)
    (he : writeBlock c h p = .error e) : ¬ Fits c h p := by
  intro hf; rw [writeBlock_of_fits c h p hf] at he; cases he

theorem writeBlock_eq_ok {c : CodecFns} {h : Header} {p m : List Byte} (hw : writeBlock c h p = .ok m) :
    Fits c h p ∧ m = mb c h p := by
  rcases writeBlock_cases c h p with ⟨hk, hl, hw'⟩ | ⟨-, -, hw'⟩ | ⟨-, hw'⟩ <;> rw [hw'] at hw <;> cases hw
  exact ⟨⟨hk, hl⟩, rfl⟩

theorem written_fits (c : CodecFns) (h : Header) (blocks : List (List Byte)) :
    ∀ p ∈ written c h blocks, Fits c h p := by
  induction blocks with
  | nil => simp [written]
  | cons p ps ih =>
    simp only [written]
    cases hw : writeBlock c h p with
    | error e => simp
    | ok m =>
      simp only [List.mem_cons]
      rintro q (rfl | hq)
      · exact (writeBlock_ok_iff c h q).mp ⟨m, hw⟩
      · exact ih q hq

theorem written_prefix (c : CodecFns) (h : Header) (blocks : List (List Byte)) :
    written c h blocks <+: blocks := by
  induction blocks with
  | nil => exact List.nil_prefix
  | cons p ps ih =>
    simp only [written]
    cases hw : writeBlock c h p with
    | error e => exact List.nil_prefix
    | ok m => exact List.cons_prefix_cons.2 ⟨rfl, ih⟩

theorem render_fst (c : CodecFns) (h : Header) (blocks : List (List Byte)) :
    (render c h blocks).1 = ((written c h blocks).map (mb c h)).flatten := by
  induction blocks with
  | nil => simp [render, written]
  | cons p ps ih =>
    simp only [render, written]
    cases hw : writeBlock c h p with
    | error e => simp
    | ok m =>
      obtain ⟨-, rfl⟩ := writeBlock_eq_ok hw
      simp [ih]

theorem render_snd_none (c : CodecFns) (h : Header) (blocks : List (List Byte)) :
    (render c h blocks).2 = none ↔ written c h blocks = blocks := by
  induction blocks with
  | nil => simp [render, written]
  | cons p ps ih =>
    simp only [render, written]
    cases hw : writeBlock c h p with
    | error e => simp
    | ok m => simp [ih]

theorem render_snd_some (c : CodecFns) (h : Header) (blocks : List (List Byte)) (e : WErr)
    (he : (render c h blocks).2 = some e) :
    ∃ p rest, blocks = written c h blocks ++ p :: rest ∧ writeBlock c h p = .error e := by
  induction blocks with
  | nil => simp [render] at he
  | cons p ps ih =>
    simp only [render, written] at he ⊢
    cases hw : writeBlock c h p with
    | error e' =>
      rw [hw] at he; simp at he; subst he
      exact ⟨p, ps, rfl, hw⟩
    | ok m =>
      rw [hw] at he; simp at he
      obtain ⟨q, r, h1, h2⟩ := ih he
      exact ⟨q, r, by simp [← h1], h2⟩

theorem written_length_eq_iff (c : CodecFns) (h : Header) (bl : List (List Byte)) :
    (written c h bl).length = bl.length ↔ (render c h bl).2 = none := by
  rw [render_snd_none]
  exact ⟨(written_prefix c h bl).eq_of_length, fun he => by rw [he]⟩

theorem written_next_fails (c : CodecFns) (h : Header) (bl : List (List Byte))
    (hl : (written c h bl).length < bl.length) :
    ∃ p e, bl[(written c h bl).length]? = some p ∧ writeBlock c h p = .error e := by
  cases he : (render c h bl).2 with
  | none => exact absurd ((written_length_eq_iff c h bl).2 he) (Nat.ne_of_lt hl)
  | some e =>
    obtain ⟨p, rest, h1, h2⟩ := render_snd_some c h bl e he
    generalize written c h bl = w at h1 ⊢
    subst h1
    exact ⟨p, e, by simp, h2⟩

theorem closeOutput_eq (c : CodecFns) (h : Header) (bl : List (List Byte)) :
    closeOutput c h bl =
      ((render c h bl).1 ++ (if (render c h bl).2 = none then magicBlock else []), (render c h bl).2) := by
  unfold closeOutput
  split <;> rename_i heq <;> simp [heq]

theorem mb_ne_nil (c : CodecFns) (h : Header) (p tail : List Byte) : mb c h p ++ tail ≠ [] := by
  simp [mb, memberBytes, writerHeader]

/-- Both multi-member readers (`readStreamAux`, `Rfc1952.parseMembersAux`) take one member off the front per unit of
fuel; if `aux` does so for each of `items`, it does so for all of them. -/
theorem aux_members {α β : Type} (aux : Nat → List Byte → Option (List β)) (bytes : α → List Byte) (val : α → β)
    (items : List α) (hstep : ∀ i ∈ items, ∀ f t, aux (f + 1) (bytes i ++ t) = (aux f t).map (val i :: ·))
    (f : Nat) (tail : List Byte) :
    aux (items.length + f) ((items.map bytes).flatten ++ tail) = (aux f tail).map (items.map val ++ ·) := by
  induction items with
  | nil => simp
  | cons i is ih =>
    simp only [List.map_cons, List.flatten_cons, List.append_assoc, List.length_cons]
    rw [show is.length + 1 + f = (is.length + f) + 1 by omega, hstep i (by simp), ih (fun j hj => hstep j (by simp [hj]))]
    cases aux f tail <;> simp

theorem mb_length (c : CodecFns) (h : Header) (p : List Byte) : 18 ≤ (mb c h p).length := by
  rw [mb, memberBytes_length]; exact memberLen_ge c h p

/-- `readStream` and `Rfc1952.parseMembers` supply one unit of fuel per byte and one more: one for each member of
`ws` (a member is not empty) and at least one for what follows them. -/
theorem fuel_members (c : CodecFns) (h : Header) (ws : List (List Byte)) (tail : List Byte) :
    ∃ f, ((ws.map (mb c h)).flatten ++ tail).length + 1 = ws.length + (f + 1) := by
  have hl : ws.length ≤ ((ws.map (mb c h)).flatten).length := by
    induction ws with
    | nil => simp
    | cons p ps ih =>
      have := mb_length c h p
      simp only [List.map_cons, List.flatten_cons, List.length_append, List.length_cons]; omega
  exact ⟨((ws.map (mb c h)).flatten ++ tail).length - ws.length, by rw [List.length_append]; omega⟩

theorem readStreamAux_nil (c : CodecFns) (fuel : Nat) : readStreamAux c fuel [] = some [] := by
  cases fuel <;> simp [readStreamAux]

theorem readStreamAux_step (c : CodecFns) (f : Nat) {s data rest : List Byte} (hs : s ≠ [])
    (h : readMember c s = some (data, rest)) : readStreamAux c (f + 1) s = (readStreamAux c f rest).map (data :: ·) := by
  cases s with
  | nil => exact absurd rfl hs
  | cons a t => simp only [readStreamAux, h]

theorem readStream_closed (c : Codec) (h : Header) (hr : ReaderOK h) (ws : List (List Byte))
    (hws : ∀ p ∈ ws, Fits c.toCodecFns h p ∧ p.length ≤ BgzfWriter.MaxBlockSize) :
    readStream c.toCodecFns ((ws.map (mb c.toCodecFns h)).flatten ++ magicBlock) = some (ws ++ [[]]) := by
  obtain ⟨f, hf⟩ := fuel_members c.toCodecFns h ws magicBlock
  rw [readStream, hf, aux_members (readStreamAux c.toCodecFns) (mb c.toCodecFns h) id ws fun p hp f t =>
      readStreamAux_step _ f (mb_ne_nil _ h p t) (readMember_member c h p t (hws p hp).1.1 hr (hws p hp).1.2 (hws p hp).2),
    readStreamAux_step _ f (by decide) (by simpa using readMember_magic c []), readStreamAux_nil]
  simp

theorem parseMembersAux_nil (x : Rfc1952.Ext) (fuel : Nat) : Rfc1952.parseMembersAux x fuel [] = some [] := by
  cases fuel <;> simp [Rfc1952.parseMembersAux]

theorem parseMembersAux_step (x : Rfc1952.Ext) (f : Nat) {s rest : List Byte} {m : Rfc1952.Member} (hs : s ≠ [])
    (h : Rfc1952.parseMember x s = some (m, rest)) :
    Rfc1952.parseMembersAux x (f + 1) s = (Rfc1952.parseMembersAux x f rest).map (m :: ·) := by
  cases s with
  | nil => exact absurd rfl hs
  | cons a t => simp only [Rfc1952.parseMembersAux, h, Option.bind_some]

theorem parseMembers_rendered (c : Codec) (h : Header) (ws : List (List Byte))
    (hws : ∀ p ∈ ws, Fits c.toCodecFns h p) (marker : Prop) [Decidable marker] :
    Rfc1952.parseMembers (ext c.toCodecFns) ((ws.map (mb c.toCodecFns h)).flatten ++ (if marker then magicBlock else [])) =
      some (ws.map (fun p => specMember c.toCodecFns h p (memberLen c.toCodecFns h p - 1)) ++
        (if marker then [markerMember] else [])) := by
  obtain ⟨f, hf⟩ := fuel_members c.toCodecFns h ws (if marker then magicBlock else [])
  rw [Rfc1952.parseMembers, hf, aux_members (Rfc1952.parseMembersAux (ext c.toCodecFns)) (mb c.toCodecFns h)
    (fun p => specMember c.toCodecFns h p (memberLen c.toCodecFns h p - 1)) ws fun p hp f t =>
      parseMembersAux_step _ f (mb_ne_nil _ h p t) (parseMember_member c h p _ t (hws p hp).1)]
  by_cases hm : marker
  · rw [if_pos hm, if_pos hm, parseMembersAux_step _ f (by decide) (by simpa using parseMember_marker c []), parseMembersAux_nil]
    rfl
  · rw [if_neg hm, if_neg hm, parseMembersAux_nil]
    rfl

theorem rendered_data (c : CodecFns) (h : Header) (ws : List (List Byte)) (marker : Prop) [Decidable marker] :
    (ws.map (fun p => specMember c h p (memberLen c h p - 1)) ++ (if marker then [markerMember] else [])).map (·.data) =
      ws ++ (if marker then [[]] else []) := by
  rw [List.map_append, List.map_map]
  refine congr (congrArg _ ((List.map_congr_left fun _ _ => rfl).trans (List.map_id ws))) ?_
  by_cases hm : marker
  · rw [if_pos hm, if_pos hm]; rfl
  · rw [if_neg hm, if_neg hm]; rfl

theorem rendered_conformant (c : Codec) (h : Header) (hx : WFExtra h) (ws : List (List Byte))
    (hws : ∀ p ∈ ws, Fits c.toCodecFns h p ∧ p.length ≤ BgzfWriter.BlockSize) (marker : Prop) [Decidable marker] :
    ∃ Ms, Rfc1952.parseMembers (ext c.toCodecFns) ((ws.map (mb c.toCodecFns h)).flatten ++ (if marker then magicBlock else [])) =
        some Ms ∧ (∀ M ∈ Ms, Rfc1952.IsBgzf M) ∧ Ms.map (·.data) = ws ++ (if marker then [[]] else []) := by
  refine ⟨_, parseMembers_rendered c h ws (fun p hp => (hws p hp).1) marker, fun M hM => ?_, rendered_data _ h ws marker⟩
  rcases List.mem_append.mp hM with h' | h'
  · obtain ⟨p, hp, rfl⟩ := List.mem_map.mp h'
    exact isBgzf_specMember c.toCodecFns h p hx (hws p hp).1.2 (hws p hp).2
  · by_cases hm : marker
    · rw [if_pos hm, List.mem_singleton] at h'
      exact h' ▸ isBgzf_marker.1
    · rw [if_neg hm] at h'
      cases h'

theorem hasEOF_append_marker (out : List Byte) : hasEOF (out ++ magicBlock) = true := by
  simp [hasEOF]

theorem hasEOF_nil : hasEOF [] = false := by decide

theorem hasEOF_isize (front : List Byte) (n : Nat) (h0 : n ≠ 0) (hn : n < 2 ^ 32) :
    hasEOF (front ++ le32 n) = false := by
  cases hh : hasEOF (front ++ le32 n) with
  | false => rfl
  | true =>
    exfalso
    simp only [hasEOF, Bool.and_eq_true, decide_eq_true_eq, beq_iff_eq] at hh
    -- the last four bytes of the marker are zero
    have hsplit := List.take_append_drop ((front ++ le32 n).length - magicBlock.length) (front ++ le32 n)
    rw [hh.2, show magicBlock = magicBlock.take 24 ++ [0, 0, 0, 0] by decide, ← List.append_assoc] at hsplit
    exact le32_ne_zero n h0 hn (List.append_inj_right' hsplit rfl).symm

theorem mb_isize (c : CodecFns) (h : Header) (p : List Byte) :
    ∃ front, mb c h p = front ++ le32 (p.length % 2 ^ 32) :=
  ⟨writerHeader c h (memberLen c h p - 1) ++ (c.deflate p ++ le32 (c.crc32 p)), by simp [mb, memberBytes, memberBody]⟩

theorem hasEOF_members (c : CodecFns) (h : Header) (ws : List (List Byte))
    (hws : ∀ p ∈ ws, 1 ≤ p.length ∧ p.length < 2 ^ 32) :
    hasEOF ((ws.map (mb c h)).flatten) = false := by
  rcases List.eq_nil_or_concat ws with rfl | ⟨ws', p, rfl⟩
  · simp [hasEOF_nil]
  · rw [List.concat_eq_append] at hws ⊢
    have hp := hws p (by simp)
    obtain ⟨front, hf⟩ := mb_isize c h p
    simp only [List.map_append, List.flatten_append, List.map_cons, List.map_nil, List.flatten_cons,
      List.flatten_nil, List.append_nil, hf, ← List.append_assoc]
    apply hasEOF_isize
    · rw [Nat.mod_eq_of_lt hp.2]; omega
    · exact Nat.mod_lt _ (by decide)

/-- what the underlying writer has received when the script's Close returns, and Close's result: `closeOutput` of
the queue, so for a script without a Close it is not what was written (the marker is still appended unless a block
is refused).  Props/C01 and Props/C05 spell it unfolded. -/
def output (c : CodecFns) (h : Header) (wops : List (BgzfWriter.Op Byte)) : List Byte × Option WErr :=
  closeOutput c h (BgzfWriter.after wops).emitted

/-- the blocks of the script that reached the underlying writer; it unfolds to `written c h (after wops).emitted`, which is
why `written_fits`, `written_prefix` apply to it as they stand -/
def writtenBlocks (c : CodecFns) (h : Header) (wops : List (BgzfWriter.Op Byte)) : List (List Byte) :=
  written c h (BgzfWriter.after wops).emitted

theorem output_snd (c : CodecFns) (h : Header) (wops : List (BgzfWriter.Op Byte)) :
    (output c h wops).2 = (render c h (BgzfWriter.after wops).emitted).2 := by
  simp only [output, closeOutput_eq]

theorem output_eq (c : CodecFns) (h : Header) (wops : List (BgzfWriter.Op Byte)) :
    (output c h wops).1 = ((writtenBlocks c h wops).map (mb c h)).flatten ++
      (if (output c h wops).2 = none then magicBlock else []) := by
  simp only [output, closeOutput_eq, writtenBlocks, render_fst]

theorem parseMembers_output (c : Codec) (h : Header) (wops : List (BgzfWriter.Op Byte)) :
    Rfc1952.parseMembers (ext c.toCodecFns) (output c.toCodecFns h wops).1 =
      some ((writtenBlocks c.toCodecFns h wops).map (fun p => specMember c.toCodecFns h p (memberLen c.toCodecFns h p - 1)) ++
        (if (output c.toCodecFns h wops).2 = none then [markerMember] else [])) := by
  rw [output_eq]
  exact parseMembers_rendered c h _ (written_fits c.toCodecFns h (BgzfWriter.after wops).emitted) _

theorem writtenBlocks_sub (c : CodecFns) (h : Header) (wops : List (BgzfWriter.Op Byte)) :
    ∀ p ∈ writtenBlocks c h wops, p ∈ (BgzfWriter.after wops).emitted :=
  fun _ hp => (written_prefix c h _).subset hp

theorem written_dropLast (c : CodecFns) (h : Header) (bl : List (List Byte)) (hne : written c h bl ≠ bl) :
    ∀ p ∈ written c h bl, p ∈ bl.dropLast := by
  obtain ⟨rest, hr⟩ := written_prefix c h bl
  generalize written c h bl = w at hr hne
  subst hr
  cases rest with
  | nil => exact absurd (List.append_nil w).symm hne
  | cons q r => rw [List.dropLast_append_cons]; exact fun p hp => List.mem_append_left _ hp

theorem writtenBlocks_data (c : CodecFns) (h : Header) (wops : List (BgzfWriter.Op Byte))
    (hne : BgzfWriter.hasClose wops = true → (output c h wops).2 ≠ none) :
    ∀ p ∈ writtenBlocks c h wops, 1 ≤ p.length ∧ p.length ≤ BgzfWriter.BlockSize := by
  intro p hp
  cases hcl : BgzfWriter.hasClose wops with
  | false =>
    exact BgzfWriter.after_open_blocks hcl p (writtenBlocks_sub c h wops p hp)
  | true =>
    -- the only block that may be empty is the one Close queues; it is the last, and is written only if none was refused
    obtain ⟨_, pre, last, hem, hpre, _⟩ := BgzfWriter.after_closed_blocks hcl
    have hw : written c h (BgzfWriter.after wops).emitted ≠ (BgzfWriter.after wops).emitted := fun e =>
      hne hcl ((output_snd c h wops).trans ((render_snd_none c h _).mpr e))
    have hd := written_dropLast c h _ hw p hp
    rw [hem, List.dropLast_concat] at hd
    exact hpre p hd

theorem hasEOF_writtenBlocks (c : CodecFns) (h : Header) (wops : List (BgzfWriter.Op Byte))
    (hne : BgzfWriter.hasClose wops = true → (output c h wops).2 ≠ none) :
    hasEOF ((writtenBlocks c h wops).map (mb c h)).flatten = false :=
  hasEOF_members c h _ fun p hp =>
    ⟨(writtenBlocks_data c h wops hne p hp).1, Nat.lt_of_le_of_lt (writtenBlocks_data c h wops hne p hp).2 (by decide)⟩

theorem default_fits (c : CodecFns) (hb : Bounded c) (p : List Byte) (hp : p.length ≤ BgzfWriter.BlockSize) :
    Fits c {} p := by
  refine ⟨⟨by decide, by simp, by simp⟩, ?_⟩
  have := hb p
  simp only [memberLen, zbytes, BgzfWriter.MaxBlockSize, BgzfWriter.BlockSize] at *
  simp
  omega

theorem written_all (c : CodecFns) (h : Header) (bl : List (List Byte)) (hf : ∀ p ∈ bl, Fits c h p) :
    written c h bl = bl := by
  induction bl with
  | nil => rfl
  | cons p ps ih =>
    simp only [written, writeBlock_of_fits c h p (hf p (by simp))]
    rw [ih (fun q hq => hf q (by simp [hq]))]

theorem default_output_ok (c : CodecFns) (hb : Bounded c) (wops : List (BgzfWriter.Op Byte))
    (hclose : BgzfWriter.hasClose wops = true) : (output c {} wops).2 = none := by
  have hall := written_all c {} (BgzfWriter.after wops).emitted
    (fun p hp => default_fits c hb p (BgzfWriter.after_blocks_le wops p hp))
  have := (render_snd_none c {} (BgzfWriter.after wops).emitted).mpr hall
  exact (output_snd c {} wops).trans this

theorem closeOutput_ok (c : CodecFns) (h : Header) (wops : List (BgzfWriter.Op Byte)) (hclose : BgzfWriter.hasClose wops = true)
    (hok : (closeOutput c h (BgzfWriter.after wops).emitted).2 = none) :
    written c h (BgzfWriter.after wops).emitted = (BgzfWriter.after wops).emitted ∧
    (closeOutput c h (BgzfWriter.after wops).emitted).1 = ((BgzfWriter.after wops).emitted.map (mb c h)).flatten ++ magicBlock ∧
    (∀ p ∈ (BgzfWriter.after wops).emitted, Fits c h p ∧ p.length ≤ BgzfWriter.MaxBlockSize) ∧
    (BgzfWriter.after wops).emitted.flatten = BgzfWriter.accepted wops := by
  have hrn : (render c h (BgzfWriter.after wops).emitted).2 = none := (output_snd c h wops).symm.trans hok
  have hw := (render_snd_none _ _ _).mp hrn
  refine ⟨hw, by simp only [closeOutput_eq, render_fst, hrn, hw, if_true], fun p hp => ⟨?_, ?_⟩, ?_⟩
  · exact written_fits c h (BgzfWriter.after wops).emitted p (hw.symm ▸ hp)
  · have := BgzfWriter.after_blocks_le wops p hp
    simp only [BgzfWriter.BlockSize, BgzfWriter.MaxBlockSize] at this ⊢; omega
  · obtain ⟨hact, _⟩ := BgzfWriter.after_closed_blocks hclose
    have := BgzfWriter.after_held wops
    rwa [hact, List.append_nil] at this

theorem readStream_closeOutput (c : Codec) (h : Header) (hr : ReaderOK h) (wops : List (BgzfWriter.Op Byte))
    (hclose : BgzfWriter.hasClose wops = true) (hok : (closeOutput c.toCodecFns h (BgzfWriter.after wops).emitted).2 = none) :
    readStream c.toCodecFns (closeOutput c.toCodecFns h (BgzfWriter.after wops).emitted).1 =
      some ((BgzfWriter.after wops).emitted ++ [[]]) ∧
    ((BgzfWriter.after wops).emitted ++ [[]]).flatten = BgzfWriter.accepted wops := by
  obtain ⟨-, hout, hfits, hflat⟩ := closeOutput_ok c.toCodecFns h wops hclose hok
  exact ⟨by rw [hout, readStream_closed c h hr _ hfits], by simpa using hflat⟩

end Hts.Model.Member
