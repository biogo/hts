/-
Model vs specification: the bytes written for a well-formed record are `Spec.layout` of the record's semantic reading
(`view`): little-endian fields, CIGAR words, 4-bit packing, qualities, every aux type (bytes → typed value → the
specification's bytes), the computed block size.  The file holds the body-level statement `view_body` (the specification's
body of the view is `bodyOf`) and `layout_eq` for the block size; `Props.C05.encode_is_spec` puts them under `encodeRecord_ok`.
`padOK` is defined here.  Also: `sam.NewSeq` packs as the specification says.
-/
import Hts.Lemmas.BamRecord
import Hts.Model.BamView
namespace Hts.Model.Bam
open Hts.Spec.Bam (Elem AuxValue Alignment le twos)

theorem byteOf_mod (n : Nat) : BitVec.ofNat 8 (n % 256) = byteOf n := by
  apply BitVec.eq_of_toNat_eq; simp [byteOf]

theorem le1 (n : Nat) : le 1 n = [byteOf n] := by simp [le, byteOf_mod]
theorem le2 (n : Nat) : le 2 n = putU16 n := by simp [le, byteOf_mod, putU16]
theorem le4 (n : Nat) : le 4 n = putU32 n := by
  simp only [le, byteOf_mod, putU32, Nat.div_div_eq_div_mul]

theorem int32_eq (x : Int) : Hts.Spec.Bam.int32 x = putI32 x := by
  simp only [Hts.Spec.Bam.int32, le4, twos, putI32]
  rfl

theorem fromLE_lt (bs : List Byte) : fromLE bs < 256 ^ bs.length := by
  induction bs with
  | nil => simp [fromLE]
  | cons b bs ih =>
    have := b.isLt
    simp only [fromLE, List.length_cons, Nat.pow_succ]
    omega

theorem le_fromLE (bs : List Byte) : le bs.length (fromLE bs) = bs := by
  induction bs with
  | nil => rfl
  | cons b bs ih =>
    have := b.isLt
    have h1 : (b.toNat + 256 * fromLE bs) % 256 = b.toNat := by omega
    have h2 : (b.toNat + 256 * fromLE bs) / 256 = fromLE bs := by omega
    simp only [fromLE, List.length_cons, le, h1, h2, ih, BitVec.ofNat_toNat, BitVec.setWidth_eq]

theorem putU32_get (a b c d : Byte) : putU32 (getU32 a b c d) = [a, b, c, d] := by
  have h : getU32 a b c d = fromLE [a, b, c, d] := by simp only [getU32, fromLE]; omega
  rw [h, ← le4]; exact le_fromLE [a, b, c, d]

theorem twos_natCast {w u : Nat} (h : u < 256 ^ w) : twos w (u : Int) = u := by
  rw [twos, Int.emod_eq_of_lt (by omega) (by omega), Int.toNat_natCast]

theorem twos_sgn {w u : Nat} (h : u < 256 ^ w) : twos w (sgn w u) = u := by
  unfold sgn
  split
  · exact twos_natCast h
  · rw [twos, Int.sub_emod_right]; exact twos_natCast h

theorem elem_roundtrip (e : Elem) (bs : List Byte) (h : bs.length = e.width) :
    le e.width (twos e.width (elemVal e bs)) = bs := by
  have hlt := fromLE_lt bs
  rw [h] at hlt
  have key : twos e.width (elemVal e bs) = fromLE bs := by
    unfold elemVal
    split
    · exact twos_sgn hlt
    · exact twos_natCast hlt
  rw [key, ← h, le_fromLE]

theorem readElems_of_length (e : Elem) : ∀ (n : Nat) (bs : List Byte), bs.length = n * e.width →
    ∃ vs, readElems e n bs = some vs ∧ vs.length = n ∧
      vs.flatMap (fun v => le e.width (twos e.width v)) = bs := by
  intro n
  induction n with
  | zero =>
    intro bs h
    obtain rfl := List.eq_nil_of_length_eq_zero (h.trans (Nat.zero_mul _))
    exact ⟨[], rfl, rfl, rfl⟩
  | succ n ih =>
    intro bs h
    have hl : ¬ bs.length < e.width := by rw [h, Nat.succ_mul]; omega
    obtain ⟨ws, hw, hn, hb⟩ := ih (bs.drop e.width) (by simp only [List.length_drop, h, Nat.succ_mul]; omega)
    have ht : (bs.take e.width).length = e.width := by simp; omega
    refine ⟨elemVal e (bs.take e.width) :: ws, by simp only [readElems, hl, ↓reduceIte, hw, Option.map_some],
      by simp [hn], ?_⟩
    simp only [List.flatMap_cons, hb, elem_roundtrip e _ ht, List.take_append_drop]

theorem elem_of_elemWidth {t : Byte} {w : Nat} (h : elemWidth t = some w) :
    ∃ e : Elem, e.letter = t ∧ e.width = w := by
  apply elemWidth_cases h
  · exact ⟨.c, rfl, rfl⟩
  · exact ⟨.C, rfl, rfl⟩
  · exact ⟨.s, rfl, rfl⟩
  · exact ⟨.S, rfl, rfl⟩
  · exact ⟨.i, rfl, rfl⟩
  · exact ⟨.I, rfl, rfl⟩
  · exact ⟨.f, rfl, rfl⟩

theorem elemWidth_letter (e : Elem) : elemWidth e.letter = some e.width := by cases e <;> rfl

theorem isZH_letter (e : Elem) : isZH e.letter = false := by cases e <;> rfl

theorem auxView_num (t0 t1 : Byte) (e : Elem) (v : List Byte) :
    auxView (t0 :: t1 :: e.letter :: v) =
      if v.length == e.width then some ((t0, t1), .num e (elemVal e v)) else none := by
  cases e <;> rfl

theorem auxView_arr (t0 t1 : Byte) (e : Elem) (n0 n1 n2 n3 : Byte) (elems : List Byte) :
    auxView (t0 :: t1 :: 66#8 :: e.letter :: n0 :: n1 :: n2 :: n3 :: elems) =
      (readElems e (getU32 n0 n1 n2 n3) elems).map (fun vs => ((t0, t1), .arr e vs)) := by
  cases e <;> rfl

theorem auxView_spec (a : List Byte) (h : auxOK a = true) :
    ∃ t0 t1 v, auxView a = some ((t0, t1), v) ∧ Hts.Spec.Bam.auxBytes t0 t1 v = encAux a := by
  cases auxShape_of_auxOK h with
  | char t0 t1 c => exact ⟨t0, t1, .char c, rfl, by rw [encAux_other _ _ _ _ rfl]; rfl⟩
  | str t0 t1 v _ => exact ⟨t0, t1, .str v, rfl, by rw [encAux_Z]; rfl⟩
  | hex t0 t1 v _ _ =>
    -- the value is the hex-digit text of the in-memory bytes
    exact ⟨t0, t1, .hex (hexEnc v), rfl, by rw [encAux_H]; rfl⟩
  | arr t0 t1 sub n0 n1 n2 n3 elems w hw hl =>
    obtain ⟨e, rfl, rfl⟩ := elem_of_elemWidth hw
    obtain ⟨vs, hvs, hn, hb⟩ := readElems_of_length e _ elems hl
    refine ⟨t0, t1, .arr e vs, by rw [auxView_arr, hvs]; rfl, ?_⟩
    rw [encAux_other _ _ _ _ rfl]
    simp only [Hts.Spec.Bam.auxBytes, hn, le4, putU32_get, hb, List.cons_append, List.nil_append]
  | num t0 t1 t v w hw hv =>
    obtain ⟨e, rfl, rfl⟩ := elem_of_elemWidth hw
    refine ⟨t0, t1, .num e (elemVal e v), by rw [auxView_num, hv, beq_self_eq_true]; rfl, ?_⟩
    rw [encAux_other _ _ _ _ (isZH_letter e)]
    simp only [Hts.Spec.Bam.auxBytes, elem_roundtrip e v hv, List.cons_append, List.nil_append]

theorem auxViews_spec (as : List (List Byte)) (h : ∀ a ∈ as, auxOK a = true) :
    ∃ xs, auxViews as = some xs ∧
      xs.flatMap (fun tv => Hts.Spec.Bam.auxBytes tv.1.1 tv.1.2 tv.2) = encAuxAll as := by
  induction as with
  | nil => exact ⟨[], rfl, rfl⟩
  | cons a as ih =>
    obtain ⟨ha, has⟩ := List.forall_mem_cons.mp h
    obtain ⟨t0, t1, v, hv, hb⟩ := auxView_spec a ha
    obtain ⟨xs, hx, hxs⟩ := ih has
    refine ⟨((t0, t1), v) :: xs, by simp [auxViews, hv, hx], ?_⟩
    simp only [List.flatMap_cons, hb, hxs, encAuxAll]

/-- the unused low nibble of an odd-length packed sequence is zero (what `sam.NewSeq` produces) -/
def padOK : Nat → List Byte → Bool
  | 0, _ => true
  | 1, d :: _ => d.toNat % 16 == 0
  | n + 2, _ :: ds => padOK n ds
  | _, [] => true

theorem codes_spec : ∀ (n : Nat) (seq : List Byte), seq.length = (n + 1) / 2 → padOK n seq = true →
    ∃ cs, codes n seq = some cs ∧ cs.length = n ∧ Hts.Spec.Bam.packSeq cs = seq
  | 0, seq, hl, _ => by
    obtain rfl := List.eq_nil_of_length_eq_zero hl
    exact ⟨[], rfl, rfl, rfl⟩
  | 1, seq, hl, hp => by
    match seq, hl with
    | [d], _ =>
      have hd : d.toNat % 16 = 0 := by simpa [padOK] using hp
      have := ofNat_nibbles d
      rw [hd, Nat.add_zero] at this
      exact ⟨[d.toNat / 16], rfl, rfl, by rw [Hts.Spec.Bam.packSeq, this]⟩
  | n + 2, seq, hl, hp => by
    match seq, hl with
    | [], hl => simp only [List.length_nil] at hl; omega
    | d :: ds, hl =>
      obtain ⟨cs, hc, hn, hpk⟩ := codes_spec n ds (by simp only [List.length_cons] at hl; omega) hp
      exact ⟨d.toNat / 16 :: d.toNat % 16 :: cs, by simp only [codes, hc, Option.map_some],
        by simp only [List.length_cons, hn], by rw [Hts.Spec.Bam.packSeq, hpk, ofNat_nibbles]⟩

theorem cigar_spec (cs : List (BitVec 32)) :
    (cs.map (fun c => (cigarLen c, cigarType c))).flatMap (fun c => le 4 (c.1 * 16 + c.2)) = cigarBytes cs := by
  induction cs with
  | nil => rfl
  | cons c cs ih =>
    have : cigarLen c * 16 + cigarType c = c.toNat := by simp only [cigarLen, cigarType]; omega
    simp only [List.map_cons, List.flatMap_cons]
    rw [ih, le4, this]
    rfl

theorem le_mod (w n : Nat) : le w (n % 256 ^ w) = le w n := by
  induction w generalizing n with
  | zero => rfl
  | succ w ih =>
    rw [le, le, Nat.pow_succ, Nat.mul_comm, Nat.mod_mul_right_div_self, ih, Nat.mod_mul_right_mod]

/-- a length is written as `int32` by the writer and as `uint32` by the specification: the same four bytes -/
theorem putI32_natCast (n : Nat) : putI32 (n : Int) = putU32 n := by
  have h : ((n : Int) % 4294967296).toNat = n % 256 ^ 4 := by omega
  rw [putI32, h, ← le4, le_mod, le4]

theorem layout_eq (a : Alignment) :
    Hts.Spec.Bam.layout a = putI32 ((Hts.Spec.Bam.body a).length : Int) ++ Hts.Spec.Bam.body a := by
  rw [Hts.Spec.Bam.layout, le4, putI32_natCast]

theorem body_fields (a : Alignment) :
    Hts.Spec.Bam.body a = fields a.refID a.pos (byteOf (a.readName.length + 1)) (byteOf a.mapq) a.bin a.cigar.length a.flag
      a.seq.length a.nextRefID a.nextPos a.tlen a.readName (a.cigar.flatMap (fun c => le 4 (c.1 * 16 + c.2)))
      (Hts.Spec.Bam.packSeq a.seq) (Hts.Spec.Bam.qualField a)
      (a.aux.flatMap (fun tv => Hts.Spec.Bam.auxBytes tv.1.1 tv.1.2 tv.2)) := by
  simp only [Hts.Spec.Bam.body, fields, int32_eq, le1, le2, le4, putI32_natCast, List.append_assoc, List.cons_append,
    List.nil_append]

theorem view_body {n : Nat} {r : Record} (h : WF n r) (hp : padOK r.seqLen r.seq = true) (bin : Nat) :
    ∃ a, view bin r = some a ∧ Hts.Spec.Bam.body a = bodyOf bin (encAuxAll r.aux) r := by
  obtain ⟨cs, hc, hcn, hpk⟩ := codes_spec r.seqLen r.seq h.seq_len hp
  obtain ⟨xs, hx, hxs⟩ := auxViews_spec r.aux h.aux_ok
  refine ⟨_, by rw [view, hc, hx], ?_⟩
  simp only [body_fields, bodyOf, Hts.Spec.Bam.qualField, cigar_spec, hpk, hxs, hcn, List.length_map, byteOf_of_toNat]
  -- both sides now spell out the quality bytes by a `match` on `r.qual`
  rfl

theorem view_bin {bin : Nat} {r : Record} {a : Alignment} (h : view bin r = some a) (b : Nat) :
    view b r = some { a with bin := b } := by
  simp only [view] at h ⊢
  split at h
  · cases h; rfl
  · cases h

theorem le_length (w n : Nat) : (le w n).length = w := by
  induction w generalizing n with
  | zero => rfl
  | succ w ih => simp [le, ih]

theorem layout_except_bin (a : Alignment) (b : Nat) :
    ∃ pre post x y, pre.length = 14 ∧ Hts.Spec.Bam.layout a = pre ++ [x, y] ++ post ∧
      Hts.Spec.Bam.layout { a with bin := b } = pre ++ le 2 b ++ post := by
  refine ⟨le 4 (Hts.Spec.Bam.body a).length ++ (putI32 a.refID ++ (putI32 a.pos ++
    [byteOf (a.readName.length + 1), byteOf a.mapq])), ?_, byteOf a.bin, byteOf (a.bin / 256),
    by simp only [List.length_append, le_length, putI32_length]; rfl, ?_, ?_⟩
  rotate_left
  -- the block size does not depend on the bin (`fields_length`)
  all_goals
    simp only [Hts.Spec.Bam.layout, body_fields, fields_length, le2]
    simp only [fields, List.append_assoc, List.cons_append, List.nil_append]
    rfl

theorem contract_eq_packSeq (s : List Byte) : contract s = Hts.Spec.Bam.packSeq (s.map n16) := by
  match s with
  | [] => rfl
  | [a] => rfl
  | a :: b :: rest =>
    simp only [contract, List.map_cons, Hts.Spec.Bam.packSeq, contract_eq_packSeq rest]
    rfl

theorem packSeq_length : ∀ cs : List Nat, (Hts.Spec.Bam.packSeq cs).length = (cs.length + 1) / 2
  | [] => rfl
  | [_] => by simp [Hts.Spec.Bam.packSeq]
  | _ :: _ :: rest => by simp only [Hts.Spec.Bam.packSeq, List.length_cons, packSeq_length rest]; omega

theorem packSeq_padOK : ∀ cs : List Nat, (∀ c ∈ cs, c < 16) → padOK cs.length (Hts.Spec.Bam.packSeq cs) = true
  | [], _ => rfl
  | [a], h => by
    have := h a (by simp)
    simp only [List.length_cons, List.length_nil, Hts.Spec.Bam.packSeq, padOK, BitVec.toNat_ofNat, beq_iff_eq]
    omega
  | _ :: _ :: rest, h => by
    simp only [List.length_cons, Hts.Spec.Bam.packSeq, padOK]
    exact packSeq_padOK rest (fun c hc => h c (by simp [hc]))

theorem contract_length (s : List Byte) : (contract s).length = (s.length + 1) / 2 := by
  rw [contract_eq_packSeq, packSeq_length, List.length_map]

theorem n16_lt (b : Byte) : n16 b < 16 := by
  have h : ∀ x ∈ n16Table, x < 16 := by decide +kernel
  simp only [n16, List.getD_eq_getElem?_getD]
  cases hx : n16Table[b.toNat]? with
  | none => decide
  | some x => exact h x (List.mem_of_getElem? hx)

theorem contract_padOK (s : List Byte) : padOK s.length (contract s) = true := by
  have := packSeq_padOK (s.map n16) (fun c hc => by
    obtain ⟨b, _, rfl⟩ := List.mem_map.mp hc
    exact n16_lt b)
  rwa [List.length_map, ← contract_eq_packSeq] at this

end Hts.Model.Bam
