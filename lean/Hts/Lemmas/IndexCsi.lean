/-
`csi.Index` (model: Hts.Model.Csi): invariants of Add over coordinate-sorted input and completeness of
Chunks.  Same structure as Hts.Lemmas.IndexAdd/IndexAddAll/IndexChunks, without the tile array and
with the per-bin left offset (`left`, the format's `loffset`) that `Chunks` prunes with.  For C15: `statsOfC_spec` (through
`CRec.toRec` and BAI's `statsOf_spec`), `addAll_unmapped`, and `add_fixed`, `addAll_fixed` (`Add` leaves version, auxiliary
data and geometry alone).
-/
import Hts.Lemmas.IndexMerge
import Hts.Lemmas.IndexAddAll
import Hts.Model.Csi
namespace Hts.Model.Csi
open Hts.Model.Index

/-- from a shift of 64 on no position is accepted, so the bound holds for every geometry -/
theorem validPos_range (ms d : Nat) (p : Int) (h : validPos ms d p = true) :
    -1 ≤ p ∧ p < (2 : Int) ^ (ms + 3 * d) := by
  simp only [validPos, Bool.and_eq_true, decide_eq_true_eq] at h
  obtain ⟨h0, h1⟩ := h
  unfold posBound at h1
  split at h1
  · exact ⟨h0, by omega⟩
  · omega

/-- `RecOK` against the `validPos` of the geometry (minShift, depth).  Here a placed record has `start < stop`: `Add` does not
check it and no lemma of this file uses it; it is the non-emptiness that the bin law of the completeness theorems needs
(`Props.C04.csi_bin_law_any_query`), which the BAI theorems take as a hypothesis of their own (`hne`) -/
structure CRecOK (ms d : Nat) (r : CRec) : Prop where
  vstart : validPos ms d r.start = true
  vstop : validPos ms d r.stop = true
  rid : r.placed = true → 0 ≤ r.rid
  pos : r.placed = true → 0 ≤ r.start ∧ r.start < r.stop
  cb : 0 ≤ r.chunk.b
  ce : r.chunk.b < r.chunk.e

def CRecLe (a r : CRec) : Prop :=
  a.rid ≤ r.rid ∧ (a.rid = r.rid → a.start ≤ r.start) ∧ a.chunk.e ≤ r.chunk.b

structure CSortedInput (ms d : Nat) (recs : List CRec) : Prop where
  ok : ∀ r, r ∈ recs → CRecOK ms d r
  sorted : (recs.filter (·.placed)).Pairwise CRecLe

theorem cRecOK_iff (ms d : Nat) (r : CRec) : CRecOK ms d r ↔
    (validPos ms d r.start = true ∧ validPos ms d r.stop = true ∧ (r.placed = true → 0 ≤ r.rid) ∧
      (r.placed = true → 0 ≤ r.start ∧ r.start < r.stop) ∧ 0 ≤ r.chunk.b ∧ r.chunk.b < r.chunk.e) :=
  ⟨fun h => ⟨h.vstart, h.vstop, h.rid, h.pos, h.cb, h.ce⟩,
   fun ⟨a, b, c, d, e, f⟩ => ⟨a, b, c, d, e, f⟩⟩
instance (ms d : Nat) (r : CRec) : Decidable (CRecOK ms d r) := decidable_of_iff _ (cRecOK_iff ms d r).symm
instance (a r : CRec) : Decidable (CRecLe a r) := by unfold CRecLe; infer_instance
theorem cSortedInput_iff (ms d : Nat) (recs : List CRec) : CSortedInput ms d recs ↔
    ((∀ r, r ∈ recs → CRecOK ms d r) ∧ (recs.filter (·.placed)).Pairwise CRecLe) :=
  ⟨fun h => ⟨h.ok, h.sorted⟩, fun ⟨a, b⟩ => ⟨a, b⟩⟩
instance (ms d : Nat) (recs : List CRec) : Decidable (CSortedInput ms d recs) :=
  decidable_of_iff _ (cSortedInput_iff ms d recs).symm

/-- as `Index.addBin_spec`, with the left offset (kept, or the new chunk's begin in a new bin) and the record count -/
theorem addBin_spec (bins : List CBin) (bin : Nat) (c : Chunk)
    (h : ∀ bn, bn ∈ bins → ∀ x, x ∈ bn.chunks → x.e ≤ c.b) :
    (∃ bn, bn ∈ (addBin bins bin c).1 ∧ bn.bin = bin ∧ c ∈ bn.chunks ∧
        (bn.left = c.b ∨ ∃ old, old ∈ bins ∧ bn.left = old.left)) ∧
    (∀ bn, bn ∈ bins → ∃ bn', bn' ∈ (addBin bins bin c).1 ∧ bn'.bin = bn.bin ∧ bn'.left = bn.left ∧
        ∀ x, x ∈ bn.chunks → x ∈ bn'.chunks) ∧
    (∀ bn', bn' ∈ (addBin bins bin c).1 →
      (∃ bn, bn ∈ bins ∧ bn'.bin = bn.bin ∧ bn'.left = bn.left ∧ bn'.chunks.length ≤ bn.chunks.length + 1 ∧
        bn'.records ≤ bn.records + 1 ∧ ∀ x, x ∈ bn'.chunks → x ∈ bn.chunks ∨ x = c) ∨
      bn' = ⟨bin, c.b, 1, [c]⟩) := by
  induction bins with
  | nil =>
    refine ⟨⟨⟨bin, c.b, 1, [c]⟩, List.mem_singleton.2 rfl, rfl, List.mem_singleton.2 rfl, Or.inl rfl⟩,
      fun _ hb => (nomatch hb), fun bn' hb => Or.inr (List.mem_singleton.1 hb)⟩
  | cons b bs ih =>
    have hb := h b List.mem_cons_self
    by_cases heq : b.bin = bin
    · subst heq
      rw [addBin, if_pos rfl, extendChunks_append _ _ hb]
      refine ⟨⟨_, List.mem_cons_self, rfl, List.mem_append_right _ (List.mem_singleton.2 rfl),
        Or.inr ⟨b, List.mem_cons_self, rfl⟩⟩, ?_, ?_⟩
      · intro bn hbn
        rcases List.mem_cons.1 hbn with rfl | hbn
        · exact ⟨_, List.mem_cons_self, rfl, rfl, fun x hx => List.mem_append_left _ hx⟩
        · exact ⟨bn, List.mem_cons_of_mem _ hbn, rfl, rfl, fun x hx => hx⟩
      · intro bn' hbn'
        rcases List.mem_cons.1 hbn' with rfl | hbn'
        · exact Or.inl ⟨b, List.mem_cons_self, rfl, rfl, by rw [List.length_append]; exact Nat.le_refl _,
            Nat.le_refl _, fun x hx => (List.mem_append.1 hx).imp id List.mem_singleton.1⟩
        · exact Or.inl ⟨bn', List.mem_cons_of_mem _ hbn', rfl, rfl, Nat.le_succ _, Nat.le_succ _,
            fun x hx => Or.inl hx⟩
    · obtain ⟨⟨bn0, hbn0, hbin0, hc0, hl0⟩, ih2, ih3⟩ := ih (fun bn hbn => h bn (List.mem_cons_of_mem _ hbn))
      rw [addBin, if_neg heq]
      refine ⟨⟨bn0, List.mem_cons_of_mem _ hbn0, hbin0, hc0,
        hl0.imp id fun ⟨old, ho, hl⟩ => ⟨old, List.mem_cons_of_mem _ ho, hl⟩⟩, ?_, ?_⟩
      · intro bn hbn
        rcases List.mem_cons.1 hbn with rfl | hbn
        · exact ⟨bn, List.mem_cons_self, rfl, rfl, fun x hx => hx⟩
        · obtain ⟨bn', h1, h2⟩ := ih2 bn hbn
          exact ⟨bn', List.mem_cons_of_mem _ h1, h2⟩
      · intro bn' hbn'
        rcases List.mem_cons.1 hbn' with rfl | hbn'
        · exact Or.inl ⟨bn', List.mem_cons_self, rfl, rfl, Nat.le_succ _, Nat.le_succ _, fun x hx => Or.inl hx⟩
        · exact (ih3 bn' hbn').imp (fun ⟨bn, h1, h2⟩ => ⟨bn, List.mem_cons_of_mem _ h1, h2⟩) id

theorem addBin_nums (bins : List CBin) (bin : Nat) (c : Chunk) :
    ((addBin bins bin c).1.map (·.bin) = bins.map (·.bin) ∧ bin ∈ bins.map (·.bin)) ∨
    ((addBin bins bin c).1.map (·.bin) = bins.map (·.bin) ++ [bin] ∧ bin ∉ bins.map (·.bin)) := by
  induction bins with
  | nil => exact Or.inr ⟨rfl, List.not_mem_nil⟩
  | cons b bs ih =>
    by_cases heq : b.bin = bin
    · rw [addBin, if_pos heq]
      exact Or.inl ⟨rfl, heq ▸ List.mem_cons_self⟩
    · simp only [addBin, heq, if_false, List.map_cons]
      rcases ih with ⟨h1, h2⟩ | ⟨h1, h2⟩
      · left; exact ⟨by rw [h1], List.mem_cons_of_mem _ h2⟩
      · exact Or.inr ⟨by rw [h1]; rfl, fun hm => (List.mem_cons.1 hm).elim (fun h => heq h.symm) h2⟩

theorem length_addBin_le (bins : List CBin) (bin : Nat) (c : Chunk) :
    (addBin bins bin c).1.length ≤ bins.length + 1 := by
  induction bins with
  | nil => exact Nat.le_refl _
  | cons b bs ih =>
    unfold addBin
    split
    · exact Nat.le_succ _
    · exact Nat.succ_le_succ ih

theorem addBin_nodup (bins : List CBin) (bin : Nat) (c : Chunk) (h : (bins.map (·.bin)).Nodup) :
    ((addBin bins bin c).1.map (·.bin)).Nodup := by
  rcases addBin_nums bins bin c with ⟨h1, _⟩ | ⟨h1, h2⟩
  · rw [h1]; exact h
  · rw [h1]
    exact List.nodup_append.2 ⟨h, List.pairwise_singleton _ _, fun a ha b hb hab => h2 (List.mem_singleton.1 hb ▸ hab ▸ ha)⟩

/-- the statistics `Add` accumulates over the records of one reference (`h` newest first) -/
def statsOfC : List CRec → Option Stats
  | [] => none
  | r :: older => some (addStats (statsOfC older) r.chunk r.mapped)

/-- what a CSI reference index knows about its records; `bf` is the bin of a record -/
structure CRefInv (bf : CRec → Nat) (ref : CRef) (h : List CRec) : Prop where
  /-- `bn.left < r.chunk.e`: `Chunks` drops the chunks of a bin that end at or before its left offset -/
  bins : ∀ r, r ∈ h → ∃ bn, bn ∈ ref.bins ∧ bn.bin = bf r ∧ r.chunk ∈ bn.chunks ∧ bn.left < r.chunk.e
  /-- the converse of `bins`: through it the step knows that every stored chunk ends before the new one begins -/
  stored : ∀ bn, bn ∈ ref.bins → ∀ x, x ∈ bn.chunks → ∃ a, a ∈ h ∧ x = a.chunk
  /-- what keeps the `left` clause of `bins` when a record enters an old bin: the left offset is at most an older chunk's begin -/
  leftLe : ∀ bn, bn ∈ ref.bins → ∃ a, a ∈ h ∧ bn.left ≤ a.chunk.b
  nodup : (ref.bins.map (·.bin)).Nodup
  stats : ref.stats = statsOfC h
  /-- sizes: at most one bin, one chunk and one counted record per added record; the left offset and
  the bin number of every bin come from a record.  (No theorem reads these three: that a CSI index is representable is
  proved from `CIdxRepr`, Lemmas/IndexCsiAny; the clauses on the chunk count and the record count in `addBin_spec` are
  there for `chunksLen` alone.) -/
  binsLen : ref.bins.length ≤ h.length
  binRec : ∀ bn, bn ∈ ref.bins → ∃ a, a ∈ h ∧ bf a = bn.bin ∧ ∃ a', a' ∈ h ∧ bn.left = a'.chunk.b
  chunksLen : ∀ bn, bn ∈ ref.bins → bn.chunks.length ≤ h.length ∧ bn.records ≤ h.length

theorem cRefInv_empty (bf : CRec → Nat) : CRefInv bf emptyRef [] :=
  { bins := fun _ hr => nomatch hr
    stored := fun _ hb => nomatch hb
    leftLe := fun _ hb => nomatch hb
    nodup := List.nodup_nil
    stats := rfl
    binsLen := Nat.le_refl _
    binRec := fun _ hb => nomatch hb
    chunksLen := by intro bn hb; cases hb }

theorem cRefInv_step (bf : CRec → Nat) (ref : CRef) (h : List CRec) (last : Int) (r : CRec)
    (inv : CRefInv bf ref h) (hce : r.chunk.b < r.chunk.e) (hall : ∀ a, a ∈ h → a.chunk.b < a.chunk.e)
    (hle : ∀ a, a ∈ h → a.chunk.e ≤ r.chunk.b) (hlast : last ≤ r.start) :
    (addRef ref last (bf r) r).2.2.2 = .ok ∧ (addRef ref last (bf r) r).2.1 = r.start ∧
      CRefInv bf (addRef ref last (bf r) r).1 (r :: h) := by
  have hends : ∀ bn, bn ∈ ref.bins → ∀ x, x ∈ bn.chunks → x.e ≤ r.chunk.b := by
    intro bn hbn x hx
    obtain ⟨a, ha, hxa⟩ := inv.stored bn hbn x hx
    rw [hxa]; exact hle a ha
  obtain ⟨⟨bn0, hbn0, hbin0, hc0, hl0⟩, keep, origin⟩ := addBin_spec ref.bins (bf r) r.chunk hends
  rw [addRef, if_neg (Int.not_lt.2 hlast)]
  refine ⟨rfl, rfl, ?_⟩
  refine { bins := ?bins, stored := ?stored, leftLe := ?leftLe, nodup := addBin_nodup _ _ _ inv.nodup,
           stats := congrArg (fun s => some (addStats s r.chunk r.mapped)) inv.stats,
           binsLen := ?binsLen, binRec := ?binRec, chunksLen := ?chunksLen }
  case bins =>
    intro a ha
    rcases List.mem_cons.1 ha with rfl | ha
    · refine ⟨bn0, hbn0, hbin0, hc0, ?_⟩
      rcases hl0 with hl0 | ⟨old, ho, hl⟩
      · omega
      · obtain ⟨b, hb, hbl⟩ := inv.leftLe old ho
        have := hle b hb
        have := hall b hb
        omega
    · obtain ⟨bn, h1, h2, h3, h4⟩ := inv.bins a ha
      obtain ⟨bn', h1', h2', h3', h4'⟩ := keep bn h1
      exact ⟨bn', h1', h2'.trans h2, h4' _ h3, h3' ▸ h4⟩
  case stored =>
    intro bn' hbn' x hx
    rcases origin bn' hbn' with ⟨bn, h1, _, _, _, _, h4⟩ | rfl
    · rcases h4 x hx with hx' | hxc
      · obtain ⟨a, ha, hxa⟩ := inv.stored bn h1 x hx'
        exact ⟨a, List.mem_cons_of_mem _ ha, hxa⟩
      · exact ⟨r, List.mem_cons_self, hxc⟩
    · exact ⟨r, List.mem_cons_self, List.mem_singleton.1 hx⟩
  case leftLe =>
    intro bn' hbn'
    rcases origin bn' hbn' with ⟨bn, h1, _, h3, _⟩ | rfl
    · obtain ⟨a, ha, hal⟩ := inv.leftLe bn h1
      exact ⟨a, List.mem_cons_of_mem _ ha, h3 ▸ hal⟩
    · exact ⟨r, List.mem_cons_self, Int.le_refl _⟩
  case binsLen =>
    exact Nat.le_trans (length_addBin_le _ _ _) (Nat.succ_le_succ inv.binsLen)
  case binRec =>
    intro bn' hbn'
    rcases origin bn' hbn' with ⟨bn, h1, h2, h3, _⟩ | rfl
    · obtain ⟨a, ha, hab, a', ha', hl⟩ := inv.binRec bn h1
      exact ⟨a, List.mem_cons_of_mem _ ha, hab.trans h2.symm, a', List.mem_cons_of_mem _ ha', h3.trans hl⟩
    · exact ⟨r, List.mem_cons_self, rfl, r, List.mem_cons_self, rfl⟩
  case chunksLen =>
    intro bn' hbn'
    rw [List.length_cons]
    rcases origin bn' hbn' with ⟨bn, h1, _, _, h4, h5, _⟩ | rfl
    · have := inv.chunksLen bn h1; omega
    · exact ⟨Nat.succ_le_succ (Nat.zero_le _), Nat.succ_le_succ (Nat.zero_le _)⟩

def onRef (hist : List CRec) (j : Nat) : List CRec := hist.filter (fun a => decide (a.rid = (j : Int)))

/-- the four fields after `flag` are `RefsInv` spelt out (`CIdxInv.refs` packs them), where BAI's `IdxInv` holds it as one field;
`csi_inv` (Props/C04) states `CIdxInv` -/
structure CIdxInv (bf : CRec → Nat) (i : CIndex) (hist : List CRec) : Prop where
  flag : i.isSorted = false
  len0 : hist = [] → i.refs = []
  last : ∀ a rest, hist = a :: rest → (i.refs.length : Int) = a.rid + 1 ∧ i.lastRecord = a.start
  ridLt : ∀ a, a ∈ hist → 0 ≤ a.rid ∧ a.rid < (i.refs.length : Int)
  refInv : ∀ j ref, i.refs[j]? = some ref → CRefInv bf ref (onRef hist j)

/-- the five exits of `Add`, as for BAI (`Hts.Lemmas.IndexAddAll`): range error, unplaced, no reference,
reference out of order, or `addRef` on the reference `rid` of the padded reference list -/
@[elab_as_elim] theorem add_cases {motive : CIndex × AddRes → Prop} (binOf : Int → Int → Nat → Nat → Nat)
    (i : CIndex) (r : CRec)
    (range : ¬ (validPos i.minShift i.depth r.start = true ∧ validPos i.minShift i.depth r.stop = true) →
      motive (i, .errRange))
    (unplaced : validPos i.minShift i.depth r.start = true ∧ validPos i.minShift i.depth r.stop = true →
      r.placed = false → motive ({ i with unmapped := some (umCount i.unmapped + 1) }, .ok))
    (noRef : validPos i.minShift i.depth r.start = true ∧ validPos i.minShift i.depth r.stop = true →
      r.placed = true → r.rid < 0 → motive ({ i with unmapped := some (umCount i.unmapped) }, .errNoRef))
    (refOrder : validPos i.minShift i.depth r.start = true ∧ validPos i.minShift i.depth r.stop = true →
      r.placed = true → 0 ≤ r.rid → r.rid < (i.refs.length : Int) - 1 →
      motive ({ i with unmapped := some (umCount i.unmapped) }, .errRefOrder))
    (entered : validPos i.minShift i.depth r.start = true ∧ validPos i.minShift i.depth r.stop = true →
      r.placed = true → 0 ≤ r.rid → ¬ r.rid < (i.refs.length : Int) - 1 →
      ∀ ref, (padTo emptyRef i.refs r.rid.toNat)[r.rid.toNat]? = some ref →
      let x := addRef ref (if r.rid.toNat ≥ i.refs.length then 0 else i.lastRecord)
        (binOf r.start r.stop i.minShift i.depth) r
      motive ({ i with refs := (padTo emptyRef i.refs r.rid.toNat).set r.rid.toNat x.1,
                       unmapped := some (umCount i.unmapped), isSorted := i.isSorted && x.2.2.1,
                       lastRecord := x.2.1 }, x.2.2.2)) :
    motive (add binOf i r) := by
  unfold add
  cases hv : (validPos i.minShift i.depth r.start && validPos i.minShift i.depth r.stop)
  · exact range fun h => by rw [h.1, h.2] at hv; exact Bool.noConfusion hv
  · have hv' := Bool.and_eq_true_iff.1 hv
    cases hp : r.placed
    · exact unplaced hv' hp
    · simp only [Bool.not_true, Bool.false_eq_true, if_false]
      by_cases h0 : r.rid < 0
      · rw [if_pos h0]; exact noRef hv' hp h0
      · by_cases h1 : r.rid < (i.refs.length : Int) - 1
        · rw [if_neg h0, if_pos h1]; exact refOrder hv' hp (by omega) h1
        · obtain ⟨ref, href⟩ : ∃ ref, (padTo emptyRef i.refs r.rid.toNat)[r.rid.toNat]? = some ref :=
            ⟨_, List.getElem?_eq_getElem (by rw [padTo_length]; omega)⟩
          have := entered hv' hp (by omega) h1 ref href
          rw [if_neg h0, if_neg h1]
          simp only [padTo, decide_eq_true_eq] at this href ⊢
          rw [href]
          exact this

theorem add_unplaced (binOf : Int → Int → Nat → Nat → Nat) (i : CIndex) (r : CRec)
    (hok : CRecOK i.minShift i.depth r) (hp : r.placed = false) :
    add binOf i r = ({ i with unmapped := some (umCount i.unmapped + 1) }, .ok) := by
  refine add_cases binOf i r (fun hv => absurd ⟨hok.vstart, hok.vstop⟩ hv) (fun _ _ => rfl) ?_ ?_ ?_ <;>
    (intro _ hp'; rw [hp] at hp'; cases hp')

theorem CIdxInv.refs {bf : CRec → Nat} {i : CIndex} {hist : List CRec} (inv : CIdxInv bf i hist) :
    RefsInv CRec.rid CRec.start (CRefInv bf) i.refs i.lastRecord hist :=
  ⟨inv.len0, inv.last, inv.ridLt, inv.refInv⟩

theorem cIdxInv_step (binOf : Int → Int → Nat → Nat → Nat) (i : CIndex) (hist : List CRec) (r : CRec)
    (inv : CIdxInv (fun x => binOf x.start x.stop i.minShift i.depth) i hist)
    (hok : CRecOK i.minShift i.depth r)
    (hall : ∀ a, a ∈ hist → CRecOK i.minShift i.depth a) (hp : r.placed = true)
    (hle : ∀ a, a ∈ hist → CRecLe a r) :
    (add binOf i r).2 = .ok ∧ (add binOf i r).1.minShift = i.minShift ∧ (add binOf i r).1.depth = i.depth ∧
      CIdxInv (fun x => binOf x.start x.stop i.minShift i.depth) (add binOf i r).1 (r :: hist) := by
  have hrid := hok.rid hp
  refine add_cases binOf i r (fun hv => absurd ⟨hok.vstart, hok.vstop⟩ hv)
    (fun _ hp' => by rw [hp] at hp'; cases hp') (fun _ _ h0 => by omega) (fun _ _ _ h1 => ?_)
    (fun _ _ _ _ ref hget => ?_)
  · cases hist with
    | nil => rw [inv.len0 rfl] at h1; simp at h1; omega
    | cons a rest => have := (inv.last a rest rfl).1; have := (hle a List.mem_cons_self).1; omega
  · have hcast : ((r.rid.toNat : Nat) : Int) = r.rid := Int.toNat_of_nonneg hrid
    obtain ⟨hlen, h1, h2⟩ := inv.refs.entry emptyRef (cRefInv_empty _) r _ hcast (hok.pos hp).1
      (fun a ha => ⟨(hle a ha).1, (hle a ha).2.1⟩) ref hget
    obtain ⟨hres, hlastr, hnew⟩ := cRefInv_step (fun x => binOf x.start x.stop i.minShift i.depth) ref _ _ r h1 hok.ce
      (fun a ha => (hall a (mem_onRefBy ha).1).ce) (fun a ha => (hle a (mem_onRefBy ha).1).2.2) h2
    have new := inv.refs.set emptyRef (cRefInv_empty _) r _ hcast hlen _ hnew
    exact ⟨hres, rfl, rfl, ⟨by rw [inv.flag, Bool.false_and], new.len0, by rw [hlastr]; exact new.last, new.ridLt, new.refInv⟩⟩

theorem CIdxInv.unplaced {bf : CRec → Nat} {i : CIndex} {hist : List CRec} (inv : CIdxInv bf i hist)
    (um : Option Nat) : CIdxInv bf { i with unmapped := um } hist :=
  ⟨inv.flag, inv.len0, inv.last, inv.ridLt, inv.refInv⟩

theorem addAll_sorted (binOf : Int → Int → Nat → Nat → Nat) (ms d : Nat) (i : CIndex) (hms : i.minShift = ms)
    (hd : i.depth = d) (hrefs : i.refs = []) (hflag : i.isSorted = false) (recs : List CRec)
    (h : CSortedInput ms d recs) :
    allOk (addAll binOf i recs).2 ∧ (addAll binOf i recs).1.minShift = ms ∧ (addAll binOf i recs).1.depth = d ∧
      CIdxInv (fun x => binOf x.start x.stop ms d) (addAll binOf i recs).1 (recs.filter (·.placed)).reverse := by
  have init : CIdxInv (fun x => binOf x.start x.stop ms d) i [] :=
    ⟨hflag, fun _ => hrefs, fun _ _ e => (nomatch e), fun _ e => (nomatch e),
      fun j ref e => by rw [hrefs] at e; cases e⟩
  have := addAll_induct (add binOf) (addAll binOf) (fun _ => rfl) (fun _ _ _ => rfl) (·.placed) (CRecOK ms d) CRecLe
    (fun s hist => s.minShift = ms ∧ s.depth = d ∧ CIdxInv (fun x => binOf x.start x.stop ms d) s hist)
    (by rintro s hist r ⟨rfl, rfl, inv⟩ hok hall hp hle
        exact cIdxInv_step binOf s hist r inv hok hall hp hle)
    (by rintro s hist r ⟨rfl, rfl, inv⟩ hok hp
        rw [add_unplaced binOf s r hok hp]
        exact ⟨rfl, rfl, rfl, inv.unplaced _⟩)
    recs i [] ⟨hms, hd, init⟩ (fun _ e => (nomatch e)) h.ok h.sorted (fun _ e => (nomatch e))
  rwa [List.append_nil] at this

/-- the true statistics of the records of one reference in the order they were added -/
def specStatsC (h : List CRec) : Option Stats :=
  match h.head?, h.getLast? with
  | some first, some last =>
    some ⟨⟨first.chunk.b, last.chunk.e⟩, h.countP (·.mapped), h.countP (fun r => !r.mapped)⟩
  | _, _ => none

/-- a CSI record as a record of `internal.Index`: the statistics are those of `internal.Index` over
the same records (the bin plays no role in them) -/
def CRec.toRec (r : CRec) : Rec := ⟨r.rid, r.start, r.stop, 0, r.chunk, r.placed, r.mapped⟩

theorem statsOfC_eq : ∀ h : List CRec, statsOfC h = statsOf (h.map CRec.toRec)
  | [] => rfl
  | r :: older => congrArg (fun s => some (addStats s r.chunk r.mapped)) (statsOfC_eq older)

theorem specStatsC_eq (h : List CRec) : specStatsC h = specStats (h.map CRec.toRec) := by
  rw [specStats, List.head?_map, List.getLast?_map, List.countP_map, List.countP_map, specStatsC]
  cases h.head? <;> cases h.getLast? <;> rfl

theorem statsOfC_spec (h : List CRec) : statsOfC h = specStatsC h.reverse := by
  rw [statsOfC_eq, statsOf_spec, specStatsC_eq, List.map_reverse]

theorem add_fixed (binOf : Int → Int → Nat → Nat → Nat) (i : CIndex) (r : CRec) :
    (add binOf i r).1.version = i.version ∧ (add binOf i r).1.aux = i.aux ∧
      (add binOf i r).1.minShift = i.minShift ∧ (add binOf i r).1.depth = i.depth := by
  refine add_cases binOf i r ?_ ?_ ?_ ?_ ?_ <;> (intros; exact ⟨rfl, rfl, rfl, rfl⟩)

theorem add_unmapped (binOf : Int → Int → Nat → Nat → Nat) (i : CIndex) (r : CRec)
    (hv : validPos i.minShift i.depth r.start = true ∧ validPos i.minShift i.depth r.stop = true) :
    (add binOf i r).1.unmapped = some (umCount i.unmapped + (if r.placed then 0 else 1)) := by
  refine add_cases binOf i r (fun hn => absurd hv hn) ?_ ?_ ?_ ?_ <;> (intro _ hp; intros; rw [hp]; rfl)

theorem addAll_unmapped (binOf : Int → Int → Nat → Nat → Nat) (ms d : Nat) : ∀ (recs : List CRec) (i : CIndex),
    i.minShift = ms → i.depth = d →
    (∀ r, r ∈ recs → validPos ms d r.start = true ∧ validPos ms d r.stop = true) → recs ≠ [] →
    (addAll binOf i recs).1.unmapped = some (umCount i.unmapped + recs.countP (fun r => !r.placed)) := by
  intro recs
  induction recs with
  | nil => intro i _ _ _ h; exact absurd rfl h
  | cons r rs ih =>
    intro i hms hd hv _
    subst hms; subst hd
    have h1 := add_unmapped binOf i r (hv r List.mem_cons_self)
    obtain ⟨_, _, h2, h3⟩ := add_fixed binOf i r
    simp only [addAll]
    cases rs with
    | nil =>
      simp only [addAll, h1, List.countP_cons, List.countP_nil]
      cases r.placed <;> simp
    | cons r2 rs2 =>
      rw [ih (add binOf i r).1 h2 h3 (fun x hx => hv x (List.mem_cons_of_mem _ hx)) (by simp), h1]
      simp only [umCount, List.countP_cons]
      cases r.placed <;> simp <;> omega

theorem addAll_fixed (binOf : Int → Int → Nat → Nat → Nat) : ∀ (recs : List CRec) (i : CIndex),
    (addAll binOf i recs).1.version = i.version ∧ (addAll binOf i recs).1.aux = i.aux ∧
    (addAll binOf i recs).1.minShift = i.minShift ∧ (addAll binOf i recs).1.depth = i.depth := by
  intro recs
  induction recs with
  | nil => intro i; exact ⟨rfl, rfl, rfl, rfl⟩
  | cons r rs ih =>
    intro i
    obtain ⟨h1, h2, h3, h4⟩ := ih (add binOf i r).1
    obtain ⟨g1, g2, g3, g4⟩ := add_fixed binOf i r
    simp only [addAll]
    exact ⟨h1.trans g1, h2.trans g2, h3.trans g3, h4.trans g4⟩

/-- what completeness needs (kept by MergeChunks) -/
structure CRefCover (bf : CRec → Nat) (ref : CRef) (h : List CRec) : Prop where
  bins : ∀ r, r ∈ h → ∃ bn, bn ∈ ref.bins ∧ bn.bin = bf r ∧ coveredBy bn.chunks r.chunk ∧ bn.left < r.chunk.e
  nodup : (ref.bins.map (·.bin)).Nodup

structure CIdxCover (bf : CRec → Nat) (i : CIndex) (hist : List CRec) : Prop where
  flag : i.isSorted = false
  refs : RefsInv CRec.rid CRec.start (CRefCover bf) i.refs i.lastRecord hist

theorem CIdxInv.cover {bf : CRec → Nat} {i : CIndex} {hist : List CRec} (inv : CIdxInv bf i hist) :
    CIdxCover bf i hist :=
  ⟨inv.flag, inv.refs.mono fun ref h ri =>
    { bins := fun r hr => by
        obtain ⟨bn, h1, h2, h3, h4⟩ := ri.bins r hr
        exact ⟨bn, h1, h2, ⟨r.chunk, h3, Int.le_refl _, Int.le_refl _⟩, h4⟩
      nodup := ri.nodup }⟩

theorem sortRef_bins_spec (ref : CRef) (hn : (ref.bins.map (·.bin)).Nodup) (bn : CBin) (hb : bn ∈ ref.bins) :
    findBin (sortRef ref).bins bn.bin = some { bn with chunks := sortChunks bn.chunks } := by
  unfold findBin
  rw [show (sortRef ref).bins.find? _ = _ from
    find?_mergeSort_map (·.bin) (fun b => { b with chunks := sortChunks b.chunks }) (fun _ => rfl) ref.bins hn bn hb]
  exact if_pos rfl

theorem chunks_complete_cover (binsOf : Int → Int → Nat → Nat → List Nat) (adj : List Chunk → List Chunk)
    (hadj : EncLaw adj) (bf : CRec → Nat) (i : CIndex) (hist : List CRec) (cov : CIdxCover bf i hist)
    (r : CRec) (hr : r ∈ hist) (beg stop : Int) (hbin : bf r ∈ binsOf beg stop i.minShift i.depth) :
    coveredBy (chunks binsOf adj i r.rid beg stop) r.chunk := by
  obtain ⟨h0, hlt⟩ := cov.refs.ridLt r hr
  obtain ⟨ref, href, hcov, hmem⟩ := cov.refs.get hr
  obtain ⟨bn, hbn, hbb, ⟨c, hc, hc1, hc2⟩, hleft⟩ := hcov.bins r hmem
  have hsort : (sort i).refs[r.rid.toNat]? = some (sortRef ref) := by
    rw [sort, if_neg (by rw [cov.flag]; exact Bool.false_ne_true), List.getElem?_map, href]; rfl
  have hcand : c ∈ candidates (sortRef ref) (binsOf beg stop i.minShift i.depth) := by
    refine List.mem_flatMap.2 ⟨bf r, hbin, ?_⟩
    rw [← hbb, sortRef_bins_spec ref hcov.nodup bn hbn]
    -- the enclosing chunk ends after the record's, which ends after `left`
    exact List.mem_filter.2 ⟨mem_sortChunks.2 hc, decide_eq_true (show c.e > bn.left by omega)⟩
  unfold chunks
  rw [if_neg (by omega), hsort]
  exact coveredBy_merge hadj ⟨c, hcand, hc1, hc2⟩

theorem mergeChunks_cover (s : List Chunk → List Chunk) (hs : EncLaw s) (bf : CRec → Nat) (i : CIndex)
    (hist : List CRec) (cov : CIdxCover bf i hist) : CIdxCover bf (mergeChunks s i) hist := by
  refine ⟨cov.flag, cov.refs.map _ fun ref h c => ⟨fun r hr => ?_, by rw [List.map_map]; exact c.nodup⟩⟩
  obtain ⟨bn, h1, h2, hc, hl⟩ := c.bins r hr
  exact ⟨_, List.mem_map.2 ⟨bn, h1, rfl⟩, h2, coveredBy_merge hs hc, hl⟩

end Hts.Model.Csi
