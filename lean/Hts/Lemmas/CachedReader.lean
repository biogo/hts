/-
The cached reader refines the uncached reader (rd = 1), for every cache that satisfies the contract:
the invariant `Inv` (= `cache_inv` of C03) is what Hts.Lemmas.CachedReaderSim needs (`Inv.simInv`).
Code variant: `Cfg.noStale` (repair C03-1 `clearOnRebase` or repair C09-2 `failReset`, or both); `peekGuard` arbitrary.
-/
import Hts.Lemmas.CachedReaderSim
namespace Hts.Model.CachedReader
open Hts.Model.Cache Hts.Spec.CacheContract

variable {σ : Type}

def Disj (o : CacheOps σ) (p q : σ) : Prop := ∀ e ∈ o.held p, ∀ e' ∈ o.held q, e.id ≠ e'.id

theorem Disj.symm {o : CacheOps σ} {p q : σ} (h : Disj o p q) : Disj o q p :=
  fun e he e' he' hh => h e' he' e he hh.symm

/-- a cache, attached or not, holds only allocated, intact blocks other than the current one, each once -/
structure CacheOK (o : CacheOps σ) (wf : σ → Prop) (f : File) (r : Reader σ) (c : σ) : Prop where
  wf : wf c
  ents : ∀ e ∈ o.held c, e.id < r.fresh ∧ r.cur ≠ some e.id ∧ Good f e.key (r.heap e.id)
  ids : ∀ a ∈ o.held c, ∀ b ∈ o.held c, a.id = b.id → a = b

/-- the caches that have been detached (`Reader.parked`) stay intact and share no block with each other or
with the attached cache -/
structure ParkedOK (o : CacheOps σ) (wf : σ → Prop) (f : File) (r : Reader σ) : Prop where
  ok : ∀ p ∈ r.parked, CacheOK o wf f r p
  act : ∀ c, r.cache = some c → ∀ p ∈ r.parked, Disj o c p
  pw : r.parked.Pairwise (Disj o)

/-- `cache_inv`: what holds of a reader and its cache after every history -/
structure Inv (o : CacheOps σ) (wf : σ → Prop) (f : File) (r : Reader σ) : Prop where
  cur_lt : ∀ id, r.cur = some id → id < r.fresh
  cur_good : ∀ id, r.cur = some id → (r.heap id).hasData = true → Good f (r.heap id).base (r.heap id)
  cache_wf : ∀ c, r.cache = some c → wf c
  held : ∀ c, r.cache = some c → ∀ e ∈ o.held c,
    e.id < r.fresh ∧ r.cur ≠ some e.id ∧ Good f e.key (r.heap e.id)
  ids : ∀ c, r.cache = some c → ∀ a ∈ o.held c, ∀ b ∈ o.held c, a.id = b.id → a = b
  parked : ParkedOK o wf f r

section
variable {o : CacheOps σ} {wf : σ → Prop} {f : File} {r : Reader σ}

theorem Inv.activeOK (i : Inv o wf f r) {c : σ} (hc : r.cache = some c) : CacheOK o wf f r c :=
  ⟨i.cache_wf c hc, i.held c hc, i.ids c hc⟩

theorem Inv.frame (inv : Inv o wf f r) {R : Reader σ} (hp : R.parked = r.parked) (hf : r.fresh ≤ R.fresh)
    (hcur : ∀ id, R.cur = some id →
      id < R.fresh ∧ ((R.heap id).hasData = true → Good f (R.heap id).base (R.heap id)))
    (hpk : ∀ p ∈ r.parked, ∀ e ∈ o.held p, R.cur ≠ some e.id ∧ R.heap e.id = r.heap e.id)
    (hcache : ∀ c, R.cache = some c → CacheOK o wf f R c ∧ ∀ p ∈ r.parked, Disj o c p) : Inv o wf f R := by
  refine ⟨fun id h => (hcur id h).1, fun id h => (hcur id h).2, fun c h => (hcache c h).1.wf,
    fun c h => (hcache c h).1.ents, fun c h => (hcache c h).1.ids, ?_, fun c h p hp' => (hcache c h).2 p (hp ▸ hp'),
    hp ▸ inv.parked.pw⟩
  intro p hp'
  rw [hp] at hp'
  obtain ⟨w, ents, ids⟩ := inv.parked.ok p hp'
  exact ⟨w, fun e he => ⟨Nat.lt_of_lt_of_le (ents e he).1 hf, (hpk p hp' e he).1,
    (hpk p hp' e he).2 ▸ (ents e he).2.2⟩, ids⟩

theorem Inv.book (i : Inv o wf f r) (e : Err) (cb ce : Int × Nat) (bl : Bool) :
    Inv o wf f { r with err := e, chunkBegin := cb, chunkEnd := ce, blocked := bl } :=
  ⟨i.cur_lt, i.cur_good, i.cache_wf, i.held, i.ids,
    fun p hp => ⟨(i.parked.ok p hp).wf, (i.parked.ok p hp).ents, (i.parked.ok p hp).ids⟩, i.parked.act, i.parked.pw⟩

/-- the decompression target — the current block, or a new one — may be overwritten by any block that holds the
member of its base, or no data: no cache refers to it -/
theorem Inv.load (i : Inv o wf f r) (b : RBlk) (hb : b.hasData = true → Good f b.base b) :
    Inv o wf f ((lazyBlock r).1.setB (lazyBlock r).2 b) := by
  have key : ∀ {R : Reader σ} {id : Nat}, R.parked = r.parked → R.cache = r.cache → r.fresh ≤ R.fresh →
      id < R.fresh → R.cur = some id → (∀ j, j ≠ id → R.heap j = r.heap j) →
      (∀ e : Entry, e.id < r.fresh ∧ r.cur ≠ some e.id → e.id ≠ id) → Inv o wf f (R.setB id b) := by
    intro R id hp hca hf hlt hcur hheap hne
    refine i.frame hp hf (fun j hj => ?_) (fun p hp' e he => ?_) (fun c hc => ?_)
    · cases hcur.symm.trans hj
      exact ⟨hlt, fun hd => by rw [setB_same] at hd ⊢; exact hb hd⟩
    · have := hne e ⟨((i.parked.ok p hp').ents e he).1, ((i.parked.ok p hp').ents e he).2.1⟩
      exact ⟨fun h => this (Option.some.inj (hcur.symm.trans h)).symm, (setB_other _ _ this).trans (hheap _ this)⟩
    · have hc' : r.cache = some c := hca ▸ hc
      refine ⟨⟨i.cache_wf c hc', fun e he => ?_, i.ids c hc'⟩, i.parked.act c hc'⟩
      obtain ⟨a1, a2, a3⟩ := i.held c hc' e he
      have := hne e ⟨a1, a2⟩
      exact ⟨Nat.lt_of_lt_of_le a1 hf, fun h => this (Option.some.inj (hcur.symm.trans h)).symm,
        by rw [setB_other _ _ this, hheap _ this]; exact a3⟩
  rcases lazyBlock_cases r with ⟨id, hc, hl⟩ | ⟨hc, hl⟩
  · rw [hl]
    exact key rfl rfl (Nat.le_refl _) (i.cur_lt id hc) hc (fun _ _ => rfl) fun e he hh => he.2 (hh ▸ hc)
  · rw [hl]
    exact key rfl rfl (Nat.le_succ _) (Nat.lt_succ_self _) rfl (fun j hj => setB_other _ _ hj)
      fun e he hh => Nat.lt_irrefl _ (hh ▸ he.1)

theorem Inv.advance {o : CacheOps σ} {wf : σ → Prop} {f : File} {r : Reader σ} (i : Inv o wf f r) {id : Nat}
    (hc : r.cur = some id) (p q : Nat) (u : Bool) :
    Inv o wf f (r.setB id { r.heap id with pos := p, offBlock := q, used := u }) := by
  have := i.load { r.heap id with pos := p, offBlock := q, used := u } (i.cur_good id hc)
  simp only [lazyBlock, hc] at this
  exact this

theorem Inv.swapOK (inv : Inv o wf f r) {c c2 : σ} (hc : r.cache = some c) (hw2 : wf c2) {R : Reader σ}
    (hfresh : r.fresh ≤ R.fresh)
    (hent : ∀ e ∈ o.held c2, e ∈ o.held c ∨
      ∃ id, r.cur = some id ∧ (r.heap id).hasData = true ∧ e = ⟨(r.heap id).base, id⟩)
    (hR : ∀ e ∈ o.held c2, R.cur ≠ some e.id ∧ R.heap e.id = r.heap e.id) :
    CacheOK o wf f R c2 ∧ ∀ p ∈ r.parked, Disj o c2 p := by
  have hgood : ∀ e ∈ o.held c2, e.id < r.fresh ∧ Good f e.key (r.heap e.id) := by
    intro e he
    rcases hent e he with h | ⟨id, hcur, hd, rfl⟩
    · exact ⟨(inv.held c hc e h).1, (inv.held c hc e h).2.2⟩
    · exact ⟨inv.cur_lt _ hcur, inv.cur_good _ hcur hd⟩
  refine ⟨⟨hw2, fun e he => ⟨Nat.lt_of_lt_of_le (hgood e he).1 hfresh, (hR e he).1,
    (hR e he).2 ▸ (hgood e he).2⟩, fun a ha b hb hab => ?_⟩, fun p hp e he e' he' hh => ?_⟩
  · rcases hent a ha with h1 | ⟨i1, c1, _, rfl⟩ <;> rcases hent b hb with h2 | ⟨i2, c2, _, rfl⟩
    · exact inv.ids c hc a h1 b h2 hab
    · exact absurd (hab ▸ c2) (inv.held c hc a h1).2.1
    · exact absurd (hab ▸ c1) (inv.held c hc b h2).2.1
    · cases (show i1 = i2 from hab); rfl
  · rcases hent e he with h1 | ⟨id, hcur, _, rfl⟩
    · exact inv.parked.act c hc p hp e h1 e' he' hh
    · exact ((inv.parked.ok p hp).ents e' he').2.1 (hh ▸ hcur)

theorem cacheSwap_spec (ct : Contract o wf) {cfg : Cfg} {r1 : Reader σ} {k : Int} {hit : Bool} (inv : Inv o wf f r)
    (hk : ∀ id, r.cur = some id → (r.heap id).hasData = true → (r.heap id).base ≠ k)
    (h : cacheSwap cfg o r k = .ok (r1, hit)) :
    r1.book = r.book ∧ Inv o wf f r1 ∧
    (hit = true → ∃ id, r1.cur = some id ∧ Loaded f k (r1.heap id) .none) ∧
    (hit = false → ∀ c1, r1.cache = some c1 → ∀ e ∈ o.held c1, e.key ≠ k) := by
  rcases cacheSwap_cases ct.putSub ct.get_wf inv.cache_wf h with
    ⟨hc, rfl, ⟨rfl, -⟩ | rfl⟩ | ⟨c, c1, id, c2, hs, hc, hg, rfl, rfl, hw2, hsub⟩ |
    ⟨c, c1, c2, hs, back, ret, hc, hg, rfl, rfl, hw2, hsub, hcurR⟩
  · exact ⟨rfl, inv, nofun, fun _ c h => nomatch hc.symm.trans h⟩
  · exact ⟨rfl, inv.frame rfl (Nat.le_refl _) nofun (fun _ _ _ _ => ⟨nofun, rfl⟩) (fun c h => nomatch hc.symm.trans h), nofun,
      fun _ c h => nomatch hc.symm.trans h⟩
  · -- hit
    obtain ⟨hmem, hheld1⟩ := ct.get_hit _ _ _ _ _ (inv.cache_wf c hc) hg
    obtain ⟨hid_lt, hid_cur, hid_good⟩ := inv.held c hc _ hmem
    have hent : ∀ e ∈ o.held c2, e.id ≠ id ∧ (e ∈ o.held c ∨
        ∃ cid, r.cur = some cid ∧ (r.heap cid).hasData = true ∧ e = ⟨(r.heap cid).base, cid⟩) := by
      intro e he
      rcases hsub e he with h1 | ⟨cid, hcid, hd, rfl⟩
      · obtain ⟨h0, hne⟩ := (hheld1 e).1 h1
        exact ⟨fun hid => hne (inv.ids c hc e h0 _ hmem hid), Or.inl h0⟩
      · exact ⟨fun hh => hid_cur (hh ▸ hcid), Or.inr ⟨cid, hcid, hd, rfl⟩⟩
    have hgood : Good f k ((r.setB id { r.heap id with pos := 0, offBlock := 0 }).heap id) := by
      rw [setB_same]; exact hid_good
    refine ⟨rfl, ?_, fun _ => ⟨id, rfl, Loaded.of_good hgood (by rw [setB_same]) (by rw [setB_same])⟩, nofun⟩
    refine inv.frame rfl (Nat.le_refl _) (fun j hj => ?_) (fun p hp e he => ?_) fun c' h' => ?_
    · cases hj
      exact ⟨hid_lt, fun _ => hgood.1 ▸ hgood⟩
    · have := inv.parked.act c hc p hp _ hmem e he
      exact ⟨fun h => this (Option.some.inj h), setB_other _ _ (Ne.symm this)⟩
    · cases h'
      exact inv.swapOK hc hw2 (Nat.le_refl _) (fun e he => (hent e he).2) fun e he =>
        ⟨fun h => (hent e he).1 (Option.some.inj h).symm, setB_other _ _ (hent e he).1⟩
  · -- miss
    obtain ⟨hheld1, hnokey⟩ := ct.get_miss _ _ _ _ (inv.cache_wf c hc) hg
    rw [hheld1] at hsub hcurR
    refine ⟨rfl, ?_, nofun, fun _ c' h' e he => ?_⟩
    · refine inv.frame rfl (Nat.le_refl _) (fun j hj => ?_) (fun p hp e he => ?_) fun c' h' => ?_
      · exact ⟨inv.cur_lt j (hcurR j hj).1, inv.cur_good j (hcurR j hj).1⟩
      · exact ⟨fun h => ((inv.parked.ok p hp).ents e he).2.1 (hcurR _ h).1, rfl⟩
      · cases h'
        exact inv.swapOK hc hw2 (Nat.le_refl _) hsub fun e he =>
          ⟨fun h => (inv.held c hc e ((hcurR _ h).2.1 ▸ he)).2.1 (hcurR _ h).1, rfl⟩
    · cases h'
      rcases hsub e he with h1 | ⟨cid, hcur, hd, rfl⟩
      · exact hnokey e h1
      · exact hk _ hcur hd
theorem Inv.attach {o : CacheOps σ} {wf : σ → Prop} {f : File} {r : Reader σ} (i : Inv o wf f r)
    (cnew : Option σ) (pk : List σ) (hints : List Int)
    (h1 : ∀ c, cnew = some c → CacheOK o wf f r c) (h2 : ∀ p ∈ pk, CacheOK o wf f r p)
    (h3 : ∀ c, cnew = some c → ∀ p ∈ pk, Disj o c p) (h4 : pk.Pairwise (Disj o)) :
    Inv o wf f { r with cache := cnew, hints := hints, parked := pk } :=
  ⟨i.cur_lt, i.cur_good, fun c hc => (h1 c hc).wf, fun c hc => (h1 c hc).ents, fun c hc => (h1 c hc).ids,
    fun p hp => ⟨(h2 p hp).wf, (h2 p hp).ents, (h2 p hp).ids⟩, h3, h4⟩

/-- `l ++ r.cache.toList` is `parked` after `setCache` (`l = r.parked`) and after `reattach` (`l`: `r.parked` without the
cache taken out) -/
theorem Inv.parked_with_active (i : Inv o wf f r)
    (l : List σ) (hl : ∀ p ∈ l, p ∈ r.parked) (hpw : l.Pairwise (Disj o)) :
    (∀ p ∈ l ++ r.cache.toList, CacheOK o wf f r p) ∧ (l ++ r.cache.toList).Pairwise (Disj o) := by
  constructor
  · intro p hp
    rcases List.mem_append.1 hp with h | h
    · exact i.parked.ok p (hl p h)
    · exact i.activeOK (Option.mem_toList.1 h)
  · refine List.pairwise_append.2 ⟨hpw, ?_, ?_⟩
    · cases r.cache <;> simp
    · exact fun p hp q hq => (i.parked.act _ (Option.mem_toList.1 hq) p (hl p hp)).symm

theorem Inv.simInv (ct : Contract o wf) {cfg : Cfg} (hcfg : cfg.noStale) :
    SimInv True cfg o wf f (Inv o wf f) where
  noStale := hcfg
  init := by
    refine ⟨?_, ?_, ?_, ?_, ?_, ⟨?_, ?_, List.Pairwise.nil⟩⟩ <;> (intro x hx; simp [Reader.init] at hx)
  cur_good i := i.cur_good _
  book e cb ce bl i := i.book e cb ce bl
  advance i hc p q u _ := i.advance hc p q u
  swap_ok i hk hs := by
    obtain ⟨hbook, inv1, hhit, hmiss⟩ := cacheSwap_spec ct i hk hs
    exact ⟨hbook, inv1, hhit, fun hf => ⟨skipCached_miss ct.peekSub inv1.cache_wf (hmiss hf), inv1.load⟩⟩
  swap_error i hs := ⟨trivial, (cacheSwap_error ct.putSub ct.get_wf i.cache_wf hs).1⟩
  setCache c hints i ok := by
    obtain ⟨pa, pb⟩ := i.parked_with_active _ (fun _ h => h) i.parked.pw
    refine i.attach c _ hints (fun c' hc' => ?_) pa (fun c' hc' p hp e he => ?_) pb
    · subst hc'
      exact ⟨ok.1, fun e he => (by rw [ok.2] at he; cases he), fun a ha => (by rw [ok.2] at ha; cases ha)⟩
    · subst hc'
      rw [ok.2] at he
      cases he
  reattach {r} i hints inv := by
    cases hget : r.parked[i]? with
    | none =>
      obtain ⟨pa, pb⟩ := inv.parked_with_active _ (fun _ h => h) inv.parked.pw
      exact inv.attach none _ hints nofun pa nofun pb
    | some c =>
      have hcm : c ∈ r.parked := List.mem_of_getElem? hget
      obtain ⟨pa, pb⟩ := inv.parked_with_active (r.parked.eraseIdx i) (fun _ h => List.mem_of_mem_eraseIdx h)
        (List.Pairwise.sublist (List.eraseIdx_sublist _ _) inv.parked.pw)
      refine inv.attach (some c) _ hints (fun c' hc' => ?_) pa (fun c' hc' p hp => ?_) pb
      · cases hc'
        exact inv.parked.ok _ hcm
      · cases hc'
        rcases List.mem_append.1 hp with h | h
        · exact (List.pairwise_cons.1 (inv.parked.pw.perm (perm_eraseIdx _ _ _ hget) Disj.symm)).1 p h
        · exact (inv.parked.act _ (Option.mem_toList.1 h) _ hcm).symm

end

/-- `Rel (Inv o wf f)` without `err` and `live`, with the invariant on the uncached side too -/
structure W (o : CacheOps σ) (wf : σ → Prop) (f : File) (C U : Reader σ) : Prop where
  invC : Inv o wf f C
  invU : Inv o wf f U
  ucache : U.cache = none ∧ U.lent = none
  cb : C.chunkBegin = U.chunkBegin
  ce : C.chunkEnd = U.chunkEnd
  blocked : C.blocked = U.blocked
  cur : ∃ c u, C.cur = some c ∧ U.cur = some u ∧ BlkEq (C.heap c) (U.heap u)

end Hts.Model.CachedReader
