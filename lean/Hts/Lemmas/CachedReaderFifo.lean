/-
FIFO with the repaired reader (rd = 1): the cached reader refines the uncached one for ALL histories.

`FIFO.Get` leaves a block that has been read from (`Used()`) in its table, so the contract of
Hts.Spec.CacheContract (`get_hit`: ownership passes to the caller) does not hold and the invariant `Inv` of
Hts.Lemmas.CachedReader ("no cache entry is the current block", "caches share no block") is false for FIFO.
What holds instead, on a tree with repair C03-5 (`lentGuard`: the block `Get` returned while the cache kept it
indexed is remembered in `bg.lent` and never recycled), is `FInv`, and the only block `nextBlockAt` decompresses into
(`lazyBlock`) is a new one or a current block that no table references.  `FInv` is an invariant the simulation of
Hts.Lemmas.CachedReaderSim can be run with (`FInv.simInv`): it is kept by Seek / Read / ReadByte / SetCache(new | nil |
re-attach) / Blocked, for every capacity ≥ 1 (`NewFIFO(n)` with `n < 1` is the nil cache), every file with positive
member sizes.
-/
import Hts.Lemmas.CachedReaderSim
namespace Hts.Model.CachedReaderFifo
open Hts.Model.Cache Hts.Spec.CacheContract Hts.Model.CachedReader

def caches (r : Reader LCache) : List LCache := r.cache.toList ++ r.parked

def Idx (r : Reader LCache) (id : Nat) : Prop := ∃ c ∈ caches r, ∃ e ∈ c.items, e.id = id

/-- a block that two tables reference has been read from (`Used()`), so `Get` never hands out, as the caller's own, a
block some other table still references -/
def Share (h : Nat → RBlk) (p q : LCache) : Prop :=
  ∀ e ∈ p.items, ∀ e' ∈ q.items, e.id = e'.id → (h e.id).used = true

theorem Share.symm {h : Nat → RBlk} {p q : LCache} (s : Share h p q) : Share h q p :=
  fun e he e' he' hh => by rw [hh]; exact s e' he' e he hh.symm

structure FInv (f : File) (r : Reader LCache) : Prop where
  cur_lt : ∀ id, r.cur = some id → id < r.fresh
  cur_good : ∀ id, r.cur = some id → (r.heap id).hasData = true → Good f (r.heap id).base (r.heap id)
  wf : ∀ c ∈ caches r, c.WF
  /-- every table entry `(k, id)` of every cache object, attached or detached, refers to an allocated block whose content
  is the member at `k`: no indexed block is ever overwritten -/
  ents : ∀ c ∈ caches r, ∀ e ∈ c.items, e.id < r.fresh ∧ Good f e.key (r.heap e.id)
  /-- a current block that a table references is the block on loan (`bg.lent`), and has been read from (`Used()`) -/
  loan : ∀ id, r.cur = some id → Idx r id → r.lent = some id ∧ (r.heap id).used = true
  excl : (caches r).Pairwise (Share r.heap)

theorem FInv.frame {f : File} {r R : Reader LCache} (inv : FInv f r)
    (hca : R.cache = r.cache) (hpk : R.parked = r.parked) (hfresh : r.fresh ≤ R.fresh)
    (hkeep : ∀ j, Idx r j → Keep (R.heap j) (r.heap j))
    (hcur_lt : ∀ id, R.cur = some id → id < R.fresh)
    (hcur_good : ∀ id, R.cur = some id → (R.heap id).hasData = true → Good f (R.heap id).base (R.heap id))
    (hloan : ∀ id, R.cur = some id → Idx r id → R.lent = some id ∧ (R.heap id).used = true) : FInv f R := by
  have hcs : caches R = caches r := by unfold caches; rw [hca, hpk]
  refine ⟨hcur_lt, hcur_good, ?_, ?_, ?_, ?_⟩
  · rw [hcs]; exact inv.wf
  · rw [hcs]
    intro c hc e he
    obtain ⟨a1, a2⟩ := inv.ents c hc e he
    exact ⟨by omega, (hkeep e.id ⟨c, hc, e, he, rfl⟩).good a2⟩
  · intro id hid hidx
    exact hloan id hid (hcs ▸ hidx : ∃ c ∈ caches r, _)
  · rw [hcs]
    refine inv.excl.imp_of_mem ?_
    intro p q hp _ s e he e' he' hh
    exact (hkeep e.id ⟨p, hp, e, he, rfl⟩).used (s e he e' he' hh)

theorem FInv.book {f : File} {r : Reader LCache} (i : FInv f r) (e : Err) (cb ce : Int × Nat) (bl : Bool) :
    FInv f { r with err := e, chunkBegin := cb, chunkEnd := ce, blocked := bl } :=
  i.frame rfl rfl (Nat.le_refl _) (fun _ _ => Keep.refl _) i.cur_lt i.cur_good i.loan

theorem FInv.advance {f : File} {r : Reader LCache} (i : FInv f r) {id : Nat}
    (hc : r.cur = some id) (p q : Nat) (u : Bool) (hu : (r.heap id).used = true → u = true) :
    FInv f (r.setB id { r.heap id with pos := p, offBlock := q, used := u }) := by
  have hk := Keep.setB r id p q hu
  refine i.frame rfl rfl (Nat.le_refl _) (fun j _ => hk j) i.cur_lt ?_ ?_
  · intro j hj hd
    have : j = id := by simp only [Reader.setB] at hj; rw [hc] at hj; exact (Option.some.inj hj).symm
    subst this
    rw [setB_same] at hd ⊢
    exact i.cur_good j hc hd
  · intro j hj hidx
    have hj' : r.cur = some j := hj
    obtain ⟨a1, a2⟩ := i.loan j hj' hidx
    exact ⟨a1, (hk j).used a2⟩

/-- `Put` and `Peek` are the same code for LRU and FIFO -/
theorem fifo_putSub : PutSub fifoOps LCache.WF := lru_contract.putSub

theorem fifo_peekSub : PeekSub fifoOps LCache.WF := lru_contract.peekSub

theorem fifo_get_wf : ∀ (h : Heap) (c : LCache) (k : Int), c.WF → (fifoOps.get h c k).1.WF :=
  fun _ _ k w => LCache.get_wf w k

theorem fifoOps_put (h : Heap) (c : LCache) (id : Nat) (hint : Option Nat) :
    fifoOps.put h c id hint = some (c.put h id) := rfl

theorem caches_some {r : Reader LCache} {c : LCache} (hc : r.cache = some c) : caches r = c :: r.parked := by
  unfold caches; rw [hc]; rfl

theorem mem_caches {r : Reader LCache} {c : LCache} (hc : r.cache = some c) : c ∈ caches r := by
  rw [caches_some hc]; exact List.mem_cons_self

theorem FInv.cache_wf {f : File} {r : Reader LCache} (i : FInv f r) : ∀ c, r.cache = some c → c.WF :=
  fun c hc => i.wf c (mem_caches hc)

theorem Idx.cases {R : Reader LCache} {c2 : LCache} {id : Nat} (hc : R.cache = some c2) (h : Idx R id) :
    (∃ x ∈ c2.items, x.id = id) ∨ ∃ p ∈ R.parked, ∃ x ∈ p.items, x.id = id := by
  obtain ⟨p, hp, x, hx, hxid⟩ := h
  rw [caches_some hc] at hp
  rcases List.mem_cons.1 hp with h | h
  · exact .inl ⟨x, h ▸ hx, hxid⟩
  · exact .inr ⟨p, h, x, hx, hxid⟩

theorem caches_none {r : Reader LCache} (hc : r.cache = none) : caches r = r.parked := by
  unfold caches; rw [hc]; rfl

theorem FInv.swap {f : File} {r R : Reader LCache} {c c2 : LCache} (inv : FInv f r) (hc : r.cache = some c)
    (hRc : R.cache = some c2) (hRp : R.parked = r.parked) (hfresh : R.fresh = r.fresh)
    (hkeep : ∀ j, Keep (R.heap j) (r.heap j)) (hw2 : c2.WF)
    (hmem : ∀ x ∈ c2.items, x ∈ c.items ∨
      ∃ y, r.cur = some y ∧ (r.heap y).hasData = true ∧ x = ⟨(r.heap y).base, y⟩)
    (hcur_lt : ∀ id, R.cur = some id → id < r.fresh)
    (hcur_good : ∀ id, R.cur = some id → (R.heap id).hasData = true → Good f (R.heap id).base (R.heap id))
    (hloan : ∀ id, R.cur = some id → Idx R id → R.lent = some id ∧ (R.heap id).used = true) : FInv f R := by
  have hcs : caches r = c :: r.parked := caches_some hc
  have hcsR : caches R = c2 :: r.parked := by rw [caches_some hRc, hRp]
  have hcm : c ∈ caches r := mem_caches hc
  have hpm : ∀ p ∈ r.parked, p ∈ caches r := by intro p hp; rw [hcs]; simp [hp]
  refine ⟨?_, hcur_good, ?_, ?_, hloan, ?_⟩
  · intro id hid; rw [hfresh]; exact hcur_lt id hid
  · rw [hcsR]
    intro p hp
    rcases List.mem_cons.1 hp with h | h
    · rw [h]; exact hw2
    · exact inv.wf p (hpm p h)
  · rw [hcsR]
    intro p hp e he
    rw [hfresh]
    rcases List.mem_cons.1 hp with h | h
    · subst h
      rcases hmem e he with h1 | ⟨y, hy, hd, h1⟩
      · obtain ⟨a1, a2⟩ := inv.ents c hcm e h1
        exact ⟨a1, (hkeep _).good a2⟩
      · subst h1
        exact ⟨inv.cur_lt y hy, (hkeep _).good (inv.cur_good y hy hd)⟩
    · obtain ⟨a1, a2⟩ := inv.ents p (hpm p h) e he
      exact ⟨a1, (hkeep _).good a2⟩
  · rw [hcsR]
    have hex := inv.excl
    rw [hcs] at hex
    obtain ⟨h1, h2⟩ := List.pairwise_cons.1 hex
    refine List.pairwise_cons.2 ⟨?_, h2.imp ?_⟩
    · intro p hp e he e' he' hh
      apply (hkeep _).used
      rcases hmem e he with h3 | ⟨y, hy, hd, h3⟩
      · exact h1 p hp e h3 e' he' hh
      · subst h3
        exact (inv.loan y hy ⟨p, hpm p hp, e', he', hh.symm⟩).2
    · intro p q s e he e' he' hh
      exact (hkeep _).used (s e he e' he' hh)

/-- FIFO's `Get` in the vocabulary of `CacheOps` (the counterpart of `Contract.get_hit`/`get_miss`) -/
theorem fifo_get_cases {h : Heap} {c c1 : LCache} {k : Int} {res : Option Nat}
    (hg : fifoOps.get h c k = (c1, res)) :
    (∀ x ∈ c1.items, x ∈ c.items) ∧
    match res with
    | none => c1 = c ∧ ∀ e ∈ c.items, e.key ≠ k
    | some id => (⟨k, id⟩ : Entry) ∈ c.items ∧
        (((h id).used = true ∧ c1 = c ∧ (fifoOps.peek h c1 k).1 = true) ∨
         ((h id).used = false ∧ ∀ x ∈ c1.items, x.key ≠ k)) := by
  cases hl : lookup c.items k with
  | none =>
    cases (show fifoOps.get h c k = (c, none) from LCache.get_of_lookup_none hl).symm.trans hg
    exact ⟨fun _ hx => hx, rfl, lookup_none hl⟩
  | some e =>
    obtain ⟨hem, rfl⟩ := lookup_some hl
    rw [show fifoOps.get h c e.key = _ from LCache.get_of_lookup_some hl] at hg
    by_cases hu : (h e.id).used = true
    · rw [if_pos ⟨rfl, hu⟩] at hg
      cases hg
      exact ⟨fun _ hx => hx, hem, .inl ⟨hu, rfl, congrArg Prod.fst (LCache.peek_of_lookup_some hl)⟩⟩
    · rw [if_neg fun h => hu h.2] at hg
      cases hg
      exact ⟨fun x hx => (mem_removeKey.1 hx).1, hem,
        .inr ⟨by simpa using hu, fun x hx => (mem_removeKey.1 hx).2⟩⟩

theorem cacheSwap_spec {cfg : Cfg} (hlg : cfg.lentGuard = true) {f : File}
    {r r1 : Reader LCache} {k : Int} {hit : Bool} (inv : FInv f r)
    (hk : ∀ id, r.cur = some id → (r.heap id).hasData = true → (r.heap id).base ≠ k)
    (h : cacheSwap cfg fifoOps r k = .ok (r1, hit)) :
    r1.book = r.book ∧ FInv f r1 ∧
    (hit = true → ∃ id, r1.cur = some id ∧ Loaded f k (r1.heap id) .none) ∧
    (hit = false → (∀ id, r1.cur = some id → ¬ Idx r1 id) ∧
        ∀ c1, r1.cache = some c1 → ∀ e ∈ c1.items, e.key ≠ k) := by
  rcases cacheSwap_cases fifo_putSub fifo_get_wf inv.cache_wf h with
    ⟨hc, rfl, ⟨rfl, hcond⟩ | rfl⟩ | ⟨c, c1, id, c2, hs, hc, hg, rfl, rfl, hw2, hmem1⟩ |
    ⟨c, c1, c2, hs, back, ret, hc, hg, rfl, rfl, hw2, hmem, hcurR⟩
  · refine ⟨rfl, inv, nofun, fun _ => ⟨fun id hid hidx => ?_, fun c1 h1 => nomatch hc.symm.trans h1⟩⟩
    rw [hlg, hid, (inv.loan id hid hidx).1] at hcond
    simp at hcond
  · exact ⟨rfl, inv.frame rfl rfl (Nat.le_refl _) (fun j _ => Keep.refl _) nofun nofun nofun, nofun,
      fun _ => ⟨nofun, fun c1 h1 => nomatch hc.symm.trans h1⟩⟩
  · -- hit
    have hcs : caches r = c :: r.parked := caches_some hc
    have hcm : c ∈ caches r := mem_caches hc
    obtain ⟨hsub, hem, hcase⟩ := fifo_get_cases hg
    obtain ⟨hX_lt, hX_good⟩ := inv.ents c hcm _ hem
    have hkeep : ∀ j, Keep ((r.setB id { r.heap id with pos := 0, offBlock := 0 }).heap j) (r.heap j) :=
      Keep.setB r id 0 0 _root_.id
    have hgood_id : Good f k ((r.setB id { r.heap id with pos := 0, offBlock := 0 }).heap id) :=
      (hkeep id).good hX_good
    refine ⟨rfl, ?_, fun _ => ⟨id, rfl, Loaded.of_good hgood_id (by rw [setB_same]) (by rw [setB_same])⟩, nofun⟩
    refine inv.swap hc rfl rfl rfl hkeep hw2 (fun x hx => (hmem1 x hx).imp_left (hsub x)) ?_ ?_ ?_
    · intro j hj; cases hj; exact hX_lt
    · intro j hj _; cases hj; exact hgood_id.1 ▸ hgood_id
    · intro j hj hidx
      cases hj
      rcases hcase with ⟨hu, -, hpk⟩ | ⟨hu, hnk⟩
      · exact ⟨by simp only [hlg, hpk, Bool.and_self, if_true], (hkeep id).used hu⟩
      · exfalso
        rcases hidx.cases rfl with ⟨x, hx, hxid⟩ | ⟨p, h, x, hx, hxid⟩
        · rcases hmem1 x hx with h1 | ⟨y, hy, hd, h1⟩
          · have := (inv.ents c hcm x (hsub x h1)).2
            rw [hxid] at this
            exact hnk x h1 (by rw [← this.1, hX_good.1])
          · subst h1
            exact hk y hy hd (by rw [show y = id from hxid]; exact hX_good.1)
        · have hex := inv.excl
          rw [hcs] at hex
          have := (List.pairwise_cons.1 hex).1 p h _ hem x hx hxid.symm
          rw [show (r.heap id).used = false from hu] at this
          cases this
  · -- miss
    have hcs : caches r = c :: r.parked := caches_some hc
    have hcm : c ∈ caches r := mem_caches hc
    obtain ⟨-, rfl, hnokey⟩ := fifo_get_cases hg
    have hinv : FInv f
        { r with hints := hs, cache := some c2, cur := recycle cfg fifoOps { r with hints := hs } c2 ret back } := by
      refine inv.swap hc rfl rfl rfl (fun j => Keep.refl _) hw2 hmem ?_ ?_ ?_
      · exact fun id hid => inv.cur_lt id (hcurR id hid).1
      · exact fun id hid => inv.cur_good id (hcurR id hid).1
      · intro id hid hidx
        refine inv.loan id (hcurR id hid).1 ?_
        rcases hidx.cases rfl with ⟨x, hx, hxid⟩ | ⟨p, h, x, hx, hxid⟩
        · exact ⟨c1, hcm, x, (show c2.items = c1.items from (hcurR id hid).2.1) ▸ hx, hxid⟩
        · exact ⟨p, by rw [hcs]; exact List.mem_cons_of_mem _ h, x, hx, hxid⟩
    refine ⟨rfl, hinv, nofun, fun _ => ⟨fun id hid hidx => ?_, fun c' h1 x hx => ?_⟩⟩
    · exact (hcurR id hid).2.2 hlg (hinv.loan id hid hidx).1
    · cases h1
      rcases hmem x hx with h1 | ⟨y, hy, hd, h1⟩
      · exact hnokey x h1
      · subst h1; exact hk y hy hd
/-- the decompression target — a current block that no table references, or a new block — may be overwritten by any
block that holds the member of its base, or no data: every table entry still maps to the member at its base -/
theorem FInv.load {f : File} {r : Reader LCache} (inv : FInv f r) (hn : ∀ id, r.cur = some id → ¬ Idx r id)
    (b : RBlk) (hb : b.hasData = true → Good f b.base b) :
    FInv f ((lazyBlock r).1.setB (lazyBlock r).2 b) := by
  have key : ∀ {R : Reader LCache} {id : Nat}, R.cache = r.cache → R.parked = r.parked → R.lent = r.lent →
      r.fresh ≤ R.fresh → id < R.fresh → R.cur = some id → (∀ j, j ≠ id → R.heap j = r.heap j) → ¬ Idx r id →
      FInv f (R.setB id b) := by
    intro R id hca hpk hle hf hlt hcur hheap hnot
    refine inv.frame hca hpk hf (fun j hj => ?_) (fun j hj => ?_) (fun j hj hd => ?_) (fun j hj hidx => ?_)
    · have hne : j ≠ id := fun h => hnot (h ▸ hj)
      rw [setB_other _ _ hne, hheap _ hne]
      exact Keep.refl _
    · cases hcur.symm.trans hj; exact hlt
    · cases hcur.symm.trans hj
      rw [setB_same] at hd ⊢
      exact hb hd
    · cases hcur.symm.trans hj
      exact absurd hidx hnot
  rcases lazyBlock_cases r with ⟨id, hc, hl⟩ | ⟨hc, hl⟩
  · rw [hl]
    exact key rfl rfl rfl (Nat.le_refl _) (inv.cur_lt id hc) hc (fun _ _ => rfl) (hn id hc)
  · rw [hl]
    refine key rfl rfl rfl (Nat.le_succ _) (Nat.lt_succ_self _) rfl (fun j hj => setB_other _ _ hj) ?_
    rintro ⟨c, hc, e, he, hid⟩
    exact Nat.lt_irrefl _ (hid ▸ (inv.ents c hc e he).1)

/-- `SetCache(c)`: the attached cache joins the detached ones -/
theorem perm_recache {σ : Type} (c : Option σ) (cache : Option σ) (parked : List σ) :
    (c.toList ++ (parked ++ cache.toList)).Perm (c.toList ++ (cache.toList ++ parked)) :=
  List.Perm.append_left _ List.perm_append_comm

/-- attaching the `i`-th detached cache again -/
theorem perm_reattach {σ : Type} {parked : List σ} {i : Nat} {c : σ} (h : parked[i]? = some c)
    (cache : Option σ) :
    ((some c).toList ++ (parked.eraseIdx i ++ cache.toList)).Perm (cache.toList ++ parked) := by
  have h1 := perm_eraseIdx parked i c h
  show (c :: (parked.eraseIdx i ++ cache.toList)).Perm (cache.toList ++ parked)
  have h2 : (c :: (parked.eraseIdx i ++ cache.toList)).Perm (parked ++ cache.toList) :=
    (List.Perm.append_right _ h1).symm
  exact h2.trans List.perm_append_comm

/-- `SetCache` in all its forms: the cache objects are rearranged, empty well-formed ones may join -/
theorem FInv.recache {f : File} {r R : Reader LCache} (inv : FInv f r) {extra : List LCache}
    (h1 : R.heap = r.heap) (h2 : R.fresh = r.fresh) (h3 : R.cur = r.cur) (h4 : R.lent = r.lent)
    (hx : ∀ c ∈ extra, c.WF ∧ fifoOps.held c = [])
    (hp : (caches R).Perm (extra ++ caches r)) : FInv f R := by
  have hxi : ∀ c ∈ extra, c.items = [] := fun c hc => (hx c hc).2
  have hmem : ∀ c, c ∈ caches R ↔ (c ∈ extra ∨ c ∈ caches r) := by
    intro c; rw [hp.mem_iff, List.mem_append]
  have hidx : ∀ id, Idx R id → Idx r id := by
    rintro id ⟨c, hc, e, he, hid⟩
    rcases (hmem c).1 hc with h | h
    · rw [hxi c h] at he; cases he
    · exact ⟨c, h, e, he, hid⟩
  refine ⟨?_, ?_, ?_, ?_, ?_, ?_⟩
  · -- `cur_lt`, `cur_good`: the current block is untouched
    intro id hid
    rw [h2]
    exact inv.cur_lt id (h3 ▸ hid)
  · intro id hid hd
    rw [h1] at hd ⊢
    exact inv.cur_good id (h3 ▸ hid) hd
  · -- `wf`, `ents`: a cache object is one that joined (well-formed, empty) or one there was
    intro c hc
    rcases (hmem c).1 hc with h | h
    · exact (hx c h).1
    · exact inv.wf c h
  · intro c hc e he
    rcases (hmem c).1 hc with h | h
    · rw [hxi c h] at he; cases he
    · rw [h1, h2]; exact inv.ents c h e he
  · -- `loan`: no block is referenced that was not referenced before
    intro id hid hi
    rw [h1, h4]
    exact inv.loan id (by rw [← h3]; exact hid) (hidx id hi)
  · -- `excl`: sharing does not depend on the order of the objects, and an empty table shares nothing
    rw [h1]
    refine List.Pairwise.perm ?_ hp.symm (fun s => Share.symm s)
    refine List.pairwise_append.2 ⟨?_, inv.excl, ?_⟩
    · refine List.Pairwise.imp_of_mem (R := fun _ _ => True) ?_ (List.pairwise_of_forall (fun _ _ => trivial))
      intro p q hp' _ _ e he
      rw [hxi p hp'] at he; cases he
    · intro p hp' q _ e he
      rw [hxi p hp'] at he; cases he

/-- `bh = False`: FIFO's `Put` ignores the recorded victim, so none is rejected -/
theorem FInv.simInv {cfg : Cfg} (hcfg : cfg.noStale) (hlg : cfg.lentGuard = true) {f : File} :
    SimInv False cfg fifoOps LCache.WF f (FInv f) where
  noStale := hcfg
  init := by
    refine ⟨nofun, nofun, ?_, ?_, nofun, ?_⟩ <;> simp [caches, Reader.init]
  cur_good i := i.cur_good _
  book e cb ce bl i := i.book e cb ce bl
  advance i hc p q u hu := i.advance hc p q u hu
  swap_ok {r k r1} _ i hk hs := by
    obtain ⟨hbook, inv1, hhit, hmiss⟩ := cacheSwap_spec hlg i hk hs
    exact ⟨hbook, inv1, hhit, fun hf =>
      ⟨skipCached_miss fifo_peekSub inv1.cache_wf (hmiss hf).2, inv1.load (hmiss hf).1⟩⟩
  swap_error i hs := by
    obtain ⟨_, _, _, _, _, hput⟩ := cacheSwap_error fifo_putSub fifo_get_wf i.cache_wf hs
    -- `fifoOps.put … = none` is `some _ = none`
    cases hput
  setCache c hints i ok := by
    refine i.recache (extra := c.toList) rfl rfl rfl rfl (fun c' hc' => ?_) (perm_recache _ _ _)
    cases c with
    | none => cases hc'
    | some c0 => cases List.mem_singleton.1 hc'; exact ok
  reattach {r} i hints inv := by
    cases hget : r.parked[i]? with
    | none => exact inv.recache (extra := []) rfl rfl rfl rfl nofun (perm_recache none _ _)
    | some c => exact inv.recache (extra := []) rfl rfl rfl rfl nofun (perm_reattach hget _)

/-- `Rel (FInv f)` without `err` and `live`, with the invariant on the uncached side too -/
structure W (f : File) (C U : Reader LCache) : Prop where
  invC : FInv f C
  invU : FInv f U
  ucache : U.cache = none ∧ U.lent = none
  cb : C.chunkBegin = U.chunkBegin
  ce : C.chunkEnd = U.chunkEnd
  blocked : C.blocked = U.blocked
  cur : ∃ c u, C.cur = some c ∧ U.cur = some u ∧ BlkEq (C.heap c) (U.heap u)

end Hts.Model.CachedReaderFifo
