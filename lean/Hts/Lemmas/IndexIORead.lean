/-
What the readers establish: every index returned by `internal.ReadIndex` / `bam.ReadIndex` is
well-formed (`WF`): values are in the ranges the format stores, bins/chunks/tiles are sorted, the flag
says sorted.  Hence a previously read index can be written and read back (Hts.Lemmas.IndexIO).

A reader's postcondition is stated with `Sat` and proved along the reader: `Sat.elim` (`Good.elim`) at every `match` on
the result of a sub-reader, `Good.ite` at every test.  The same judgement says that no reader panics.
After a `Sat.elim` the goal is `match .ok (a, rest) with …`; where the next step is another `Sat.elim`, a `dsimp only` comes
first, because the call `p rest` it abstracts appears only once that `match` is reduced (a step that goes on with `.ok` or
`.ite` unifies up to reduction and needs none).
-/
import Hts.Lemmas.IndexIO
namespace Hts.Model.IndexIO
open Hts.Model.Index

/-- a result that is an error other than a panic, or a value with `Q` -/
inductive Good {α : Type} (Q : α → Prop) : Except Fault α → Prop
  | ok {a : α} : Q a → Good Q (.ok a)
  | err : Good Q (.error .err)

namespace Good
variable {α : Type} {Q R : α → Prop} {x : Except Fault α}

/-- Case analysis on a result under `Good`, whatever surrounds it: the readers `match` on the results of their parts, each
with a matcher of its own, and the motive is found by abstracting the result from the goal. -/
@[elab_as_elim] theorem elim {motive : Except Fault α → Prop} (h : Good R x) (err : motive (.error .err))
    (ok : ∀ a, R a → motive (.ok a)) : motive x := by
  cases h with
  | ok ha => exact ok _ ha
  | err => exact err

theorem of_ok {a : α} (h : Good Q x) (e : x = .ok a) : Q a := by subst e; cases h; assumption

theorem ne_panic (h : Good Q x) : x ≠ .error .panic := h.elim nofun fun _ _ => nofun

theorem mono (h : Good R x) (hq : ∀ a, R a → Q a) : Good Q x := h.elim .err fun a ha => .ok (hq a ha)

theorem ite {c : Prop} [Decidable c] {y : Except Fault α} (hx : c → Good Q x) (hy : ¬ c → Good Q y) :
    Good Q (if c then x else y) := by
  by_cases hc : c
  · rw [if_pos hc]; exact hx hc
  · rw [if_neg hc]; exact hy hc

theorem ite_err {c : Prop} [Decidable c] (h : ¬ c → Good Q x) : Good Q (if c then .error .err else x) :=
  .ite (fun _ => .err) h

end Good

def Sat {α : Type} (p : P α) (Q : α → Prop) : Prop := ∀ bs, Good (fun x => Q x.1) (p bs)

@[elab_as_elim] theorem Sat.elim {α : Type} {p : P α} {R : α → Prop} {motive : Except Fault (α × Bytes) → Prop}
    (h : Sat p R) (bs : Bytes) (err : motive (.error .err)) (ok : ∀ a rest, R a → motive (.ok (a, rest))) :
    motive (p bs) :=
  (h bs).elim err fun x hx => ok x.1 x.2 hx

theorem rU32_sat : Sat rU32 (· < 4294967296) := by
  intro bs
  unfold rU32
  split
  · rename_i b0 b1 b2 b3 r
    have := b0.toNat_lt; have := b1.toNat_lt; have := b2.toNat_lt; have := b3.toNat_lt
    exact .ok (by show _ < _; omega)
  · exact .err

theorem rI32_sat : Sat rI32 fun x => -2147483648 ≤ x ∧ x < 2147483648 := by
  intro bs
  unfold rI32
  refine rU32_sat.elim bs .err fun n _ hn => .ok ?_
  show _ ≤ signed32 n ∧ signed32 n < _
  unfold signed32; omega

theorem rU64_sat : Sat rU64 (· < 18446744073709551616) := by
  intro bs
  unfold rU64
  refine rU32_sat.elim bs .err fun lo r1 h1 => ?_
  dsimp only
  refine rU32_sat.elim r1 .err fun hi _ h2 => .ok ?_
  show lo + 4294967296 * hi < _
  omega

theorem rOff_sat : Sat rOff OffOK := by
  intro bs
  unfold rOff
  refine rU64_sat.elim bs .err fun n _ hn => .ok ?_
  show OffOK (signed64 n)
  unfold OffOK signed64; omega

theorem rBytes_sat (n : Nat) : Sat (rBytes n) (·.length = n) := by
  intro bs
  refine .ite_err fun h => .ok ?_
  show (bs.take n).length = n
  rw [List.length_take]; omega

theorem rep_sat {α : Type} {p : P α} {Q : α → Prop} (hp : Sat p Q) (n : Nat) :
    Sat (rep p n) fun xs => xs.length = n ∧ ∀ x, x ∈ xs → Q x := by
  induction n with
  | zero => exact fun _ => .ok ⟨rfl, fun _ hx => absurd hx List.not_mem_nil⟩
  | succ n ih =>
    intro bs
    unfold rep
    refine hp.elim bs .err fun a r1 ha => ?_
    dsimp only
    refine ih.elim r1 .err fun as _ has => .ok ?_
    exact ⟨congrArg (· + 1) has.1, fun z hz => (List.mem_cons.1 hz).elim (· ▸ ha) (has.2 z)⟩

theorem counted_sat {α : Type} {p : P α} {Q : α → Prop} (hp : Sat p Q) (n : Int) :
    Sat (counted n p) fun xs => 0 ≤ n ∧ (xs.length : Int) = n ∧ ∀ x, x ∈ xs → Q x := fun bs =>
  .ite_err fun hn => (rep_sat hp n.toNat bs).mono fun xs h => ⟨by omega, by omega, h.2⟩

theorem rChunk_sat : Sat rChunk fun c => OffOK c.b ∧ OffOK c.e := by
  intro bs
  unfold rChunk
  refine rOff_sat.elim bs .err fun b r1 hb => ?_
  dsimp only
  exact rOff_sat.elim r1 .err fun e _ he => .ok ⟨hb, he⟩

theorem rChunks_sat {n : Int} (hn : n < 2147483648) : Sat (rChunks n) fun cs =>
    cs.length < 2147483648 ∧ (∀ c, c ∈ cs → OffOK c.b ∧ OffOK c.e) ∧ cs.Pairwise (fun a b => leChunk a b = true) := by
  intro bs
  refine .ite (fun _ => .ok ⟨Nat.zero_lt_succ _, fun _ hc => absurd hc List.not_mem_nil, List.Pairwise.nil⟩) fun _ => ?_
  refine (counted_sat rChunk_sat n).elim bs .err fun cs _ h => .ok ?_
  refine ⟨?_, fun c hc => h.2.2 c (mem_sortChunks.1 hc), List.pairwise_mergeSort leChunk_trans leChunk_total _⟩
  show (cs.mergeSort leChunk).length < _
  rw [(List.mergeSort_perm _ _).length_eq]; omega

theorem rStatsBody_sat : Sat rStatsBody StatsRead := by
  intro bs
  unfold rStatsBody
  refine rChunk_sat.elim bs .err fun c r1 hc => ?_
  dsimp only
  refine rU64_sat.elim r1 .err fun m r2 hm => ?_
  dsimp only
  exact rU64_sat.elim r2 .err fun u _ hu => .ok ⟨hc.1, hc.2, hm, hu⟩

theorem rBinLoop_sat {dummy : Nat} : ∀ (k : Nat) {acc : List Bin} {st : Option Stats},
    (∀ b, b ∈ acc → BinRead dummy b) → (∀ s, st = some s → StatsRead s) →
    Sat (rBinLoop dummy k acc st) fun r =>
      (∀ b, b ∈ r.1 → BinRead dummy b) ∧ (∀ s, r.2 = some s → StatsRead s) ∧
        r.1.length + (if r.2.isSome then 1 else 0) ≤ acc.length + (if st.isSome then 1 else 0) + k := by
  intro k
  induction k with
  | zero => exact fun hacc hst _ => .ok ⟨fun b hb => hacc b (List.mem_reverse.1 hb), hst, by simp⟩
  | succ k ih =>
    intro acc st hacc hst bs
    unfold rBinLoop
    refine rU32_sat.elim bs .err fun bin r1 h1 => ?_
    dsimp only
    refine rI32_sat.elim r1 .err fun n r2 h2 => ?_
    refine .ite (fun _ => .ite_err fun _ => ?_) fun hne => ?_
    · -- the pseudo-bin: its two "chunks" are the statistics
      refine rStatsBody_sat.elim r2 .err fun s r3 hs => ?_
      refine (ih hacc (fun s' hs' => Option.some.inj hs' ▸ hs) r3).mono fun r g => ⟨g.1, g.2.1, ?_⟩
      have := g.2.2
      rw [Option.isSome_some, if_pos rfl] at this
      omega
    · refine (rChunks_sat h2.2).elim r2 .err fun cs r3 c => ?_
      refine (ih (acc := ⟨bin, cs⟩ :: acc) (fun b hb => (List.mem_cons.1 hb).elim (· ▸ ⟨h1, hne, c⟩) (hacc b)) hst
        r3).mono fun r g => ⟨g.1, g.2.1, ?_⟩
      have := g.2.2
      rw [List.length_cons] at this
      omega

theorem rBins_sat : Sat rBins fun r =>
    (∀ b, b ∈ r.1 → BinRead statsDummyBin b) ∧ (∀ s, r.2 = some s → StatsRead s) ∧
      r.1.length + (if r.2.isSome then 1 else 0) < 2147483648 ∧ r.1.Pairwise (fun a b => leBin a b = true) := by
  intro bs
  unfold rBins
  refine rI32_sat.elim bs .err fun n r1 hn => ?_
  refine .ite (fun _ => .ok ⟨fun _ hb => absurd hb List.not_mem_nil, (by intro s hs; cases hs), Nat.zero_lt_succ _,
    List.Pairwise.nil⟩) fun _ => .ite_err fun _ => ?_
  refine (rBinLoop_sat n.toNat (fun _ hb => absurd hb List.not_mem_nil) (by intro s hs; cases hs)).elim r1
    .err fun r _ g => .ok ?_
  have hperm := List.mergeSort_perm r.1 leBin
  refine ⟨fun b hb => g.1 b (hperm.mem_iff.1 hb), g.2.1, ?_, List.pairwise_mergeSort leBin_trans leBin_total _⟩
  have := g.2.2
  simp only [List.length_nil, Option.isSome_none, Bool.false_eq_true, if_false] at this
  show (r.1.mergeSort leBin).length + (if r.2.isSome then 1 else 0) < _
  rw [hperm.length_eq]
  omega

theorem rIntervals_sat : Sat rIntervals fun ivs =>
    ivs.length < 2147483648 ∧ (∀ v, v ∈ ivs → OffOK v) ∧ ivs.Pairwise (fun a b => leOff a b = true) := by
  intro bs
  unfold rIntervals
  refine rI32_sat.elim bs .err fun n r1 hn => ?_
  refine .ite (fun _ => .ok ⟨Nat.zero_lt_succ _, fun _ hv => absurd hv List.not_mem_nil, List.Pairwise.nil⟩) fun _ => ?_
  refine (counted_sat rOff_sat n).elim r1 .err fun os _ h => .ok ?_
  have hperm := List.mergeSort_perm os leOff
  refine ⟨?_, fun v hv => h.2.2 v (hperm.mem_iff.1 hv), List.pairwise_mergeSort leOff_trans leOff_total _⟩
  show (os.mergeSort leOff).length < _
  rw [hperm.length_eq]; omega

theorem rRef_sat : Sat rRef fun r => RefBounds r ∧ RefSorted r := by
  intro bs
  unfold rRef
  refine rBins_sat.elim bs .err fun ⟨bins, st⟩ r1 b => ?_
  dsimp only
  refine rIntervals_sat.elim r1 .err fun ivs _ i => .ok ?_
  exact
    ⟨{ nb := b.2.2.1, bins := fun bn hb => ⟨(b.1 bn hb).1, (b.1 bn hb).2.1, (b.1 bn hb).2.2.1, (b.1 bn hb).2.2.2.1⟩
       stats := b.2.1, ivlen := i.1, ivs := i.2.1 },
     { bins := b.2.2.2, chunks := fun bn hb => (b.1 bn hb).2.2.2.2, ivs := i.2.2 }⟩

theorem rUnmapped_good (bs : Bytes) : Good (fun um => ∀ n, um = some n → n < 18446744073709551616) (rUnmapped bs) := by
  refine .ite (fun _ => .ok nofun) fun _ => ?_
  exact rU64_sat.elim bs .err fun _ _ hx => .ok fun _ hn => Option.some.inj hn ▸ hx

theorem rIndex_good {n : Int} (hn : n < 2147483648) (bs : Bytes) :
    Good (fun i => WF i ∧ (i.refs.length : Int) = n) (rIndex n bs) := by
  unfold rIndex
  refine (counted_sat rRef_sat n).elim bs .err fun refs r1 h => ?_
  dsimp only
  refine (rUnmapped_good r1).elim .err fun um hum => .ok ?_
  exact
    ⟨{ nrefs := by show refs.length < _; omega, bounds := fun r hr => (h.2.2 r hr).1
       flag := fun _ r hr => (h.2.2 r hr).2, um := hum }, h.2.1⟩

theorem readBai_good (bs : Bytes) : Good WF (readBai bs) := by
  unfold readBai
  refine (rBytes_sat 4).elim bs .err fun m r1 _ => ?_
  refine .ite_err fun _ => ?_
  refine rI32_sat.elim r1 .err fun n r2 hn => ?_
  exact (rIndex_good hn.2 r2).mono fun _ h => h.1

theorem readBai_wf {bs : Bytes} {i : Index} (h : readBai bs = .ok i) : WF i := (readBai_good bs).of_ok h

end Hts.Model.IndexIO
