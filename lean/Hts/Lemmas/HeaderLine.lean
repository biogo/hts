/-
The field loop of the @SQ / @RG / @PG parsers (what it keeps, that it cannot panic), and what a line parser returns
(`LineOut`): nothing changes; or a new object, built from the value of the field loop on the fields of the line, is appended
to the header or (references) takes the place of the one that has its name.
-/
import Hts.Lemmas.HeaderClone
namespace Hts.Model.Header

theorem fieldLoop_inv {β : Type} (assign : β → Tag → Bytes → PR β) (P : β → Prop)
    (hstep : ∀ b t v b', assign b t v = .ok b' → P b → P b') :
    ∀ (xs : List Bytes) (a a' : FAcc β), fieldLoop assign a xs = .ok a' → P a.val → P a'.val := by
  intro xs
  induction xs with
  | nil => intro a a' h hp; cases h; exact hp
  | cons x xs ih =>
    intro a a' h hp
    rw [fieldLoop] at h
    split at h
    · cases h
    · split at h
      · cases h
      · split at h
        · next b hb => exact ih _ _ h (hstep _ _ _ _ hb hp)
        · cases h
        · cases h

theorem fieldLoop_no_panic {β : Type} (assign : β → Tag → Bytes → PR β) (ha : ∀ b t v, assign b t v ≠ .panic)
    (xs : List Bytes) (a : FAcc β) : fieldLoop assign a xs ≠ .panic := by
  fun_induction fieldLoop assign a xs <;> try (intro h; cases h; done)
  · assumption
  · next hp => exact absurd hp (ha _ _ _)

theorem rgAssign_unknown (E : Ext) (seen : Seen) (a : RgV) (t : Tag) (v : Bytes) (a' : RgV)
    (h : rgAssign E (fun n => (lookup seen n).isSome) a t v = .ok a')
    (hp : a.idok = true → lookup seen a.name = none) : a'.idok = true → lookup seen a'.name = none := by
  unfold rgAssign at h
  split at h
  · split at h
    · cases h
    · next hkn => cases h; exact fun _ => Option.not_isSome_iff_eq_none.1 hkn
  · split at h
    · cases h; exact hp
    · cases h

theorem pgAssign_unknown (seen : Seen) (a : PgV) (t : Tag) (v : Bytes) (a' : PgV)
    (h : pgAssign (fun n => (lookup seen n).isSome) a t v = .ok a')
    (hp : a.idok = true → lookup seen a.name = none) : a'.idok = true → lookup seen a'.name = none := by
  unfold pgAssign at h
  split at h
  · split at h
    · cases h
    · next hkn => cases h; exact fun _ => Option.not_isSome_iff_eq_none.1 hkn
  · cases h; exact hp

theorem hexDecode16_no_overflow (v : Bytes) (n : Nat) (acc : Bytes) (hl : v.length + 2 * n ≤ 32) :
    hexDecode16 v n acc ≠ .overflow := by
  fun_induction hexDecode16 v n acc with
  | case1 => nofun
  | case2 => nofun
  | case3 a b rest n acc x y hx hy hn => simp only [List.length_cons] at hl; omega
  | case4 a b rest n acc x y hx hy hn ih => exact ih (by simp only [List.length_cons] at hl; omega)
  | case5 => nofun

/-- the one panic of the field parsers, `hex.Decode` writing past the 16-byte array, is excluded by the length check
in front of it -/
theorem refAssign_no_panic (E : Ext) (p : Nat) (a : RefV) (t : Tag) (v : Bytes) : refAssign E p a t v ≠ .panic := by
  fun_cases refAssign E p a t v <;> try (intro h; cases h; done)
  next h => exact absurd h (hexDecode16_no_overflow v 0 [] (by omega))

theorem rgAssign_no_panic (E : Ext) (known : Bytes → Bool) (a : RgV) (t : Tag) (v : Bytes) :
    rgAssign E known a t v ≠ .panic := by
  fun_cases rgAssign E known a t v <;> nofun

theorem pgAssign_no_panic (known : Bytes → Bool) (a : PgV) (t : Tag) (v : Bytes) : pgAssign known a t v ≠ .panic := by
  fun_cases pgAssign known a t v <;> nofun

/-- the object a line parser builds: `mk` of the value of its field loop on the fields of the line -/
def Parsed {α V : Type} (assign : V → Tag → Bytes → PR V) (init : V) (mk : V → Obj α) (l : Bytes) (x : Obj α) : Prop :=
  ∃ hd xs acc, splitOn 9 l = hd :: xs ∧ fieldLoop assign ⟨init, []⟩ xs = .ok acc ∧ x = mk acc.val

/-- What a line parser returns for its kind (`Q x`: where a new object `x` comes from): it changes nothing and does not
panic; or it appends a new object with an unknown name to header `h`; or (references) it puts a new object in the
place of the one that has its name. -/
inductive LineOut {α : Type} (Q : Obj α → Prop) (k : KW α) (h : Nat) : KW α × Res → Prop where
  | same (r : Res) : r ≠ .panic → LineOut Q k h (k, r)
  | inst (t : Tab) (x : Obj α) : Q x → k.tabs[h]? = some t → x.owner = none → lookup t.seen x.name = none →
      LineOut Q k h ((k.alloc x).1.addNewU h k.heap.length, .ok)
  | repl (t : Tab) (x : Obj α) (v : Int) (eo : Nat) (er : Obj α) : Q x → k.tabs[h]? = some t → x.owner = none →
      lookup t.seen x.name = some v → idx t.items v = some eo → k.heap[eo]? = some er →
      LineOut Q k h ((k.alloc x).1.replace h v eo k.heap.length x.dat, .ok)

namespace LineOut
variable {α : Type} {Q : Obj α → Prop} {k : KW α} {h : Nat} {out : KW α × Res}

theorem keeps (s : LineOut Q k h out) (hk : KInv k) : Keeps k out.1 := by
  cases s with
  | same => exact .refl hk
  | inst t x _ ht hf hnew => exact kinv_addNewU (kinv_alloc hk x hf) (alloc_heap k x) ht hf hnew
  | repl t x v eo er _ ht hf hl he her =>
    obtain ⟨i, er', rfl, hi, her', hn, _⟩ := (hk.tab h t ht).lookup_item hl he
    cases her.symm.trans her'
    exact kinv_replace (kinv_alloc hk x hf) _ ht hi (alloc_heap k x) (alloc_old k x her) hf hn.symm

theorem no_panic (s : LineOut Q k h out) : out.2 ≠ .panic := by
  cases s with
  | same _ hr => exact hr
  | inst => nofun
  | repl => nofun

end LineOut

theorem readGroupLine_out (E : Ext) (k : KW RgD) (h : Nat) (l : Bytes) :
    LineOut (fun x => ∃ t, k.tabs[h]? = some t ∧
      Parsed (rgAssign E fun n => (lookup t.seen n).isSome) {} (fun a => ⟨none, -1, a.name, a.d⟩) l x) k h
      (readGroupLine E k h l) := by
  unfold readGroupLine
  split
  · next hd x xs t hs ht =>
    split
    · next hp => exact absurd hp (fieldLoop_no_panic _ (rgAssign_no_panic E _) _ _)
    · exact .same _ nofun
    · next acc hacc =>
      refine ite_ind (LineOut _ k h) (fun _ => .same _ nofun) fun hid =>
        .inst t ⟨none, -1, _, _⟩ ⟨t, ht, hd, _, acc, hs, hacc, rfl⟩ ht rfl ?_
      exact fieldLoop_inv _ (fun b : RgV => b.idok = true → lookup t.seen b.name = none) (rgAssign_unknown E t.seen)
          _ _ _ hacc nofun (by simpa using hid)
  · exact .same _ nofun
  · exact .same _ nofun

theorem programLine_out (k : KW PgD) (h : Nat) (l : Bytes) :
    LineOut (fun x => ∃ t, k.tabs[h]? = some t ∧
      Parsed (pgAssign fun n => (lookup t.seen n).isSome) {} (fun a => ⟨none, -1, a.name, a.d⟩) l x) k h
      (programLine k h l) := by
  unfold programLine
  split
  · next hd x xs t hs ht =>
    split
    · next hp => exact absurd hp (fieldLoop_no_panic _ (pgAssign_no_panic _) _ _)
    · exact .same _ nofun
    · next acc hacc =>
      refine ite_ind (LineOut _ k h) (fun _ => .same _ nofun) fun hid =>
        .inst t ⟨none, -1, _, _⟩ ⟨t, ht, hd, _, acc, hs, hacc, rfl⟩ ht rfl ?_
      exact fieldLoop_inv _ (fun b : PgV => b.idok = true → lookup t.seen b.name = none) (pgAssign_unknown t.seen)
          _ _ _ hacc nofun (by simpa using hid)
  · exact .same _ nofun
  · exact .same _ nofun

theorem referenceLine_out (E : Ext) {k : KW RefD} (hk : KInv k) (p h : Nat) (l : Bytes) :
    LineOut (Parsed (refAssign E p) {} (fun a => ⟨none, -1, a.name, a.d⟩) l) k h (referenceLine E k p h l) := by
  unfold referenceLine
  split
  case h_2 => exact .same _ nofun
  next hd x y xs hs =>
  split
  · next hp => exact absurd hp (fieldLoop_no_panic _ (refAssign_no_panic E p) _ _)
  · exact .same _ nofun
  next acc hacc =>
  split
  · exact .same _ nofun
  next t ht =>
  have hq : Parsed (refAssign E p) {} (fun a => ⟨none, -1, a.name, a.d⟩) l ⟨none, -1, acc.val.name, acc.val.d⟩ :=
    ⟨hd, _, acc, hs, hacc, rfl⟩
  refine ite_ind (LineOut _ k h) (fun _ => .same _ nofun) fun _ => ?_
  split
  · next v hl =>
    -- under the invariant a name found in the table has an item, and the item an object: neither index is out of range
    obtain ⟨eo, he⟩ := (hk.tab h t ht).lookup_idx hl
    obtain ⟨_, er, _, _, her, _⟩ := (hk.tab h t ht).lookup_item hl he
    simp only [he, her]
    exact ite_ind (LineOut _ k h) (fun _ => .same _ nofun) fun _ => ite_ind (LineOut _ k h) (fun _ => .same _ nofun) fun _ =>
      .repl t ⟨none, -1, _, _⟩ v eo er hq ht rfl hl he her
  · next hl => exact .inst t ⟨none, -1, _, _⟩ hq ht rfl hl

end Hts.Model.Header
