/-
Remove* (with the renumbering loop) and SetName keep the invariant and do not panic.
-/
import Hts.Lemmas.HeaderBase
namespace Hts.Model.Header
variable {α : Type}

def dec1 (x : Obj α) : Obj α := { x with id := x.id - 1 }

theorem eraseIdx_get_pred {β : Type} (l : List β) {i j : Nat} (h : i < j) : (l.eraseIdx i)[j - 1]? = l[j]? := by
  rw [List.getElem?_eraseIdx, if_neg (by omega)]; congr 1; omega

theorem mem_drop_succ {β : Type} (l : List β) (i : Nat) (q : β) :
    q ∈ l.drop (i + 1) ↔ ∃ j, i < j ∧ l[j]? = some q := by
  simp only [List.mem_iff_getElem?, List.getElem?_drop]
  exact ⟨fun ⟨j, hj⟩ => ⟨i + 1 + j, by omega, hj⟩,
    fun ⟨j, hlt, hj⟩ => ⟨j - (i + 1), by rw [← hj]; congr 1; omega⟩⟩

theorem shift_heap (os : List Nat) : ∀ (heap : List (Obj α)) (seen : Seen), os.Nodup →
    ∀ (q : Nat), (KW.shift heap seen os).1[q]? = if q ∈ os then (heap[q]?).map dec1 else heap[q]? := by
  induction os with
  | nil => intro heap seen _ q; simp [KW.shift]
  | cons o os ih =>
    intro heap seen hnd q
    rw [List.nodup_cons] at hnd
    unfold KW.shift
    cases hx : heap[o]? with
    | none =>
      simp only
      rw [ih heap seen hnd.2 q]
      by_cases hq : q = o
      · subst hq; simp [hnd.1, hx]
      · simp [hq]
    | some x =>
      simp only
      rw [ih _ _ hnd.2 q, set_get _ _ _ _ _ hx]
      by_cases hq : o = q
      · subst hq; simp [hnd.1, hx, dec1]
      · have : q ≠ o := fun e => hq e.symm
        simp [hq, this]

theorem shift_seen_other (os : List Nat) : ∀ (heap : List (Obj α)) (seen : Seen) (n : Bytes),
    (∀ o ∈ os, ∀ x, heap[o]? = some x → x.name ≠ n) → lookup (KW.shift heap seen os).2 n = lookup seen n := by
  induction os with
  | nil => intro heap seen n _; simp [KW.shift]
  | cons o os ih =>
    intro heap seen n hno
    unfold KW.shift
    cases hx : heap[o]? with
    | none =>
      simp only
      exact ih heap seen n (fun o' ho' => hno o' (List.mem_cons_of_mem _ ho'))
    | some x =>
      simp only
      rw [ih]
      · rw [lookup_insert]; simp [hno o List.mem_cons_self x hx]
      · intro o' ho' x' hx'
        rw [set_get _ _ _ _ _ hx] at hx'
        split at hx'
        · cases hx'; exact hno o List.mem_cons_self x hx
        · exact hno o' (List.mem_cons_of_mem _ ho') x' hx'

theorem shift_seen_mem (os : List Nat) : ∀ (heap : List (Obj α)) (seen : Seen), os.Nodup →
    (∀ a ∈ os, ∀ b ∈ os, ∀ xa xb, heap[a]? = some xa → heap[b]? = some xb → xa.name = xb.name → a = b) →
    ∀ q ∈ os, ∀ x, heap[q]? = some x → lookup (KW.shift heap seen os).2 x.name = some (x.id - 1) := by
  induction os with
  | nil => intro heap seen _ _ q hq; cases hq
  | cons o os ih =>
    intro heap seen hnd hdist q hq x hx
    rw [List.nodup_cons] at hnd
    unfold KW.shift
    rcases List.mem_cons.1 hq with rfl | hq'
    · -- `q` is renumbered and entered now; the rest of the loop leaves its entry alone, the later names being different
      simp only [hx]
      rw [shift_seen_other]
      · rw [lookup_insert]; simp
      · intro o' ho' x' hx' e
        rw [set_get _ _ _ _ _ hx] at hx'
        have hne : q ≠ o' := fun e' => hnd.1 (e' ▸ ho')
        simp only [hne, if_false] at hx'
        exact hne (hdist q List.mem_cons_self o' (List.mem_cons_of_mem _ ho') x x' hx hx' e.symm)
    · -- `q` comes later: the round for `o` leaves the object `q` and all names as they are
      have hne : o ≠ q := fun e => hnd.1 (e ▸ hq')
      cases hxo : heap[o]? with
      | none =>
        simp only
        exact ih heap seen hnd.2 (fun a ha b hb => hdist a (List.mem_cons_of_mem _ ha) b (List.mem_cons_of_mem _ hb)) q hq' x hx
      | some xo =>
        simp only
        refine ih _ _ hnd.2 ?_ q hq' x (by rw [set_get _ _ _ _ _ hxo]; simp only [hne, if_false]; exact hx)
        intro a ha b hb xa xb hxa hxb e
        have ha' : o ≠ a := fun e' => hnd.1 (e' ▸ ha)
        have hb' : o ≠ b := fun e' => hnd.1 (e' ▸ hb)
        rw [set_get _ _ _ _ _ hxo] at hxa hxb
        simp only [ha', hb', if_false] at hxa hxb
        exact hdist a (List.mem_cons_of_mem _ ha) b (List.mem_cons_of_mem _ hb) xa xb hxa hxb e

theorem kinv_remove {k : KW α} (hk : KInv k) (h o : Nat) : Keeps k (k.remove h o).1 := by
  unfold KW.remove
  split
  case h_2 => exact .refl hk
  next x t hx ht =>
  refine ite_fst (fun _ => .refl hk) fun hg => ?_
  have T := hk.tab h t ht
  obtain ⟨i0, hid0, hi0⟩ : ∃ i0 : Nat, x.id = (i0 : Int) ∧ t.items[i0]? = some o := by
    simp only [Bool.or_eq_true, decide_eq_true_eq, bne_iff_ne, not_or, Decidable.not_not] at hg
    exact ⟨x.id.toNat, by omega, hg.2⟩
  have hxo := (T.listed hi0 hx).1
  dsimp only
  rw [hid0, Int.toNat_natCast]
  clear hg hid0
  -- the later items are distinct objects with distinct names
  have hmem := mem_drop_succ t.items i0
  have hnd : (t.items.drop (i0 + 1)).Nodup :=
    nodup_of_inj _ fun a b y ha hb => by
      rw [List.getElem?_drop] at ha hb
      exact Nat.add_left_cancel (T.inj ha hb)
  have hdist : ∀ a ∈ t.items.drop (i0 + 1), ∀ b ∈ t.items.drop (i0 + 1), ∀ xa xb, k.heap[a]? = some xa →
      k.heap[b]? = some xb → xa.name = xb.name → a = b := by
    intro a ha b hb xa xb hxa hxb e
    obtain ⟨ja, _, hja⟩ := (hmem a).1 ha
    obtain ⟨jb, _, hjb⟩ := (hmem b).1 hb
    cases T.name_inj hja hjb hxa hxb e
    exact Option.some.inj (hja.symm.trans hjb)
  -- what the renumbering loop returns
  have hH := shift_heap _ k.heap (erase t.seen x.name) hnd
  have hS1 := shift_seen_other (t.items.drop (i0 + 1)) k.heap (erase t.seen x.name)
  have hS2 := shift_seen_mem _ k.heap (erase t.seen x.name) hnd hdist
  generalize KW.shift k.heap (erase t.seen x.name) (t.items.drop (i0 + 1)) = sh at hH hS1 hS2 ⊢
  have h1o : sh.1[o]? = some x := by
    rw [hH, if_neg fun hc => ?_, hx]
    obtain ⟨j, hlt, hj⟩ := (hmem o).1 hc
    exact Nat.ne_of_lt hlt (T.inj hi0 hj)
  simp only [h1o]
  have hG : ∀ q, (sh.1.set o { x with id := -1, owner := none })[q]? =
      if o = q then some { x with id := -1, owner := none }
      else if q ∈ t.items.drop (i0 + 1) then (k.heap[q]?).map dec1 else k.heap[q]? :=
    fun q => by rw [set_get _ _ _ _ _ h1o, hH]
  generalize sh.1.set o { x with id := -1, owner := none } = heap' at hG ⊢
  clear hH h1o
  -- where a listed object ends up
  have hlt : ∀ {j o' y}, t.items[j]? = some o' → k.heap[o']? = some y → j < i0 → heap'[o']? = some y := by
    intro j o' y hj hy h1
    rw [hG, if_neg fun (e : o = o') => Nat.ne_of_gt h1 (T.inj hi0 (e ▸ hj)), if_neg fun hc => ?_, hy]
    obtain ⟨j', hlt, hj'⟩ := (hmem o').1 hc
    exact Nat.lt_asymm h1 (T.inj hj hj' ▸ hlt)
  have hgt : ∀ {j o' y}, t.items[j]? = some o' → k.heap[o']? = some y → i0 < j →
      heap'[o']? = some (dec1 y) := by
    intro j o' y hj hy h1
    rw [hG, if_neg fun (e : o = o') => Nat.ne_of_lt h1 (T.inj hi0 (e ▸ hj)), if_pos ((hmem o').2 ⟨j, h1, hj⟩), hy]; rfl
  refine hk.update (t' := ⟨t.items.eraseIdx i0, sh.2⟩) ht rfl ⟨?_, ?_, ?_⟩ ?_ ?_
  · -- the new list: the items before slot `i0` as they were, the later ones one slot down and renumbered
    intro j o' hj
    rw [List.getElem?_eraseIdx] at hj
    split at hj
    · next h1 =>
      obtain ⟨y, hy, ho, hid⟩ := T.own j o' hj
      exact ⟨y, hlt hj hy h1, ho, hid⟩
    · next h1 =>
      obtain ⟨y, hy, ho, hid⟩ := T.own (j + 1) o' hj
      exact ⟨dec1 y, hgt hj hy (Nat.lt_succ_of_le (Nat.le_of_not_lt h1)), ho, by show y.id - 1 = j; omega⟩
  · -- the table the loop returns knows every item of the new list under its new index
    intro j o' y' hj hy'
    rw [List.getElem?_eraseIdx] at hj
    split at hj
    · next h1 =>
      obtain ⟨y, hy, _⟩ := T.own j o' hj
      obtain rfl := Option.some.inj ((hlt hj hy h1).symm.trans hy')
      rw [hS1, lookup_erase, if_neg fun e => ?_, T.known j o' y hj hy]
      · exact Nat.ne_of_gt h1 (T.name_inj hi0 hj hx hy e)
      · intro q hq z hz e
        obtain ⟨j', h2, hj'⟩ := (hmem q).1 hq
        exact Nat.lt_asymm h1 (T.name_inj hj' hj hz hy e ▸ h2)
    · next h1 =>
      have h2 : i0 < j + 1 := Nat.lt_succ_of_le (Nat.le_of_not_lt h1)
      obtain ⟨y, hy, _, hid⟩ := T.own (j + 1) o' hj
      obtain rfl := Option.some.inj ((hgt hj hy h2).symm.trans hy')
      rw [show (dec1 y).name = y.name from rfl, hS2 o' ((hmem o').2 ⟨j + 1, h2, hj⟩) y hy, hid]
      congr 1; omega
  · -- and nothing else: an entry is the new one of a later item, or the old one of an earlier item
    intro n v hv
    by_cases hl : ∃ q ∈ t.items.drop (i0 + 1), ∃ z, k.heap[q]? = some z ∧ z.name = n
    · obtain ⟨q, hq, z, hz, rfl⟩ := hl
      obtain ⟨j, hlt', hj⟩ := (hmem q).1 hq
      rw [hS2 q hq z hz] at hv; cases hv
      exact ⟨j - 1, q, dec1 z, (eraseIdx_get_pred _ hlt').trans hj, hgt hj hz hlt', rfl,
        by rw [(T.listed hj hz).2]; omega⟩
    · have hno : ∀ q ∈ t.items.drop (i0 + 1), ∀ z, k.heap[q]? = some z → z.name ≠ n :=
        fun q hq z hz e => hl ⟨q, hq, z, hz, e⟩
      rw [hS1 n hno, lookup_erase] at hv
      split at hv
      · cases hv
      · next hne =>
        obtain ⟨i, o', y, hi, hy, hn, hv'⟩ := T.only n v hv
        have h1 : i < i0 := by
          rcases Nat.lt_trichotomy i i0 with h1 | rfl | h1
          · exact h1
          · cases hi0.symm.trans hi; cases hx.symm.trans hy; exact absurd hn hne
          · exact absurd hn (hno o' ((hmem o').2 ⟨i, h1, hi⟩) y hy)
        exact ⟨i, o', y, by rw [List.getElem?_eraseIdx, if_pos h1]; exact hi, hlt hi hy h1, hn, hv'⟩
  · -- the objects of other headers are as they were: `o` and the later items are owned by `h`, before and after
    intro q y s hys hs
    rw [hG]
    split
    · next e =>
      subst e
      exact iff_of_false (fun e' => by cases e'; cases hys)
        fun e' => by cases hx.symm.trans e'; cases hxo.symm.trans hys; exact hs rfl
    · split
      · next hq =>
        obtain ⟨j, _, hj⟩ := (hmem q).1 hq
        obtain ⟨z, hz, ho, _⟩ := T.own j q hj
        rw [hz]
        exact iff_of_false (fun e' => by cases e'; cases ho.symm.trans hys; exact hs rfl)
          fun e' => by cases e'; cases ho.symm.trans hys; exact hs rfl
      · rfl
  · -- an object that names `h` is listed at its id: `o` is released, a later item went down with its id, the others stayed
    intro q y hy hyo
    rw [hG] at hy
    split at hy
    · cases hy; cases hyo
    · next hne =>
      split at hy
      · next hq =>
        obtain ⟨j, hlt, hj⟩ := (hmem q).1 hq
        obtain ⟨z, hz, _, hid⟩ := T.own j q hj
        rw [hz] at hy; cases hy
        exact ⟨j - 1, by show z.id - 1 = _; omega, (eraseIdx_get_pred _ hlt).trans hj⟩
      · next hq =>
        obtain ⟨t', j, ht', hid, hj⟩ := hk.obj q y h hy hyo
        cases ht.symm.trans ht'
        rcases Nat.lt_trichotomy j i0 with h1 | rfl | h1
        · exact ⟨j, hid, by rw [List.getElem?_eraseIdx, if_pos h1]; exact hj⟩
        · exact absurd (Option.some.inj (hi0.symm.trans hj)) hne
        · exact absurd ((hmem q).2 ⟨j, h1, hj⟩) hq

theorem remove_no_panic (k : KW α) (h o : Nat) : (k.remove h o).2 ≠ .panic := by
  fun_cases KW.remove k h o <;> exact Res.noConfusion

theorem kinv_setName {k : KW α} (hk : KInv k) (o : Nat) (n : Bytes) : Keeps k (k.setName o n).1 := by
  unfold KW.setName
  split
  · exact .refl hk
  next x hx =>
  have hget := fun q => set_get k.heap o q { x with name := n } x hx
  split
  · next hown =>
    -- a free object: listed nowhere
    refine ⟨⟨?_, ?_⟩, rfl⟩
    · intro h t ht
      refine (hk.tab h t ht).frame _ fun i o' hi => ?_
      exact (hget o').trans (if_neg fun e => hk.free_unlisted hx hown ht (e ▸ hi))
    · intro q y h hy ho
      rw [hget] at hy
      split at hy
      · cases hy; cases hown.symm.trans ho
      · exact hk.obj q y h hy ho
  next h hown =>
  split
  · exact .refl hk
  next t ht =>
  split
  · exact ite_fst (fun _ => .refl hk) fun _ => .refl hk
  next hl =>
  have T := hk.tab h t ht
  obtain ⟨t', i0, ht', hid0, hi0⟩ := hk.obj o x h hx hown
  cases ht.symm.trans ht'
  refine hk.update (t' := { t with seen := insert (erase t.seen x.name) n x.id }) ht rfl ⟨?_, ?_, ?_⟩ ?_ ?_
  · -- the list is the same, and only the name of `o` has changed
    intro j o' hj
    obtain ⟨y, hy, ho, hid⟩ := T.own j o' hj
    rw [hget]
    split
    · next e => subst e; cases hx.symm.trans hy; exact ⟨_, rfl, ho, hid⟩
    · exact ⟨y, hy, ho, hid⟩
  · -- the table knows `o` under `n`, and the other items as before: their names are neither `n` nor the old name of `o`
    intro j o' y hj hy
    rw [hget] at hy
    rw [lookup_insert, lookup_erase]
    split at hy
    · next e => subst e; cases hy; cases T.inj hi0 hj; rw [if_pos rfl, hid0]
    · next e =>
      have hkn := T.known j o' y hj hy
      have h1 : n ≠ y.name := fun e' => by rw [← e', hl] at hkn; cases hkn
      have h2 : x.name ≠ y.name := fun e' => by
        cases T.name_inj hi0 hj hx hy e'; exact e (Option.some.inj (hi0.symm.trans hj))
      rw [if_neg h1, if_neg h2, hkn]
  · -- and nothing else: the entry for `n` is that of `o`, the one for its old name is gone
    intro m v hv
    rw [lookup_insert, lookup_erase] at hv
    split at hv
    · next e => cases hv; exact ⟨i0, o, _, hi0, (hget o).trans (if_pos rfl), e, hid0⟩
    · split at hv
      · cases hv
      · next hne =>
        obtain ⟨j, o', y, hj, hy, hm, hv'⟩ := T.only m v hv
        refine ⟨j, o', y, hj, (hget o').trans ((if_neg fun e => ?_).trans hy), hm, hv'⟩
        subst e; cases hx.symm.trans hy; exact hne hm
  · -- the objects of other headers are as they were: `o` is owned by `h`
    intro q y s hys hs
    rw [hget]
    split
    · next e =>
      subst e
      exact iff_of_false (fun e' => by cases e'; cases hown.symm.trans hys; exact hs rfl)
        fun e' => by cases hx.symm.trans e'; cases hown.symm.trans hys; exact hs rfl
    · rfl
  · -- an object that names `h` is listed at its id, as before
    intro q y hy hyo
    rw [hget] at hy
    split at hy
    · next e => cases hy; exact ⟨i0, hid0, e ▸ hi0⟩
    · obtain ⟨t', i, ht', hid, hi⟩ := hk.obj q y h hy hyo
      cases ht.symm.trans ht'
      exact ⟨i, hid, hi⟩

theorem setName_no_panic {k : KW α} (hk : KInv k) (o : Nat) (n : Bytes) : (k.setName o n).2 ≠ .panic := by
  unfold KW.setName
  split
  · simp
  next x hx =>
  split
  · simp
  next h hown =>
  obtain ⟨t, i, ht, _, _⟩ := hk.obj o x h hx hown
  simp only [ht]
  split
  · split <;> simp
  · simp

end Hts.Model.Header
