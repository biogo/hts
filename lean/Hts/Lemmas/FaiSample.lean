/-
C19: the sample file used by the non-vacuity examples of Props/C19 and Tie/C19, with its rendering computed.
-/
import Hts.Lemmas.FaiFileText
namespace Hts.Lemmas.Fai
open Hts.Model.Fai
open Hts.Spec.Fasta (File Rec Entry seqLines)

/-- record `s1`: CRLF, description ` d e`, 8 bases on lines of 4 (a multiple of the width), two blank lines after -/
def sampleRec1 : Rec :=
  { name := [115, 49], desc := some [32, 100, 32, 101], bases := [65, 67, 71, 84, 65, 67, 71, 84], width := 4,
    eol := .crlf, finalNewline := true, blanksAfter := [[13], [32, 13]] }

/-- record `s2`: LF, 3 bases on lines of 2: the last line is shorter and not terminated -/
def sampleRec2 : Rec :=
  { name := [115, 50], desc := none, bases := [71, 71, 84], width := 2, eol := .lf, finalNewline := false,
    blanksAfter := [] }

/-- a blank line first, then `s1`, then `s2` -/
def sampleFile : File := { leadingBlanks := [[32]], recs := [sampleRec1, sampleRec2] }

def sampleRec1b : Rec := { sampleRec1 with blanksAfter := [] }

/-- `s1` alone, without blank lines after it: every line terminated -/
def sampleFile1 : File := { recs := [sampleRec1b] }

theorem sampleFile_wf : sampleFile.WF := by decide

theorem sampleFile1_wf : sampleFile1.WF := by decide

theorem sampleRec1_mem : sampleRec1 ∈ sampleFile.recs := List.mem_cons_self

theorem sampleRec2_mem : sampleRec2 ∈ sampleFile.recs := List.mem_cons_of_mem _ List.mem_cons_self

theorem sampleRec1_render : sampleRec1.render =
    [62, 115, 49, 32, 100, 32, 101, 13, 10, 65, 67, 71, 84, 13, 10, 65, 67, 71, 84, 13, 10, 13, 10, 32, 13, 10] := by
  simp [sampleRec1, Rec.render, Rec.fileLines, Rec.lines, Rec.headerLine, seqLines_multi, seqLines_single,
    Hts.Spec.Fasta.terminate, Hts.Spec.Fasta.blankLines, Hts.Spec.Fasta.Eol.bytes, Hts.Spec.Fasta.GT,
    Hts.Spec.Fasta.LF, Hts.Spec.Fasta.CR]

theorem sampleRec2_render : sampleRec2.render = [62, 115, 50, 10, 71, 71, 10, 84] := by
  simp [sampleRec2, Rec.render, Rec.fileLines, Rec.lines, Rec.headerLine, seqLines_multi, seqLines_single,
    Hts.Spec.Fasta.terminate, Hts.Spec.Fasta.blankLines, Hts.Spec.Fasta.Eol.bytes, Hts.Spec.Fasta.GT,
    Hts.Spec.Fasta.LF]

theorem sampleFile_render : sampleFile.render =
    [32, 10, 62, 115, 49, 32, 100, 32, 101, 13, 10, 65, 67, 71, 84, 13, 10, 65, 67, 71, 84, 13, 10, 13, 10, 32, 13, 10,
     62, 115, 50, 10, 71, 71, 10, 84] := by
  simp [sampleFile, File.render, File.leading, sampleRec1_render, sampleRec2_render, Hts.Spec.Fasta.blankLines,
    Hts.Spec.Fasta.LF]

theorem sampleFile_size : 2 * sampleFile.render.length + 2 < 2 ^ 63 := by
  rw [sampleFile_render]; decide

theorem sampleFile_entries :
    sampleFile.entries = [⟨[115, 49], 8, 11, 4, 6⟩, ⟨[115, 50], 3, 32, 2, 3⟩] := by
  simp [File.entries, File.leading, sampleFile, Hts.Spec.Fasta.entriesFrom, sampleRec1_render,
    Hts.Spec.Fasta.blankLines, Hts.Spec.Fasta.LF]
  simp [sampleRec1, sampleRec2, Rec.entry, Rec.headerLine, Hts.Spec.Fasta.Eol.bytes]

/-- the index record of `s1` -/
def exRec : Record := ⟨[115, 49], 8, 11, 4, 6⟩

theorem exRec_small (p : Nat) (hp : p ≤ 8) : exRec.position p < 2 ^ 63 := by
  simp only [Record.position, exRec, Nat.reduceEqDiff, if_false]
  omega

end Hts.Lemmas.Fai
