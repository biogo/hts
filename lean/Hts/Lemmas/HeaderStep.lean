/-
On a consistent world every operation of a history keeps the invariant and none panics (`step_safe`).
-/
import Hts.Lemmas.HeaderMerge
import Hts.Lemmas.HeaderRemove
namespace Hts.Model.Header

theorem winv_empty : WInv {} := ⟨kinv_empty, kinv_empty, kinv_empty, rfl, rfl, rfl⟩

theorem headerSet_no_panic (f : HdrF) (t : Tag) (v : Bytes) : (headerSet f t v).2 ≠ .panic := by
  fun_cases headerSet f t v <;> exact Res.noConfusion

theorem live_lt {w : World} {h : Nat} (hl : live w h = true) : h < w.hdrs.length := by
  unfold live at hl
  cases hh : w.hdrs[h]? with
  | none => simp [hh] at hl
  | some f => exact get_lt hh

theorem step_safe (E : Ext) {w : World} (hw : WInv w) (op : Op) : Safe ((step E w op).w, (step E w op).res) := by
  have same : Safe (w, .skip) := ⟨hw, nofun⟩
  have dead : Safe (pushHeader w { dead := true }, .skip) := ⟨winv_pushHeader hw _, nofun⟩
  cases op with
  | h0 => exact ⟨winv_pushHeader hw _, nofun⟩
  | hd text ps =>
    dsimp only [step]; split
    · exact newHeader_safe E hw _ _
    · exact dead
  | pa text => exact unmarshalText_safe E (winv_pushHeader hw _) _ _
  | de b => exact decodeBinary_safe E (winv_pushHeader hw _) _ _
  | um h text =>
    dsimp only [step]; split
    · exact unmarshalText_safe E hw _ _
    · exact same
  | co h c | sh h v so go =>
    dsimp only [step]; split
    · exact ⟨winv_setHdr hw _ _, nofun⟩
    · exact same
  | hs h t v =>
    dsimp only [step]; split
    · exact ⟨winv_setHdr hw _ _, headerSet_no_panic _ _ _⟩
    · exact same
  | nr name d => exact ⟨winv_refs hw _ _ ⟨kinv_alloc hw.refs _ rfl, rfl⟩, nofun⟩
  | ng name d => exact ⟨winv_rgs hw _ ⟨kinv_alloc hw.rgs _ rfl, rfl⟩, nofun⟩
  | np name d => exact ⟨winv_pgs hw _ ⟨kinv_alloc hw.pgs _ rfl, rfl⟩, nofun⟩
  | ar h p =>
    dsimp only [step]; split
    · exact ⟨winv_refs hw _ _ (kinv_addReference hw.refs _ _), addReference_no_panic hw.refs _ _⟩
    · exact same
  | rr h p =>
    dsimp only [step]; split
    · exact ⟨winv_refs hw _ _ (kinv_remove hw.refs _ _), remove_no_panic _ _ _⟩
    · exact same
  | sr p n =>
    dsimp only [step]; split
    · exact ⟨winv_refs hw _ _ (kinv_setName hw.refs _ _), setName_no_panic hw.refs _ _⟩
    · exact same
  | gr h i => dsimp only [step]; split <;> exact ⟨winv_refs hw _ _ (.refl hw.refs), nofun⟩
  | cr p =>
    dsimp only [step]; split
    · exact ⟨winv_refs hw _ _ (kinv_cloneObj hw.refs _ _), nofun⟩
    · exact ⟨winv_refs hw _ _ (.refl hw.refs), nofun⟩
  | ag h p =>
    dsimp only [step]; split
    · exact ⟨winv_rgs hw _ (kinv_addUniq hw.rgs _ _), addUniq_no_panic _ _ _⟩
    · exact same
  | rg h p =>
    dsimp only [step]; split
    · exact ⟨winv_rgs hw _ (kinv_remove hw.rgs _ _), remove_no_panic _ _ _⟩
    · exact same
  | sg p n =>
    dsimp only [step]; split
    · exact ⟨winv_rgs hw _ (kinv_setName hw.rgs _ _), setName_no_panic hw.rgs _ _⟩
    · exact same
  | gg h i => dsimp only [step]; split <;> exact ⟨winv_rgs hw _ (.refl hw.rgs), nofun⟩
  | cg p =>
    dsimp only [step]; split
    · exact ⟨winv_rgs hw _ (kinv_cloneObj hw.rgs _ _), nofun⟩
    · exact ⟨winv_rgs hw _ (.refl hw.rgs), nofun⟩
  | ap h p =>
    dsimp only [step]; split
    · exact ⟨winv_pgs hw _ (kinv_addUniq hw.pgs _ _), addUniq_no_panic _ _ _⟩
    · exact same
  | rp h p =>
    dsimp only [step]; split
    · exact ⟨winv_pgs hw _ (kinv_remove hw.pgs _ _), remove_no_panic _ _ _⟩
    · exact same
  | sp p n =>
    dsimp only [step]; split
    · exact ⟨winv_pgs hw _ (kinv_setName hw.pgs _ _), setName_no_panic hw.pgs _ _⟩
    · exact same
  | gp h i => dsimp only [step]; split <;> exact ⟨winv_pgs hw _ (.refl hw.pgs), nofun⟩
  | cp p =>
    dsimp only [step]; split
    · exact ⟨winv_pgs hw _ (kinv_cloneObj hw.pgs _ _), nofun⟩
    · exact ⟨winv_pgs hw _ (.refl hw.pgs), nofun⟩
  | cl h =>
    dsimp only [step]; split
    · exact ⟨winv_cloneHeader hw _, nofun⟩
    · exact dead
  | mg hs =>
    dsimp only [step]; split
    · next hg =>
      simp only [Bool.and_eq_true, List.all_eq_true] at hg
      exact ⟨winv_mergeHeaders hw _, mergeHeaders_no_panic hw (fun s hs' => live_lt (hg.1 s hs'))⟩
    · exact dead

theorem winv_run (E : Ext) : ∀ (ops : List Op) (w : World), WInv w → WInv (run E w ops) := by
  intro ops
  induction ops with
  | nil => intro w hw; exact hw
  | cons op ops ih => intro w hw; exact ih _ (step_safe E hw op).1

end Hts.Model.Header
