/-
The bin the BAM writer model computes (`Bam.recordBin`, over `BitVec` words) IS the record bin of C16's coordinate
model (`Coord.recordBin`, over naturals), so C16's `bin_spec` (bin = SAM reg2bin of [pos, end)) speaks about the
two bytes `encode_is_spec` takes as given.  The file holds the two halves, `recordEnd_agree` and `binFor_agree` (and
defines `coordOp`); `Props.C05.bin_agrees_with_C16` joins them.
-/
import Hts.Model.BamRecord
import Hts.Model.Coord
namespace Hts.Model.Bam

def coordOp (c : BitVec 32) : Hts.Model.Coord.CigarOp := ⟨cigarType c, cigarLen c⟩

theorem consume_agree (t : Nat) : (Hts.Model.Coord.consumeTab.getD t (0, 0)).2 = consumeRefOf t := by
  have h : consumeRef = Hts.Model.Coord.consumeTab.map Prod.snd := rfl
  rw [consumeRefOf, h, List.getD_eq_getElem?_getD, List.getD_eq_getElem?_getD, List.getElem?_map]
  cases Hts.Model.Coord.consumeTab[t]? <;> rfl

theorem endLoop_agree (cs : List (BitVec 32)) : ∀ pos e : Int,
    Hts.Model.Coord.endLoop pos e (cs.map coordOp) = some (endLoop cs pos e) := by
  induction cs with
  | nil => intro pos e; rfl
  | cons c cs ih =>
    intro pos e
    simp only [List.map_cons, Hts.Model.Coord.endLoop, Hts.Model.Coord.consumes, endLoop, coordOp, consume_agree]
    exact ih _ _

theorem recordEnd_agree (r : Record) :
    Hts.Model.Coord.recordEnd (unmapped r) r.pos (r.cigar.map coordOp) = some (recordEnd r) := by
  rw [Hts.Model.Coord.recordEnd, recordEnd, List.isEmpty_map, endLoop_agree]
  split <;> rfl

theorem toNat_add_ofInt (k : Nat) (x : Int) :
    (BitVec.ofNat 32 k + BitVec.ofInt 32 x).toNat = Hts.Model.Coord.u32 (k + x) := by
  rw [← BitVec.ofInt_natCast, ← BitVec.ofInt_add, BitVec.toNat_ofInt]
  rfl

theorem binFor_agree (beg end_ : Int) : Hts.Model.Coord.binFor beg end_ = (binFor beg end_).toNat := by
  simp only [Hts.Model.Coord.binFor, binFor, beq_iff_eq, apply_ite BitVec.toNat, toNat_add_ofInt]
  rfl

end Hts.Model.Bam
