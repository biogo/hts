/-
A concrete `Codec` that satisfies every law the theorems assume (including the optional size bound):
the laws are consistent, so the theorems quantified over `Codec` are not vacuous.  It is NOT DEFLATE:
the stream is  1^(n / 4096)  2  le16(n % 4096)  data(n) ; the two bytes 03 00 are an empty stream.
-/
import Hts.Lemmas.BgzfMember
namespace Hts.Model.Member.Toy

def countOnes : List Byte → Nat × List Byte
  | [] => (0, [])
  | b :: t => if b = 1 then ((countOnes t).1 + 1, (countOnes t).2) else (0, b :: t)

def deflate (x : List Byte) : List Byte :=
  List.replicate (x.length / 4096) 1 ++ (2 :: UInt8.ofNat (x.length % 4096 % 256) :: UInt8.ofNat (x.length % 4096 / 256 % 256) :: x)

def inflate (s : List Byte) : Option (List Byte × Nat) :=
  match s with
  | 3 :: 0 :: _ => some ([], 2)
  | _ =>
    match countOnes s with
    | (q, 2 :: r0 :: r1 :: body) =>
      let n := 4096 * q + u16 r0 r1
      if n ≤ body.length then some (body.take n, q + 3 + n) else none
    | _ => none

theorem countOnes_replicate (q : Nat) (t : List Byte) (ht : ∀ b t', t = b :: t' → b ≠ 1) :
    countOnes (List.replicate q 1 ++ t) = (q, t) := by
  induction q with
  | zero =>
    cases t with
    | nil => rfl
    | cons b t' => simp [countOnes, ht b t' rfl]
  | succ q ih => simp [List.replicate_succ, countOnes, ih]

theorem inflate_deflate (x rest : List Byte) : inflate (deflate x ++ rest) = some (x, (deflate x).length) := by
  have hr : x.length % 4096 < 65536 := by omega
  have hco := countOnes_replicate (x.length / 4096)
    (2 :: UInt8.ofNat (x.length % 4096 % 256) :: UInt8.ofNat (x.length % 4096 / 256 % 256) :: (x ++ rest))
    (by intro b t' h; rw [← (List.cons.inj h).1]; decide)
  have hne : ∀ t, deflate x ++ rest ≠ 3 :: 0 :: t := by
    intro t h
    simp only [deflate] at h
    cases hq : x.length / 4096 with
    | zero => rw [hq] at h; cases h
    | succ q => rw [hq, List.replicate_succ] at h; cases h
  unfold inflate
  split
  · rename_i t heq; exact absurd heq (hne t)
  · simp only [deflate, List.append_assoc, List.cons_append] at hco ⊢
    rw [hco]
    have hn : 4096 * (x.length / 4096) + x.length % 4096 = x.length := Nat.div_add_mod _ _
    simp only [u16_le16 _ hr, hn, List.length_append, Nat.le_add_right, if_true, List.take_left, List.length_cons,
      List.length_replicate]
    congr 2; omega

def codec : Codec :=
  { deflate := deflate, inflate := inflate, crc32 := fun _ => 0, xfl := 0
    inflate_deflate := inflate_deflate
    inflate_marker := fun _ => rfl
    crc32_lt := fun _ => by decide
    crc32_nil := rfl }

theorem bounded : Bounded codec.toCodecFns := by
  intro x
  simp [codec, deflate]
  omega

end Hts.Model.Member.Toy
