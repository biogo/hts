/-
The loop body `step` of `fai.NewIndex` (Model/Fai.lean) by the branch of its `if` chain: what `trimSpace line` is
makes the line blank, `>` alone, a header or a sequence line.  `Hts.Lemmas.FaiScan` has `step` on lines given by
their bytes.
-/
import Hts.Model.Fai
import Hts.Lemmas.Bytes
namespace Hts.Lemmas.Fai
open Hts.Model.Fai

theorem step_case_blank (st : ScanState) {line : Bytes} (h : trimSpace line = []) :
    step st line = .ok ⟨st.idx, st.pending, st.offset + line.length, true⟩ := by
  simp only [step, h, if_true]

theorem step_case_nameless (st : ScanState) {line : Bytes} (h : trimSpace line = [GT]) :
    step st line = .error .missingName := by
  simp only [step, h, if_true, reduceCtorEq, if_false]

theorem step_case_header (st : ScanState) {line : Bytes} (h1 : trimSpace line ≠ [GT])
    (h2 : (trimSpace line).head? = some GT) :
    step st line =
      if (flush st).1.contains (headerName (trimSpace line)) then .error .duplicate
      else .ok ⟨(flush st).1,
        { (flush st).2 with name := headerName (trimSpace line), start := st.offset + line.length },
        st.offset + line.length, false⟩ := by
  have h0 : trimSpace line ≠ [] := fun h => by rw [h] at h2; cases h2
  simp only [step, h0, h1, h2, if_false, if_true]

theorem step_case_seq (st : ScanState) {line : Bytes} (h0 : trimSpace line ≠ [])
    (h2 : (trimSpace line).head? ≠ some GT) :
    step st line =
      if st.wantDescLine then .error .shortLine
      else if st.pending.bytesPerLine ≠ 0 ∧ line.length > st.pending.bytesPerLine then .error .longLine
      else if st.pending.basesPerLine ≠ 0 ∧ (trimSpace line).length > st.pending.basesPerLine then
        .error .longLine
      else .ok ⟨st.idx,
        ⟨st.pending.name, st.pending.length + (trimSpace line).length, st.pending.start,
          if st.pending.basesPerLine = 0 then (trimSpace line).length else st.pending.basesPerLine,
          if st.pending.bytesPerLine = 0 then line.length else st.pending.bytesPerLine⟩,
        st.offset + line.length,
        decide (st.pending.bytesPerLine ≠ 0 ∧ line.length < st.pending.bytesPerLine) ||
          decide (st.pending.basesPerLine ≠ 0 ∧ (trimSpace line).length < st.pending.basesPerLine)⟩ := by
  have h1 : trimSpace line ≠ [GT] := fun h => by rw [h] at h2; exact h2 rfl
  simp only [step, h0, h1, h2, if_false]

theorem step_offset {st st' : ScanState} {line : Bytes} (h : step st line = .ok st') :
    st' = ⟨st'.idx, st'.pending, st.offset + line.length, st'.wantDescLine⟩ := by
  by_cases h1 : trimSpace line = []
  · rw [step_case_blank st h1] at h; cases h; rfl
  · by_cases h2 : (trimSpace line).head? = some GT
    · by_cases h3 : trimSpace line = [GT]
      · rw [step_case_nameless st h3] at h; cases h
      · rw [step_case_header st h3 h2] at h; cases (ite_err_ok h).2; rfl
    · rw [step_case_seq st h1 h2] at h; cases (ite_err_ok (ite_err_ok (ite_err_ok h).2).2).2; rfl

end Hts.Lemmas.Fai
