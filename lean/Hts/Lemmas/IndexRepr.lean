/-
Every index built by `Add` from a coordinate-sorted input of reasonable size is representable in the
BAI/tabix format (`WF`): the hypotheses are on the INPUT only (number of records and reference ids
below 2^31 - 1, bin numbers as produced by `BinFor`, chunk offsets below 2^63).

The bin number `csi.reg2bin` computes is below the bin limit of the geometry (depth ≤ 10) for ANY start position
that `validIndexPos` accepts and any stop whatsoever (`reg2bin_lt_binLimit_any`: the bin limit the writer and the reader
compute is the first bin number of level depth + 1, and the bound itself is `Coord.reg2bin_lt_any`).  `BinFor` is
the case (14, 5).
-/
import Hts.Lemmas.IndexIO
import Hts.Lemmas.IndexAddAll
import Hts.Lemmas.Coord
namespace Hts.Model.IndexIO
open Hts.Model.Index
open Hts.Spec.Coord (levelOffset pow8_eq)

theorem csiBinLimit_eq (d : Nat) (hd : d ≤ 10) : csiBinLimit d = levelOffset (d + 1) := by
  unfold csiBinLimit
  rw [Nat.mul_comm, ← pow8_eq]
  exact Nat.mod_eq_of_lt (Hts.Model.Coord.levelOffset_lt (d + 1) (by omega))

theorem reg2bin_lt_binLimit_any (ms d : Nat) (hd : d ≤ 10) (start stop : Int) (h0 : -1 ≤ start)
    (h1 : start < (2 : Int) ^ (ms + 3 * d)) : Hts.Model.Coord.reg2bin start stop ms d < csiBinLimit d :=
  csiBinLimit_eq d hd ▸ Hts.Model.Coord.reg2bin_lt_any ms d hd start stop h0 h1

/-- `37450` is the number of the statistics pseudo-bin -/
theorem binFor_lt (b e : Int) (h0 : 0 ≤ b) (h1 : b < 536870912) : Hts.Model.Coord.binFor b e < 37450 := by
  rw [Hts.Model.Coord.binFor_eq_reg2bin]
  exact Nat.lt_succ_of_lt (reg2bin_lt_binLimit_any 14 5 (by decide) b e (by omega) h1)

theorem _root_.Hts.Model.Index.RecOK.binFor_lt {r : Rec} (h : RecOK r) (hp : r.placed = true) (e : Int) :
    Hts.Model.Coord.binFor r.start e < 37450 := by
  exact IndexIO.binFor_lt _ _ (h.pos hp).1 (Int.lt_of_le_of_lt (validPos_range h.vstart).2 (by decide))

theorem chunk_offOK {c : Chunk} (h0 : 0 ≤ c.b) (h1 : c.b < c.e) (h2 : c.e < 9223372036854775808) :
    OffOK c.b ∧ OffOK c.e := by
  unfold OffOK
  omega

/-- `2^31 - 1`, not `2^31`: the `int32` bin count of a reference includes the statistics pseudo-bin (`RefBounds.nb`), and the
reference count is the largest id + 1 (`WF.nrefs`) -/
theorem built_wf (recs : List Rec) (h : SortedInput recs) (hlen : recs.length < 2147483647)
    (hrid : ∀ r, r ∈ recs → r.rid < 2147483647)
    (hbin : ∀ r, r ∈ recs → r.placed = true → r.bin < 37450)
    (hoff : ∀ r, r ∈ recs → r.chunk.e < 9223372036854775808) : WF (addAll {} recs).1 := by
  have inv := (addAll_sorted recs h).2.refs
  have hsub : ∀ a, a ∈ (recs.filter (·.placed)).reverse → a ∈ recs ∧ a.placed = true := by
    intro a ha
    rw [List.mem_reverse, List.mem_filter] at ha
    exact ha
  have h31 : ∀ {k}, k ≤ recs.length → k < 2147483648 := fun h => Nat.lt_of_le_of_lt h (Nat.lt_succ_of_lt hlen)
  have h64 : ∀ {k}, k ≤ recs.length → k < 18446744073709551616 := fun h => Nat.lt_trans (h31 h) (by decide)
  have hoffok : ∀ a, a ∈ recs → OffOK a.chunk.b ∧ OffOK a.chunk.e :=
    fun a ha => chunk_offOK (h.ok a ha).cb (h.ok a ha).ce (hoff a ha)
  refine wf_of_unsorted _ (addAll_sorted recs h).2.flag ?nrefs ?bounds ?um
  case nrefs =>
    cases hh : (recs.filter (·.placed)).reverse with
    | nil => rw [inv.len0 hh]; decide
    | cons a rest =>
      have := (inv.last a rest hh).1
      have := hrid a (hsub a (by rw [hh]; exact List.mem_cons_self)).1
      omega
  case bounds =>
    intro ref href
    obtain ⟨j, hj⟩ := List.mem_iff_getElem?.1 href
    have ri := inv.refInv j ref hj
    have hol : (onRefBy Rec.rid (recs.filter (·.placed)).reverse j).length ≤ recs.length :=
      Nat.le_trans (List.length_filter_le _ _) (by rw [List.length_reverse]; exact List.length_filter_le _ _)
    have hrec : ∀ a, a ∈ onRefBy Rec.rid (recs.filter (·.placed)).reverse j → a ∈ recs ∧ a.placed = true :=
      fun a ha => hsub a (mem_onRefBy ha).1
    refine { nb := ?nb, bins := ?bins, stats := ?stats, ivs := ?ivs,
             ivlen := Nat.lt_of_le_of_lt ri.ivLen (by decide) }
    case nb =>
      have := ri.binsLen; split <;> omega
    case bins =>
      intro bn hbn
      obtain ⟨a, ha, hab⟩ := ri.binRec bn hbn
      have hb : bn.bin < 37450 := hab ▸ hbin a (hrec a ha).1 (hrec a ha).2
      refine ⟨Nat.lt_trans hb (by decide), Nat.ne_of_lt hb, h31 (Nat.le_trans (ri.chunksLen bn hbn) hol), ?_⟩
      intro c hc
      obtain ⟨a', ha', hca, _⟩ := ri.stored bn hbn c hc
      exact hca ▸ hoffok a' (hrec a' ha').1
    case stats =>
      intro s hs
      obtain ⟨b, e, m, u⟩ := statsOf_repr OffOK _ (fun a ha => hoffok a (hrec a ha).1) s (ri.stats ▸ hs)
      exact ⟨b, e, h64 (Nat.le_trans m hol), h64 (Nat.le_trans u hol)⟩
    case ivs =>
      intro v hv
      have h0 := ri.ivNonneg v hv
      obtain ⟨a, ha, hva⟩ := ri.ivBound v hv
      have := (hoffok a (hrec a ha).1).1
      unfold OffOK at *
      omega
  case um =>
    intro n hn
    cases recs with
    | nil => cases hn
    | cons r rs =>
      rw [addAll_unmapped_fresh (r :: rs) h (by simp)] at hn
      cases hn
      exact h64 List.countP_le_length

end Hts.Model.IndexIO
