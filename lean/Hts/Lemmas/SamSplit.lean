/-
`bytes.Split` on a single separator byte inverts joining with that separator.
-/
import Hts.Model.SamText
import Hts.Lemmas.Text
namespace Hts.Model.SamText

open Hts.Lemmas (Sep.splitOn Sep.splitOn_ne_nil Sep.splitOn_append_sep Sep.splitOn_no_sep)

theorem splitOn_eq (sep : UInt8) (s : Bytes) : splitOn sep s = Sep.splitOn sep s := by
  induction s with
  | nil => rfl
  | cons c rest ih => rw [splitOn, Sep.splitOn, ih]; cases Sep.splitOn sep rest <;> rfl

theorem splitOn_ne_nil (sep : UInt8) (s : Bytes) : splitOn sep s ≠ [] :=
  splitOn_eq sep s ▸ Sep.splitOn_ne_nil sep s

theorem splitOn_append_sep (sep : UInt8) (f rest : Bytes) (h : ∀ c ∈ f, c ≠ sep) :
    splitOn sep (f ++ sep :: rest) = f :: splitOn sep rest := by
  rw [splitOn_eq, splitOn_eq, Sep.splitOn_append_sep fun hm => h _ hm rfl]

theorem splitOn_no_sep (sep : UInt8) (f : Bytes) (h : ∀ c ∈ f, c ≠ sep) : splitOn sep f = [f] := by
  rw [splitOn_eq, Sep.splitOn_no_sep fun hm => h _ hm rfl]

theorem splitOn_joinWith (sep : UInt8) (fs : List Bytes) (hne : fs ≠ [])
    (h : ∀ f ∈ fs, ∀ c ∈ f, c ≠ sep) : splitOn sep (joinWith sep fs) = fs := by
  induction fs with
  | nil => exact absurd rfl hne
  | cons f rest ih =>
    cases rest with
    | nil => exact splitOn_no_sep sep f (h f List.mem_cons_self)
    | cons g gs =>
      rw [joinWith, splitOn_append_sep sep f _ (h f List.mem_cons_self),
        ih (List.cons_ne_nil _ _) fun x hx => h x (List.mem_cons_of_mem _ hx)]

theorem mem_joinWith {sep c : UInt8} {fs : List Bytes} (hc : c ∈ joinWith sep fs) :
    c = sep ∨ ∃ f ∈ fs, c ∈ f := by
  induction fs with
  | nil => cases hc
  | cons f rest ih =>
    cases rest with
    | nil => exact Or.inr ⟨f, List.mem_cons_self, hc⟩
    | cons g gs =>
      rcases List.mem_append.mp hc with hc | hc
      · exact Or.inr ⟨f, List.mem_cons_self, hc⟩
      · rcases List.mem_cons.mp hc with hc | hc
        · exact Or.inl hc
        · exact (ih hc).imp_right fun ⟨x, hx, hcx⟩ => ⟨x, List.mem_cons_of_mem _ hx, hcx⟩

end Hts.Model.SamText
