/-
A small labelled transition system of the read-ahead reader (`rd > 1`) WITH a cache, abstracted to what
matters for DESIGN §6 #28: members are numbered 0 … n-1 (the member after i is i+1, n = end of file), the cache is an
LRU list of member numbers, the worker goroutine has a position `wnext`, the channel `working` is a queue of delivered
members, `decs` counts the idle decompressors in `waiting`.

  worker   (reader.go:436-459, nextBlockAt 214-223):  take an idle decompressor; while Peek(wnext) skip to wnext+1;
           decompress wnext, deliver it on `working`; at the end of the file deliver the failing decompressor and park
           on `control`.
  consumer (nextBlock 671-717): want := cur+1; if the cache has it, Get it (hit) and Put the old block;
           otherwise Put the old block (possibly evicting) and take decompressors from `working` until one carries
           `want`; after cap(working) = rd mismatches: panic("bgzf: unexpected block").
           Not modelled: a FAILED block of another offset makes nextBlock read `want` itself (693-709); the LTS
           counts the failing decompressor as one more mismatch.

`unexpected_block_witness` (rd = 2): a schedule that ends in the panic.  `deadlock_witness` (rd = 3): a schedule after
which the consumer is waiting on `working`, the worker is parked on `control`, and no step is enabled.  Both use a cache
of capacity 1.  (The implementation itself is exercised by the C03 harness; this file only exhibits the mechanism.)
-/
namespace Hts.Model.ReadAheadCache

inductive CPc
  | idle
  /-- inside nextBlock, `tries` decompressors already taken from `working` -/
  | scanning (want : Nat) (tries : Nat)
  | panicked
deriving DecidableEq, Repr

structure St where
  n : Nat
  rd : Nat
  cap : Nat
  /-- newest first -/
  cache : List Nat
  cur : Nat
  cpc : CPc
  /-- worker position; `none` = parked on `control` after the end of the file -/
  wnext : Option Nat
  working : List Nat
  decs : Nat
deriving DecidableEq, Repr

inductive Act
  | workerSkip
  | workerLoad
  | consumerNext
  | consumerTake
deriving DecidableEq, Repr

/-- LRU `Put` of a used block (newest first, evict the last when full) -/
def put (cap : Nat) (cache : List Nat) (b : Nat) : List Nat :=
  if cache.contains b then cache
  else if cache.length ≥ cap then b :: cache.dropLast else b :: cache

def step (s : St) : Act → Option St
  | .workerSkip =>
    match s.wnext with
    | some k => if s.decs > 0 ∧ s.cache.contains k then some { s with wnext := some (k + 1) } else none
    | none => none
  | .workerLoad =>
    match s.wnext with
    | some k =>
      if s.decs > 0 ∧ !s.cache.contains k then
        if k < s.n then some { s with working := s.working ++ [k], decs := s.decs - 1, wnext := some (k + 1) }
        else some { s with working := s.working ++ [s.n], decs := s.decs - 1, wnext := none }
      else none
    | none => none
  | .consumerNext =>
    match s.cpc with
    | .idle =>
      let want := s.cur + 1
      if s.cache.contains want then
        some { s with cache := put s.cap (s.cache.filter (· ≠ want)) s.cur, cur := want }
      else some { s with cache := put s.cap s.cache s.cur, cpc := .scanning want 0 }
    | _ => none
  | .consumerTake =>
    match s.cpc with
    | .scanning want tries =>
      if tries ≥ s.rd then some { s with cpc := .panicked }
      else match s.working with
        | [] => none
        | b :: rest =>
          if b = want then some { s with cur := want, cpc := .idle, working := rest, decs := s.decs + 1 }
          else some { s with cpc := .scanning want (tries + 1), working := rest, decs := s.decs + 1 }
    | _ => none

def run (s : St) : List Act → Option St
  | [] => some s
  | a :: as => (step s a).bind (fun s' => run s' as)

def stuck (s : St) : Bool :=
  (step s .workerSkip).isNone && (step s .workerLoad).isNone && (step s .consumerNext).isNone &&
    (step s .consumerTake).isNone

/-- 4 members, rd = 2 (two decompressors), LRU of capacity 1 holding member 2; the consumer is at member 0, the
worker is about to look at member 2 (member 1 is already on `working`) -/
def start : St :=
  { n := 4, rd := 2, cap := 1, cache := [2], cur := 0, cpc := .idle, wnext := some 2, working := [1], decs := 1 }

/-- worker: Peek(2) hits → skip; load 3.  consumer: 0→1 (miss; Put(0) evicts member 2; takes 1 from `working`);
worker: end of file, parks.  consumer: 1→2: Get(2) misses (evicted), takes 3 (mismatch), takes the failing
decompressor (mismatch) … -/
def schedule : List Act :=
  [.workerSkip, .workerLoad, .consumerNext, .consumerTake, .workerLoad, .consumerNext, .consumerTake, .consumerTake]

/-- after cap(working) mismatches: panic("bgzf: unexpected block") -/
theorem unexpected_block_witness :
    (run start (schedule ++ [.consumerTake])).map (·.cpc) = some .panicked := by decide

/-- with three decompressors (rd = 3) the same schedule ends in a dead-lock: the consumer waits on `working`
(it has taken 2 < rd decompressors), the worker is parked on `control`, nothing can move -/
theorem deadlock_witness :
    ((run { start with rd := 3, decs := 2 } schedule).map
      (fun s => (s.cpc, s.wnext, s.working, stuck s))) = some (.scanning 2 2, none, [], true) := by decide

/-- … whereas without the eviction (capacity 2) the same worker steps are harmless: the consumer finds member 2
in the cache -/
example :
    ((run { start with cap := 2 } [.workerSkip, .workerLoad, .consumerNext, .consumerTake, .workerLoad, .consumerNext]).map
      (fun s => (s.cur, s.cpc))) = some (2, .idle) := by decide

end Hts.Model.ReadAheadCache
