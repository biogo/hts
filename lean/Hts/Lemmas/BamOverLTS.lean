/-
The clients of Model/BamOverLTS.lean over the sequential reader are the functions of Model/BamChunks.lean.
-/
import Hts.Model.BamOverLTS
namespace Hts.Model.ReadAhead
open Hts.Model.Bgzf
open Hts.Spec.Flat (Offset Chunk vOffset)

theorem Client.run_bind {α β : Type} (c : Client α) (f : α → Client β) (r : Reader) :
    (c.bind f).run r = (f (c.run r).1).run (c.run r).2 := by
  induction c generalizing r with
  | done a => rfl
  | op o k ih => simp only [Client.bind, Client.run]; exact ih _ _ _

theorem cReadFull_run (n : Nat) (r : Reader) :
    (cReadFull n r).run r = (readFull r n, (readFull r n).1) := by
  unfold cReadFull readFull
  by_cases hn : n = 0
  · simp [hn, Client.run]
  · simp only [hn, if_false, Client.run, Reader.step, fullOf]
    by_cases hle : n ≤ (r.read n).2.1.length
    · simp [hle]
    · cases he : (r.read n).2.2 with
      | none => simp [hle]
      | some e => cases e <;> simp [hle]

theorem cNewBuffer_run (br : BamReader) :
    (cNewBuffer br).run br.r = (br.newBuffer, br.newBuffer.1.r) := by
  unfold cNewBuffer BamReader.newBuffer
  rw [Client.run_bind, cReadFull_run]
  simp only
  generalize readFull br.r 4 = x1
  obtain ⟨r1, szb, e1⟩ := x1
  cases e1 with
  | some e => rfl
  | none =>
    simp only
    by_cases h0 : leInt32 szb = 0
    · simp only [h0, if_true]; rfl
    · simp only [h0, if_false]
      by_cases hneg : leInt32 szb < 0
      · simp only [hneg, if_true]; rfl
      · simp only [hneg, if_false]
        rw [Client.run_bind, cReadFull_run]
        simp only
        generalize readFull r1 (leInt32 szb).toNat = x2
        obtain ⟨r2, body, e2⟩ := x2
        cases e2 <;> rfl

theorem cBamRead_run (br : BamReader) : (cBamRead br).run br.r = (br.read, br.read.1.r) := by
  unfold cBamRead BamReader.read
  cases hc : br.c with
  | none => exact cNewBuffer_run br
  | some c =>
    simp only
    split
    · rfl
    · exact cNewBuffer_run br

theorem cReadN_run (k : Nat) (br : BamReader) : (cReadN k br).run br.r = (br.readN k, (br.readN k).1.r) := by
  induction k generalizing br with
  | zero => rfl
  | succ k ih =>
    simp only [cReadN, BamReader.readN]
    rw [Client.run_bind, cBamRead_run]
    simp only
    generalize br.read = x
    obtain ⟨br', res⟩ := x
    cases res with
    | error e => rfl
    | ok body =>
      simp only
      rw [Client.run_bind, ih]
      rfl

theorem cSetChunk_run (br : BamReader) (c : Option Chunk) :
    (cSetChunk br c).run br.r = (br.setChunk c, (br.setChunk c).1.r) := by
  cases c with
  | none => rfl
  | some c =>
    simp only [cSetChunk, BamReader.setChunk, Client.run, Reader.step]
    generalize br.r.seek c.bgn = x
    obtain ⟨r', e⟩ := x
    cases e <;> rfl

theorem cHeader_run (hs : List Nat) (r : Reader) :
    (cHeader hs r).run r = (BamReader.consumeHeader r hs, (BamReader.consumeHeader r hs).1) := by
  induction hs generalizing r with
  | nil => rfl
  | cons n ns ih =>
    rcases hrd : r.read n with ⟨r', out, e⟩
    simp only [cHeader, BamReader.consumeHeader, Client.run, Reader.step, hrd]
    by_cases hl : out.length ≠ n
    · simp only [if_pos hl]; rfl
    · simp only [if_neg hl]
      cases e with
      | some e => rfl
      | none => exact ih r'

theorem cBamNew_run {F : File} {r0 : Reader} (h0 : Reader.new F = .ok r0) (hs : List Nat) (br0 : BamReader)
    (hb : BamReader.new F hs = .ok br0) : (cBamNew hs r0).run r0 = (.ok br0, br0.r) := by
  unfold BamReader.new at hb
  unfold cBamNew
  rw [Client.run_bind, cHeader_run]
  rw [h0] at hb
  simp only at hb ⊢
  generalize BamReader.consumeHeader r0 hs = x at hb ⊢
  obtain ⟨r', e⟩ := x
  cases e with
  | some e => cases hb
  | none => cases hb; rfl

theorem cSeqPass_run {F : File} {r0 : Reader} (h0 : Reader.new F = .ok r0) (hs : List Nat) (k : Nat)
    (br0 : BamReader) (hb : BamReader.new F hs = .ok br0) :
    ((cSeqPass hs k r0).run r0).1 = some (br0.readN k).2 := by
  unfold cSeqPass
  rw [Client.run_bind, cBamNew_run h0 hs br0 hb]
  simp only
  rw [Client.run_bind, cReadN_run]
  rfl

theorem cReplay_run {F : File} {r0 : Reader} (h0 : Reader.new F = .ok r0) (hs : List Nat) (c : Chunk) (k : Nat)
    (br0 : BamReader) (hb : BamReader.new F hs = .ok br0) :
    ((cReplay hs c k r0).run r0).1 =
      some ((br0.setChunk (some c)).2, ((br0.setChunk (some c)).1.readN k).2) := by
  unfold cReplay
  rw [Client.run_bind, cBamNew_run h0 hs br0 hb]
  simp only
  rw [Client.run_bind, cSetChunk_run]
  simp only
  rw [Client.run_bind, cReadN_run]
  rfl

end Hts.Model.ReadAhead
