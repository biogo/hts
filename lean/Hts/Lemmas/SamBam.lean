/-
The bridge SamText.Record <-> Bam.Record: reading the memory form back gives the record (`ofBam_toBam`, under the
representation invariants `RepOK`; `ofBam_norm_toBam` is the same on what the BAM codec hands back, with `norm_toBam` for
the two `norm`s), the memory form of an expressible record within the BAM ranges (`BamRange`) is well-formed for the BAM
codec (`wf_toBam`).
-/
import Hts.Model.SamBam
import Hts.Model.SamTextSpec
import Hts.Lemmas.BamAux
import Hts.Lemmas.SamRecord
namespace Hts.Model.SamBam
open Hts.Model.SamText
open Hts.Model.Coord (CigarOp)
open Hts.Lemmas (map_map_id)
open Hts.Model.Bam (Byte byteOf putU16 putU32 getU32 byteOf_toNat getU16_put getU32_put getU32_put_lt WF auxOK auxOK_num auxOK_arr auxSize inInt32)

theorem u8_b8 (x : UInt8) : u8 (b8 x) = x := rfl
theorem b8_u8 (x : Byte) : b8 (u8 x) = x := rfl
theorem u8_comp_b8 : u8 ∘ b8 = id := rfl

theorem map_u8_b8 (l : List UInt8) : (l.map b8).map u8 = l := map_map_id fun _ _ => rfl

theorem div_mod_16 (l t : Nat) (ht : t < 16) : (l * 16 + t) / 16 = l ∧ (l * 16 + t) % 16 = t :=
  ⟨by rw [Nat.add_comm, Nat.add_mul_div_right _ _ (by decide), Nat.div_eq_of_lt ht, Nat.zero_add],
   by rw [Nat.mul_add_mod_self_right, Nat.mod_eq_of_lt ht]⟩

theorem cigarOfWord_cigarWord (co : CigarOp) (ht : co.typ < 16) (hl : co.len < 268435456) :
    cigarOfWord (cigarWord co) = co := by
  obtain ⟨t, l⟩ := co
  have : (BitVec.ofNat 32 (l * 16 + t)).toNat = l * 16 + t := by
    rw [BitVec.toNat_ofNat]; exact Nat.mod_eq_of_lt (by simp only at ht hl; omega)
  simp only [cigarOfWord, cigarWord, Bam.cigarType, Bam.cigarLen, this, div_mod_16 l t ht]

theorem byteOf_nibbles (a b : Fin 16) :
    (byteOf (a.val * 16 + b.val)).toNat / 16 = a.val ∧ (byteOf (a.val * 16 + b.val)).toNat % 16 = b.val := by
  rw [byteOf_toNat, Nat.mod_eq_of_lt (by omega)]
  exact div_mod_16 a.val b.val b.isLt

theorem codes_packCodes : ∀ (s : List (Fin 16)), Bam.codes s.length (packCodes s) = some (s.map (·.val))
  | [] => rfl
  | [a] => congrArg (fun x => some [x]) (byteOf_nibbles a 0).1
  | a :: b :: rest => by
    rw [packCodes, List.length_cons, List.length_cons, Bam.codes, codes_packCodes rest, Option.map_some,
      (byteOf_nibbles a b).1, (byteOf_nibbles a b).2]
    rfl

theorem refOf_ref (h : Header) (x : Option Ref) (hx : OptRefIn h x) : refOf h (x.map (·.id.toNat)) = some x := by
  cases x with
  | none => rfl
  | some x => exact congrArg (Option.map some) hx.2

theorem intBits_lt (ty : IntTy) (v : Int) : intBits ty v < 2 ^ ty.bits := by
  have hp : (0 : Int) < (2 ^ ty.bits : Nat) := Int.natCast_pos.mpr (Nat.pow_pos (by decide))
  exact (Int.toNat_lt (Int.emod_nonneg v (Int.ne_of_gt hp))).mpr (Int.emod_lt_of_pos v hp)

theorem sgnOf_intBits (ty : IntTy) (v : Int) (h : ty.lo ≤ v ∧ v ≤ ty.hi) : sgnOf ty (intBits ty v) = v := by
  obtain ⟨hbits, hlo, hhi⟩ := intTy_lo_hi ty
  have hr : 0 ≤ v % ((2 ^ ty.bits : Nat) : Int) :=
    Int.emod_nonneg v (Int.ne_of_gt (Int.natCast_pos.mpr (Nat.pow_pos (by decide))))
  unfold sgnOf intBits
  rw [Int.toNat_of_nonneg hr]
  cases hs : ty.signed <;>
    simp only [hs, Bool.false_eq_true, if_false, if_true, Bool.false_and, Bool.true_and, decide_eq_true_eq,
      Int.le_toNat hr] at hlo hhi ⊢
  · exact Int.emod_eq_of_lt (hlo ▸ h.1) (hhi ▸ Int.lt_add_one_of_le h.2)
  · -- with `m = 2^(bits-1)`, the low bits of `v` are `v` or `v + 2m`
    obtain ⟨m, hm, hpow, hmi⟩ := two_pow_pred hbits
    rw [hmi] at hlo hhi
    rw [hpow, hm, Int.natCast_mul]
    have h1 : -(m : Int) ≤ v := hlo ▸ h.1
    have h2 : v < m := hhi ▸ Int.lt_add_one_of_le h.2
    clear hr hlo hhi hpow hm hmi h hs hbits
    by_cases hv : 0 ≤ v
    · rw [Int.emod_eq_of_lt hv (by omega), if_neg (by omega)]
    · have e : v % (((2 : Nat) : Int) * (m : Int)) = v + 2 * m := by
        rw [← Int.add_mul_emod_self_left v _ 1, Int.mul_one]
        exact Int.emod_eq_of_lt (by omega) (by omega)
      rw [e, if_pos (by omega)]
      omega

theorem readInt_bytes (ty : IntTy) (v : Int) :
    readInt ty (intBytes ty v) = some (sgnOf ty (intBits ty v % 2 ^ ty.bits)) := by
  cases ty <;> simp only [intBytes, readInt, putU16, putU32, byteOf_toNat, getU16_put, getU32_put] <;> rfl

theorem readInt_intBytes (ty : IntTy) (v : Int) (h : ty.lo ≤ v ∧ v ≤ ty.hi) :
    readInt ty (intBytes ty v) = some v := by
  rw [readInt_bytes, Nat.mod_eq_of_lt (intBits_lt ty v), sgnOf_intBits ty v h]

theorem intBytes_length (ty : IntTy) (v : Int) : (intBytes ty v).length = width ty := by
  cases ty <;> simp only [intBytes, putU16, putU32, List.length_cons, List.length_nil] <;> rfl

theorem readInts_flatMap (ty : IntTy) (vs : List Int) (h : ∀ v ∈ vs, ty.lo ≤ v ∧ v ≤ ty.hi) :
    readInts ty vs.length (vs.flatMap (intBytes ty)) = some vs := by
  induction vs with
  | nil => rfl
  | cons v vs ih =>
    rw [List.length_cons, List.flatMap_cons, readInts, List.take_left' (intBytes_length ty v),
      List.drop_left' (intBytes_length ty v), readInt_intBytes ty v (h v List.mem_cons_self),
      ih fun x hx => h x (List.mem_cons_of_mem _ hx)]

theorem readFloats_flatMap (bs : List UInt32) :
    readFloats bs.length (bs.flatMap fun b => putU32 b.toNat) = some bs := by
  induction bs with
  | nil => rfl
  | cons b bs ih =>
    show (readFloats bs.length (bs.flatMap fun b => putU32 b.toNat)).map (UInt32.ofNat (getU32 _ _ _ _) :: ·) = _
    rw [ih, getU32_put_lt _ b.toNat_lt, UInt32.ofNat_toNat]
    rfl

/-- the arrays of an aux field are short enough for their 32-bit count -/
def AuxCountOK (a : Aux) : Prop :=
  match a.val with
  | .ints _ vs => vs.length < 4294967296
  | .floats bs => bs.length < 4294967296
  | _ => True

theorem auxOfRaw_int (ty : IntTy) (t0 t1 : Byte) (v : List Byte) :
    auxOfRaw (t0 :: t1 :: b8 ty.letter :: v) = (readInt ty v).map fun x => ⟨u8 t0, u8 t1, .int ty x⟩ := by
  cases ty <;> rfl

theorem auxOfRaw_ints (ty : IntTy) (t0 t1 n0 n1 n2 n3 : Byte) (e : List Byte) :
    auxOfRaw (t0 :: t1 :: 66#8 :: b8 ty.letter :: n0 :: n1 :: n2 :: n3 :: e) =
      (readInts ty (getU32 n0 n1 n2 n3) e).map fun vs => ⟨u8 t0, u8 t1, .ints ty vs⟩ := by
  cases ty <;> rfl

theorem auxOfRaw_auxRaw (a : Aux) (h : AuxRep a) (hc : AuxCountOK a) : auxOfRaw (auxRaw a) = some a := by
  obtain ⟨t0, t1, v⟩ := a
  cases v with
  | char c => rfl
  | int ty w => exact (auxOfRaw_int ty _ _ _).trans (by rw [readInt_intBytes ty w h]; rfl)
  | float b =>
    show some (⟨t0, t1, .float (UInt32.ofNat (getU32 _ _ _ _))⟩ : Aux) = _
    rw [getU32_put_lt _ b.toNat_lt, UInt32.ofNat_toNat]
  | text s => exact congrArg (fun x => some (⟨t0, t1, .text x⟩ : Aux)) (map_u8_b8 s)
  | hex s => exact congrArg (fun x => some (⟨t0, t1, .hex x⟩ : Aux)) (map_u8_b8 s)
  | ints ty vs =>
    exact (auxOfRaw_ints ty _ _ _ _ _ _ (vs.flatMap (intBytes ty))).trans (by
      rw [getU32_put_lt _ hc, readInts_flatMap ty vs h]; rfl)
  | floats bs =>
    show (readFloats (getU32 _ _ _ _) (bs.flatMap fun b => putU32 b.toNat)).map _ = _
    rw [getU32_put_lt _ hc, readFloats_flatMap]
    rfl

/-- representation invariants of a record in memory: CIGAR operations are 4-bit types with 28-bit lengths and aux
integers lie in their type (Go's types guarantee both), an `A` character is ASCII, arrays fit a 32-bit count -/
def RepOK (r : Record) : Prop :=
  (∀ co ∈ r.cigar, co.typ < 16 ∧ co.len < 268435456) ∧ ∀ a ∈ r.aux, AuxRep a ∧ AuxCountOK a

theorem ofBam_toBam (h : Header) (r : Record) (hr : OptRefIn h r.ref) (hm : OptRefIn h r.mateRef) (hrep : RepOK r) :
    ofBam h (toBam r) = some r := by
  have haux : (r.aux.map auxRaw).mapM auxOfRaw = some r.aux :=
    (mapM_map_pure auxRaw auxOfRaw id r.aux fun a ha => auxOfRaw_auxRaw a (hrep.2 a ha).1 (hrep.2 a ha).2).trans
      (congrArg some (List.map_id _))
  have hq : (r.qual.map (fun q => q.map b8)).map (fun q => q.map u8) = r.qual := by
    cases r.qual with
    | none => rfl
    | some q => exact congrArg some (map_u8_b8 q)
  unfold ofBam toBam
  -- one rewrite per converted field (seq: `codes_packCodes`, then the `Fin 16` round trip; cigar: under `hrep`); the numeric
  -- fields agree by reduction
  simp only [refOf_ref h r.ref hr, refOf_ref h r.mateRef hm, codes_packCodes, haux, hq, map_u8_b8, u8_b8,
    map_map_id fun (x : Fin 16) _ => Fin.ofNat_val_eq_self x,
    map_map_id fun co hco => cigarOfWord_cigarWord co (hrep.1 co hco).1 (hrep.1 co hco).2]

/-- the codec's `Bam.norm` (0xff × `seqLen`) under `toBam` is the text model's `norm` (0xff × `seq.length`): `seqLen` of
`toBam r` is `r.seq.length` -/
theorem norm_toBam (r : Record) : Bam.norm (toBam r) = toBam (norm r) := by
  unfold Bam.norm Bam.qualBytes toBam norm
  cases hq : r.qual with
  | none => simp [b8]
  | some q => simp

/-- `norm` changes only `qual`, which neither `OptRefIn` nor `RepOK` mentions: the hypotheses about `r` are those about
`norm r` by reduction -/
theorem ofBam_norm_toBam (h : Header) (r : Record) (hr : OptRefIn h r.ref) (hm : OptRefIn h r.mateRef) (hrep : RepOK r) :
    ofBam h (Bam.norm (toBam r)) = some (norm r) := by
  rw [norm_toBam]
  exact ofBam_toBam h (norm r) hr hm hrep

/-- what the BAM format can hold of a record, beyond `Expressible`: 32-bit POS/PNEXT/TLEN, at most 65535 CIGAR
operations, 32-bit array counts, a block size below 2^31, fewer than 2^31 references.  The last conjunct is `WF.size_ok`
of `toBam r` as it reads once `toBam` is unfolded; `wf_toBam` relies on that. -/
def BamRange (h : Header) (r : Record) : Prop :=
  h.refs.length < 2147483648 ∧ inInt32 r.pos ∧ inInt32 r.matePos ∧ inInt32 r.tempLen ∧ r.cigar.length ≤ 65535 ∧
  (∀ a ∈ r.aux, AuxCountOK a) ∧
  32 + r.name.length + 1 + r.cigar.length * 4 + (r.seq.length + 1) / 2 + r.seq.length + auxSize (r.aux.map auxRaw)
    < 2147483648

theorem packCodes_length : ∀ s : List (Fin 16), (packCodes s).length = (s.length + 1) / 2
  | [] => rfl
  | [_] => by simp [packCodes]
  | _ :: _ :: rest => by
    rw [packCodes, List.length_cons, packCodes_length rest, List.length_cons, List.length_cons,
      Nat.add_assoc rest.length 1 1, Nat.add_right_comm, Nat.add_div_right _ (by decide)]

theorem b8_bne_zero {c : UInt8} (h : 32 ≤ c) : (b8 c != 0#8) = true :=
  bne_iff_ne.mpr fun e => by
    have hc : c = 0 := congrArg u8 e
    rw [hc] at h
    exact absurd h (by decide)

theorem zero_not_mem (s : Bytes) (h : ∀ c ∈ s, (32 : UInt8) ≤ c) : 0#8 ∉ s.map b8 := fun hm => by
  obtain ⟨c, hc, he⟩ := List.mem_map.mp hm
  exact absurd (b8_bne_zero (h c hc)) (by rw [he]; decide)

theorem elemWidth_letter (ty : IntTy) : Bam.elemWidth (b8 ty.letter) = some (width ty) := by cases ty <;> rfl

theorem auxOK_auxRaw (a : Aux) (h : AuxOK a) (hc : AuxCountOK a) :
    auxOK (auxRaw a) = true := by
  obtain ⟨t0, t1, v⟩ := a
  obtain ⟨htag, hv⟩ := h
  obtain ⟨ht0, ht1⟩ := tag_ge32 t0 t1 htag
  cases v with
  | char c => rfl
  | int ty w => exact (auxOK_num (elemWidth_letter ty) ..).trans (by rw [intBytes_length]; exact beq_self_eq_true _)
  | float b => rfl
  | text s =>
    have := zero_not_mem (t0 :: t1 :: 90 :: s) (List.forall_mem_cons.mpr ⟨ht0, List.forall_mem_cons.mpr
      ⟨ht1, List.forall_mem_cons.mpr ⟨by decide, fun c hc => (hv c hc).1⟩⟩⟩)
    show (!List.contains _ 0#8) = true
    rwa [Bool.not_eq_true', List.contains_eq_mem, decide_eq_false_iff_not]
  | hex s =>
    show (b8 t0 != 0#8 && b8 t1 != 0#8) = true
    rw [b8_bne_zero ht0, b8_bne_zero ht1]
    rfl
  | ints ty vs =>
    exact (auxOK_arr (elemWidth_letter ty) _ _ _ _ _ _ (vs.flatMap (intBytes ty))).trans (by
      rw [getU32_put_lt _ hc, Hts.Lemmas.flatMap_length_const _ _ vs (intBytes_length ty)]; exact beq_self_eq_true _)
  | floats bs =>
    show ((bs.flatMap fun b => putU32 b.toNat).length == getU32 _ _ _ _ * 4) = true
    rw [getU32_put_lt _ hc, Hts.Lemmas.flatMap_length_const _ 4 bs fun _ => rfl]
    exact beq_self_eq_true _

theorem wf_toBam (h : Header) (r : Record) (he : Expressible h r) (hb : BamRange h r) :
    WF h.refs.length (toBam r) := by
  obtain ⟨hn, hp, hmp, htl, hcl, hcnt, hsize⟩ := hb
  have refLt : ∀ (x : Option Ref), OptRefIn h x → ∀ i, x.map (·.id.toNat) = some i → i < h.refs.length := by
    intro x hx i hi
    obtain ⟨y, rfl, rfl⟩ := Option.map_eq_some_iff.mp hi
    obtain ⟨p, hp, _⟩ := Option.map_eq_some_iff.mp hx.2
    exact (List.getElem?_eq_some_iff.mp hp).1
  refine { nrefs_ok := hn, name_len := ?_,
           name_nonul := zero_not_mem r.name fun c hc => qnameChar_ge32 (he.name.2.2 c hc),
           ref_ok := refLt r.ref he.ref, mate_ok := refLt r.mateRef he.mateRef, pos_ok := hp, matePos_ok := hmp,
           tempLen_ok := htl, cigar_count := ?_, seq_len := packCodes_length r.seq, qual_len := ?_,
           aux_ok := List.forall_mem_map.mpr fun a ha => auxOK_auxRaw a (he.aux a ha) (hcnt a ha), size_ok := ?_ }
  · simpa [toBam] using ⟨he.name.1, he.name.2.1⟩
  · simpa [toBam] using hcl
  · intro q hq
    obtain ⟨q0, hq0, rfl⟩ := Option.map_eq_some_iff.mp hq
    rw [List.length_map]
    exact (qualOK_some he.qual hq0).1
  · simpa [toBam, packCodes_length] using hsize

end Hts.Model.SamBam
