/-
What NewMerger builds and what reading it to the end returns, in terms of the inputs.
-/
import Hts.Lemmas.MergerCat
namespace Hts.Model.Merger

/-- m.refLinks: nil for a single source -/
def linksOf (linkFn : LinkFn) (inputs : List Input) : Option LinkFn :=
  if inputs.length = 1 then none else some linkFn

/-- the sources with their ids 0, 1, … -/
def srcsOf (inputs : List Input) : List (Nat × Src) := enumFrom 0 (inputs.map (·.src))

/-- m.less: chosen by the sort order of the first header -/
def lessOf (custom : Option Less) : List Input → Option Less
  | [] => none
  | i0 :: _ => chooseLess i0.so custom

/-- all records the inputs deliver, in input order, tagged with their input and re-linked -/
def deliveredBy (linkFn : LinkFn) (inputs : List Input) : List (Nat × Rec) :=
  delivered (linksOf linkFn inputs) (srcsOf inputs)

/-- the laws assumed of the link table (sam.MergeHeaders, property C07): reference `x` of source `i` is
linked to a reference of the merged header with the same name.  For a single source (`links = none`)
the merged header is the source header. -/
def LinksOK (srcRefs : List (List Name)) (merged : List Name) (links : Option LinkFn) : Prop :=
  ∀ (i : Nat) (names : List Name), srcRefs[i]? = some names → ∀ x : Nat, x < names.length →
    (match links with | none => x | some l => l i x) < merged.length ∧
    merged[(match links with | none => x | some l => l i x)]? = names[x]?

theorem enumFrom_eq_zipIdx {α : Type} : ∀ (k : Nat) (l : List α), enumFrom k l = (l.zipIdx k).map fun p => (p.2, p.1)
  | _, [] => rfl
  | k, a :: as => by rw [enumFrom, enumFrom_eq_zipIdx (k + 1) as]; rfl

theorem mem_enumFrom {α : Type} (l : List α) (i : Nat) (a : α) : (i, a) ∈ enumFrom 0 l ↔ l[i]? = some a := by
  rw [enumFrom_eq_zipIdx, List.mem_map]
  constructor
  · rintro ⟨⟨b, j⟩, h, ⟨⟩⟩
    simpa using List.mem_zipIdx_iff_getElem?.1 h
  · exact fun h => ⟨(a, i), List.mem_zipIdx_iff_getElem?.2 (by simpa using h), rfl⟩

theorem srcsOf_nodup (inputs : List Input) : ((srcsOf inputs).map (·.1)).Nodup := by
  rw [srcsOf, enumFrom_eq_zipIdx, List.map_map]
  exact List.zipIdx_map_snd 0 _ ▸ List.nodup_range'

theorem mem_srcsOf (inputs : List Input) (i : Nat) (s : Src) :
    (i, s) ∈ srcsOf inputs ↔ ∃ inp, inputs[i]? = some inp ∧ inp.src = s := by
  rw [srcsOf, mem_enumFrom, List.getElem?_map, Option.map_eq_some_iff]

theorem forall_srcsOf_term (inputs : List Input) (t : Term) :
    (∀ p, p ∈ srcsOf inputs → p.2.term = t) ↔ ∀ inp, inp ∈ inputs → inp.src.term = t := by
  constructor
  · intro h inp hi
    obtain ⟨i, hget⟩ := List.mem_iff_getElem?.1 hi
    exact h (i, inp.src) ((mem_srcsOf inputs i _).2 ⟨inp, hget, rfl⟩)
  · rintro h ⟨i, s⟩ hp
    obtain ⟨inp, hget, rfl⟩ := (mem_srcsOf inputs i s).1 hp
    exact h inp (List.mem_of_getElem? hget)

theorem exists_srcsOf_term {inputs : List Input} {t : Term} (h : ∃ p, p ∈ srcsOf inputs ∧ p.2.term = t) :
    ∃ inp, inp ∈ inputs ∧ inp.src.term = t := by
  obtain ⟨⟨i, s⟩, hp, ht⟩ := h
  obtain ⟨inp, hget, rfl⟩ := (mem_srcsOf inputs i s).1 hp
  exact ⟨inp, List.mem_of_getElem? hget, ht⟩

/-- the Merger NewMerger returns for the link table `links` when nothing fails -/
def mergerOf (custom : Option Less) (links : Option LinkFn) (inputs : List Input) : Merger :=
  ⟨links, match lessOf custom inputs with
    | none => .cat (srcsOf inputs) none
    | some less => .sorted less (initHeads links (srcsOf inputs)).1 (initHeads links (srcsOf inputs)).2⟩

theorem newMerger_cons (custom : Option Less) (merged : Option LinkFn) (i0 : Input) (tl : List Input) :
    newMerger custom merged (i0 :: tl) =
      if ∀ inp, inp ∈ i0 :: tl → inp.so = i0.so then
        if tl = [] then .ok (mergerOf custom none (i0 :: tl))
        else match merged with
          | none => .error .headerMerge
          | some l => .ok (mergerOf custom (some l) (i0 :: tl))
      else .error .sortOrderMismatch := by
  unfold newMerger mergerOf lessOf srcsOf
  simp only
  by_cases h : ∀ inp, inp ∈ i0 :: tl → inp.so = i0.so
  · rw [if_pos h, if_pos (List.all_eq_true.2 fun x hx => beq_iff_eq.2 (h x hx))]
    cases tl with
    | nil => cases chooseLess i0.so custom <;> rfl
    | cons i1 tl =>
      cases merged with
      | none => rfl
      | some l => cases chooseLess i0.so custom <;> rfl
  · rw [if_neg h, if_neg fun ha => h fun x hx => beq_iff_eq.1 (List.all_eq_true.1 ha x hx)]

theorem newMerger_ok {custom : Option Less} {linkFn : LinkFn} {inputs : List Input} {m : Merger}
    (h : newMerger custom (some linkFn) inputs = .ok m) : m = mergerOf custom (linksOf linkFn inputs) inputs := by
  cases inputs with
  | nil => cases h
  | cons i0 tl =>
    rw [newMerger_cons] at h
    split at h
    · cases tl <;> cases h <;> rfl
    · cases h

section
variable (H : Heap) {custom : Option Less} {linkFn : LinkFn} {inputs : List Input} {m : Merger}
  {out : List (Nat × Rec)} {fin : Option Term}

theorem readAll_cat (hm : newMerger custom (some linkFn) inputs = .ok m) (hr : m.readAll H = (out, fin))
    (hl : lessOf custom inputs = none) :
    out = (catSpec (linksOf linkFn inputs) (srcsOf inputs)).1 ∧
      fin = some (catSpec (linksOf linkFn inputs) (srcsOf inputs)).2 := by
  rw [newMerger_ok hm, mergerOf, hl, Merger.readAll, drain_cat H _ _ _ (Nat.lt_succ_self _)] at hr
  cases hr
  exact ⟨rfl, rfl⟩

theorem readAll_sorted {less : Less} (hm : newMerger custom (some linkFn) inputs = .ok m)
    (hr : m.readAll H = (out, fin)) (hl : lessOf custom inputs = some less) :
    ∃ t, fin = some t ∧ Runs H (linksOf linkFn inputs) less (initHeads (linksOf linkFn inputs) (srcsOf inputs)).1
      (initHeads (linksOf linkFn inputs) (srcsOf inputs)).2 out t := by
  rw [newMerger_ok hm, mergerOf, hl, Merger.readAll] at hr
  exact drain_sorted H _ less _ _ _ hr (Nat.lt_succ_self _)

end

end Hts.Model.Merger
