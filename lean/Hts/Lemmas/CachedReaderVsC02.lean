/-
The uncached baseline of C03 (`Hts.Model.CachedReader` with `cache = none`) and the reader model
of C02 (`Hts.Model.Bgzf.Reader`, which C02 proves refines the flat-file specification) are two
independently written models of the same Go code.  Hts.Lemmas.CachedReaderC02Sim relates them for every history whose
seeks go to a member start plus an offset inside the member, to the end of the file, or to an offset before the end that
is no member start.  This file states their agreement on ALL histories of length 3 over an alphabet of Read / ReadByte /
Seek (targets of each of these kinds) / Blocked on two files (three data members without EOF marker; data, empty
member, data, EOF marker): bytes, error class and LastChunk of every call coincide.  It is an instance of the general
simulation `C02.step_sim` (`agreeOver_of_followed`, for every length): the kernel evaluates only that the simulation
follows every call of the alphabet (`C02.followed`) and that the file is the C03 form of a well-formed C02 file.
-/
import Hts.Lemmas.CachedReaderC02Sim
namespace Hts.Model.CachedReader.VsC02
open Hts.Model.Cache Hts.Spec.CacheContract Hts.Model.CachedReader

/-- the uncached run of the C03 model from `NewReader` -/
def outputs03 (f : File) (ops : List (Op LCache)) : Except Fault (List Out) :=
  match newReader lruOps Cfg.repaired f with
  | .error e => .error e
  | .ok (r, e) =>
    if e ≠ .none then .ok []
    else match run Cfg.repaired lruOps f r ops with
      | .error e => .error e
      | .ok (_, outs) => .ok outs

/-- the same text as `outputsOf Cfg.repaired lruOps`, but not by `rfl` (each definition has its own matcher) -/
theorem outputs03_eq (f : File) (ops : List (Op LCache)) : outputs03 f ops = outputsOf Cfg.repaired lruOps f ops := by
  unfold outputs03 outputsOf
  cases newReader lruOps Cfg.repaired f with
  | error e => rfl
  | ok v =>
    obtain ⟨r, e⟩ := v
    dsimp only
    split
    · rfl
    · cases run Cfg.repaired lruOps f r ops <;> rfl

def toB (f : File) : Hts.Model.Bgzf.File := f.map (fun m => ⟨m.data.map UInt8.ofNat, m.size.toNat⟩)

inductive UOp | read (n : Nat) | readByte | seek (file blk : Nat) | setBlocked (b : Bool)
deriving DecidableEq, Repr

def UOp.c03 : UOp → Op LCache
  | .read n => .read n | .readByte => .readByte | .seek f b => .seek f b | .setBlocked b => .setBlocked b
def UOp.c02 : UOp → Hts.Spec.Flat.Op
  | .read n => .read n | .readByte => .readByte | .seek f b => .seek ⟨f, b⟩ | .setBlocked b => .setBlocked b

abbrev Obs := List Nat × ErrClass × (Int × Nat) × (Int × Nat)

def obs03 (o : Out) : Obs := (o.bytes, o.err, o.chunk.1, o.chunk.2)

def cls : Option Hts.Model.Bgzf.Err → Option ErrClass
  | none => some .ok | some .eof => some .eof | some .other => some .err | some .unexpectedEOF => some .err
  | _ => none

def obs02 (isByte : Bool) (p : Hts.Model.Bgzf.Out × Hts.Model.Bgzf.Reader) : Option Obs :=
  (cls p.1.err).map (fun e =>
    ((if isByte && e != .ok then [] else p.1.bytes.map UInt8.toNat), e,
      ((p.2.lastChunk.bgn.file : Int), p.2.lastChunk.bgn.block), ((p.2.lastChunk.fin.file : Int), p.2.lastChunk.fin.block)))

def run03 (f : File) (ops : List UOp) : Option (List Obs) :=
  match outputs03 f (ops.map UOp.c03) with
  | .ok outs => some (outs.map obs03)
  | .error _ => none

def run02 (f : File) (ops : List UOp) : Option (List Obs) :=
  match Hts.Model.Bgzf.Reader.new (toB f) with
  | .ok r => ((r.run (ops.map UOp.c02)).zip ops).mapM (fun (p, op) => obs02 (op == .readByte) p)
  | .error _ => none

def alphabet : List UOp :=
  [.read 1, .read 4, .read 7, .readByte, .seek 0 0, .seek 35 2, .seek 70 0, .seek 70 4, .seek 106 0, .seek 10 0, .setBlocked true, .setBlocked false]


def fileA : File := [⟨0, 35, [65, 65, 65, 65, 65, 65]⟩, ⟨35, 35, [66, 66, 66, 66, 66, 66]⟩, ⟨70, 36, [67, 67, 67, 67]⟩]
def fileB : File := [⟨0, 30, [1, 2]⟩, ⟨30, 28, []⟩, ⟨58, 30, [3, 4, 5]⟩, ⟨88, 28, []⟩]

def alphabetB : List UOp :=
  [.read 1, .read 4, .readByte, .seek 0 1, .seek 30 0, .seek 58 2, .seek 88 0, .seek 116 0, .seek 5 0,
   .setBlocked true, .setBlocked false]

def histsOver (al : List UOp) : Nat → List (List UOp)
  | 0 => [[]]
  | n + 1 => (histsOver al n).flatMap (fun h => al.map (fun a => a :: h))

def agreeOver (al : List UOp) (f : File) (n : Nat) : Bool :=
  (histsOver al n).all (fun h => run03 f h == run02 f h && (run03 f h).isSome)

def obs02From (b : Hts.Model.Bgzf.Reader) (ops : List UOp) : Option (List Obs) :=
  ((b.run (ops.map UOp.c02)).zip ops).mapM (fun (p, op) => obs02 (op == .readByte) p)

theorem obs02From_cons (b : Hts.Model.Bgzf.Reader) (a : UOp) (h : List UOp) :
    obs02From b (a :: h) = (obs02 (a == .readByte) ((b.step a.c02).2, (b.step a.c02).1)).bind fun x =>
      (obs02From (b.step a.c02).1 h).bind fun xs => some (x :: xs) := by
  simp only [obs02From, List.map_cons, Hts.Model.Bgzf.Reader.run, List.zip_cons_cons, List.mapM_cons]
  rfl

section Followed
open Hts.Model.CachedReader.C02 Hts.Model.Bgzf

theorem flatOp_c03 (a : UOp) : flatOp a.c03 = some a.c02 := by
  cases a <;> rfl

theorem plain_c03 (a : UOp) : Plain (σ := LCache) a.c03 := by
  cases a <;> first | trivial | exact Int.natCast_nonneg _

theorem obs02_outOf (a : UOp) (p : Hts.Model.Bgzf.Reader × Hts.Model.Bgzf.Out)
    (h : p.2.err = none ∨ p.2.err = some .eof ∨ p.2.err = some .other) :
    obs02 (a == .readByte) (p.2, p.1) = some (obs03 (outOf a.c02 p)) := by
  have hc : cls p.2.err = some (clsB p.2.err) ∧ (clsB p.2.err != .ok) = p.2.err.isSome := by
    rcases h with h | h | h <;> rw [h] <;> exact ⟨rfl, rfl⟩
  unfold obs02
  rw [hc.1, Option.map_some, hc.2]
  cases a <;> rfl

theorem obs02From_simOuts {F : Hts.Model.Bgzf.File} (hwf : WF F) : ∀ (h : List UOp) (C : Reader LCache)
    (B : Hts.Model.Bgzf.Reader), St F C B → (∀ a ∈ h, followed F a.c02 = true) →
    obs02From B h = some ((simOuts B (h.map UOp.c03)).map obs03)
  | [], _, _, _, _ => rfl
  | a :: h, C, B, st, hv => by
    obtain ⟨C', -, st', herr⟩ := C02.step_sim (cfg := Cfg.repaired) rfl lruOps hwf st a.c03 a.c02 (flatOp_c03 a)
      (plain_c03 a) (hv a (by simp))
    rw [obs02From_cons, obs02_outOf a _ herr, obs02From_simOuts hwf h C' _ st' fun x hx => hv x (by simp [hx]),
      List.map_cons, simOuts, flatOp_c03]
    rfl

theorem mem_histsOver {al : List UOp} : ∀ {n : Nat} {h : List UOp}, h ∈ histsOver al n → ∀ a ∈ h, a ∈ al
  | 0, h, hm, a, ha => by
    obtain rfl : h = [] := by simpa [histsOver] using hm
    cases ha
  | n + 1, h, hm, a, ha => by
    obtain ⟨h', hm', b, hb, rfl⟩ : ∃ h' ∈ histsOver al n, ∃ b ∈ al, b :: h' = h := by
      simpa [histsOver] using hm
    rcases List.mem_cons.1 ha with rfl | ha
    · exact hb
    · exact mem_histsOver hm' a ha

theorem filterMap_flatOp_c03 (h : List UOp) : (h.map UOp.c03).filterMap (flatOp (σ := LCache)) = h.map UOp.c02 := by
  induction h with
  | nil => rfl
  | cons a h ih => rw [List.map_cons, List.filterMap_cons_some (flatOp_c03 a), ih, List.map_cons]

/-- `hwf` is `Bgzf.WF (toB f)` written out, so that `by decide` finds the instance at the two uses below -/
theorem agreeOver_of_followed {al : List UOp} {f : File} (hf : ofB (toB f) = f)
    (hwf : ∀ m ∈ toB f, 0 < m.csize ∧ m.data.length < 65536)
    (hnew : (Hts.Model.Bgzf.Reader.new (toB f)).toBool = true) (hal : ∀ a ∈ al, followed (toB f) a.c02 = true)
    (n : Nat) : agreeOver al f n = true := by
  cases h2 : Hts.Model.Bgzf.Reader.new (toB f) with
  | error e => rw [h2] at hnew; cases hnew
  | ok b =>
    refine List.all_eq_true.2 fun hist hm => ?_
    have hv : ∀ a ∈ hist, followed (toB f) a.c02 = true := fun a ha => hal a (mem_histsOver hm a ha)
    have h3 := C02.outputsOf_followed (cfg := Cfg.repaired) rfl lruOps hwf h2 (hist.map UOp.c03)
      (fun op hop => by obtain ⟨a, -, rfl⟩ := List.mem_map.1 hop; exact plain_c03 a)
      (by rw [filterMap_flatOp_c03]; intro fop hfop; obtain ⟨a, ha, rfl⟩ := List.mem_map.1 hfop; exact hv a ha)
    rw [hf] at h3
    obtain ⟨C0, -, st⟩ := C02.newReader_sim (cfg := Cfg.repaired) rfl lruOps hwf h2
    have e2 : run02 f hist = obs02From b hist := by simp only [run02, h2]; rfl
    rw [e2, run03, outputs03_eq, h3, obs02From_simOuts hwf hist C0 b st hv]
    simp only [BEq.rfl, Option.isSome_some, Bool.and_self]

end Followed

theorem agree_fileA : agreeOver alphabet fileA 3 = true :=
  agreeOver_of_followed (by decide) (by decide) (by decide) (by decide) 3
theorem agree_fileB : agreeOver alphabetB fileB 3 = true :=
  agreeOver_of_followed (by decide) (by decide) (by decide) (by decide) 3

end Hts.Model.CachedReader.VsC02
