/-
Model of bgzf/index/strategy.go (Identity, Adjacent, Squash, CompressorStrategy).  Core Lean only.

A virtual offset is `(file, block)` with `block < 2^16`; `vOff` is Go's `File<<16 | Block`, which for
`0 ≤ File < 2^47` is `File * 65536 + Block` (tie: Hts.Tie.C17).  The Go loops walk the slice left to right,
keep the chunk at index `c-1` as the merged-so-far left neighbour and delete it when it is merged into
`chunks[c]`; `mergeLoop` below is that loop with the left neighbour as an explicit argument.
-/
namespace Hts.Model.Merge

structure Offset where
  file : Int
  block : Nat
deriving DecidableEq, Repr

structure Chunk where
  b : Offset
  e : Offset
deriving DecidableEq, Repr

def vOff (o : Offset) : Int := o.file * 65536 + o.block

/-- `rightChunk.Begin = leftChunk.Begin; if vOffset(left.End) > vOffset(right.End) { right.End = left.End }` -/
def mergeInto (l r : Chunk) : Chunk :=
  { b := l.b, e := if vOff l.e > vOff r.e then l.e else r.e }

/-- the common loop of `adjacent` and `CompressorStrategy`: `l` is `chunks[c-1]`, the list is `chunks[c:]` -/
def mergeLoop (close : Chunk → Chunk → Bool) : Chunk → List Chunk → List Chunk
  | l, [] => [l]
  | l, r :: rs => if close l r then mergeLoop close (mergeInto l r) rs else l :: mergeLoop close r rs

def adjClose (l r : Chunk) : Bool := decide (vOff l.e ≥ vOff r.b)

/-- Go's `int64` arithmetic: a result reduced to `[-2^63, 2^63)` -/
def wrap64 (x : Int) : Int := (x + 2 ^ 63) % 2 ^ 64 - 2 ^ 63

/-- `rightChunk.Begin.File-leftChunk.End.File <= near`, with the wrap-around of Go's `int64` difference
(no wrap for file offsets in `[0, 2^63)`, whatever the threshold) -/
def nearClose (near : Int) (l r : Chunk) : Bool := decide (wrap64 (r.b.file - l.e.file) ≤ near)

/-- the comparison the documentation of `CompressorStrategy` states: distance between block starts at most `near` -/
def nearCloseExact (near : Int) (l r : Chunk) : Bool := decide (l.e.file + near ≥ r.b.file)

def identity (cs : List Chunk) : List Chunk := cs

def adjacent : List Chunk → List Chunk
  | [] => []
  | c :: cs => mergeLoop adjClose c cs

def compressor (near : Int) : List Chunk → List Chunk
  | [] => []
  | c :: cs => mergeLoop (nearClose near) c cs

/-- running maximum of `End` by virtual offset, keeping the earlier one on ties (strict `>` in the code) -/
def maxEnd (right : Offset) : List Chunk → Offset
  | [] => right
  | c :: cs => maxEnd (if vOff c.e > vOff right then c.e else right) cs

def squash : List Chunk → List Chunk
  | [] => []
  | c :: cs => [{ b := c.b, e := maxEnd c.e cs }]

/-- position `p` (a virtual offset as an integer) lies in the half-open chunk -/
def covers1 (c : Chunk) (p : Int) : Prop := vOff c.b ≤ p ∧ p < vOff c.e

def covers (cs : List Chunk) (p : Int) : Prop := ∃ c, c ∈ cs ∧ covers1 c p

/-- sorted by begin offset (non-strict) -/
def SortedB : List Chunk → Prop
  | [] => True
  | [_] => True
  | a :: b :: rest => vOff a.b ≤ vOff b.b ∧ SortedB (b :: rest)

end Hts.Model.Merge
