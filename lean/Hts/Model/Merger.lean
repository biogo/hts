/-
Model of bam/merger.go: NewMerger, Read, cat, nextBySortOrder, reassignReference and the heap order
bySortOrderAndID — as repaired by fixes/C18-1 … C18-6.  Core Lean only.

What is modelled and how
* A source `bam.Reader` is the list of records it delivers next (`rest`), followed by the way that run ends
  (`term`: `Term.eof` or `Term.err e`).  io.EOF is returned for ever.  An error is either sticky (a
  bgzf.Reader keeps its error: `later = []`, the same error for ever) or NOT sticky (an error of decoding one
  record — reference id out of range, bad name length, bad aux — consumes the record and the next Read
  returns the following one: `later = (rest', term') :: …`, the runs that follow).  A source that fails at
  record n is `rest = the first n records`, `term = err e`.  `bam.Reader.Read` returns a record or an error,
  never both and never neither: `ReadRes`; `stop` carries the source as it is after the call.
  The repaired Merger never reads a source again after that source returned an error (fixes/C18-3: dropped
  from the heap; fixes/C18-6: concatenation releases its sources), which is why only `rest` and `term`
  of a source appear in the theorems.
* A record is the fields the merger and its comparison functions look at (`name`, `ref`, `pos`, `mate`,
  `matePos`) plus `uid` standing for everything else.  `ref`/`mate` are indices into the reference list
  of the header the record is linked to (`none` = nil pointer = unplaced / no mate reference).
* `sam.MergeHeaders` belongs to property C07.  Here its result is given data: `LinkFn`, with
  `links i x` = index in the merged header of reference `x` of source `i` (m.refLinks[i][x].ID()).
  For a single source MergeHeaders returns the source header and nil links and reassignReference does
  nothing: `links = none`.
* `container/heap` is the parameter `Heap`: `pop` returns some element and the remaining elements
  (`pop_perm`), and for a strict weak order the element returned is minimal (`pop_min`).  The slice
  order inside m.readers is not observable through these laws, so the heap is a list up to permutation;
  `heap.Push` is `cons`, `heap.Init` is the identity.
* the source id returned with each record by `Merger.read` is ghost information (Go's Read does not
  return it); it is what per-input statements are about.
-/
namespace Hts.Model.Merger

/-- a Go string as its bytes -/
abbrev Name := List Nat

structure Rec where
  name : Name
  ref : Option Nat
  pos : Int
  mate : Option Nat
  matePos : Int
  uid : Nat
deriving DecidableEq, Repr

/-- how a stream of records ends: io.EOF or another error (identified by a number) -/
inductive Term
  | eof
  | err (e : Nat)
deriving DecidableEq, Repr

structure Src where
  rest : List Rec
  term : Term
  /-- what the reader delivers after a non-sticky error `term`: the following runs -/
  later : List (List Rec × Term) := []
deriving Repr

inductive ReadRes
  | got (r : Rec) (s : Src)
  | stop (t : Term) (s : Src)

/-- the source after it has returned `term`: unchanged for io.EOF and for a sticky error, the next run
after a record-level error -/
def Src.afterStop (s : Src) : Src :=
  match s.term, s.later with
  | .err _, (rs, t) :: more => { rest := rs, term := t, later := more }
  | _, _ => s

/-- `(*bam.Reader).Read` -/
def Src.read (s : Src) : ReadRes :=
  match s.rest with
  | r :: rs => .got r { s with rest := rs }
  | [] => .stop s.term s.afterStop

/-! ### comparison functions -/

abbrev Less := Rec → Rec → Bool

/-- Go's `<` on strings: lexicographic on bytes, a proper prefix first -/
def bytesLt : List Nat → List Nat → Bool
  | _, [] => false
  | [], _ :: _ => true
  | a :: as, b :: bs => decide (a < b) || (a == b && bytesLt as bs)

/-- `(*sam.Record).LessByName` -/
def lessByName : Less := fun a b => bytesLt a.name b.name

/-- `lessByCoordinate` of bam/merger.go (fixes/C18-5): by reference ID, then position; `RefID() < 0`
(nil reference) sorts last -/
def lessByCoordinate : Less := fun a b =>
  match a.ref, b.ref with
  | none, _ => false
  | some _, none => true
  | some x, some y => decide (x < y) || (x == y && decide (a.pos < b.pos))

inductive SortOrder
  | unknown
  | unsorted
  | queryname
  | coordinate
deriving DecidableEq, Repr

/-- the `switch m.h.SortOrder` of NewMerger; `none` = m.less stays nil = concatenation -/
def chooseLess (so : SortOrder) (custom : Option Less) : Option Less :=
  match so with
  | .unknown => custom
  | .unsorted => none
  | .queryname => some lessByName
  | .coordinate => some lessByCoordinate

/-- a strict weak order given as a Boolean function -/
structure StrictWeak {α : Type} (lt : α → α → Bool) : Prop where
  irrefl : ∀ a, lt a a = false
  trans : ∀ a b c, lt a b = true → lt b c = true → lt a c = true
  negTrans : ∀ a b c, lt a b = false → lt b c = false → lt a c = false

/-! ### re-linking -/

abbrev LinkFn := Nat → Nat → Nat

/-- `reassignReference` (fixes/C18-1: the mate reference too) -/
def relink (links : Option LinkFn) (id : Nat) (r : Rec) : Rec :=
  match links with
  | none => r
  | some l => { r with ref := r.ref.map (l id), mate := r.mate.map (l id) }

/-! ### the heap of sources that have a head -/

/-- a `reader` that is in the heap: its head record (already re-linked) and the rest of its source -/
structure Live where
  id : Nat
  head : Rec
  src : Src
deriving Repr

/-- `(*bySortOrderAndID).Less` -/
def heapLess (less : Less) (a b : Live) : Bool :=
  less a.head b.head || (decide (a.id < b.id) && !less b.head a.head)

/-- `container/heap` over a slice of readers, up to the arrangement of the slice -/
structure Heap where
  pop : (Live → Live → Bool) → List Live → Option (Live × List Live)
  pop_nil : ∀ lt, pop lt [] = none
  pop_perm : ∀ lt l, l ≠ [] → ∃ x rest, pop lt l = some (x, rest) ∧ (x :: rest).Perm l
  pop_min : ∀ lt l x rest, StrictWeak lt → pop lt l = some (x, rest) → ∀ y, y ∈ rest → lt y x = false

/-! ### the Merger -/

inductive Mode
  /-- m.less == nil: m.readers, in order, and m.err (set, with m.readers = nil, by the first error) -/
  | cat (readers : List (Nat × Src)) (err : Option Nat)
  /-- m.less != nil: m.less, the heap m.readers, m.err -/
  | sorted (less : Less) (heap : List Live) (err : Option Nat)

structure Merger where
  /-- m.refLinks (nil for a single source) -/
  links : Option LinkFn
  mode : Mode

structure Input where
  so : SortOrder
  src : Src

inductive NewErr
  | noSource
  | sortOrderMismatch
  /-- sam.MergeHeaders returned an error (e.g. one reference name with two lengths) -/
  | headerMerge
deriving DecidableEq, Repr

def enumFrom {α : Type} : Nat → List α → List (Nat × α)
  | _, [] => []
  | i, a :: as => (i, a) :: enumFrom (i + 1) as

/-- the loop of NewMerger that reads the first record of every source (re-linked at once, fixes/C18-5),
followed by the filter in front of heap.Init (fixes/C18-2, C18-3): sources without a first record are
left out, the first error other than io.EOF is kept -/
def initHeads (links : Option LinkFn) : List (Nat × Src) → List Live × Option Nat
  | [] => ([], none)
  | (i, s) :: rest =>
    let (ls, e) := initHeads links rest
    match s.read with
    | .got r s' => ({ id := i, head := relink links i r, src := s' } :: ls, e)
    | .stop .eof _ => (ls, e)
    | .stop (.err x) _ => (ls, some x)

/-- `NewMerger(less, src...)`.  `merged` is what sam.MergeHeaders (property C07) answered for the headers:
`none` = an error, `some linkFn` = the link table.  For a single source MergeHeaders returns the source's
header and nil links without looking at anything, so `merged` is not consulted. -/
def newMerger (custom : Option Less) (merged : Option LinkFn) (inputs : List Input) : Except NewErr Merger :=
  match inputs with
  | [] => .error .noSource
  | i0 :: _ =>
    if inputs.all (fun i => i.so == i0.so) then
      match (if inputs.length = 1 then some none else merged.map some) with
      | none => .error .headerMerge
      | some links =>
        let srcs := enumFrom 0 (inputs.map (·.src))
        match chooseLess i0.so custom with
        | none => .ok { links := links, mode := .cat srcs none }
        | some less =>
          let (heap, err) := initHeads links srcs
          .ok { links := links, mode := .sorted less heap err }
    else .error .sortOrderMismatch

/-- what one `Read` returns: a record (with the ghost id of its source) or the final error -/
inductive Out
  | got (id : Nat) (r : Rec)
  | fin (t : Term)

def errTerm : Option Nat → Term
  | none => .eof
  | some e => .err e

/-- `Read` with `m.less == nil`: the answer without sources (`m.err` or io.EOF), else `cat` (fixes/C18-4,
C18-6): an exhausted source is dropped and the next one is read; any other error is kept in `m.err`, the
sources are released and the error is returned -/
def catRead (links : Option LinkFn) : List (Nat × Src) → Option Nat → Out × (List (Nat × Src) × Option Nat)
  | [], err => (.fin (errTerm err), ([], err))
  | (id, s) :: rest, err =>
    match s.read with
    | .got r s' => (.got id (relink links id r), ((id, s') :: rest, err))
    | .stop .eof _ => catRead links rest err
    | .stop (.err e) _ => (.fin (.err e), ([], some e))

/-- `Read` with `m.less != nil`: the empty-heap answer, else `nextBySortOrder` -/
def sortedRead (H : Heap) (links : Option LinkFn) (less : Less) (heap : List Live) (err : Option Nat) :
    Out × (List Live × Option Nat) :=
  match H.pop (heapLess less) heap with
  | none => (.fin (errTerm err), (heap, err))
  | some (x, rest) =>
    match x.src.read with
    | .got r s' => (.got x.id x.head, ({ x with head := relink links x.id r, src := s' } :: rest, err))
    | .stop .eof _ => (.got x.id x.head, (rest, err))
    | .stop (.err e) _ => (.got x.id x.head, (rest, match err with | none => some e | some _ => err))

/-- `(*Merger).Read` -/
def Merger.read (H : Heap) (m : Merger) : Out × Merger :=
  match m.mode with
  | .cat rs err =>
    let (o, st) := catRead m.links rs err
    (o, { m with mode := .cat st.1 st.2 })
  | .sorted less heap err =>
    let (o, st) := sortedRead H m.links less heap err
    (o, { m with mode := .sorted less st.1 st.2 })

/-- call `Read` until it returns an error, at most `n` times: the records and the final error -/
def drain (H : Heap) : Nat → Merger → List (Nat × Rec) × Option Term
  | 0, _ => ([], none)
  | n + 1, m =>
    match m.read H with
    | (.got id r, m') =>
      let (o, f) := drain H n m'
      ((id, r) :: o, f)
    | (.fin t, _) => ([], some t)

/-- number of records the merger can still return -/
def Merger.size (m : Merger) : Nat :=
  match m.mode with
  | .cat rs _ => (rs.map fun p => p.2.rest.length).sum
  | .sorted _ heap _ => (heap.map fun x => 1 + x.src.rest.length).sum

/-- read the merger to its end (`size + 1` calls suffice: Hts.Props.C18.merge_terminates) -/
def Merger.readAll (H : Heap) (m : Merger) : List (Nat × Rec) × Option Term :=
  drain H (m.size + 1) m

/-- the merger after calling `Read` until it returned an error, at most `n` times -/
def Merger.advance (H : Heap) : Nat → Merger → Merger
  | 0, m => m
  | n + 1, m =>
    match m.read H with
    | (.got _ _, m') => m'.advance H n
    | (.fin _, m') => m'

/-! ### an executable heap (used by the driver and the non-vacuity examples) -/

/-- a minimal element (the left-most one) and the other elements -/
def popMin {α : Type} (lt : α → α → Bool) : List α → Option (α × List α)
  | [] => none
  | a :: as =>
    match popMin lt as with
    | none => some (a, [])
    | some (b, rest) => if lt b a then some (b, a :: rest) else some (a, b :: rest)

theorem popMin_perm {α : Type} (lt : α → α → Bool) :
    ∀ l : List α, l ≠ [] → ∃ x rest, popMin lt l = some (x, rest) ∧ (x :: rest).Perm l
  | [], h => absurd rfl h
  | [a], _ => ⟨a, [], rfl, .refl _⟩
  | a :: a' :: as, _ => by
    obtain ⟨b, rest, hb, hp⟩ := popMin_perm lt (a' :: as) (List.cons_ne_nil _ _)
    rw [popMin, hb]
    simp only
    cases lt b a
    · exact ⟨a, b :: rest, rfl, hp.cons a⟩
    · exact ⟨b, a :: rest, rfl, (List.Perm.swap a b rest).trans (hp.cons a)⟩

theorem popMin_min {α : Type} (lt : α → α → Bool) (sw : StrictWeak lt) :
    ∀ (l : List α) (x : α) (rest : List α), popMin lt l = some (x, rest) → ∀ y, y ∈ rest → lt y x = false
  | [], _, _, h => nomatch h
  | a :: as, x, rest, h => by
    rw [popMin] at h
    cases hp : popMin lt as with
    | none => rw [hp] at h; cases h; nofun
    | some br =>
      obtain ⟨b, rest'⟩ := br
      have ih := popMin_min lt sw as b rest' hp
      rw [hp] at h
      simp only at h
      cases hba : lt b a with
      | false =>
        rw [hba] at h
        cases h
        exact List.forall_mem_cons.2 ⟨hba, fun y hy => sw.negTrans _ _ _ (ih y hy) hba⟩
      | true =>
        rw [hba] at h
        cases h
        refine List.forall_mem_cons.2 ⟨?_, ih⟩
        cases hab : lt a x with
        | false => rfl
        | true => have := sw.trans _ _ _ hab hba; rw [sw.irrefl] at this; cases this

/-- the executable instance of the heap parameter -/
def scanHeap : Heap where
  pop := fun lt l => popMin lt l
  pop_nil := fun _ => rfl
  pop_perm := fun lt l h => popMin_perm lt l h
  pop_min := fun lt l x rest sw h => popMin_min lt sw l x rest h

end Hts.Model.Merger
