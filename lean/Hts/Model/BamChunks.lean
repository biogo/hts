/-
Executable model of the record framing of `bam.Reader` over the bgzf reader model (bam/reader.go):
`newBuffer`'s chunk transaction, `SetChunk`, the limit test in `Read`, `Iterator`.  Core Lean only.

A record is its body: the bytes after the 4-byte little-endian `block_size`.  Decoding the body into a
`sam.Record` (C05) does not touch the reader and is not modelled.  The header decoder
(`sam.Header.DecodeBinary`) is a client that performs a sequence of reads whose sizes depend on the
header's content; it is modelled as that list of sizes.
-/
import Hts.Model.BgzfReader
namespace Hts.Model.Bgzf
open Hts.Spec.Flat (Offset Chunk vOffset)

/-- `io.ReadFull(bg, p)` with `len(p) = n` over `Reader.read`.  `io.ReadAtLeast` loops while it has
fewer than `n` bytes and no error; `Reader.read` never returns a short count with a nil error
(`sim_read` with `Props.C02.flat_short_only_with_eof`), so one call is all the loop does and `Err.short` marks
the case that does not arise. -/
def readFull (r : Reader) (n : Nat) : Reader × List UInt8 × Option Err :=
  if n = 0 then (r, [], none)
  else
    match r.read n with
    | (r', out, e) =>
      if n ≤ out.length then (r', out, none)
      else match e with
        | none => (r', out, some .short)
        | some .eof => (r', out, if out.length = 0 then some .eof else some .unexpectedEOF)
        | some e => (r', out, some e)

/-- little-endian `int32` of four bytes -/
def leInt32 (bs : List UInt8) : Int :=
  let u := (bs.getD 0 0).toNat + 256 * (bs.getD 1 0).toNat + 65536 * (bs.getD 2 0).toNat
    + 16777216 * (bs.getD 3 0).toNat
  if u < 2147483648 then (u : Int) else (u : Int) - 4294967296

structure BamReader where
  r : Reader
  c : Option Chunk
  lastChunk : Chunk

namespace BamReader

/-- The header decoder's reads (`binary.Read` = `io.ReadFull`; the text and the names are plain `Read`
calls, which the code requires to be complete), then `br.lastChunk.End = br.r.LastChunk().End`. -/
def consumeHeader (r : Reader) : List Nat → Reader × Option Err
  | [] => (r, none)
  | n :: ns =>
    match r.read n with
    | (r', out, e) =>
      if out.length ≠ n then (r', some (e.getD .other))
      else match e with
        | some e => (r', some e)
        | none => consumeHeader r' ns

def new (f : File) (hdrReads : List Nat) : Except Err BamReader :=
  match Reader.new f with
  | .error e => .error e
  | .ok r =>
    match consumeHeader r hdrReads with
    | (_, some e) => .error e
    | (r', none) => .ok ⟨r', none, ⟨⟨0, 0⟩, r'.lastChunk.fin⟩⟩

/-- `newBuffer`: `io.ReadFull` of the size field, `tx := br.r.Begin()` (the `Begin` of that read),
`io.ReadFull` of the body; on every return path `br.lastChunk = tx.End()`. -/
def newBuffer (br : BamReader) : BamReader × Except Err (List UInt8) :=
  match readFull br.r 4 with
  | (r1, szb, e1) =>
    let bgn := r1.lastChunk.bgn
    match e1 with
    | some e => ({ br with r := r1, lastChunk := ⟨bgn, r1.lastChunk.fin⟩ }, .error e)
    | none =>
      let size := leInt32 szb
      if size = 0 then ({ br with r := r1, lastChunk := ⟨bgn, r1.lastChunk.fin⟩ }, .error .eof)
      else if size < 0 then ({ br with r := r1, lastChunk := ⟨bgn, r1.lastChunk.fin⟩ }, .error .other)
      else
        match readFull r1 size.toNat with
        | (r2, body, e2) =>
          let br' := { br with r := r2, lastChunk := ⟨bgn, r2.lastChunk.fin⟩ }
          match e2 with
          | some e =>
            -- `if err == io.EOF { err = io.ErrUnexpectedEOF }`: the size was read but the record is missing
            (br', .error (if e = .eof then .unexpectedEOF else e))
          | none => (br', .ok body)

/-- `Reader.Read`: the chunk limit test, then the record. -/
def read (br : BamReader) : BamReader × Except Err (List UInt8) :=
  match br.c with
  | some c =>
    if vOffset c.fin ≤ vOffset br.r.lastChunk.fin then (br, .error .eof) else br.newBuffer
  | none => br.newBuffer

/-- `SetChunk(c)` -/
def setChunk (br : BamReader) : Option Chunk → BamReader × Option Err
  | none => ({ br with c := none }, none)
  | some c =>
    match br.r.seek c.bgn with
    | (r', some e) => ({ br with r := r' }, some e)
    | (r', none) => ({ br with r := r', c := some c }, none)

/-- `Reader.Seek(off)`: `return br.r.Seek(off)` (neither `br.c` nor `br.lastChunk` changes). -/
def seek (br : BamReader) (off : Offset) : BamReader × Option Err :=
  ({ br with r := (br.r.seek off).1 }, (br.r.seek off).2)

end BamReader

/-- `bam.Iterator` -/
structure Iterator where
  br : BamReader
  chunks : List Chunk
  err : Option Err

namespace Iterator

def new (br : BamReader) : List Chunk → Except Err Iterator
  | [] => .ok ⟨br, [], none⟩
  | c :: rest =>
    match br.setChunk (some c) with
    | (_, some e) => .error e
    | (br', none) => .ok ⟨br', rest, none⟩

/-- `Next` after the `i.err != nil` test: read; at `io.EOF` with chunks left, `SetChunk` the next one and
recurse (`return i.Next()`, which starts with the `i.err` test again). -/
def nextAux : BamReader → List Chunk → Iterator × Option (List UInt8)
  | br, [] =>
    match br.read with
    | (br', .ok rec) => (⟨br', [], none⟩, some rec)
    | (br', .error e) => (⟨br', [], some e⟩, none)
  | br, c :: rest =>
    match br.read with
    | (br', .ok rec) => (⟨br', c :: rest, none⟩, some rec)
    | (br', .error e) =>
      if e = .eof then
        match br'.setChunk (some c) with
        | (br'', some e') => (⟨br'', rest, some e'⟩, none)
        | (br'', none) => nextAux br'' rest
      else (⟨br', c :: rest, some e⟩, none)

/-- `Next`: `some rec` when it returns true. -/
def next (it : Iterator) : Iterator × Option (List UInt8) :=
  match it.err with
  | some _ => (it, none)
  | none => nextAux it.br it.chunks

/-- `Error()` -/
def error (it : Iterator) : Option Err :=
  match it.err with
  | some .eof => none
  | e => e

/-- `Close()`: `SetChunk(nil)` -/
def close (it : Iterator) : BamReader × Option Err :=
  ((it.br.setChunk none).1, it.error)

/-- The client loop `for it.Next() { use(it.Record()) }`, at most `k` rounds: the records seen. -/
def collect : Nat → Iterator → Iterator × List (List UInt8)
  | 0, it => (it, [])
  | k + 1, it =>
    match it.next with
    | (it', some rec) => let (it'', rs) := collect k it'; (it'', rec :: rs)
    | (it', none) => (it', [])

end Iterator

/-- The client loop `for { rec, err := br.Read(); if err != nil { break }; note(rec, br.LastChunk()) }`,
at most `k` rounds: the records with their chunks, and the error that ended the loop (if it ended). -/
def BamReader.readN : Nat → BamReader → BamReader × List (List UInt8 × Chunk) × Option Err
  | 0, br => (br, [], none)
  | k + 1, br =>
    match br.read with
    | (br', .ok body) => let (br'', rs, e) := readN k br'; (br'', (body, br'.lastChunk) :: rs, e)
    | (br', .error e) => (br', [], some e)

/-- `block_size` as the writer stores it. -/
def le32 (n : Nat) : List UInt8 :=
  [UInt8.ofNat (n % 256), UInt8.ofNat (n / 256 % 256), UInt8.ofNat (n / 65536 % 256),
   UInt8.ofNat (n / 16777216 % 256)]

/-- One record in the uncompressed stream. -/
def frame (body : List UInt8) : List UInt8 := le32 body.length ++ body

def frames : List (List UInt8) → List UInt8
  | [] => []
  | b :: bs => frame b ++ frames bs

end Hts.Model.Bgzf
