/-
Executable model of package fai (fai/fai.go, fai/file.go) — core Lean only.

  * `newIndex`   — `NewIndex`: the bufio.Scanner line loop (`takeLine`/`scan`) with the offset / width
                   bookkeeping of every branch (`step`), including its four error cases;
  * `Record.position`, `Record.endOfLineOffset`, `Record.Position` (the exported, panicking one);
  * `seqRange`, `seqWhole`, `Seq.read`, `readCalls` — `File.SeqRange`, `File.Seq`, `Seq.Read` over a
                   byte-addressed file (`bytes.Reader.ReadAt` semantics) for any buffer sizes;
  * `writeTo`, `readFrom` — the tab separated text form (`fmt` %d = `showNat`, strconv.ParseInt = `readInt`,
                   encoding/csv restricted to unquoted fields).

The model describes the code as it is now on /repo main, i.e. WITH the repairs fixes/C19-1 (blank lines are counted into the offset),
fixes/C19-2 (Read at the end of the segment returns io.EOF before any position arithmetic) and
fixes/C19-3 (no 64 KiB limit on the length of a line), fixes/C19-4 (a sequence line after a blank line is
rejected), and with C11's repairs d9ad7e9 (`position` returns Start
when BasesPerLine is 0) and 38c3f30 (`ReadFrom` validates every record: `RawRecord.isValid`).

Conventions: bytes are `UInt8`, Go `int`/`int64` values are `Nat` (the code never produces negative ones;
`readFrom`, which can, yields `Int`s).  Where Go would panic or misbehave the model returns an explicit
outcome (`RdErr.panicDiv`, `RdErr.badLayout`, `Except.error .outOfRange`), never a default value.
-/
set_option linter.unusedVariables false
set_option linter.unusedSimpArgs false
namespace Hts.Model.Fai

abbrev Bytes := List UInt8

/-! ### bytes.TrimSpace (ASCII part) and the scanner's split function -/

/-- `asciiSpace` of package bytes: `\t \n \v \f \r` and space. -/
def isSpace (b : UInt8) : Bool :=
  decide (b.toNat = 9 ∨ b.toNat = 10 ∨ b.toNat = 11 ∨ b.toNat = 12 ∨ b.toNat = 13 ∨ b.toNat = 32)

def trimRight (l : Bytes) : Bytes := (l.reverse.dropWhile isSpace).reverse

/-- `bytes.TrimSpace` on ASCII input (bytes ≥ 0x80 are outside the model: the harness never sends them). -/
def trimSpace (l : Bytes) : Bytes := trimRight (l.dropWhile isSpace)

def notLF (b : UInt8) : Bool := decide (b.toNat ≠ 10)

/-- One token of the scanner: up to and including the next `\n`, or the rest of the input. -/
def takeLine (bs : Bytes) : Bytes × Bytes :=
  match bs.dropWhile notLF with
  | [] => (bs.takeWhile notLF, [])
  | nl :: rest => (bs.takeWhile notLF ++ [nl], rest)

theorem takeLine_snd_length_lt (b : UInt8) (bs : Bytes) :
    (takeLine (b :: bs)).2.length < (b :: bs).length := by
  unfold takeLine
  have h2 : ((b :: bs).takeWhile notLF ++ (b :: bs).dropWhile notLF).length = (b :: bs).length := by
    rw [List.takeWhile_append_dropWhile]
  simp only [List.length_append] at h2
  split
  · simp
  · next nl rest heq =>
    rw [heq] at h2
    simp only [List.length_cons] at h2 ⊢
    omega

/-! ### Index records -/

structure Record where
  name : Bytes := []
  length : Nat := 0
  start : Nat := 0
  basesPerLine : Nat := 0
  bytesPerLine : Nat := 0
  deriving DecidableEq, Repr, Inhabited

/-- A Go `map[string]Record` as an association list in insertion order. -/
abbrev Index := List Record

def Index.lookup (idx : Index) (name : Bytes) : Option Record := idx.find? (·.name == name)

def Index.contains (idx : Index) (name : Bytes) : Bool := idx.any (·.name == name)

/-- `idx[rec.Name] = rec` -/
def Index.set : Index → Record → Index
  | [], r => [r]
  | x :: xs, r => if x.name == r.name then r :: xs else x :: Index.set xs r

/-! ### NewIndex -/

inductive IdxErr where
  | missingName   -- "fai: missing sequence name"
  | duplicate     -- "fai: duplicate sequence identifier"
  | shortLine     -- "fai: unexpected short line"
  | longLine      -- "fai: unexpected long line"
  deriving DecidableEq, Repr

structure ScanState where
  idx : Index := []
  pending : Record := {}
  offset : Nat := 0
  wantDescLine : Bool := false
  deriving Repr

def GT : UInt8 := 62

def notSpTab (b : UInt8) : Bool := decide (b.toNat ≠ 32 ∧ b.toNat ≠ 9)

/-- `b[1:lenID]` with `lenID = bytes.IndexAny(b, " \t")`, or `b[1:]` when there is none. -/
def headerName (b : Bytes) : Bytes := (b.takeWhile notSpTab).drop 1

/-- the pending record is stored (and reset) when it has a name -/
def flush (st : ScanState) : Index × Record :=
  if st.pending.name ≠ [] then (st.idx.set st.pending, {}) else (st.idx, st.pending)

/-- The body of the `for sc.Scan()` loop for one token `line` (= `sc.Bytes()`). -/
def step (st : ScanState) (line : Bytes) : Except IdxErr ScanState :=
  let b := trimSpace line
  if b = [] then
    -- blank line: counted into the offset (fixes/C19-1); only a description line may follow (fixes/C19-4)
    .ok { st with offset := st.offset + line.length, wantDescLine := true }
  else if b = [GT] then .error .missingName
  else if b.head? = some GT then
    let (idx, pend) := flush st
    let name := headerName b
    if idx.contains name then .error .duplicate
    else
      .ok { idx := idx
            pending := { pend with name := name, start := st.offset + line.length }
            offset := st.offset + line.length
            wantDescLine := false }
  else
    if st.wantDescLine then .error .shortLine
    else
      let r := st.pending
      -- first switch: bytes per line
      if r.bytesPerLine ≠ 0 ∧ line.length > r.bytesPerLine then .error .longLine
      else
        let bytesPL := if r.bytesPerLine = 0 then line.length else r.bytesPerLine
        let want1 := decide (r.bytesPerLine ≠ 0 ∧ line.length < r.bytesPerLine)
        -- second switch: bases per line (len(b) > 0 here)
        if r.basesPerLine ≠ 0 ∧ b.length > r.basesPerLine then .error .longLine
        else
          let basesPL := if r.basesPerLine = 0 then b.length else r.basesPerLine
          let want2 := decide (r.basesPerLine ≠ 0 ∧ b.length < r.basesPerLine)
          .ok { st with
                pending := { r with bytesPerLine := bytesPL, basesPerLine := basesPL,
                                     length := r.length + b.length }
                offset := st.offset + line.length
                wantDescLine := want1 || want2 }

/-- The scanner loop: one `step` per line of the input. -/
def scan (st : ScanState) (bs : Bytes) : Except IdxErr ScanState :=
  match bs with
  | [] => .ok st
  | b :: bs' =>
    match step st (takeLine (b :: bs')).1 with
    | .error e => .error e
    | .ok st' => scan st' (takeLine (b :: bs')).2
termination_by bs.length
decreasing_by exact takeLine_snd_length_lt b bs'

/-- `fai.NewIndex` -/
def newIndex (fasta : Bytes) : Except IdxErr Index :=
  match scan {} fasta with
  | .error e => .error e
  | .ok st => .ok (flush st).1

/-! ### Record.position, endOfLineOffset, Position -/

/-- `Record.position`: `r.Start` when `BasesPerLine == 0` (only an empty sequence has no bases per line),
else `r.Start + int64(p/r.BasesPerLine*r.BytesPerLine + p%r.BasesPerLine)`. -/
def Record.position (r : Record) (p : Nat) : Nat :=
  if r.basesPerLine = 0 then r.start
  else r.start + (p / r.basesPerLine * r.bytesPerLine + p % r.basesPerLine)

def Record.endOfLineOffset (r : Record) (p : Nat) : Nat :=
  if p / r.basesPerLine = r.length / r.basesPerLine then r.length - p
  else r.basesPerLine - p % r.basesPerLine

inductive Fault where
  | outOfRange   -- panic("fai: index out of range") / errors.New("fai: index out of range")
  | noSequence   -- errors.New("fai: no sequence")
  deriving DecidableEq, Repr

/-- exported `Record.Position` (no division by zero any more: `position` tests `BasesPerLine`) -/
def Record.Position (r : Record) (p : Int) : Except Fault Nat :=
  if p < 0 ∨ (r.length : Int) ≤ p then .error .outOfRange
  else .ok (r.position p.toNat)

/-! ### File.Seq, File.SeqRange, Seq.Read -/

structure Seq where
  rcd : Record
  cur : Nat
  start : Nat
  stop : Nat
  deriving Repr

def seqWhole (idx : Index) (name : Bytes) : Except Fault Seq :=
  match idx.lookup name with
  | none => .error .noSequence
  | some r => .ok { rcd := r, cur := 0, start := 0, stop := r.length }

def seqRange (idx : Index) (name : Bytes) (start stop : Int) : Except Fault Seq :=
  if start < 0 ∨ stop < 0 ∨ stop < start then .error .outOfRange
  else match idx.lookup name with
    | none => .error .noSequence
    | some r =>
      if (r.length : Int) < start ∨ (r.length : Int) < stop then .error .outOfRange
      else .ok { rcd := r, cur := start.toNat, start := start.toNat, stop := stop.toNat }

/-- `Seq.Reset` -/
def Seq.reset (s : Seq) : Seq := { s with cur := s.start }

/-- error value of one `Read` call -/
inductive RdErr where
  | nil
  | eof
  | panicDiv    -- integer divide by zero in `endOfLineOffset` (a non-empty segment of a record without BasesPerLine)
  | badLayout   -- `min(eol, end-cur, len(b)) ≤ 0`: Go would slice with a negative bound (panic) or spin on empty reads
  deriving DecidableEq, Repr

structure RdRes where
  data : Bytes
  err : RdErr
  cur : Nat
  deriving Repr

/-- `bytes.Reader.ReadAt(b[:want], pos)`: the bytes read; fewer than `want` of them is the read that reports io.EOF. -/
def readAt (file : Bytes) (pos want : Nat) : Bytes := (file.drop pos).take want

/-- The `for s.cur < s.end` loop of `Seq.Read`, with the two record functions it calls as parameters
(`pos` = `Record.position`, `eol` = `Record.endOfLineOffset`); `k` = remaining `len(b)` (positive),
`acc` = bytes copied so far.  The loop evaluates `pos` and `eol` only at cursors `cur < stop`
(`readLoopG_congr`). -/
def readLoopG (file : Bytes) (pos eol : Nat → Nat) (endPos stop : Nat) (cur k : Nat) (acc : Bytes) : RdRes :=
  if h : cur < stop then
    if endPos ≤ pos cur then ⟨acc, .badLayout, cur⟩
    else
      let want := min (min (eol cur) (endPos - pos cur)) k
      if h0 : want = 0 then ⟨acc, .badLayout, cur⟩
      else
        let got := readAt file (pos cur) want
        if hg : got.length < want then ⟨acc ++ got, .eof, cur + got.length⟩   -- ReadAt returned io.EOF
        else if k - got.length = 0 then ⟨acc ++ got, .nil, cur + got.length⟩
        else readLoopG file pos eol endPos stop (cur + got.length) (k - got.length) (acc ++ got)
  else ⟨acc, .eof, cur⟩
termination_by stop - cur
decreasing_by
  have h1 : want ≤ got.length := Nat.le_of_not_lt hg
  have h2 : 0 < want := Nat.pos_of_ne_zero h0
  have h3 : 0 < got.length := Nat.lt_of_lt_of_le h2 h1
  exact Nat.sub_lt_sub_left h (Nat.lt_add_of_pos_right h3)

/-- the loop of `Seq.Read` for record `r` -/
def readLoop (file : Bytes) (r : Record) (endPos stop : Nat) (cur k : Nat) (acc : Bytes) : RdRes :=
  readLoopG file r.position r.endOfLineOffset endPos stop cur k acc

/-- One call `s.Read(b)` with `len(b) = k`: the bytes stored in `b`, the error, the new cursor. -/
def Seq.read (file : Bytes) (s : Seq) (k : Nat) : RdRes :=
  if k = 0 then ⟨[], .nil, s.cur⟩
  else if s.stop ≤ s.cur then ⟨[], .eof, s.cur⟩            -- fixes/C19-2
  else if s.rcd.basesPerLine = 0 then ⟨[], .panicDiv, s.cur⟩
  else readLoop file s.rcd (s.rcd.position s.stop) s.stop s.cur k []

/-- A sequence of `Read` calls with the given buffer sizes, stopping after the first non-nil error. -/
def readCalls (file : Bytes) (s : Seq) : List Nat → List (Bytes × RdErr)
  | [] => []
  | k :: ks =>
    let r := s.read file k
    match r.err with
    | .nil => (r.data, r.err) :: readCalls file { s with cur := r.cur } ks
    | _ => [(r.data, r.err)]

/-! ### Seq.Read over ANY io.ReaderAt

`readAt`/`readLoopG`/`Seq.read` above fix the behaviour of `bytes.Reader` and `os.File`: a read reports `io.EOF`
only when fewer bytes than asked for are available.  The `io.ReaderAt` contract leaves one freedom for a read of
`n` bytes at `pos` that is complete and ends exactly at the end of the input: it "may return either err == EOF
or err == nil".  `eager pos n = true` means the reader takes the first option there.  (A short read with a nil
error is forbidden by the contract, and the bytes returned are determined by the input, so this function is all
the freedom a reader over a fixed file has.)  `readLoopE`, `Seq.readE`, `readCallsE` are the same code over such a
reader; with `eager = fun _ _ => false` they are `readLoopG`, `Seq.read`, `readCalls`
(`Hts.Lemmas.Fai.readLoopE_false`, `readE_false`, `readCallsE_false`). -/

def readLoopE (eager : Nat → Nat → Bool) (file : Bytes) (pos eol : Nat → Nat) (endPos stop : Nat) (cur k : Nat)
    (acc : Bytes) : RdRes :=
  if h : cur < stop then
    if endPos ≤ pos cur then ⟨acc, .badLayout, cur⟩
    else
      let want := min (min (eol cur) (endPos - pos cur)) k
      if h0 : want = 0 then ⟨acc, .badLayout, cur⟩
      else
        let got := readAt file (pos cur) want
        if hg : got.length < want then ⟨acc ++ got, .eof, cur + got.length⟩   -- short read: io.EOF
        else if eager (pos cur) want = true ∧ pos cur + want = file.length then
          ⟨acc ++ got, .eof, cur + got.length⟩                                -- complete read, io.EOF with it
        else if k - got.length = 0 then ⟨acc ++ got, .nil, cur + got.length⟩
        else readLoopE eager file pos eol endPos stop (cur + got.length) (k - got.length) (acc ++ got)
  else ⟨acc, .eof, cur⟩
termination_by stop - cur
decreasing_by
  have h1 : want ≤ got.length := Nat.le_of_not_lt hg
  have h2 : 0 < want := Nat.pos_of_ne_zero h0
  have h3 : 0 < got.length := Nat.lt_of_lt_of_le h2 h1
  exact Nat.sub_lt_sub_left h (Nat.lt_add_of_pos_right h3)

def Seq.readE (eager : Nat → Nat → Bool) (file : Bytes) (s : Seq) (k : Nat) : RdRes :=
  if k = 0 then ⟨[], .nil, s.cur⟩
  else if s.stop ≤ s.cur then ⟨[], .eof, s.cur⟩
  else if s.rcd.basesPerLine = 0 then ⟨[], .panicDiv, s.cur⟩
  else readLoopE eager file s.rcd.position s.rcd.endOfLineOffset (s.rcd.position s.stop) s.stop s.cur k []

def readCallsE (eager : Nat → Nat → Bool) (file : Bytes) (s : Seq) : List Nat → List (Bytes × RdErr)
  | [] => []
  | k :: ks =>
    let r := s.readE eager file k
    match r.err with
    | .nil => (r.data, r.err) :: readCallsE eager file { s with cur := r.cur } ks
    | _ => [(r.data, r.err)]

/-! ### WriteTo -/

def TAB : UInt8 := 9
def LF : UInt8 := 10
def CR : UInt8 := 13
def DQ : UInt8 := 34

def digit (d : Nat) : UInt8 := UInt8.ofNat (48 + d)

/-- `%d` of a non-negative value -/
def showNat (n : Nat) : Bytes :=
  if h : n < 10 then [digit n] else showNat (n / 10) ++ [digit (n % 10)]
termination_by n
decreasing_by omega

def insertByStart (r : Record) : List Record → List Record
  | [] => [r]
  | x :: xs => if r.start < x.start then r :: x :: xs else x :: insertByStart r xs

/-- `sort.Sort(byStart(recs))` for pairwise distinct `Start`s (the order of equal ones is unspecified in
Go: map iteration order and an unstable sort; the harness only compares indexes with distinct starts). -/
def sortByStart (l : List Record) : List Record := l.foldr insertByStart []

def writeRec (r : Record) : Bytes :=
  r.name ++ [TAB] ++ showNat r.length ++ [TAB] ++ showNat r.start ++ [TAB] ++
    showNat r.basesPerLine ++ [TAB] ++ showNat r.bytesPerLine ++ [LF]

def writeTo (idx : Index) : Bytes := ((sortByStart idx).map writeRec).flatten

/-! ### ReadFrom -/

/-- a record as `ReadFrom` produces it: the numeric fields may be negative -/
structure RawRecord where
  name : Bytes
  length : Int
  start : Int
  basesPerLine : Int
  bytesPerLine : Int
  deriving DecidableEq, Repr

def Record.toRaw (r : Record) : RawRecord :=
  ⟨r.name, r.length, r.start, r.basesPerLine, r.bytesPerLine⟩

inductive RfErr where
  | fieldCount    -- csv.ErrFieldCount
  | bareQuote     -- csv.ErrBareQuote
  | quotedField   -- a field starting with `"`: csv quoted-field syntax, NOT modelled
  | nonUnique     -- ErrNonUnique
  | number        -- strconv error (syntax or range)
  | invalid       -- ErrInvalidRecord
  deriving DecidableEq, Repr

def maxInt64 : Int := 2 ^ 63 - 1

/-- `Record.isValid`: what `ReadFrom` requires of a record (Go's truncating integer division). -/
def RawRecord.isValid (r : RawRecord) : Bool :=
  if r.length < 0 ∨ r.start < 0 ∨ r.basesPerLine < 0 ∨ r.bytesPerLine < r.basesPerLine then false
  else if r.basesPerLine = 0 then decide (r.length = 0)
  else decide (Int.tdiv r.length r.basesPerLine ≤
    Int.tdiv (maxInt64 - r.start - r.basesPerLine) r.bytesPerLine)

def digitVal (b : UInt8) : Option Nat :=
  if 48 ≤ b.toNat ∧ b.toNat ≤ 57 then some (b.toNat - 48) else none

def readDigits : Bytes → Nat → Option Nat
  | [], acc => some acc
  | b :: bs, acc =>
    match digitVal b with
    | none => none
    | some d => readDigits bs (acc * 10 + d)

/-- unsigned decimal: at least one digit, digits only -/
def readNat (s : Bytes) : Option Nat := if s = [] then none else readDigits s 0

/-- `strconv.ParseInt(s, 10, 64)`: optional sign, decimal digits, range of int64 -/
def readInt (s : Bytes) : Option Int :=
  match s with
  | [] => none
  | c :: rest =>
    if c.toNat = 45 then        -- '-'
      match readNat rest with
      | some n => if n ≤ 2 ^ 63 then some (-(n : Int)) else none
      | none => none
    else if c.toNat = 43 then   -- '+'
      match readNat rest with
      | some n => if n < 2 ^ 63 then some (n : Int) else none
      | none => none
    else
      match readNat s with
      | some n => if n < 2 ^ 63 then some (n : Int) else none
      | none => none

/-- split at every `sep` -/
def splitOn (sep : UInt8) : Bytes → List Bytes
  | [] => [[]]
  | b :: bs =>
    if b = sep then [] :: splitOn sep bs
    else match splitOn sep bs with
      | [] => [[b]]
      | f :: fs => (b :: f) :: fs

/-- drop one trailing `\r` -/
def dropCR (l : Bytes) : Bytes :=
  match l.reverse with
  | c :: rest => if c = CR then rest.reverse else l
  | [] => l

/-- The lines `encoding/csv` hands to its field parser: split at `\n`, one trailing `\r` removed
(`\r\n` normalisation, and the `\r` before EOF), empty lines skipped. -/
def csvLines (text : Bytes) : List Bytes :=
  ((splitOn LF text).map dropCR).filter (· ≠ [])

/-- unquoted fields of one line, or the csv error -/
def csvFields (line : Bytes) : Except RfErr (List Bytes) :=
  let fs := splitOn TAB line
  let rec check : List Bytes → Except RfErr Unit
    | [] => .ok ()
    | f :: rest =>
      if f.head? = some DQ then .error .quotedField
      else if f.contains DQ then .error .bareQuote
      else check rest
  match check fs with
  | .error e => .error e
  | .ok () => if fs.length = 5 then .ok fs else .error .fieldCount

def parseRecord (seen : List RawRecord) (fs : List Bytes) : Except RfErr RawRecord :=
  match fs with
  | [name, len, start, bases, bytes] =>
    if seen.any (·.name == name) then .error .nonUnique
    else match readInt len, readInt start, readInt bases, readInt bytes with
      | some l, some s, some b, some y =>
        if (RawRecord.mk name l s b y).isValid then .ok ⟨name, l, s, b, y⟩ else .error .invalid
      | _, _, _, _ => .error .number
  | _ => .error .fieldCount

def readLines (seen : List RawRecord) : List Bytes → Except RfErr (List RawRecord)
  | [] => .ok seen.reverse
  | l :: ls =>
    match csvFields l with
    | .error e => .error e
    | .ok fs =>
      match parseRecord seen fs with
      | .error e => .error e
      | .ok r => readLines (r :: seen) ls

/-- `fai.ReadFrom`: records in file order -/
def readFrom (text : Bytes) : Except RfErr (List RawRecord) := readLines [] (csvLines text)

end Hts.Model.Fai
