/-
Minimal sequential model of bgzf.Reader.Read / ReadByte (bgzf/reader.go: Read 588-631, ReadByte 634-665,
nextBlock 671-734) over a list of already-decoded blocks.  Core Lean only.  No Seek, no cache,
`Blocked = false` (the seeking reader is `Hts.Model.BgzfReader`, owned by C02).

State: `cur` = unread bytes of `bg.current` (`current.len()` = `cur.length`), `rest` = the decoded
payloads of the members that follow in the file, `eof` = `bg.err == io.EOF` (sticky).  The only error
this model can produce is the clean `io.EOF` of `nextBlock` when no member follows; decoding errors
belong to C10.
-/
set_option linter.unusedVariables false
namespace Hts.Model.BgzfSeqRead

structure State (α : Type) where
  cur : List α
  rest : List (List α)
  eof : Bool
deriving Repr, DecidableEq

/-- `NewReader`: the first member is decoded eagerly; an empty file makes NewReader fail (io.EOF). -/
def init {α : Type} : List (List α) → Option (State α)
  | [] => none
  | b :: bs => some ⟨b, bs, false⟩

/-- Everything the reader has not delivered yet. -/
def State.remaining {α : Type} (s : State α) : List α := s.cur ++ s.rest.flatten

/--
    for bg.current.len() == 0 { bg.err = bg.nextBlock(); if bg.err != nil { return 0, bg.err } }

Returns `none` when `nextBlock` reports io.EOF (no member follows), else the first non-empty block
and what follows it.
-/
def skipEmpty {α : Type} : List α → List (List α) → Option (List α × List (List α))
  | [], [] => none
  | [], b :: r => skipEmpty b r
  | a :: cur, rest => some (a :: cur, rest)

/--
The copy loop of `Read` (reader.go:606-627), `acc` = `p[:n]`, `want` = `len(p)`:

    for n < len(p) && bg.err == nil {
        _n, bg.err = bg.current.Read(p[n:]); n += _n       -- bytes.Reader: (0, io.EOF) iff nothing is left
        if bg.err == io.EOF {
            if n == len(p) { bg.err = nil; break }           -- (dead: _n = 0 here and n < len(p))
            bg.err = bg.nextBlock(); if bg.err != nil { break }
        }
    }

Result: bytes copied, new `cur`, new `rest`, and whether the loop ended with `bg.err = io.EOF`.
-/
def readLoop {α : Type} (want : Nat) (acc cur : List α) (rest : List (List α)) :
    List α × List α × List (List α) × Bool :=
  if hw : acc.length < want then
    match cur, rest with
    | [], [] => (acc, [], [], true)
    | [], b :: r => readLoop want acc b r
    | a :: t, rest =>
      let k := min (want - acc.length) (a :: t).length
      readLoop want (acc ++ (a :: t).take k) ((a :: t).drop k) rest
  else (acc, cur, rest, false)
termination_by (rest.length, want - acc.length)
decreasing_by
  · exact Prod.Lex.left _ _ (by simp)
  · apply Prod.Lex.right
    simp only [List.length_append, List.length_take, List.length_cons]
    omega

/-- One `Read(p)` with `len(p) = n`: returned bytes and whether the error is io.EOF (else nil). -/
def read {α : Type} (n : Nat) (s : State α) : State α × List α × Bool :=
  if s.eof then (s, [], true)
  else match skipEmpty s.cur s.rest with
    | none => ({ cur := [], rest := [], eof := true }, [], true)
    | some (cur, rest) =>
      let (out, cur', rest', e) := readLoop n [] cur rest
      ({ cur := cur', rest := rest', eof := e }, out, e)

/-- One `ReadByte()`. (`current.ReadByte` cannot report io.EOF after the empty-block skip.) -/
def readByte {α : Type} (s : State α) : State α × Option α × Bool :=
  if s.eof then (s, none, true)
  else match skipEmpty s.cur s.rest with
    | none => ({ cur := [], rest := [], eof := true }, none, true)
    | some ([], rest) => ({ cur := [], rest := rest, eof := false }, none, false)  -- unreachable (skipEmpty_some)
    | some (a :: cur, rest) => ({ cur := cur, rest := rest, eof := false }, some a, false)

inductive Op where
  | read (n : Nat)
  | readByte
deriving Repr, DecidableEq

/-- result of one op: bytes delivered, io.EOF? -/
def step {α : Type} (s : State α) : Op → State α × List α × Bool
  | .read n => read n s
  | .readByte =>
    let (s', b, e) := readByte s
    (s', b.toList, e)

def run {α : Type} : State α → List Op → State α × List (List α × Bool)
  | s, [] => (s, [])
  | s, op :: ops =>
    let (s1, r) := step s op
    let (s2, rs) := run s1 ops
    (s2, r :: rs)

end Hts.Model.BgzfSeqRead
