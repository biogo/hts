/-
Explicit-indexing model of the byte-level CRAM readers of cram/cram.go (C11, extension round 4):

  definition.readFrom        the 26-byte file definition (binary.Read + the magic test)
  errorReader.Read/itf8/ltf8/itf8slice   the sticky-error reader and its number readers, WITH values
  Container.readFrom         length int32, ITF-8/LTF-8 fields, landmarks array, CRC32
  Block.readFrom             method, content type, content id, compressed size, raw size, data, CRC32
  Slice.readFrom             the slice header (mapped slice header block)
  Block.Value / expandBlockdata

Same conventions as Hts.Model.Decoders: `Outcome α = ok v | err | panic site`; every index, slice,
`make` with a count taken from the input, and every `binary.LittleEndian.Uint32` call is a partial
operation that yields `panic`; the one loop, `sliceLoop`, recurses on the exact count and needs no fuel.  The model mirrors
the CURRENT code (guards of fixes C11-14/15/16 included).  `hash/crc32` and the decompressors are
parameters.  Core Lean only.

The source is a `bytes.Reader`-like stream: a `Read` delivers what is left (at most what is asked for)
and reports io.EOF only with zero bytes; `io.ReadFull` is modelled by its contract on such a stream.
-/
import Hts.Model.Decoders
namespace Hts.Model.CramDec
open Hts.Model.Decoders
open Hts.Model.Decoders.Outcome (ok err)

/-! ### errorReader over a TeeReader -/

/-- `errorReader{r: io.TeeReader(src, crc)}`: the bytes still to come, whether `er.err` is set (sticky),
and the bytes that went through the tee (what the running CRC-32 has seen) -/
structure St where
  src : Bytes
  failed : Bool := false
  tee : Bytes := []
deriving Repr, DecidableEq

/-- `io.ReadFull(&er, buf)` with `len(buf) = n`: the state after it, the bytes stored into `buf` (fewer
than `n` when the stream ends) and whether it returned a nil error.  `n = 0` never calls `Read`, so it
succeeds even when the sticky error is set. -/
def readFull (r : St) (n : Nat) : St × Bytes × Bool :=
  if n = 0 then (r, [], true)
  else if r.failed then (r, [], false)
  else if n ≤ r.src.length then
    ({ r with src := r.src.drop n, tee := r.tee ++ r.src.take n }, r.src.take n, true)
  else ({ src := [], failed := true, tee := r.tee ++ r.src }, r.src, false)

/-- `l[lo:hi]` with Go `int` bounds -/
def sliceI {α} (site : String) (l : List α) (lo hi : Int) : Outcome (List α) :=
  if lo < 0 ∨ hi < 0 then .panic site else slice site l lo.toNat hi.toNat

/-- the array `[n]byte` after `got` was stored at its start -/
def pad (n : Nat) (got : Bytes) : Bytes := got ++ List.replicate (n - got.length) 0

/-- `binary.LittleEndian.Uint32(b)`: `_ = b[3]` panics on fewer than four bytes -/
def uint32LE (site : String) (b : Bytes) : Outcome Nat :=
  if b.length < 4 then .panic site else ok (u32le b)

def bv (b : Bytes) : List (BitVec 8) := b.map UInt8.toBitVec

/-- one of the two number codecs: the `Decode` function (value as the Go signed integer, announced
width, ok) and the size of the array `errorReader.itf8/ltf8` decodes in -/
structure NumDec where
  site : String
  bufLen : Nat
  dec : List (BitVec 8) → Int × Int × Bool

def itf8Dec : NumDec :=
  ⟨"cram.errorReader.itf8", 5, fun b => ((Hts.Model.Itf8.decode b).1.toInt, (Hts.Model.Itf8.decode b).2.1, (Hts.Model.Itf8.decode b).2.2)⟩
def ltf8Dec : NumDec :=
  ⟨"cram.errorReader.ltf8", 9, fun b => ((Hts.Model.Ltf8.decode b).1.toInt, (Hts.Model.Ltf8.decode b).2.1, (Hts.Model.Ltf8.decode b).2.2)⟩

/-- `errorReader.itf8` / `errorReader.ltf8`: the value returned (0 after an error) and the reader after
it; an error is only recorded in the reader (`failed`), the caller goes on -/
def readNum (D : NumDec) (r : St) : Outcome (St × Int) :=
  match readFull r 1 with
  | (r1, _, false) => ok (r1, 0)
  | (r1, got, true) =>
    let buf := pad D.bufLen got
    match D.dec (bv (buf.take 1)) with
    | (i, _, true) => ok (r1, i)
    | (_, n, false) =>
      match sliceI (D.site ++ ":buf[1:n]") buf 1 n with
      | .panic p => .panic p
      | err => err
      | ok dst =>
        match readFull r1 dst.length with
        | (r2, _, false) => ok (r2, 0)
        | (r2, more, true) =>
          let buf2 := buf.take 1 ++ more ++ buf.drop (1 + more.length)
          match sliceI (D.site ++ ":buf[:n]") buf2 0 n with
          | .panic p => .panic p
          | err => err
          | ok enc =>
            match D.dec (bv enc) with
            | (i, _, true) => ok (r2, i)
            | (i, _, false) => ok ({ r2 with failed := true }, i)

/-- `s[i]` on a slice of length `len` whose elements the model does not materialise -/
def indexLen (site : String) (len i : Nat) : Outcome Unit :=
  if i < len then ok () else .panic site

/-- `s[:i]` on a slice of length (and capacity) `len` -/
def sliceLenTo (site : String) (len i : Nat) : Outcome Unit :=
  if i ≤ len then ok () else .panic site

/-- the first part of `errorReader.itf8slice`: `none` = it returns nil (error, zero count, negative
count), `some n` = it goes on to `make([]int32, n)` -/
def sliceCount (r : St) : Outcome (St × Option Nat) :=
  match readNum itf8Dec r with
  | .panic p => .panic p
  | err => err
  | ok (r1, n) =>
    if r1.failed then ok (r1, none)
    else if n = 0 then ok (r1, none)
    else if n < 0 then ok ({ r1 with failed := true }, none)
    else
      match makeLen "cram.errorReader.itf8slice:make([]int32, n)" n with
      | .panic p => .panic p
      | err => err
      | ok len => ok (r1, some len)

/-- `for i := range s { s[i] = r.itf8(); if r.err != nil { return s[:i] } }; return s` with `len(s) = n`;
`acc` holds `s[0..i)`, `k` iterations are left -/
def sliceLoop : (k : Nat) → (n i : Nat) → St → List Int → Outcome (St × List Int)
  | 0, _, _, r, acc => ok (r, acc)
  | k + 1, n, i, r, acc =>
    match readNum itf8Dec r with
    | .panic p => .panic p
    | err => err
    | ok (r1, v) =>
      match indexLen "cram.errorReader.itf8slice:s[i]" n i with
      | .panic p => .panic p
      | err => err
      | ok _ =>
        if r1.failed then
          match sliceLenTo "cram.errorReader.itf8slice:s[:i]" n i with
          | .panic p => .panic p
          | err => err
          | ok _ => ok (r1, acc)
        else sliceLoop k n (i + 1) r1 (acc ++ [v])

/-- `errorReader.itf8slice` -/
def readSlice32 (r : St) : Outcome (St × List Int) :=
  match sliceCount r with
  | .panic p => .panic p
  | err => err
  | ok (r1, none) => ok (r1, [])
  | ok (r1, some n) => sliceLoop n n 0 r1 []

/-! ### the file definition -/

structure Definition where
  magic : Bytes
  version : Bytes
  id : Bytes
deriving Repr, DecidableEq

def cramMagic : Bytes := [67, 82, 65, 77]

/-- `definition.readFrom`: `binary.Read` of the 26-byte struct (io.ReadFull), then the magic test.
Returns the definition and the rest of the stream. -/
def readDefinition (s : Bytes) : Outcome (Definition × Bytes) :=
  match readFull { src := s } 26 with
  | (_, _, false) => err
  | (r1, got, true) =>
    match slice "cram.definition.readFrom:d.Magic[:]" (got.take 4) 0 4 with
    | .panic p => .panic p
    | err => err
    | ok m =>
      if m ≠ cramMagic then err
      else ok ({ magic := m, version := (got.drop 4).take 2, id := (got.drop 6).take 20 }, r1.src)

/-! ### container header -/

structure Container where
  blockLen : Int
  refID : Int
  start : Int
  span : Int
  nRec : Int
  recCount : Int
  bases : Int
  blocks : Int
  landmarks : List Int
  crc32 : Nat
deriving Repr, DecidableEq

/-- `Container.readFrom`; the result carries the bytes after the header (`blockData` is a
`LimitedReader` of `blockLen` bytes over them, see `limited`) -/
def readContainer (crc32 : Bytes → Nat) (s : Bytes) : Outcome (Container × Bytes) :=
  match readFull { src := s } 4 with
  | (r0, got, _) => do
    let bl ← uint32LE "cram.Container.readFrom:binary.LittleEndian.Uint32(buf[:])#0" (pad 4 got)
    let (r1, refID) ← readNum itf8Dec r0
    let (r2, start) ← readNum itf8Dec r1
    let (r3, span) ← readNum itf8Dec r2
    let (r4, nRec) ← readNum itf8Dec r3
    let (r5, recCount) ← readNum ltf8Dec r4
    let (r6, bases) ← readNum ltf8Dec r5
    let (r7, blocks) ← readNum itf8Dec r6
    let (r8, landmarks) ← readSlice32 r7
    let sum := crc32 r8.tee
    match readFull r8 4 with
    | (_, _, false) => err
    | (r9, got2, true) => do
      let c ← uint32LE "cram.Container.readFrom:binary.LittleEndian.Uint32(buf[:])#1" (pad 4 got2)
      if c ≠ sum then err
      else if r9.failed then err
      else ok ({ blockLen := asInt32 bl, refID, start, span, nRec, recCount, bases, blocks, landmarks, crc32 := c }, r9.src)

/-- what `&io.LimitedReader{R: r, N: int64(c.blockLen)}` can deliver -/
def limited (blockLen : Int) (rest : Bytes) : Bytes := rest.take blockLen.toNat

/-! ### block -/

structure BlockHdr where
  method : Nat
  typ : Nat
  contentID : Int
  compressedSize : Int
  rawSize : Int
deriving Repr, DecidableEq

structure Block extends BlockHdr where
  data : Bytes
  crc32 : Nat
deriving Repr, DecidableEq

/-- `Block.readFrom` up to `make([]byte, b.compressedSize)`: `ok` = the allocation is asked for -/
def blockHeader (s : Bytes) : Outcome (St × BlockHdr) :=
  match readFull { src := s } 2 with
  | (r0, got, _) => do
    let buf := pad 4 got
    let method ← index "cram.Block.readFrom:buf[0]" buf 0
    let typ ← index "cram.Block.readFrom:buf[1]" buf 1
    let (r1, contentID) ← readNum itf8Dec r0
    let (r2, compressedSize) ← readNum itf8Dec r1
    let (r3, rawSize) ← readNum itf8Dec r2
    if method.toNat = 0 ∧ compressedSize ≠ rawSize then err
    else if compressedSize < 0 then err
    else ok (r3, { method := method.toNat, typ := typ.toNat, contentID, compressedSize, rawSize })

/-- `Block.readFrom`: the block and the rest of the stream -/
def readBlock (crc32 : Bytes → Nat) (s : Bytes) : Outcome (Block × Bytes) := do
  let (r3, h) ← blockHeader s
  let n ← makeLen "cram.Block.readFrom:make([]byte, b.compressedSize)" h.compressedSize
  match readFull r3 n with
  | (_, _, false) => err
  | (r4, data, true) =>
    let sum := crc32 r4.tee
    match readFull r4 4 with
    | (_, _, false) => err
    | (r5, got, true) => do
      let c ← uint32LE "cram.Block.readFrom:binary.LittleEndian.Uint32(buf[:])" (pad 4 got)
      if c ≠ sum then err else ok ({ toBlockHdr := h, data, crc32 := c }, r5.src)

/-! ### slice header -/

structure SliceHdr where
  refID : Int
  start : Int
  span : Int
  nRec : Int
  recCount : Int
  blocks : Int
  blockIDs : List Int
  embeddedRefID : Int
  md5 : Bytes
  tags : Bytes
  complete : Bool   -- `readFrom` returned nil
deriving Repr, DecidableEq

/-- `Slice.readFrom(bytes.NewReader(data))` (no tee); `Block.Value` ignores its error, so a partly filled
slice header is a value: `complete = false` -/
def readSliceHdr (s : Bytes) : Outcome SliceHdr :=
  do
    let (r1, refID) ← readNum itf8Dec { src := s }
    let (r2, start) ← readNum itf8Dec r1
    let (r3, span) ← readNum itf8Dec r2
    let (r4, nRec) ← readNum itf8Dec r3
    let (r5, recCount) ← readNum ltf8Dec r4
    let (r6, blocks) ← readNum itf8Dec r5
    let (r7, blockIDs) ← readSlice32 r6
    let (r8, embeddedRefID) ← readNum itf8Dec r7
    match readFull r8 16 with
    | (_, got, false) =>
      ok { refID, start, span, nRec, recCount, blocks, blockIDs, embeddedRefID, md5 := pad 16 got, tags := [], complete := false }
    | (r9, got, true) =>
      -- io.ReadAll(&er): everything that is left; it cannot fail here (the sticky error is clear)
      ok { refID, start, span, nRec, recCount, blocks, blockIDs, embeddedRefID, md5 := got, tags := r9.src, complete := true }

/-! ### Block.Value -/

/-- the decompressors (`compress/gzip`, `compress/bzip2`, xz/lzma behind `io.ReadAll`): method ↦ data ↦
the expanded bytes, `none` = an error.  No law is assumed. -/
structure Expanders where
  expand : Nat → Bytes → Option Bytes

/-- `expandBlockdata` -/
def expandBlockdata (X : Expanders) (method : Nat) (data : Bytes) : Outcome Bytes :=
  if method = 0 then ok data
  else if method = 1 ∨ method = 2 ∨ method = 3 then
    match X.expand method data with
    | some e => ok e
    | none => err
  else err   -- rANS: "unimplemented"; anything else: "unknown method" (fix C11-16)

inductive Value where
  | headerText (text : Bytes)          -- `h.UnmarshalText(text)` is called (its result is C07's subject)
  | slice (s : SliceHdr)
  | block (method : Nat) (data : Bytes)
deriving Repr, DecidableEq

/-- `uint32` addition -/
def add32 (a b : Nat) : Nat := (a + b) % 4294967296

/-- `Block.Value` -/
def blockValue (X : Expanders) (b : Block) : Outcome Value :=
  if b.typ = 0 then do
    let blockData ← expandBlockdata X b.method b.data
    if blockData.length < 4 then err
    else do
      let b4 ← sliceTo "cram.Block.Value:blockData[:4]" blockData 4
      let e ← uint32LE "cram.Block.Value:binary.LittleEndian.Uint32(blockData[:4])" b4
      if e > blockData.length - 4 then err
      else do
        -- repair C11-23: `4+uint64(end)`; before it `4+end` in uint32 wrapped for blockData of 4 GiB or more
        let text ← slice "cram.Block.Value:blockData[4 : 4+end]" blockData 4 (4 + e)
        ok (.headerText text)
  else if b.typ = 2 then do
    let s ← readSliceHdr b.data
    ok (.slice s)
  else if b.method = 1 ∨ b.method = 2 ∨ b.method = 3 then do
    let d ← expandBlockdata X b.method b.data
    ok (.block (b.method ||| 0x80) d)
  else ok (.block b.method b.data)

end Hts.Model.CramDec
