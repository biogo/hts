/-
Executable model of `bgzf/index.ChunkReader` (bgzf/index/index.go:35–123) over the reader model.
Core Lean only.
-/
import Hts.Model.BgzfReader
namespace Hts.Model.Bgzf
open Hts.Spec.Flat (Offset Chunk vOffset)

structure ChunkReader where
  r : Reader
  chunks : List Chunk

namespace ChunkReader

/-- `NewChunkReader`: the reader is put into Blocked mode and positioned at the first chunk. -/
def new (r : Reader) (chunks : List Chunk) : Except Err ChunkReader :=
  let r := r.setBlocked true
  match chunks with
  | [] => .ok ⟨r, []⟩
  | c :: _ =>
    match r.seek c.bgn with
    | (_, some e) => .error e
    | (r', none) => .ok ⟨r', chunks⟩

/-- The chunk-skipping loop at the head of `Read` (as repaired by fixes/C13-1-chunkreader-empty-chunk):
```
last := r.r.LastChunk()
for vOffset(last.End) >= vOffset(r.chunks[0].End) {
    r.chunks = r.chunks[1:]
    if len(r.chunks) == 0 { return 0, io.EOF }
    err := r.r.Seek(r.chunks[0].Begin)
    if err != nil { return 0, err }
    last = r.r.LastChunk()
}
```
Result: reader, remaining chunks, and the error if `Read` returns from inside the loop. -/
def advance (r : Reader) : List Chunk → Reader × List Chunk × Option Err
  | [] => (r, [], some .eof)
  | c :: rest =>
    if vOffset c.fin ≤ vOffset r.lastChunk.fin then
      match rest with
      | [] => (r, [], some .eof)
      | c' :: _ =>
        match r.seek c'.bgn with
        | (r', some e) => (r', rest, some e)
        | (r', none) => advance r' rest
    else (r, c :: rest, none)

/-- The body of the last `if` of `Read` (below), with the `return` that follows it. -/
def nextChunk (r' : Reader) (rest : List Chunk) (out : List UInt8) :
    ChunkReader × List UInt8 × Option Err :=
  match rest with
  | [] => (⟨r', []⟩, out, some .eof)
  | c' :: _ => (⟨(r'.seek c'.bgn).1, rest⟩, out, (r'.seek c'.bgn).2)

/-- `ChunkReader.Read(p)` with `len(p) = n` (`read` below: the loop `advance`, then `readCore`; the body of the last
`if` is `nextChunk`).
```
if len(r.chunks) == 0 { return 0, io.EOF }
… the loop above …
want := int(r.chunks[0].End.Block)
if r.chunks[0].End.Block == 0 && r.chunks[0].End.File > last.End.File { want = r.r.BlockLen() }
var cursor int
if last.End.File == r.chunks[0].End.File { cursor = int(last.End.Block) }
n, err := r.r.Read(p[:min(len(p), want-cursor)])          // slicing panics when want-cursor < 0
if err != nil { if n != 0 && err == io.EOF { err = nil }; return n, err }
this := r.r.LastChunk()
if (len(p) != 0 && this == last) || vOffset(this.End) >= vOffset(r.chunks[0].End) {
    r.chunks = r.chunks[1:]
    if len(r.chunks) == 0 { return n, io.EOF }
    err = r.r.Seek(r.chunks[0].Begin)
}
return n, err
``` -/
def readCore (r0 : Reader) (c : Chunk) (rest : List Chunk) (n : Nat) :
    ChunkReader × List UInt8 × Option Err :=
    let last := r0.lastChunk
    let want := if c.fin.block = 0 ∧ last.fin.file < c.fin.file then r0.blockLen else c.fin.block
    let cursor := if last.fin.file = c.fin.file then last.fin.block else 0
    if want < cursor then (⟨r0, c :: rest⟩, [], some .panic)
    else
      match r0.read (min n (want - cursor)) with
      | (r', out, some e) =>
        (⟨r', c :: rest⟩, out, if out.length ≠ 0 ∧ e = .eof then none else some e)
      | (r', out, none) =>
        let this := r'.lastChunk
        if (n ≠ 0 ∧ this = last) ∨ vOffset c.fin ≤ vOffset this.fin then nextChunk r' rest out
        else (⟨r', c :: rest⟩, out, none)

def read (cr : ChunkReader) (n : Nat) : ChunkReader × List UInt8 × Option Err :=
  match advance cr.r cr.chunks with
  | (r0, chunks, some e) => (⟨r0, chunks⟩, [], some e)
  | (r0, [], none) => (⟨r0, []⟩, [], some .eof)
  | (r0, c :: rest, none) => readCore r0 c rest n

/-- The client loop `for { n, err := cr.Read(p); use(p[:n]); if err != nil { break } }` with the given
buffer sizes: all bytes seen, and the error that ended the loop (none if the sizes ran out first). -/
def readAll (cr : ChunkReader) : List Nat → List UInt8 × Option Err
  | [] => ([], none)
  | n :: ns =>
    match cr.read n with
    | (cr', out, none) => let (rest, e) := readAll cr' ns; (out ++ rest, e)
    | (_, out, some e) => (out, some e)

/-- A client that calls `Read` with the given buffer sizes; per call the bytes and the error. -/
def run (cr : ChunkReader) : List Nat → List (List UInt8 × Option Err)
  | [] => []
  | n :: ns => let (cr', out, e) := cr.read n; (out, e) :: run cr' ns

end ChunkReader
end Hts.Model.Bgzf
