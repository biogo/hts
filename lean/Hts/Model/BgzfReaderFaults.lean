/-
The sequential `bgzf.Reader` (Model/BgzfReader.lean) over an underlying reader/seeker that may fail.
Core Lean only.

Every interaction with the underlying source happens inside `nextBlockAt` (an optional `Seek`, then the
`Read`s of one member): a *load*.  The member is buffered completely before any of its payload is handed out,
so a fault at any underlying `Read` or `Seek` of a load — an error, an error after partial data, a premature
end of input inside the member — makes that load fail with a non-`io.EOF` error (`LoadFault.err`); a source
that reports end of input exactly where the member would start makes the load report `io.EOF`
(`LoadFault.eof`: a source truncated at a member boundary, which no reader can tell from a shorter file).
The fault oracle is the list of outcomes the source imposes on the coming load attempts, in program order
(exhausted: no further fault), so every pattern — the k-th underlying call failing once, a window, for ever —
is an oracle.  A failed load leaves the block of `decompressor.failAt`: labelled with the offset asked for,
no header, no data (`Block.failed`).

The functions are those of Model/BgzfReader.lean with `nextBlock`/`Seek`'s load going through the oracle
(`FReader.read_nofault`, `readByte_nofault`, `seek_nofault`: with an empty oracle they coincide with the fault-free model).
-/
import Hts.Model.BgzfReader
namespace Hts.Model.Bgzf
open Hts.Spec.Flat (Offset Chunk Op)

inductive LoadFault where
  | ok
  | err
  | eof
deriving DecidableEq, Repr

structure FReader where
  r : Reader
  oracle : List LoadFault

namespace FReader

/-- One load attempt through the oracle: `dec.using(cur).nextBlockAt(base).wait()`. -/
def loadAt (x : FReader) (base : Nat) : FReader × Option Err :=
  match x.oracle with
  | .err :: rest => (⟨{ x.r with cur := Block.failed base }, rest⟩, some .other)
  | .eof :: rest => (⟨{ x.r with cur := Block.failed base }, rest⟩, some .eof)
  | .ok :: rest => let (b, e) := x.r.cur.load x.r.file base; (⟨{ x.r with cur := b }, rest⟩, e)
  | [] => let (b, e) := x.r.cur.load x.r.file base; (⟨{ x.r with cur := b }, []⟩, e)

/-- `nextBlock` -/
def nextBlock (x : FReader) : FReader × Option Err := x.loadAt x.r.cur.nextBase

def withR (x : FReader) (f : Reader → Reader) : FReader := ⟨f x.r, x.oracle⟩

/-- the empty-block skipping loop of `Read`/`ReadByte` -/
def skipEmpty : Nat → FReader → FReader
  | 0, x => x.withR fun r => { r with err := some .fuel }
  | fuel + 1, x =>
    if x.r.cur.len = 0 then
      match x.nextBlock with
      | (x', some e) => x'.withR fun r => { r with err := some e }
      | (x', none) => skipEmpty fuel (x'.withR fun r => { r with err := none })
    else x

/-- the copy loop of `Read` (see `Reader.readLoop`) -/
def readLoop : Nat → FReader → Nat → FReader × List UInt8 × Option Err
  | 0, x, _ => (x.withR fun r => { r with err := some .fuel }, [], some .fuel)
  | fuel + 1, x, want =>
    if 0 < want ∧ x.r.err = none then
      match x.r.cur.read want with
      | (out, false, b) =>
        let (x', rest, e) := readLoop fuel (x.withR fun r => { r with cur := b }) (want - out.length)
        (x', out ++ rest, e)
      | (out, true, b) =>
        let x := x.withR fun r => { r with cur := b, err := some .eof }
        if want - out.length = 0 then
          let x := x.withR fun r => { r with err := none }
          (x.withR Reader.setEnd, out, x.r.err)
        else if x.r.blocked then
          ((x.withR fun r => { r with err := none }).withR Reader.setEnd, out, some .eof)
        else
          match x.nextBlock with
          | (x', some e) =>
            let x' := x'.withR fun r => { r with err := some e }
            (x'.withR Reader.setEnd, out, x'.r.err)
          | (x', none) =>
            let (x'', rest, e) := readLoop fuel (x'.withR fun r => { r with err := none }) (want - out.length)
            (x'', out ++ rest, e)
    else (x.withR Reader.setEnd, [], x.r.err)

/-- `Reader.Read(p)`, `len(p) = n` -/
def read (x : FReader) (n : Nat) : FReader × List UInt8 × Option Err :=
  match x.r.err with
  | some e => (x, [], some e)
  | none =>
    let x := x.skipEmpty x.r.skipFuel
    match x.r.err with
    | some e => (x, [], some e)
    | none =>
      let x := x.withR fun r => { r with lastChunk := ⟨r.cur.tx, r.lastChunk.fin⟩ }
      x.readLoop x.r.loopFuel n

/-- `Reader.ReadByte()` -/
def readByte (x : FReader) : FReader × UInt8 × Option Err :=
  match x.r.err with
  | some e => (x, 0, some e)
  | none =>
    let x := x.skipEmpty x.r.skipFuel
    match x.r.err with
    | some e => (x, 0, some e)
    | none =>
      let x := x.withR fun r => { r with lastChunk := ⟨r.cur.tx, r.lastChunk.fin⟩ }
      match x.r.cur.readByte with
      | (c, false, b) => ((x.withR fun r => { r with cur := b }).withR Reader.setEnd, c, none)
      | (c, true, b) =>
        let x := x.withR fun r => { r with cur := b, err := some .eof }
        if x.r.blocked then ((x.withR fun r => { r with err := none }).withR Reader.setEnd, c, some .eof)
        else
          let (x', e) := x.nextBlock
          ((x'.withR fun r => { r with err := e }).withR Reader.setEnd, c, e)

/-- `Reader.Seek(off)` -/
def seek (x : FReader) (off : Offset) : FReader × Option Err :=
  if off.file ≠ x.r.cur.base ∨ x.r.cur.hasData = false then
    match x.loadAt off.file with
    | (x', some e) => (x'.withR fun r => { r with err := some e }, some e)
    | (x', none) =>
      (x'.withR fun r => { r with cur := r.cur.seek off.block, err := none, lastChunk := ⟨off, off⟩ }, none)
  else
    (x.withR fun r => { r with cur := r.cur.seek off.block, err := none, lastChunk := ⟨off, off⟩ }, none)

def step (x : FReader) : Op → FReader × Out
  | .read n => let (x', bs, e) := x.read n; (x', ⟨bs, e⟩)
  | .readByte => let (x', c, e) := x.readByte; (x', ⟨if e = none then [c] else [], e⟩)  -- a byte returned with an error is not data
  | .seek o => let (x', e) := x.seek o; (x', ⟨[], e⟩)
  | .setBlocked b => (x.withR fun r => r.setBlocked b, ⟨[], none⟩)

/-- `Close` (rd = 1: no goroutine to stop): `if bg.err == io.EOF { return nil }; return bg.err`. -/
def close (x : FReader) : Option Err :=
  match x.r.err with
  | some .eof => none
  | e => e

/-- Run a history: per operation the output and the state after it. -/
def run (x : FReader) : List Op → List (Out × FReader)
  | [] => []
  | op :: ops => let (x', o) := x.step op; (o, x') :: run x' ops

end FReader
end Hts.Model.Bgzf
