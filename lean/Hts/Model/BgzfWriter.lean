/-
Sequential model of bgzf.Writer's block splitting (bgzf/writer.go: Write 206-235, Flush 239-258,
Wait 262-268, Close 287-302).  Core Lean only.

What is modelled: the contents of `active.block[:active.next]`, the sequence of blocks handed to
`bg.queue` (in hand-off order, which is the order the emitter goroutine writes them), and `closed`.
The model is generic in the byte type `α` (block splitting never looks at the bytes) and in the block
size `bs` (the code's `len(c.block)`, = `BlockSize`); `Hts.Tie.C01` ties `BlockSize` to the source.

What is NOT modelled here: the goroutine hand-off (owned by C12/C09: `WriterLTS`), the error latch
(`bg.err`; the scripts of C01/C08 use an underlying writer that never fails, and a block that
`writeBlock` refuses is handled by `Hts.Model.Member.render`), compression (see `Hts.Model.Member`).
-/
set_option linter.unusedVariables false
namespace Hts.Model.BgzfWriter

/-- `bgzf.BlockSize` (bgzf.go:19), tied to the source by `Hts.Tie.C01`. -/
def BlockSize : Nat := 0xff00
/-- `bgzf.MaxBlockSize` (bgzf.go:20). -/
def MaxBlockSize : Nat := 0x10000

/-- Sequential writer state. `active` is `c.block[:c.next]` of the active compressor, `emitted` the
blocks queued so far in queue order, `closed` the flag of the same name. -/
structure State (α : Type) where
  active : List α
  emitted : List (List α)
  closed : Bool
deriving Repr, DecidableEq

def State.init {α : Type} : State α := ⟨[], [], false⟩

/--
The loop of `Writer.Write` (writer.go:217-232), one call = one iteration:

    for ; len(b) > 0 && err == nil; err = bg.Error() {
        var _n int
        if c.next == 0 || c.next+len(b) <= len(c.block) {
            _n = copy(c.block[c.next:], b); b = b[_n:]; c.next += _n; n += _n
        }
        if c.next == len(c.block) || _n == 0 { queue c; c = <-bg.waiting }   -- fresh compressor: next = 0
    }

`copy` moves `min (len b) (bs - next)` bytes.  The loop terminates because an iteration either consumes
at least one byte of `b` or (when `_n = 0`) replaces a non-empty active block by an empty one; with
`bs = 0` the Go loop would spin forever, hence `0 < bs`.
-/
def writeLoop {α : Type} (bs : Nat) (hbs : 0 < bs) (b active : List α) (emitted : List (List α)) :
    List α × List (List α) :=
  if hb : b = [] then (active, emitted)
  else if hc : active.length = 0 ∨ active.length + b.length ≤ bs then
    let n := min b.length (bs - active.length)
    let active' := active ++ b.take n
    if active'.length = bs ∨ n = 0 then writeLoop bs hbs (b.drop n) [] (emitted ++ [active'])
    else writeLoop bs hbs (b.drop n) active' emitted
  else writeLoop bs hbs b [] (emitted ++ [active])
termination_by 2 * b.length + (if active.length = 0 then 0 else 1)
decreasing_by
  all_goals have hpos : 0 < b.length := List.length_pos_iff.mpr hb
  · simp only [List.length_drop, List.length_nil]
    split <;> omega
  · simp only [List.length_drop, List.length_append, List.length_take]
    split <;> split <;> omega
  · have ha : ¬ active.length = 0 := fun h => hc (Or.inl h)
    simp only [List.length_nil, if_neg ha, if_true]
    omega

/-- Outcome of one API call as the caller sees it. -/
inductive Res where
  | ok (n : Nat)      -- nil error; `n` = bytes accepted (0 for Flush/Wait/Close)
  | errClosed         -- bgzf.ErrClosed
deriving Repr, DecidableEq

/-- `Writer.Write`. -/
def write {α : Type} (bs : Nat) (hbs : 0 < bs) (s : State α) (b : List α) : State α × Res :=
  if s.closed then (s, .errClosed)
  else
    let (a, e) := writeLoop bs hbs b s.active s.emitted
    ({ s with active := a, emitted := e }, .ok b.length)

/-- `Writer.Flush`: queue the active block iff it is non-empty. -/
def flush {α : Type} (s : State α) : State α × Res :=
  if s.closed then (s, .errClosed)
  else if s.active.length = 0 then (s, .ok 0)
  else ({ s with active := [], emitted := s.emitted ++ [s.active] }, .ok 0)

/-- `Writer.Wait`: no effect on the sequential state (and no `closed` test in the code). -/
def wait {α : Type} (s : State α) : State α × Res := (s, .ok 0)

/-- `Writer.Close`: the active block is queued even when empty; a second Close does nothing. -/
def close {α : Type} (s : State α) : State α × Res :=
  if s.closed then (s, .ok 0)
  else ({ active := [], emitted := s.emitted ++ [s.active], closed := true }, .ok 0)

inductive Op (α : Type) where
  | write (b : List α)
  | flush
  | wait
  | close
deriving Repr

def step {α : Type} (bs : Nat) (hbs : 0 < bs) (s : State α) : Op α → State α × Res
  | .write b => write bs hbs s b
  | .flush => flush s
  | .wait => wait s
  | .close => close s

/-- Run a script; results in call order. -/
def run {α : Type} (bs : Nat) (hbs : 0 < bs) : State α → List (Op α) → State α × List Res
  | s, [] => (s, [])
  | s, op :: ops =>
    let (s1, r) := step bs hbs s op
    let (s2, rs) := run bs hbs s1 ops
    (s2, r :: rs)

/-- The bytes the script hands to the writer successfully: payloads of the `write`s before the first
`close` (later ones are refused with ErrClosed). -/
def accepted {α : Type} : List (Op α) → List α
  | [] => []
  | .write b :: ops => b ++ accepted ops
  | .close :: _ => []
  | _ :: ops => accepted ops

theorem blockSize_pos : 0 < BlockSize := by decide

end Hts.Model.BgzfWriter
