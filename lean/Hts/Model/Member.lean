/-
Model of one BGZF member as bgzf.Writer produces it (bgzf/writer.go: compressor.writeBlock 138-187,
writeOK 92-119, Close 287-302) and as bgzf.Reader takes it apart again (bgzf/reader.go: readMember
289-324, expectedMemberSize 280-286; bgzf/cache.go: readToEOF/readFrom 141-179).  Core Lean only.

DEFLATE, CRC-32 and the gzip XFL hint of the chosen level are the parameter `CodecFns`; `Codec` adds
the laws the theorems assume of them (nothing else about compress/flate, hash/crc32 is used).
The parts of compress/gzip that are plain framing (Writer.Write's header, Writer.Close's trailer,
Reader.readHeader, the trailer check of Reader.Read) are modelled here as they behave in go1.23.

`writeBlock` mirrors the code WITH the repair of fixes/C08-1-bsize-search.diff (the back-patch search
for "BC\x02\x00" starts at the extra field, offset 12); `writeBlockOrig` is the unrepaired search over
the whole buffer, kept for the witness theorem in `Hts.Props.C08`.
-/
import Hts.Model.BgzfWriter
namespace Hts.Model.Member

abbrev Byte := UInt8

/-- little-endian fields, as encoding/binary.LittleEndian.PutUint16/32 -/
def le16 (n : Nat) : List Byte := [UInt8.ofNat (n % 256), UInt8.ofNat (n / 256 % 256)]
def le32 (n : Nat) : List Byte :=
  [UInt8.ofNat (n % 256), UInt8.ofNat (n / 256 % 256), UInt8.ofNat (n / 65536 % 256), UInt8.ofNat (n / 16777216 % 256)]

/-- The external components. `deflate` = what flate.Writer emits for Write(p) followed by Close at
the writer's level; `inflate` = flate.Reader on a byte stream: decodes ONE complete DEFLATE stream
from the front and reports how many bytes it consumed (it reads byte-wise from the member buffer, so
it consumes exactly the stream); `crc32` = hash/crc32 IEEE; `xfl` = 2 for level 9, 4 for level 1,
else 0 (gzip.Writer.Write). -/
structure CodecFns where
  deflate : List Byte → List Byte
  inflate : List Byte → Option (List Byte × Nat)
  crc32 : List Byte → Nat
  xfl : Byte

/-- The laws assumed of the external components (sampled on every run by the correspondence check:
the implementation's reader decodes every block the writer produced, and the marker). -/
structure Codec extends CodecFns where
  /-- a DEFLATE stream is self-delimiting and decodes to what was compressed -/
  inflate_deflate : ∀ x rest, inflate (deflate x ++ rest) = some (x, (deflate x).length)
  /-- the two bytes `03 00` of the EOF marker are a complete DEFLATE stream of no data -/
  inflate_marker : ∀ rest, inflate (3 :: 0 :: rest) = some ([], 2)
  crc32_lt : ∀ x, crc32 x < 2 ^ 32
  crc32_nil : crc32 [] = 0

/-- zlib's deflateBound, the bound `bgzf.compressBound` relies on (bgzf.go:36-38); an OPTIONAL law,
a hypothesis of the theorems about the default header only (`default_header_fits`, `roundtrip_default` and those built on them; sampled by the tie on every block written). -/
def Bounded (c : CodecFns) : Prop :=
  ∀ x : List Byte, (c.deflate x).length ≤ x.length + x.length / 4096 + x.length / 16384 + x.length / 33554432 + 13

/-- gzip.Header as the Writer's embedded header: Go strings are rune sequences here, because
gzip.Writer.writeString ranges over runes. `mtime` = ModTime.Unix() when ModTime is after the epoch,
else 0. -/
structure Header where
  name : List Nat := []
  comment : List Nat := []
  extra : List Byte := []
  mtime : Nat := 0
  os : Byte := 255
deriving Repr, DecidableEq

/-- errors of compressor.writeBlock -/
inductive WErr where
  | gzip        -- any error of gzip.Writer.Write's header ("Extra data is too large", "non-Latin-1 header string")
  | noBC        -- gzip.ErrHeader: bytes.Index found no "BC\x02\x00"
  | overflow    -- bgzf.ErrBlockOverflow
deriving Repr, DecidableEq

def bgzfExtra : List Byte := [66, 67, 2, 0, 0, 0]
def bgzfExtraPrefix : List Byte := [66, 67, 2, 0]
def magicBlock : List Byte :=
  [0x1f, 0x8b, 0x08, 0x04, 0x00, 0x00, 0x00, 0x00, 0x00, 0xff, 0x06, 0x00, 0x42, 0x43, 0x02, 0x00,
   0x1b, 0x00, 0x03, 0x00, 0x00, 0x00, 0x00, 0x00, 0x00, 0x00, 0x00, 0x00]
def minFrame : Nat := 20 + bgzfExtra.length
def compressBound (srcLen : Nat) : Nat :=
  srcLen + srcLen / 4096 + srcLen / 16384 + srcLen / 33554432 + 13 + minFrame

/-- gzip.Writer.writeString: every rune must be in 1..255 and is written as one Latin-1 byte,
followed by NUL. -/
def latin1 (s : List Nat) : Option (List Byte) :=
  if s.all (fun v => v ≠ 0 ∧ v ≤ 255) then some (s.map UInt8.ofNat) else none

/-- The header bytes gzip.Writer.Write emits before the first compressed byte
(ID1 ID2 CM FLG MTIME XFL OS, XLEN + extra, name NUL, comment NUL). `Extra` is never nil here
(`append([]byte(bgzfExtra), c.Extra...)`), so FEXTRA is always set. -/
def gzipHeader (c : CodecFns) (h : Header) : Except WErr (List Byte) :=
  let ex := bgzfExtra ++ h.extra
  if ex.length > 0xffff then .error .gzip
  else
    let nameB := if h.name = [] then some [] else (latin1 h.name).map (· ++ [0])
    let commB := if h.comment = [] then some [] else (latin1 h.comment).map (· ++ [0])
    match nameB, commB with
    | some nb, some cb =>
      let flg : Byte := 4 + (if h.name = [] then 0 else 8) + (if h.comment = [] then 0 else 16)
      .ok (0x1f :: 0x8b :: 8 :: flg :: (le32 (h.mtime % 2 ^ 32) ++ (c.xfl :: h.os :: (le16 ex.length ++ (ex ++ (nb ++ cb))))))
    | _, _ => .error .gzip

/-- bytes.Index -/
def indexOf (pat : List Byte) : List Byte → Option Nat
  | [] => if pat.isEmpty then some 0 else none
  | x :: xs => if pat.isPrefixOf (x :: xs) then some 0 else (indexOf pat xs).map (· + 1)

/-- the member before the back-patch: header, DEFLATE data, CRC32, ISIZE (gzip.Writer.Close) -/
def rawMember (c : CodecFns) (hdr p : List Byte) : List Byte :=
  hdr ++ (c.deflate p ++ (le32 (c.crc32 p) ++ le32 (p.length % 2 ^ 32)))

/-- the tail of writeBlock: size test and back-patch of BSIZE at `i+4`, `i+5` -/
def patch (b : List Byte) (i : Nat) : Except WErr (List Byte) :=
  let size := b.length - 1
  if size ≥ BgzfWriter.MaxBlockSize then .error .overflow
  else .ok ((b.set (i + 4) (UInt8.ofNat (size % 256))).set (i + 5) (UInt8.ofNat (size / 256 % 256)))

/-- REPAIRED search: `bytes.Index(b[12:], bgzfExtraPrefix) + 12` when `len(b) > 12`. -/
def findBC (b : List Byte) : Option Nat :=
  if b.length > 12 then (indexOf bgzfExtraPrefix (b.drop 12)).map (· + 12) else none

/-- compressor.writeBlock (repaired search): the bytes put into `c.buf`, or `c.err`. -/
def writeBlock (c : CodecFns) (h : Header) (p : List Byte) : Except WErr (List Byte) :=
  match gzipHeader c h with
  | .error e => .error e
  | .ok hdr =>
    let b := rawMember c hdr p
    match findBC b with
    | none => .error .noBC
    | some i => patch b i

/-- compressor.writeBlock as it is on the unrepaired tree: `bytes.Index(b, bgzfExtraPrefix)`. -/
def writeBlockOrig (c : CodecFns) (h : Header) (p : List Byte) : Except WErr (List Byte) :=
  match gzipHeader c h with
  | .error e => .error e
  | .ok hdr =>
    let b := rawMember c hdr p
    match indexOf bgzfExtraPrefix b with
    | none => .error .noBC
    | some i => patch b i

/-- What the emitter goroutine writes for the queued blocks, in order, and the error it latches:
it stops at the first block whose compressor reports an error (writer.go:82-86, 96-99). -/
def render (c : CodecFns) (h : Header) : List (List Byte) → List Byte × Option WErr
  | [] => ([], none)
  | p :: ps =>
    match writeBlock c h p with
    | .error e => ([], some e)
    | .ok m =>
      let (out, e) := render c h ps
      (m ++ out, e)

/-- Everything the underlying io.Writer has received when `Close` returns, and Close's result
(`none` = nil): the marker is appended iff no error was latched (writer.go:297-299). `blocks` are the
blocks queued by the script including the one Close queues (`BgzfWriter.State.emitted`). -/
def closeOutput (c : CodecFns) (h : Header) (blocks : List (List Byte)) : List Byte × Option WErr :=
  match render c h blocks with
  | (out, none) => (out ++ magicBlock, none)
  | (out, some e) => (out, some e)

/-- bgzf.HasEOF on the whole output: the last 28 bytes equal the marker. -/
def hasEOF (out : List Byte) : Bool :=
  decide (magicBlock.length ≤ out.length) && (out.drop (out.length - magicBlock.length) == magicBlock)

/-! ### reader side -/

/-- split `n` bytes off the front (io.ReadFull) -/
def takeN (n : Nat) (s : List Byte) : Option (List Byte × List Byte) :=
  if n ≤ s.length then some (s.take n, s.drop n) else none

/-- gzip.Reader.readString: bytes up to NUL; at most 512 bytes including the NUL (len(z.buf)). -/
def readCString : Nat → List Byte → Option (List Byte × List Byte)
  | _, [] => none
  | 0, _ => none
  | fuel + 1, b :: s => if b = 0 then some ([], s) else (readCString fuel s).map (fun (x, r) => (b :: x, r))

def u16 (b0 b1 : Byte) : Nat := b0.toNat + 256 * b1.toNat
def u32 (b0 b1 b2 b3 : Byte) : Nat := b0.toNat + 256 * b1.toNat + 65536 * b2.toNat + 16777216 * b3.toNat

/-- gzip.Reader.readHeader: the Extra field and what follows the header.  (FHCRC is checked against
the running CRC of the header bytes.) -/
def readHeader (c : CodecFns) (s : List Byte) : Option (List Byte × List Byte) :=
  match s with
  | id1 :: id2 :: cm :: flg :: m0 :: m1 :: m2 :: m3 :: xfl :: os :: s1 =>
    if id1 ≠ 0x1f ∨ id2 ≠ 0x8b ∨ cm ≠ 8 then none
    else
      let fixed := [id1, id2, cm, flg, m0, m1, m2, m3, xfl, os]
      -- FEXTRA
      let r1 : Option (List Byte × List Byte × List Byte) :=
        if flg &&& 4 ≠ 0 then
          match s1 with
          | x0 :: x1 :: s2 => (takeN (u16 x0 x1) s2).map (fun (e, r) => (e, [x0, x1] ++ e, r))
          | _ => none
        else some ([], [], s1)
      match r1 with
      | none => none
      | some (extra, seen1, s3) =>
        let r2 : Option (List Byte × List Byte) :=
          if flg &&& 8 ≠ 0 then (readCString 512 s3).map (fun (x, r) => (x ++ [0], r)) else some ([], s3)
        match r2 with
        | none => none
        | some (seen2, s4) =>
          let r3 : Option (List Byte × List Byte) :=
            if flg &&& 16 ≠ 0 then (readCString 512 s4).map (fun (x, r) => (x ++ [0], r)) else some ([], s4)
          match r3 with
          | none => none
          | some (seen3, s5) =>
            if flg &&& 2 ≠ 0 then
              match s5 with
              | h0 :: h1 :: s6 =>
                if u16 h0 h1 = c.crc32 (fixed ++ seen1 ++ seen2 ++ seen3) % 65536 then some (extra, s6) else none
              | _ => none
            else some (extra, s5)
  | _ => none

/-- bgzf.expectedMemberSize: `none` is the code's -1. -/
def expectedMemberSize (extra : List Byte) : Option Nat :=
  match indexOf bgzfExtraPrefix extra with
  | none => none
  | some i =>
    if i + 5 ≥ extra.length then none
    else
      match extra[i + 4]?, extra[i + 5]? with
      | some a, some b => some (u16 a b + 1)
      | _, _ => none

/-- decompressor.readMember followed by block.readFrom on a file `s` positioned at a member start:
the decoded payload and the rest of the file.  `none` = anything but a clean decode (header error,
ErrNoBlockSize, `need ≤ 0`, short file, DEFLATE error, CRC/ISIZE mismatch, bytes left over in the
member buffer, more than MaxBlockSize bytes of data): error classes are C10's business. -/
def readMember (c : CodecFns) (s : List Byte) : Option (List Byte × List Byte) :=
  match readHeader c s with
  | none => none
  | some (extra, afterHdr) =>
    match expectedMemberSize extra with
    | none => none
    | some blockSize =>
      let skipped := s.length - afterHdr.length
      if blockSize ≤ skipped then none
      else
        match takeN (blockSize - skipped) afterHdr with
        | none => none
        | some (buf, rest) =>
          match c.inflate buf with
          | none => none
          | some (data, k) =>
            match buf.drop k with
            | [c0, c1, c2, c3, i0, i1, i2, i3] =>
              if u32 c0 c1 c2 c3 = c.crc32 data ∧ u32 i0 i1 i2 i3 = data.length % 2 ^ 32
                  ∧ data.length ≤ BgzfWriter.MaxBlockSize then some (data, rest)
              else none
            | _ => none

/-- The blocks a sequential reader meets in file `s` until the clean io.EOF at the end of the file.
`fuel` bounds the number of members; `readStream` supplies `s.length + 1`, which always suffices
because a member is at least one byte long. -/
def readStreamAux (c : CodecFns) : Nat → List Byte → Option (List (List Byte))
  | _, [] => some []
  | 0, _ :: _ => none
  | fuel + 1, s@(_ :: _) =>
    match readMember c s with
    | none => none
    | some (data, rest) => (readStreamAux c fuel rest).map (data :: ·)

def readStream (c : CodecFns) (s : List Byte) : Option (List (List Byte)) := readStreamAux c (s.length + 1) s

end Hts.Model.Member
