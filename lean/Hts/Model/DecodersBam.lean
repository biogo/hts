/-
C11 — the BAM record reader with explicit indexing: `bam.buffer` (unsafeBytes, readUint8/16, readInt32),
`readCigarOps`, `newBuffer` and `bam.(*Reader).Read` (bam/reader.go), panic-aware, written over the same
types as C05's model `Hts.Model.Bam`.  `Hts.Lemmas.DecodersBam` proves that this version computes exactly
C05's `decodeBody` (which C05's correspondence check ties to the code) and therefore never panics.
The aux walker is C05's `parseAux` here; its indexing is `parseAuxBam` of Hts.Model.Decoders.
Core Lean only.

A `Buf` holds `b.data[b.off:]` (what is left) and the sticky `err`; `b.data[s:b.off]` with `s = b.off`,
`b.off = s + n` is then the slice `[0:n]` of what is left, and `n` is a Go `int` that may be negative.
-/
import Hts.Model.Decoders
import Hts.Model.BamRecord
namespace Hts.Model.Decoders
open Outcome (ok err)
open Hts.Model.Bam (Byte Buf getU16 getU32 toI32 Record Omit)

/-- every `Fault` of C05's model ↦ `err`, value ↦ `ok`.  That includes `fuel` and `panicAuxType`, which are not Go errors:
that `decodeBody` never returns them is `decodeBody_error` (Lemmas/BamStream, `Props.C05.fuel_unreachable`), not part of
C11's `bamRead_total`. -/
def liftE {α : Type} : Except Hts.Model.Bam.Fault α → Outcome α
  | .ok v => ok v
  | .error _ => err

/-- `b.unsafeBytes(n)`: `if b.err != nil {return nil}; if b.len() < n {b.err = …; return nil};
s := b.off; b.off += n; return b.data[s:b.off]` -/
def unsafeBytesIdx (b : Buf) (n : Int) : Outcome (List Byte × Buf) :=
  if b.err then ok ([], b)
  else if (b.data.length : Int) < n then ok ([], { b with err := true })
  else if n < 0 then .panic "bam.buffer.unsafeBytes:b.data[s:b.off]"
  else
    match sliceTo "bam.buffer.unsafeBytes:b.data[s:b.off]" b.data n.toNat with
    | ok d => ok (d, { b with data := b.data.drop n.toNat })
    | err => err
    | .panic s => .panic s

/-- `b.readUint8()`: `b.off++; return b.data[b.off-1]` after the `b.len() < 1` test -/
def readU8Idx (b : Buf) : Outcome (Byte × Buf) :=
  if b.err then ok (0, b)
  else if b.data.length < 1 then ok (0, { b with err := true })
  else
    match index "bam.buffer.readUint8:b.data[b.off-1]" b.data 0 with
    | ok x => ok (x, { b with data := b.data.drop 1 })
    | err => err
    | .panic s => .panic s

/-- `binary.LittleEndian.Uint16(d)` panics unless `len(d) >= 2` -/
def u16Of (site : String) (d : List Byte) : Outcome Nat :=
  match index site d 1, index site d 0 with
  | ok y, ok x => ok (getU16 x y)
  | .panic s, _ => .panic s
  | _, .panic s => .panic s
  | _, _ => err

/-- `binary.LittleEndian.Uint32(d)` panics unless `len(d) >= 4` -/
def u32Of (site : String) (d : List Byte) : Outcome Nat :=
  match index site d 3, index site d 0, index site d 1, index site d 2 with
  | ok w, ok x, ok y, ok z => ok (getU32 x y z w)
  | .panic s, _, _, _ => .panic s
  | _, .panic s, _, _ => .panic s
  | _, _, .panic s, _ => .panic s
  | _, _, _, .panic s => .panic s
  | _, _, _, _ => err

/-- `b.readUint16()` -/
def readU16Idx (b : Buf) : Outcome (Nat × Buf) :=
  if b.err then ok (0, b)
  else if b.data.length < 2 then ok (0, { b with err := true })
  else do
    let (d, b') ← unsafeBytesIdx b 2
    let v ← u16Of "bam.buffer.readUint16:binary.LittleEndian.Uint16(b.unsafeBytes(2))" d
    pure (v, b')

/-- `b.readInt32()` -/
def readI32Idx (b : Buf) : Outcome (Int × Buf) :=
  if b.err then ok (0, b)
  else if b.data.length < 4 then ok (0, { b with err := true })
  else do
    let (d, b') ← unsafeBytesIdx b 4
    let v ← u32Of "bam.buffer.readInt32:binary.LittleEndian.Uint32(b.unsafeBytes(4))" d
    pure (toI32 v, b')

/-- the loop of `readCigarOps`: `co[i] = CigarOp(Uint32(cb[i*4:(i+1)*4]))` for `i < len(cb)/4`;
`rem` is `cb[i*4:]` -/
def readCigarLoop : (k : Nat) → List Byte → Outcome (List (BitVec 32))
  | 0, _ => ok []
  | k + 1, rem =>
    match slice "bam.readCigarOps:cb[i*4:(i+1)*4]" rem 0 4 with
    | ok w =>
      match u32Of "bam.readCigarOps:binary.LittleEndian.Uint32(cb[i*4:(i+1)*4])" w with
      | ok v =>
        match readCigarLoop k (rem.drop 4) with
        | ok rest => ok (BitVec.ofNat 32 v :: rest)
        | err => err
        | .panic s => .panic s
      | err => err
      | .panic s => .panic s
    | err => err
    | .panic s => .panic s

/-- `readCigarOps(cb)` -/
def readCigarOpsIdx (cb : List Byte) : Outcome (List (BitVec 32)) := readCigarLoop (cb.length / 4) cb

/-- the `done:` part of Read with the explicit `br.h.Refs()[refID]`, `br.h.Refs()[nextRefID]` -/
def linkRefsIdx (nrefs : Nat) (refID nextRefID : Int) (r : Record) : Outcome Record :=
  if refID != -1 && (refID < -1 || refID ≥ (nrefs : Int)) then err
  else do
    let ref : Option Nat ←
      if refID == -1 then pure none
      else do
        let i ← indexInt "bam.Reader.Read:br.h.Refs()[refID]" (List.range nrefs) refID
        pure (some i)
    if nextRefID != -1 then
      if refID == nextRefID then pure { r with ref := ref, mateRef := ref }
      else if nextRefID < -1 || nextRefID ≥ (nrefs : Int) then err
      else do
        let j ← indexInt "bam.Reader.Read:br.h.Refs()[nextRefID]" (List.range nrefs) nextRefID
        pure { r with ref := ref, mateRef := some j }
    else pure { r with ref := ref, mateRef := none }

def finishIdx (nrefs : Nat) (refID nextRefID : Int) (b : Buf) (r : Record) : Outcome Record :=
  if b.err then err else linkRefsIdx nrefs refID nextRefID r

/-- `bam.(*Reader).Read` on the record buffer, statement by statement -/
def decodeBodyIdx (om : Omit) (nrefs : Nat) (body : List Byte) : Outcome Record := do
  let b : Buf := ⟨body, false⟩
  let (refID, b) ← readI32Idx b
  let (pos, b) ← readI32Idx b
  let (nLen, b) ← readU8Idx b
  let (mapq, b) ← readU8Idx b
  let b := b.discard 2
  let (nCigar, b) ← readU16Idx b
  let (flags, b) ← readU16Idx b
  let (lSeq, b) ← readI32Idx b
  let (nextRefID, b) ← readI32Idx b
  let (matePos, b) ← readI32Idx b
  let (tempLen, b) ← readI32Idx b
  if nLen.toNat < 1 then err
  else
    let (name, b) ← unsafeBytesIdx b ((nLen.toNat : Int) - 1)
    let b := b.discard 1
    let (cb, b) ← unsafeBytesIdx b ((nCigar : Int) * 4)
    let cigar ← readCigarOpsIdx cb
    let rec0 : Record :=
      { name := name, ref := none, pos := pos, mapq := mapq, cigar := cigar,
        flags := BitVec.ofNat 16 flags, mateRef := none, matePos := matePos, tempLen := tempLen,
        seqLen := 0, seq := [], qual := none, aux := [] }
    match om with
    | .all => finishIdx nrefs refID nextRefID b rec0
    | _ =>
      if lSeq < 0 then err
      else
        -- (lSeq >> 1) + (lSeq & 0x1), with lSeq ≥ 0 here
        let (seq, b) ← unsafeBytesIdx b (lSeq / 2 + lSeq % 2)
        let (qual, b) ← unsafeBytesIdx b lSeq
        let rec1 : Record := { rec0 with seqLen := lSeq.toNat, seq := seq, qual := some qual }
        match om with
        | .aux => finishIdx nrefs refID nextRefID b rec1
        | _ =>
          let (auxb, b) ← unsafeBytesIdx b b.data.length
          let aux ← liftE (Hts.Model.Bam.parseAux auxb)
          finishIdx nrefs refID nextRefID b { rec1 with aux := aux }

/-- `newBuffer` after the four size bytes were read: `size == 0` is io.EOF, `size < 0` an error,
`make([]byte, size)` beyond the 4 KiB buffer, else `br.buf[:size]`.  The value is the number of bytes to read. -/
def newBufferIdx (x y z w : Byte) : Outcome Nat :=
  let size := toI32 (getU32 x y z w)
  if size == 0 then err
  else if size < 0 then err
  else if 4096 < size then makeLen "bam.newBuffer:make([]byte, size)" size
  else
    match sliceTo "bam.newBuffer:br.buf[:size]" (List.replicate 4096 (0 : Byte)) size.toNat with
    | ok _ => ok size.toNat
    | err => err
    | .panic s => .panic s

end Hts.Model.Decoders
