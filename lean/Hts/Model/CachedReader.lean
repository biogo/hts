/-
Executable model of the sequential (`rd = 1`) bgzf.Reader with an optional block cache
(bgzf/reader.go: Seek, Read, ReadByte, nextBlock, cacheSwap, cachedBlockFor, cachePut, nextBlockAt;
bgzf/cache.go: block).  Core Lean only.

* The file is a list of members `(base, size, payload)`; decompression is the look-up of the member that
  starts at an offset (DEFLATE/CRC are not part of this property: cached and uncached runs use the same
  members).  An offset at or beyond the end of the file gives `io.EOF`, any other non-member offset an error.
* Blocks are heap cells with identities, because the reader recycles buffers: the block that `Put` refuses
  becomes the next decompression target and is overwritten.  The cache maps base ↦ block id and is any
  `CacheOps` (LRU, FIFO, Random, StatsRecorder …).
* `Cfg` selects the code variant: `clearOnRebase` = repair C03-1 (`setBase` drops the old data, so a block
  whose decompression failed does not claim to hold data); `peekGuard` = repair C03-2 (`cacheSwap` does not
  recycle a block the cache still `Peek`s); `failReset` = repair C09-2 (`decompressor.failAt`: after a failed
  `readMember` the block is reset with `setOwner` — not used, no header, no data — and labelled with the
  requested offset); `lentGuard` = repair C03-5 (a block that `Get` handed out while the cache kept it indexed is
  remembered in `bg.lent` and never recycled, also when no cache is attached).  `Cfg.asIs` is the tree before
  these repairs, `Cfg.repaired` the tree with all of them.
* Not modelled: `bg.Header`, ownership of blocks by several readers sharing one cache
  (`ErrContaminatedCache`), read-ahead workers (`rd > 1`).
-/
import Hts.Model.Cache
import Hts.Spec.CacheContract
namespace Hts.Model.CachedReader
open Hts.Model.Cache Hts.Spec.CacheContract

structure Member where
  base : Int
  /-- size of the compressed member: the next member starts at `base + size` -/
  size : Int
  data : List Nat
deriving DecidableEq, Repr

abbrev File := List Member

def File.find (f : File) (off : Int) : Option Member := List.find? (fun m => m.base == off) f

/-- end of the file = end of the last member (0 for the empty file) -/
def File.len (f : File) : Int :=
  match f.getLast? with
  | some m => m.base + m.size
  | none => 0

/-- a `*block` -/
structure RBlk where
  base : Int := 0
  /-- contents of `buf` (meaningful when `hasData`) -/
  data : List Nat := []
  /-- `buf != nil` -/
  hasData : Bool := false
  /-- read position inside `buf` -/
  pos : Nat := 0
  /-- `offset.File`, `offset.Block`; `Block` is a `uint16` in the code: it wraps at 65536 (a member may hold exactly
  65536 bytes, so the offset at its end is 0) -/
  offFile : Int := 0
  offBlock : Nat := 0
  used : Bool := false
  /-- `expectedMemberSize(h)`: −1 when the header carries no BGZF size -/
  hsize : Int := -1
deriving DecidableEq, Repr

def RBlk.next (b : RBlk) : Int := if b.hsize = -1 then -1 else b.base + b.hsize

/-- `b.len()` -/
def RBlk.len (b : RBlk) : Nat := if b.hasData then b.data.length - b.pos else 0

/-- what a cache sees of the block -/
def RBlk.view (b : RBlk) : Blk := ⟨b.base, b.used, b.next⟩

/-- `bg.err` -/
inductive Err
  | none
  | eof
  | other
deriving DecidableEq, Repr

/-- ways in which a call does not return normally -/
inductive Fault
  /-- the recorded choice of Random's victim is not one the code can make -/
  | badHint
  /-- a loop of the code does not terminate -/
  | hang
  /-- nil dereference -/
  | panic
deriving DecidableEq, Repr

structure Cfg where
  peekGuard : Bool
  clearOnRebase : Bool
  failReset : Bool
  lentGuard : Bool
deriving DecidableEq, Repr

def Cfg.asIs : Cfg := ⟨false, false, false, false⟩
def Cfg.repaired : Cfg := ⟨true, true, true, true⟩

/-- a block whose load failed does not keep the data of its previous use -/
def Cfg.noStale (cfg : Cfg) : Prop := cfg.clearOnRebase = true ∨ cfg.failReset = true

structure Reader (σ : Type) where
  heap : Nat → RBlk
  /-- next unused block identity -/
  fresh : Nat
  /-- `bg.current` -/
  cur : Option Nat
  err : Err
  chunkBegin : Int × Nat
  chunkEnd : Int × Nat
  blocked : Bool
  cache : Option σ
  /-- keys of the victims the implementation's cache evicted, in order (Random only) -/
  hints : List Int
  /-- `bg.lent`: the last block `Get` returned while the cache still answered `Peek` for its base -/
  lent : Option Nat := none
  /-- not part of the Reader: the caller's cache objects that were attached earlier and have been replaced
  (`SetCache(nil)` or another cache); they keep the blocks they hold and can be attached again -/
  parked : List σ := []

variable {σ : Type}

def Reader.hview (r : Reader σ) : Heap := fun i => (r.heap i).view

def Reader.setB (r : Reader σ) (id : Nat) (b : RBlk) : Reader σ :=
  { r with heap := fun i => if i = id then b else r.heap i }

/-- `block.txOffset()` (with fix C02-1): `offset`, except at the end of a block that holds more than 0xffff bytes —
the 16-bit in-block offset has wrapped to 0 there, and the position reported is the start of the next block -/
def RBlk.txOffset (b : RBlk) : Int × Nat :=
  if b.hasData && b.len == 0 && decide (65535 < b.data.length) && decide (0 ≤ b.next) then (b.next, 0)
  else (b.offFile, b.offBlock)

/-- `cachePut(b)` with the cache `c`: `(reader, cache, block handed back, retained)` -/
def cachePut (o : CacheOps σ) (r : Reader σ) (c : σ) (b : Option Nat) :
    Except Fault (Reader σ × σ × Option Nat × Bool) :=
  match b with
  | none => .ok (r, c, none, false)
  | some id =>
    if !(r.heap id).hasData then .ok (r, c, some id, false)
    else
      let hint : Option Nat :=
        match r.hints with
        | [] => none
        | k :: _ => ((o.held c).find? (fun e => e.key == k)).map (·.id)
      match o.put r.hview c id hint with
      | none => .error .badHint
      | some (c', .refused) => .ok (r, c', some id, false)
      | some (c', .kept none) => .ok (r, c', none, true)
      | some (c', .kept (some v)) => .ok ({ r with hints := r.hints.drop 1 }, c', some v, true)
      | some (_, .panic) => .error .panic

/-- which block the reader keeps for the next decompression after `cachePut` on the miss path of `cacheSwap`:
none when the cache retained the block (a fresh one will be allocated), else the block handed back — unless
(repair C03-2) the cache still answers `Peek` for its base -/
def recycle (cfg : Cfg) (o : CacheOps σ) (r2 : Reader σ) (c2 : σ) (retained : Bool) (back : Option Nat) :
    Option Nat :=
  if retained then none
  else match back with
    | none => none
    | some id =>
      if (cfg.peekGuard && (o.peek r2.hview c2 (r2.heap id).base).1) || (cfg.lentGuard && r2.lent == some id) then none
      else some id

/-- `bg.lent = blk` when `b` -/
def markLent (r : Reader σ) (b : Bool) (id : Nat) : Reader σ := if b then { r with lent := some id } else r

/-- `cacheSwap(base)`: `true` = the current block was swapped for a cached one -/
def cacheSwap (cfg : Cfg) (o : CacheOps σ) (r : Reader σ) (base : Int) : Except Fault (Reader σ × Bool) :=
  match r.cache with
  | none =>
    -- repair C03-5: a block on loan from a (detached) cache is not recycled
    if cfg.lentGuard && r.cur.isSome && r.lent == r.cur then .ok ({ r with cur := none }, false) else .ok (r, false)
  | some c =>
    match o.get r.hview c base with
    | (c1, some id) =>
      -- cachedBlockFor: blk.seek(0); repair C03-5: if the cache still Peeks the base, the block is on loan
      let r1 := markLent (r.setB id { r.heap id with pos := 0, offBlock := 0 })
        (cfg.lentGuard && (o.peek r.hview c1 base).1) id
      -- cachePut(bg.current): result discarded
      match cachePut o r1 c1 r1.cur with
      | .error e => .error e
      | .ok (r2, c2, _, _) => .ok ({ r2 with cache := some c2, cur := some id }, true)
    | (c1, none) =>
      match cachePut o r c1 r.cur with
      | .error e => .error e
      | .ok (r2, c2, back, retained) =>
        .ok ({ r2 with cache := some c2, cur := recycle cfg o r2 c2 retained back }, false)

/-- the loop at the head of `nextBlockAt`: skip members the cache already holds.  `fuel` = number of held
entries + 1: `Peek` does not change anything, so not terminating within that many steps means a cycle. -/
def peekSkip (o : CacheOps σ) (h : Heap) (c : σ) : Nat → Int → Except Fault Int
  | 0, _ => .error .hang
  | fuel + 1, off =>
    let (e, nx) := o.peek h c off
    if e then peekSkip o h c fuel nx else .ok off

/-- the head of `nextBlockAt`: the offset that will really be read -/
def skipCached (o : CacheOps σ) (r : Reader σ) (off : Int) : Except Fault Int :=
  match r.cache with
  | none => .ok off
  | some c => peekSkip o r.hview c ((o.held c).length + 1) off

/-- `lazyBlock`: the block to decompress into — the one handed over by `using(bg.current)`, or a new one -/
def lazyBlock (r : Reader σ) : Reader σ × Nat :=
  match r.cur with
  | some id => (r, id)
  | none => ({ r with fresh := r.fresh + 1, cur := some r.fresh }.setB r.fresh {}, r.fresh)

/-- `d.blk.setBase(off)`; with repair C03-1 the block also forgets its previous data -/
def rebase (cfg : Cfg) (b : RBlk) (off : Int) : RBlk :=
  if cfg.clearOnRebase then { b with base := off, offFile := off, offBlock := 0, hasData := false, data := [], pos := 0 }
  else { b with base := off, offFile := off, offBlock := 0 }

/-- the block after a failed `readMember`: as `setBase` left it, or (repair C09-2) `failAt(off)`:
`setOwner` (used = false, header and data dropped, offset zeroed) followed by `setBase(off)` -/
def failedBlk (cfg : Cfg) (b1 : RBlk) (off : Int) : RBlk :=
  if cfg.failReset then
    { base := off, data := [], hasData := false, pos := 0, offFile := off, offBlock := 0, used := false, hsize := -1 }
  else b1

/-- the rest of `nextBlockAt` once the offset is known: `lazyBlock`, `setBase`, `readMember`, `setHeader`,
`readFrom` -/
def loadAt (cfg : Cfg) (f : File) (r : Reader σ) (off : Int) : Reader σ × Err :=
  let (r, id) := lazyBlock r
  let b1 := rebase cfg (r.heap id) off
  match f.find off with
  | some m => (r.setB id { b1 with hsize := m.size, data := m.data, pos := 0, hasData := true }, .none)
  | none => (r.setB id (failedBlk cfg b1 off), if off ≥ f.len then .eof else .other)

/-- `dec.using(bg.current).nextBlockAt(off).wait()`: the new current block and the error -/
def nextBlockAt (cfg : Cfg) (o : CacheOps σ) (f : File) (r : Reader σ) (off : Int) :
    Except Fault (Reader σ × Err) :=
  match skipCached o r off with
  | .error e => .error e
  | .ok off => .ok (loadAt cfg f r off)

/-- make the member at `base` the current block: from the cache if it is there, else by decompression
(the common part of `nextBlock` and `Seek`) -/
def fetch (cfg : Cfg) (o : CacheOps σ) (f : File) (r : Reader σ) (base : Int) : Except Fault (Reader σ × Err) :=
  match cacheSwap cfg o r base with
  | .error e => .error e
  | .ok (r1, true) => .ok (r1, .none)
  | .ok (r1, false) => nextBlockAt cfg o f r1 base

/-- `nextBlock()` -/
def nextBlock (cfg : Cfg) (o : CacheOps σ) (f : File) (r : Reader σ) : Except Fault (Reader σ × Err) :=
  match r.cur with
  | none => .error .panic
  | some id => fetch cfg o f r (r.heap id).next

inductive ErrClass
  | ok
  | eof
  | err
deriving DecidableEq, Repr

def Err.cls : Err → ErrClass
  | .none => .ok
  | .eof => .eof
  | .other => .err

/-- the tail of `Seek`: `bg.err = bg.current.seek(blk)`; `lastChunk = {off, off}` -/
def seekFin (r : Reader σ) (file : Int) (blk : Nat) : Except Fault (Reader σ × ErrClass) :=
  match r.cur with
  | none => .error .panic
  | some id =>
    if !(r.heap id).hasData then .error .panic
    else
      let r := r.setB id { r.heap id with pos := blk, offBlock := blk % 65536 }
      .ok ({ r with err := .none, chunkBegin := (file, blk), chunkEnd := (file, blk) }, .ok)

/-- `Seek(Offset{file, blk})` -/
def seek (cfg : Cfg) (o : CacheOps σ) (f : File) (r : Reader σ) (file : Int) (blk : Nat) :
    Except Fault (Reader σ × ErrClass) :=
  match r.cur with
  | none => .error .panic
  | some id =>
    if file ≠ (r.heap id).base || !(r.heap id).hasData then
      match fetch cfg o f r file with
      | .error e => .error e
      | .ok (r2, e) =>
        if e = .none then seekFin { r2 with err := .none } file blk else .ok ({ r2 with err := e }, e.cls)
    else seekFin r file blk

/-- `for bg.current.len() == 0 { bg.err = bg.nextBlock(); if bg.err != nil { return } }` -/
def skipEmpty (cfg : Cfg) (o : CacheOps σ) (f : File) : Nat → Reader σ → Except Fault (Reader σ)
  | 0, _ => .error .hang
  | fuel + 1, r =>
    match r.cur with
    | none => .error .panic
    | some id =>
      if (r.heap id).len = 0 then
        match nextBlock cfg o f r with
        | .error e => .error e
        | .ok (r1, e) =>
          if e = .none then skipEmpty cfg o f fuel { r1 with err := .none } else .ok { r1 with err := e }
      else .ok r

/-- the copy loop of `Read`: `want` bytes still to deliver, `acc` delivered so far.
Result: reader, bytes, and `true` if the Blocked early return was taken. -/
def readLoop (cfg : Cfg) (o : CacheOps σ) (f : File) :
    Nat → Reader σ → Nat → List Nat → Except Fault (Reader σ × List Nat × Bool)
  | 0, _, _, _ => .error .hang
  | fuel + 1, r, want, acc =>
    if want = 0 || r.err ≠ .none then .ok (r, acc, false)
    else
      match r.cur with
      | none => .error .panic
      | some id =>
        let b := r.heap id
        if !b.hasData then .error .panic
        else if b.len = 0 then
          -- current.Read returned (0, io.EOF)
          if r.blocked then .ok (r, acc, true)
          else
            match nextBlock cfg o f r with
            | .error e => .error e
            | .ok (r1, e) => readLoop cfg o f fuel { r1 with err := e } want acc
        else
          let k := min want b.len
          let bytes := (b.data.drop b.pos).take k
          let r1 := r.setB id { b with pos := b.pos + k, offBlock := (b.offBlock + k) % 65536, used := true }
          readLoop cfg o f fuel r1 (want - k) (acc ++ bytes)

/-- enough for every loop of `Read`: each iteration delivers at least one byte or moves to another member,
and between two deliveries at most all members (plus the failing fetch at the end) are passed -/
def fuelFor (f : File) (n : Nat) : Nat := (n + 1) * (f.length + 2) + 1

def curOffset (r : Reader σ) : Int × Nat :=
  match r.cur with
  | some id => (r.heap id).txOffset
  | none => (0, 0)

/-- `Read(p)` with `len(p) = n` -/
def read (cfg : Cfg) (o : CacheOps σ) (f : File) (r : Reader σ) (n : Nat) :
    Except Fault (Reader σ × List Nat × ErrClass) :=
  if r.err ≠ .none then .ok (r, [], r.err.cls)
  else
    match skipEmpty cfg o f (fuelFor f 0) r with
    | .error e => .error e
    | .ok r1 =>
      if r1.err ≠ .none then .ok (r1, [], r1.err.cls)
      else
        let r2 := { r1 with chunkBegin := curOffset r1 }
        match readLoop cfg o f (fuelFor f n) r2 n [] with
        | .error e => .error e
        | .ok (r3, bytes, true) =>
          -- Blocked: bg.err = nil; lastChunk.End = …; return n, io.EOF
          .ok ({ r3 with err := .none, chunkEnd := curOffset r3 }, bytes, .eof)
        | .ok (r3, bytes, false) => .ok ({ r3 with chunkEnd := curOffset r3 }, bytes, r3.err.cls)

/-- the tail of `ReadByte`: `skipEmpty` left a block with `len() > 0`, so `current.ReadByte` succeeds -/
def byteFin (r : Reader σ) : Except Fault (Reader σ × List Nat × ErrClass) :=
  match r.cur with
  | none => .error .panic
  | some id =>
    let b := r.heap id
    match (b.data.drop b.pos).head? with
    | none => .error .panic
    | some x =>
      let b' : RBlk := { b with pos := b.pos + 1, offBlock := (b.offBlock + 1) % 65536, used := true }
      let r3 := r.setB id b'
      .ok ({ r3 with chunkBegin := b.txOffset, chunkEnd := b'.txOffset }, [x], .ok)

/-- `ReadByte()` -/
def readByte (cfg : Cfg) (o : CacheOps σ) (f : File) (r : Reader σ) :
    Except Fault (Reader σ × List Nat × ErrClass) :=
  if r.err ≠ .none then .ok (r, [], r.err.cls)
  else
    match skipEmpty cfg o f (fuelFor f 0) r with
    | .error e => .error e
    | .ok r1 => if r1.err ≠ .none then .ok (r1, [], r1.err.cls) else byteFin r1

/-- `NewReader`: the first member is decompressed at once -/
def newReader (o : CacheOps σ) (cfg : Cfg) (f : File) : Except Fault (Reader σ × Err) :=
  let r0 : Reader σ := ⟨fun _ => {}, 0, none, .none, (0, 0), (0, 0), false, none, [], none, []⟩
  nextBlockAt cfg o f r0 0

inductive Op (σ : Type)
  | seek (file : Int) (blk : Nat)
  | read (n : Nat)
  | readByte
  | setCache (c : Option σ) (hints : List Int)
  /-- `SetCache(c)` for the `i`-th cache object that was replaced earlier, with whatever it holds -/
  | reattach (i : Nat) (hints : List Int)
  | setBlocked (b : Bool)

/-- what the caller sees of one call: bytes, error class, LastChunk -/
structure Out where
  bytes : List Nat
  err : ErrClass
  chunk : (Int × Nat) × (Int × Nat)
deriving DecidableEq, Repr

def step (cfg : Cfg) (o : CacheOps σ) (f : File) (r : Reader σ) : Op σ → Except Fault (Reader σ × Out)
  | .seek file blk =>
    match seek cfg o f r file blk with
    | .error e => .error e
    | .ok (r', e) => .ok (r', ⟨[], e, (r'.chunkBegin, r'.chunkEnd)⟩)
  | .read n =>
    match read cfg o f r n with
    | .error e => .error e
    | .ok (r', bs, e) => .ok (r', ⟨bs, e, (r'.chunkBegin, r'.chunkEnd)⟩)
  | .readByte =>
    match readByte cfg o f r with
    | .error e => .error e
    | .ok (r', bs, e) => .ok (r', ⟨bs, e, (r'.chunkBegin, r'.chunkEnd)⟩)
  | .setCache c hints =>
    let r' := { r with cache := c, hints := hints, parked := r.parked ++ r.cache.toList }
    .ok (r', ⟨[], .ok, (r'.chunkBegin, r'.chunkEnd)⟩)
  | .reattach i hints =>
    let r' : Reader σ :=
      match r.parked[i]? with
      | some c => { r with cache := some c, hints := hints, parked := r.parked.eraseIdx i ++ r.cache.toList }
      | none => { r with cache := none, hints := hints, parked := r.parked ++ r.cache.toList }
    .ok (r', ⟨[], .ok, (r'.chunkBegin, r'.chunkEnd)⟩)
  | .setBlocked b =>
    let r' := { r with blocked := b }
    .ok (r', ⟨[], .ok, (r'.chunkBegin, r'.chunkEnd)⟩)

def run (cfg : Cfg) (o : CacheOps σ) (f : File) : Reader σ → List (Op σ) → Except Fault (Reader σ × List Out)
  | r, [] => .ok (r, [])
  | r, op :: ops =>
    match step cfg o f r op with
    | .error e => .error e
    | .ok (r1, out) =>
      match run cfg o f r1 ops with
      | .error e => .error e
      | .ok (r2, outs) => .ok (r2, out :: outs)

/-- the same history without a cache: every `SetCache`, of a new cache or of one used earlier, becomes `SetCache(nil)`
(still a call with an `Out`, so the two runs answer call by call) -/
def Op.uncached : Op σ → Op σ
  | .setCache _ _ => .setCache none []
  | .reattach _ _ => .setCache none []
  | op => op

end Hts.Model.CachedReader
