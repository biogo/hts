/-
`bam.Reader` (Model/BamChunks.lean) as a client of the bgzf reader in the sense of Model/ReaderOverLTS.lean
(`Client`: a computation that uses the reader only through Read/ReadByte/Seek/Blocked and what they return), so
that it can be run over the read-ahead protocol.  Core Lean only.  `cReadFull` … `cBamNew` are functions of
Model/BamChunks.lean (`cBamRead`: `BamReader.read`, `cHeader`: `consumeHeader`, `cBamNew`: `BamReader.new`, the others
the same name without the `c`); `cSeqPass` and `cReplay` are the two client scripts of C13's theorems for rd > 1
(`Lemmas/BamOverLTS.lean`: `…_run`).
-/
import Hts.Model.ReaderOverLTS
import Hts.Model.BamChunks
namespace Hts.Model.ReadAhead
open Hts.Model.Bgzf
open Hts.Spec.Flat (Offset Chunk vOffset)

def Client.bind {α β : Type} : Client α → (α → Client β) → Client β
  | .done a, f => f a
  | .op o k, f => .op o fun out r => (k out r).bind f

/-- What `io.ReadFull(bg, p)`, `len(p) = n > 0`, makes of the one `Read` it needs. -/
def fullOf (n : Nat) (o : Out) : List UInt8 × Option Err :=
  if n ≤ o.bytes.length then (o.bytes, none)
  else match o.err with
    | none => (o.bytes, some .short)
    | some .eof => (o.bytes, if o.bytes.length = 0 then some .eof else some .unexpectedEOF)
    | some e => (o.bytes, some e)

def cReadFull (n : Nat) (r : Reader) : Client (Reader × List UInt8 × Option Err) :=
  if n = 0 then .done (r, [], none)
  else .op (.read n) fun o r' => .done (r', (fullOf n o).1, (fullOf n o).2)

/-- `newBuffer` (bam/reader.go) as a client of the bgzf reader. -/
def cNewBuffer (br : BamReader) : Client (BamReader × Except Err (List UInt8)) :=
  (cReadFull 4 br.r).bind fun p1 =>
    match p1.2.2 with
    | some e => .done ({ br with r := p1.1, lastChunk := ⟨p1.1.lastChunk.bgn, p1.1.lastChunk.fin⟩ }, .error e)
    | none =>
      if leInt32 p1.2.1 = 0 then
        .done ({ br with r := p1.1, lastChunk := ⟨p1.1.lastChunk.bgn, p1.1.lastChunk.fin⟩ }, .error .eof)
      else if leInt32 p1.2.1 < 0 then
        .done ({ br with r := p1.1, lastChunk := ⟨p1.1.lastChunk.bgn, p1.1.lastChunk.fin⟩ }, .error .other)
      else
        (cReadFull (leInt32 p1.2.1).toNat p1.1).bind fun p2 =>
          match p2.2.2 with
          | some e =>
            .done ({ br with r := p2.1, lastChunk := ⟨p1.1.lastChunk.bgn, p2.1.lastChunk.fin⟩ },
              .error (if e = .eof then .unexpectedEOF else e))
          | none =>
            .done ({ br with r := p2.1, lastChunk := ⟨p1.1.lastChunk.bgn, p2.1.lastChunk.fin⟩ }, .ok p2.2.1)

/-- `bam.Reader.Read` -/
def cBamRead (br : BamReader) : Client (BamReader × Except Err (List UInt8)) :=
  match br.c with
  | some c => if vOffset c.fin ≤ vOffset br.r.lastChunk.fin then .done (br, .error .eof) else cNewBuffer br
  | none => cNewBuffer br

/-- The client loop `for { rec, err := br.Read(); … }`, at most `k` rounds. -/
def cReadN : Nat → BamReader → Client (BamReader × List (List UInt8 × Chunk) × Option Err)
  | 0, br => .done (br, [], none)
  | k + 1, br =>
    (cBamRead br).bind fun p =>
      match p.2 with
      | .ok body => (cReadN k p.1).bind fun q => .done (q.1, (body, p.1.lastChunk) :: q.2.1, q.2.2)
      | .error e => .done (p.1, [], some e)

/-- `SetChunk` -/
def cSetChunk (br : BamReader) : Option Chunk → Client (BamReader × Option Err)
  | none => .done ({ br with c := none }, none)
  | some c => .op (.seek c.bgn) fun o r' =>
      match o.err with
      | some e => .done ({ br with r := r' }, some e)
      | none => .done ({ br with r := r', c := some c }, none)

/-- The header decoder's reads (`BamReader.consumeHeader`). -/
def cHeader : List Nat → Reader → Client (Reader × Option Err)
  | [], r => .done (r, none)
  | n :: ns, _ => .op (.read n) fun o r' =>
      if o.bytes.length ≠ n then .done (r', some (o.err.getD .other))
      else match o.err with
        | some e => .done (r', some e)
        | none => cHeader ns r'

/-- `bam.NewReader` after `bgzf.NewReader` succeeded with `r0`. -/
def cBamNew (hs : List Nat) (r0 : Reader) : Client (Except Err BamReader) :=
  (cHeader hs r0).bind fun p =>
    match p.2 with
    | some e => .done (.error e)
    | none => .done (.ok ⟨p.1, none, ⟨⟨0, 0⟩, p.1.lastChunk.fin⟩⟩)

/-- Open the BAM file, then read up to `k` records noting their chunks. -/
def cSeqPass (hs : List Nat) (k : Nat) (r0 : Reader) : Client (Option (List (List UInt8 × Chunk) × Option Err)) :=
  (cBamNew hs r0).bind fun x =>
    match x with
    | .ok br => (cReadN k br).bind fun q => .done (some q.2)
    | .error _ => .done none

/-- Open the BAM file, `SetChunk(c)`, then read up to `k` records. -/
def cReplay (hs : List Nat) (c : Chunk) (k : Nat) (r0 : Reader) :
    Client (Option (Option Err × List (List UInt8 × Chunk) × Option Err)) :=
  (cBamNew hs r0).bind fun x =>
    match x with
    | .ok br => (cSetChunk br (some c)).bind fun p =>
        (cReadN k p.1).bind fun q => .done (some (p.2, q.2))
    | .error _ => .done none

end Hts.Model.ReadAhead
