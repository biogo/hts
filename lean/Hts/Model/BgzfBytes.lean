/-
Model of the BGZF / BAM *byte-level* readers (property C10).  Core Lean only.

Unlike the member-list reader of C01/C02 this reader runs over an ARBITRARY byte string: it is the
code that decides where members begin and end, so it can be run on truncated and corrupted input.

Mirrors (with the C10 repairs applied, see `Quirks`):
* compress/gzip `Reader.readHeader`, `readString`, and the trailer check / multistream loop of
  `Reader.Read` (Go 1.23) — the part of compress/gzip that *frames*; DEFLATE and CRC-32 themselves
  are the `Codec` parameter;
* bgzf/reader.go `expectedMemberSize`, `decompressor.readMember`, `buffer.readLimited` (io.ReadFull),
  `nextBlockAt`, `Reader.Read`/`nextBlock` flattened to "all data, then the terminal error";
* bgzf/cache.go `readToEOF` / `block.readFrom` (data of a member is installed only if the gzip reader
  reached its verified end; the one-byte probe after MaxBlockSize bytes; more is io.ErrShortBuffer);
* bgzf/bgzf.go `HasEOF`;
* sam/parse_header.go `DecodeBinary` framing and bam/reader.go `newBuffer` (length-prefix framing).

`Quirks` selects, per defect found by the C10 check, between the behaviour of the unchanged tree
(`true`) and of the repaired tree (`false`).  The property theorems are about `Quirks.repaired`;
the driver runs `Quirks.repaired`; `Quirks.unrepaired` is kept for the witness theorems.
-/
namespace Hts.Model.BgzfBytes

abbrev Bytes := List UInt8

/-- Error values of the readers.  `eof` is Go's `io.EOF`: the *clean end*. -/
inductive Err where
  | eof                 -- io.EOF
  | unexpectedEOF       -- io.ErrUnexpectedEOF
  | gzHeader            -- gzip.ErrHeader
  | gzChecksum          -- gzip.ErrChecksum
  | noBlockSize         -- bgzf.ErrNoBlockSize
  | corrupt             -- bgzf.ErrCorrupt
  | shortBuffer         -- io.ErrShortBuffer (payload longer than MaxBlockSize)
  | inflate (code : Nat) -- error reported by the DEFLATE decoder (opaque to the model)
  | bam (code : Nat)    -- a BAM/SAM-level rejection (magic, negative length, …)
  | unreachable         -- a branch proved dead (`Hts.Lemmas.BgzfBytes.readBlock_rest_lt`); never produced
deriving DecidableEq, Repr

/-- Result of the DEFLATE decoder on a byte string: the payload and the number of input bytes the
deflate stream occupies, or a failure. -/
inductive InflateResult where
  | ok (payload : Bytes) (used : Nat)
  /-- failure, after `produced` bytes of output had been delivered -/
  | fail (code : Nat) (produced : Nat)
deriving DecidableEq, Repr

/-- compress/flate and hash/crc32, as parameters.  No law is needed for the C10 theorems, except `PrefixDetermined`
as a hypothesis of the two that name it (`subst_bsize_smaller_is_error`, `subst_trailer_is_error`): they are
about what the reader does *with* these functions on every path. -/
structure Codec where
  inflate : Bytes → InflateResult
  crc32 : Bytes → Nat

/-- Defects of the unchanged tree, individually switchable (`true` = behaviour of the unchanged tree). -/
structure Quirks where
  /-- readMember: `need == 0` returns io.EOF (DESIGN §6 #32); repaired: ErrCorrupt. -/
  eofOnZeroNeed : Bool
  /-- readMember: io.ReadFull of the body with no byte available returns io.EOF (§6 #31);
      repaired: io.ErrUnexpectedEOF. -/
  eofOnEmptyBody : Bool
  /-- bam newBuffer: io.ReadFull of the record body with no byte available returns io.EOF;
      repaired: io.ErrUnexpectedEOF. -/
  bamEofOnEmptyBody : Bool
  /-- cache.go readToEOF: the count of the one-byte probe read after MaxBlockSize bytes is ignored, so a
      byte delivered together with io.EOF is dropped (audit H-1); repaired: any probed byte is
      io.ErrShortBuffer. -/
  dummyReadCountIgnored : Bool
deriving DecidableEq, Repr

def Quirks.repaired : Quirks := ⟨false, false, false, false⟩
def Quirks.unrepaired : Quirks := ⟨true, true, true, true⟩

def BlockSize : Nat := 0xff00
def MaxBlockSize : Nat := 0x10000

/-- little-endian value of a byte string (used on 2- and 4-byte fields) -/
def leNat : Bytes → Nat
  | [] => 0
  | b :: t => b.toNat + 256 * leNat t

/-! ### compress/gzip header -/

structure GzHeader where
  flg : UInt8
  mtime : Nat
  xfl : UInt8
  os : UInt8
  /-- `none` = FEXTRA not set (Go: nil slice) -/
  extra : Option Bytes
  name : Bytes
  comment : Bytes
deriving DecidableEq, Repr

/-- `Reader.readString`: number of bytes consumed (string and its NUL), `z.buf` holds 512 bytes.
`i` is the loop counter. -/
def readString : Nat → Bytes → Except Err Nat
  | i, [] => if i ≥ 512 then .error .gzHeader else .error .unexpectedEOF
  | i, b :: t =>
    if i ≥ 512 then .error .gzHeader
    else if b = 0 then .ok (i + 1)
    else readString (i + 1) t

/-- optional NUL-terminated field: (bytes consumed, content) -/
def readOptString (present : Bool) (s : Bytes) : Except Err (Nat × Bytes) :=
  if present then
    match readString 0 s with
    | .error e => .error e
    | .ok n => .ok (n, s.take (n - 1))
  else .ok (0, [])

def flagSet (flg : UInt8) (bit : UInt8) : Bool := flg &&& bit != 0

/-- FEXTRA: `(bytes consumed, Extra)` from the input after the ten fixed bytes -/
def readExtra (flg : UInt8) (r0 : Bytes) : Except Err (Nat × Option Bytes) :=
  if flagSet flg 4 then
    match r0 with
    | x0 :: x1 :: r1 =>
      if r1.length < x0.toNat + 256 * x1.toNat then .error .unexpectedEOF
      else .ok (2 + (x0.toNat + 256 * x1.toNat), some (r1.take (x0.toNat + 256 * x1.toNat)))
    | _ => .error .unexpectedEOF
  else .ok (0, none)

/-- FHCRC: the two bytes at offset `n` of the member must equal the low 16 bits of the CRC-32 of the
`n` header bytes before them -/
def readHdrCrc (crc32 : Bytes → Nat) (flg : UInt8) (s : Bytes) (n : Nat) : Except Err Nat :=
  if flagSet flg 2 then
    match s.drop n with
    | d0 :: d1 :: _ =>
      if d0.toNat + 256 * d1.toNat ≠ crc32 (s.take n) % 65536 then .error .gzHeader
      else .ok (n + 2)
    | _ => .error .unexpectedEOF
  else .ok n

/-- `Reader.readHeader` on the remaining input `s`: header and number of bytes consumed.
`io.ReadFull` of the first ten bytes: nothing → io.EOF, some → io.ErrUnexpectedEOF; every later short
read is `noEOF(err)` = io.ErrUnexpectedEOF. -/
def readHeader (crc32 : Bytes → Nat) (s : Bytes) : Except Err (GzHeader × Nat) :=
  match s with
  | [] => .error .eof
  | id1 :: id2 :: cm :: flg :: m0 :: m1 :: m2 :: m3 :: xfl :: os :: r0 =>
    if id1 ≠ 0x1f ∨ id2 ≠ 0x8b ∨ cm ≠ 8 then .error .gzHeader
    else
      match readExtra flg r0 with
      | .error e => .error e
      | .ok (nx, extra) =>
        match readOptString (flagSet flg 8) (r0.drop nx) with
        | .error e => .error e
        | .ok (nn, name) =>
          match readOptString (flagSet flg 16) (r0.drop (nx + nn)) with
          | .error e => .error e
          | .ok (nc, comment) =>
            match readHdrCrc crc32 flg s (10 + nx + nn + nc) with
            | .error e => .error e
            | .ok n => .ok (⟨flg, leNat [m0, m1, m2, m3], xfl, os, extra, name, comment⟩, n)
  | _ => .error .unexpectedEOF

/-! ### bgzf framing -/

/-- `bytes.Index`: first position at which `pat` occurs in `s` -/
def findSub (pat : Bytes) : Bytes → Option Nat
  | [] => if pat.isEmpty then some 0 else none
  | b :: t =>
    if pat.isPrefixOf (b :: t) then some 0
    else (findSub pat t).map (· + 1)

def bgzfExtraPrefix : Bytes := [0x42, 0x43, 0x02, 0x00]

/-- `expectedMemberSize`; `none` is Go's −1.
`i := bytes.Index(h.Extra, "BC\x02\x00"); if i < 0 || i+5 >= len(h.Extra) {return -1};
 return (int(h.Extra[i+4]) | int(h.Extra[i+5])<<8) + 1` -/
def expectedMemberSize (extra : Option Bytes) : Option Nat :=
  match extra with
  | none => none
  | some ex =>
    match findSub bgzfExtraPrefix ex with
    | none => none
    | some i =>
      match ex.drop (i + 4) with
      | lo :: hi :: _ => some (lo.toNat + 256 * hi.toNat + 1)
      | _ => none

/-- Result of `readMember` + `readLimited`: the gzip header, the buffered rest of the member
(`need` bytes: deflate data and trailer) and the input after the member. -/
structure Framed where
  hdr : GzHeader
  body : Bytes
  rest : Bytes
deriving DecidableEq, Repr

/-- `decompressor.readMember` on the remaining input `s` (the count reader is at the member start). -/
def readMember (q : Quirks) (c : Codec) (s : Bytes) : Except Err Framed :=
  match readHeader c.crc32 s with
  | .error e => .error e                       -- d.gz.Reset(d) failed (includes the clean io.EOF on empty input)
  | .ok (h, skipped) =>
    match expectedMemberSize h.extra with
    | none => .error .noBlockSize
    | some blockSize =>
      -- need := blockSize - skipped
      if blockSize = skipped then .error (if q.eofOnZeroNeed then .eof else .corrupt)
      else if blockSize < skipped then .error .corrupt
      else
        -- need := blockSize - skipped; io.ReadFull(src, r.data[:need]) on what follows the header
        if (s.drop skipped).length ≥ blockSize - skipped then
          .ok ⟨h, (s.drop skipped).take (blockSize - skipped), (s.drop skipped).drop (blockSize - skipped)⟩
        else if s.drop skipped = [] then .error (if q.eofOnEmptyBody then .eof else .unexpectedEOF)
        else .error .unexpectedEOF

/-! ### gzip member body: inflate, trailer check, multistream continuation inside the buffer -/

/-- The gzip reader (after its header) over the buffered `need` bytes, read to its end: success only
after the 8-byte trailer matched CRC-32 and ISIZE of what was inflated.
compress/gzip is in multistream mode after `Reset`: after a verified trailer it looks for a further
member *inside the buffer*; an empty remainder is the clean end.

Result: `ok (data, lastNonEmpty)` — all bytes delivered, then io.EOF; `lastNonEmpty` says that the last
gzip member holds at least one byte (then the final byte and io.EOF arrive in the same `Read`);
`error (e, produced)` — `produced` bytes are delivered without error, then `e` (compress/flate delivers
everything it decoded before it reports an error; a trailer mismatch is seen after the whole payload). -/
def gzBody (c : Codec) (buf : Bytes) : Except (Err × Nat) (Bytes × Bool) :=
  match c.inflate buf with
  | .fail code produced => .error (.inflate code, produced)
  | .ok payload used =>
    if _h8 : (buf.drop used).length < 8 then .error (.unexpectedEOF, payload.length)
    else if leNat ((buf.drop used).take 4) ≠ c.crc32 payload
        ∨ leNat (((buf.drop used).drop 4).take 4) ≠ payload.length % 4294967296 then
      .error (.gzChecksum, payload.length)
    else
      match readHeader c.crc32 ((buf.drop used).drop 8) with
      | .error .eof => .ok (payload, !payload.isEmpty)
      | .error e => .error (e, payload.length)
      | .ok (_, hl) =>
        match gzBody c (((buf.drop used).drop 8).drop hl) with
        | .error (e, n) => .error (e, payload.length + n)
        | .ok (p2, ne) => .ok (payload ++ p2, ne)
termination_by buf.length
decreasing_by
  simp only [List.length_drop] at _h8 ⊢
  omega

/-- cache.go `readToEOF` + `block.readFrom` over what the gzip reader delivers: up to `MaxBlockSize`
bytes are read into the block; if the reader has not ended by then, ONE more byte is probed:
nothing more and io.EOF → the block is complete; a byte → `io.ErrShortBuffer` (repaired).
The unchanged tree ignored the count of the probe and looked at its error only, so a 65537th byte
arriving together with io.EOF was dropped and the block accepted with 65536 bytes; and an error
arriving with that byte was returned in place of ErrShortBuffer (for the unrepaired variant the model
assumes the error does arrive with it; this affects the error kind only). -/
def readToEOF (q : Quirks) : Except (Err × Nat) (Bytes × Bool) → Except Err Bytes
  | .ok (data, lastNonEmpty) =>
    if data.length ≤ MaxBlockSize then .ok data
    else if q.dummyReadCountIgnored ∧ data.length = MaxBlockSize + 1 ∧ lastNonEmpty then
      .ok (data.take MaxBlockSize)
    else .error .shortBuffer
  | .error (e, produced) =>
    if produced ≤ MaxBlockSize then .error e
    else if q.dummyReadCountIgnored ∧ produced = MaxBlockSize + 1 then .error e
    else .error .shortBuffer

/-- One block: frame the member, run the gzip reader over it into the block buffer. -/
def readBlock (q : Quirks) (c : Codec) (s : Bytes) : Except Err (Bytes × Bytes) :=
  match readMember q c s with
  | .error e => .error e
  | .ok f =>
    match readToEOF q (gzBody c f.body) with
    | .error e => .error e
    | .ok payload => .ok (payload, f.rest)

/-- The whole stream as seen through `NewReader` + `Read`…: all bytes delivered, then the terminal
(sticky) error; `eof` is the clean end.  Data of a member is delivered only if `readBlock` succeeded. -/
def readAll (q : Quirks) (c : Codec) (s : Bytes) : Bytes × Err :=
  match readBlock q c s with
  | .error e => ([], e)
  | .ok (payload, rest) =>
    if _h : rest.length < s.length then
      let r := readAll q c rest
      (payload ++ r.1, r.2)
    else ([], .unreachable)
termination_by s.length

/-! ### HasEOF -/

def magicBlock : Bytes :=
  [0x1f, 0x8b, 0x08, 0x04, 0x00, 0x00, 0x00, 0x00, 0x00, 0xff, 0x06, 0x00, 0x42, 0x43, 0x02, 0x00,
   0x1b, 0x00, 0x03, 0x00, 0x00, 0x00, 0x00, 0x00, 0x00, 0x00, 0x00, 0x00]

/-- `bgzf.HasEOF`: `(result, errored)`; for fewer than 28 bytes `ReadAt` fails (negative offset) and
the result is `false` with an error. -/
def hasEOF (s : Bytes) : Bool × Bool :=
  if s.length < 28 then (false, true)
  else (s.drop (s.length - 28) == magicBlock, false)

/-! ### BAM on top of the flat data -/

/-- What a consumer of `bgzf.Reader` sees: the remaining data and the terminal error. -/
structure Flat where
  data : Bytes
  fin : Err
deriving DecidableEq, Repr

/-- `io.ReadFull(bg, buf[:n])` -/
def Flat.readFull (f : Flat) (n : Nat) : Except Err (Bytes × Flat) :=
  if n = 0 then .ok ([], f)
  else if f.data.length ≥ n then .ok (f.data.take n, { f with data := f.data.drop n })
  else if f.data = [] then .error f.fin
  else .error (if f.fin = .eof then .unexpectedEOF else f.fin)

/-- one `bg.Read(buf[:n])` whose error is returned by the caller as it is (`DecodeBinary`) -/
def Flat.read (f : Flat) (n : Nat) : Except Err (Bytes × Flat) :=
  if f.data = [] then .error f.fin
  else if f.data.length ≥ n then .ok (f.data.take n, { f with data := f.data.drop n })
  else .error f.fin

/-- what the model does not look into: the SAM header text parser and the record body decoder -/
structure BamSem where
  textOk : Bytes → Bool
  recOk : Bytes → Bool

def bamMagic : Bytes := [0x42, 0x41, 0x4d, 0x01]

/-- `readRefRecords` -/
def bamRefs : Nat → Flat → Except Err Flat
  | 0, f => .ok f
  | n + 1, f =>
    match f.readFull 4 with
    | .error e => .error e
    | .ok (ln, f) =>
      let lName := leNat ln
      if lName ≥ 2147483648 ∨ lName < 1 then .error (.bam 4)
      else match f.read lName with
        | .error e => .error e
        | .ok (name, f) =>
          if name.getLast? ≠ some 0 then .error (.bam 5)
          else match f.readFull 4 with
            | .error e => .error e
            | .ok (_, f) => bamRefs n f

/-- `sam.Header.DecodeBinary` as called by `bam.NewReader` -/
def bamHeader (sem : BamSem) (f : Flat) : Except Err Flat :=
  match f.readFull 4 with
  | .error e => .error e
  | .ok (magic, f) =>
    if magic ≠ bamMagic then .error (.bam 1)
    else match f.readFull 4 with
      | .error e => .error e
      | .ok (lt, f) =>
        let lText := leNat lt
        if lText ≥ 2147483648 then .error (.bam 2)
        else match f.read lText with
          | .error e => .error e
          | .ok (text, f) =>
            if !sem.textOk text then .error (.bam 6)
            else match f.readFull 4 with
              | .error e => .error e
              | .ok (nr, f) =>
                let nRef := leNat nr
                if nRef ≥ 2147483648 then .error (.bam 3)
                else bamRefs nRef f

/-- `newBuffer`: the next record body, or the error `Read` returns -/
def bamNext (q : Quirks) (f : Flat) : Except Err (Bytes × Flat) :=
  match f.readFull 4 with
  | .error e => .error e
  | .ok (sz, f) =>
    let size := leNat sz
    if size = 0 then .error .eof
    else if size ≥ 2147483648 then .error (.bam 7)
    else match f.readFull size with
      | .error e => .error (if e = .eof ∧ !q.bamEofOnEmptyBody then .unexpectedEOF else e)
      | .ok (body, f) => .ok (body, f)

/-- all records `bam.Reader.Read` returns, then its terminal error -/
def bamRecords (q : Quirks) (sem : BamSem) (f : Flat) : List Bytes × Err :=
  match bamNext q f with
  | .error e => ([], e)
  | .ok (body, f') =>
    if !sem.recOk body then ([], .bam 8)
    else if _h : f'.data.length < f.data.length then
      let r := bamRecords q sem f'
      (body :: r.1, r.2)
    else ([], .unreachable)
termination_by f.data.length

inductive BamOutcome where
  /-- `bam.NewReader` returned an error (no reader, no record) -/
  | headerErr (e : Err)
  /-- records returned by `Read`, then the error (`eof` = clean end) -/
  | records (rs : List Bytes) (e : Err)
deriving DecidableEq, Repr

/-- `bam.NewReader` + `Read` until an error, over a byte string -/
def bamReadAll (q : Quirks) (c : Codec) (sem : BamSem) (s : Bytes) : BamOutcome :=
  let r := readAll q c s
  match bamHeader sem ⟨r.1, r.2⟩ with
  | .error e => .headerErr e
  | .ok f =>
    let rr := bamRecords q sem f
    .records rr.1 rr.2

end Hts.Model.BgzfBytes
