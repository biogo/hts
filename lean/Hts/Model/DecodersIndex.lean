/-
C11 — panic-aware model of the BAI reader: bam.ReadIndex, internal.ReadIndex, readIndices, readBins,
readChunks, readStats, readIntervals (internal/index_read.go), with the repairs fixes/C11-11 (negative
counts).  Core Lean only.

The stream is a byte list; `binary.Read`/`io.ReadFull` of k bytes is `take? k` (an error when fewer
are left).  `make([]T, n)` is the partial operation `makeLen` (panic when n < 0); a huge n is the
separate outcome `oom` of the implementation and is not modelled: the model simply goes on and fails at
the first read beyond the end of the input.  What is kept of the decoded index is what the canonical
comparison needs: the number of references and the length of its re-serialisation by WriteIndex.
-/
import Hts.Model.Decoders
namespace Hts.Model.Decoders
open Outcome (ok err)

/-- read k bytes -/
def take? (k : Nat) (s : Bytes) : Outcome (Bytes × Bytes) :=
  if s.length < k then err else ok (s.take k, s.drop k)

def leNat : Bytes → Nat
  | [] => 0
  | x :: rest => x.toNat + 256 * leNat rest

def rdI32 (s : Bytes) : Outcome (Int × Bytes) := do
  let (b, r) ← take? 4 s
  pure (asInt32 (leNat b), r)

def rdU32 (s : Bytes) : Outcome (Nat × Bytes) := do
  let (b, r) ← take? 4 s
  pure (leNat b, r)

def skip (k : Nat) (s : Bytes) : Outcome Bytes := do
  let (_, r) ← take? k s
  pure r

/-- `cnt` records of `size` bytes each, one read per record -/
def readRecords (size : Nat) : (cnt : Nat) → Bytes → Outcome Bytes
  | 0, s => ok s
  | cnt + 1, s =>
    match skip size s with
    | ok r => readRecords size cnt r
    | err => err
    | .panic p => .panic p

/-- `readChunks(r, n, typ)`: the number of chunks and the rest of the stream -/
def readChunksM (n : Int) (s : Bytes) : Outcome (Nat × Bytes) :=
  if n = 0 then ok (0, s)
  else if n < 0 then err
  else do
    let cnt ← makeLen "internal.readChunks:make([]bgzf.Chunk, n)" n
    let r ← readRecords 16 cnt s
    pure (cnt, r)

/-- `readIntervals(r, typ)` -/
def readIntervalsM (s : Bytes) : Outcome (Nat × Bytes) := do
  let (n, s) ← rdI32 s
  if n = 0 then pure (0, s)
  else if n < 0 then err
  else
    let cnt ← makeLen "internal.readIntervals:make([]bgzf.Offset, n)" n
    let r ← readRecords 8 cnt s
    pure (cnt, r)

def statsDummyBin : Nat := 37450

structure BinsAcc where
  nBins : Nat := 0
  nChunks : Nat := 0
  hasStats : Bool := false

/-- the loop of `readBins`: `for i := 0; i < len(bins); i++`, where the statistics pseudo-bin does
`bins = bins[:len(bins)-1]; i--`.  `remaining = len(bins) - i` decreases on both paths. -/
def readBinsLoop : (remaining : Nat) → (lenBins : Int) → Bytes → BinsAcc → Outcome (BinsAcc × Bytes)
  | 0, _, s, acc => ok (acc, s)
  | remaining + 1, lenBins, s, acc =>
    match rdU32 s with
    | ok (bin, s1) =>
      match rdI32 s1 with
      | ok (n, s2) =>
        if bin = statsDummyBin then
          if n ≠ 2 then err
          else
            match skip 32 s2 with
            | ok s3 =>
              -- bins = bins[:len(bins)-1]
              if lenBins - 1 < 0 ∨ lenBins < lenBins - 1 then .panic "internal.readBins:bins[:len(bins)-1]"
              else readBinsLoop remaining (lenBins - 1) s3 { acc with hasStats := true }
            | err => err
            | .panic p => .panic p
        else
          match readChunksM n s2 with
          | ok (cnt, s3) => readBinsLoop remaining lenBins s3 { acc with nBins := acc.nBins + 1, nChunks := acc.nChunks + cnt }
          | err => err
          | .panic p => .panic p
      | err => err
      | .panic p => .panic p
    | err => err
    | .panic p => .panic p

/-- `readBins(r, typ)` -/
def readBinsM (s : Bytes) : Outcome (BinsAcc × Bytes) := do
  let (n, s) ← rdI32 s
  if n = 0 then pure ({}, s)
  else if n < 0 then err
  else
    let cnt ← makeLen "internal.readBins:make([]Bin, n)" n
    readBinsLoop cnt cnt s {}

/-- bytes `writeBins` + `writeIntervals` produce for one reference -/
def refSerialLen (b : BinsAcc) (nIntervals : Nat) : Nat :=
  4 + 8 * b.nBins + 16 * b.nChunks + (if b.hasStats then 40 else 0) + 4 + 8 * nIntervals

/-- `readIndices`: `n` references; accumulates the serialised length -/
def readRefsLoop : (cnt : Nat) → Bytes → Nat → Outcome (Nat × Bytes)
  | 0, s, len => ok (len, s)
  | cnt + 1, s, len =>
    match readBinsM s with
    | ok (b, s1) =>
      match readIntervalsM s1 with
      | ok (ni, s2) => readRefsLoop cnt s2 (len + refSerialLen b ni)
      | err => err
      | .panic p => .panic p
    | err => err
    | .panic p => .panic p

/-- what `bam.ReadIndex` returns (`none`, the `nil, nil` an index without references once gave, is returned by no branch
of `readIndexBody` any more) -/
abbrev BaiValue := Option (Nat × Nat)

/-- `internal.ReadIndex(r, n, typ)`, for every `n` (`n = 0` is `make` of length 0 and no reference): the references, then
the optional count of unplaced reads.  `base` is the length of what the caller's writer emits before the references. -/
def readIndexBody (n : Int) (s : Bytes) (base : Nat) : Outcome BaiValue :=
  if n < 0 then err
  else do
    let cnt ← makeLen "internal.readIndices:make([]RefIndex, n)" n
    let (len, rest) ← readRefsLoop cnt s base
    -- `binary.Read(r, ..., &nUnmapped)`: io.EOF (nothing left) is accepted, a partial value is an error
    if rest.length = 0 then pure (some (cnt, len))
    else if rest.length < 8 then err
    else pure (some (cnt, len + 8))

/-- `bam.ReadIndex` (since /repo 4339203-era repairs an index without references is read like any
other: `n == 0` no longer returns `nil, nil`) -/
def readBAI (s : Bytes) : Outcome BaiValue := do
  let (magic, s) ← take? 4 s
  if magic ≠ [66, 65, 73, 1] then err
  else
    let (n, s) ← rdI32 s
    readIndexBody n s 8

/-- number of zero-terminated names in a name block that ends with a zero byte:
`strings.Split(names[:len(names)-1], "\x00")` -/
def countNames (names : Bytes) : Nat := (splitOn 0 (names.take (names.length - 1))).length

/-- `readTabixHeader`'s name block: `l_nm < 0` is an error, `l_nm == 0` means no names (/repo bb4b88e),
otherwise the block must end with a zero byte.  Returns the number of names, `l_nm`, and the rest. -/
def readNames (s : Bytes) : Outcome (Nat × Nat × Bytes) := do
  let (lnm, s) ← rdI32 s
  if lnm < 0 then err
  else if lnm = 0 then pure (0, 0, s)
  else
    let cnt ← makeLen "tabix.readTabixHeader:make([]byte, n)" lnm
    let (names, s) ← take? cnt s
    let last ← indexInt "tabix.readTabixHeader:names[len(names)-1]" names ((names.length : Int) - 1)
    if last ≠ 0 then err
    else
      let _ ← sliceTo "tabix.readTabixHeader:names[:len(names)-1]" names (names.length - 1)
      pure (countNames names, cnt, s)

/-- `tabix.ReadFrom`: magic, n_ref, the six header words, the name block, the name count test
(`len(idx.refNames) != int(n)`), then `internal.ReadIndex` -/
def readTabix (s : Bytes) : Outcome BaiValue := do
  let (magic, s) ← take? 4 s
  if magic ≠ [84, 66, 73, 1] then err
  else
    let (n, s) ← rdI32 s
    let s ← skip 24 s
    let (nNames, lnm, s) ← readNames s
    if (nNames : Int) ≠ n then err
    else readIndexBody n s (36 + lnm)

end Hts.Model.Decoders
