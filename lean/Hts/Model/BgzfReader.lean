/-
Executable model of `bgzf.Reader` as used sequentially without a cache (bgzf/reader.go, bgzf/cache.go).
Core Lean only.

A *file* is the list of its gzip members, each given by its uncompressed payload and the size of the
compressed member (DEFLATE/CRC are out of scope here: `memberAt` is "seek the underlying file to this
offset and parse one member", which succeeds exactly at a member start and reports `io.EOF` exactly at
the end of the file).  The reader mirrors `Read`, `ReadByte`, `nextBlock` and `Seek` of reader.go
and the `block` type of cache.go literally: the current block with its `bytes.Reader` index
`pos`, its `offset` (`tx`, the source of `LastChunk`), the sticky `err`, `lastChunk` and `Blocked`.
The code path mirrored is the synchronous one (`bg.dec != nil`, rd = 1; a failed load leaves the block
`failAt` makes: base = the offset asked for, no header, no data); with read-ahead the same
block contents are delivered through the `working` channel and the correspondence check compares
every rd with this model.
-/
import Hts.Spec.FlatFile
namespace Hts.Model.Bgzf
open Hts.Spec.Flat (Offset Chunk vOffset Op)

/-- One gzip member: payload and compressed size (`NextBase − Base`). -/
structure Member where
  data : List UInt8
  csize : Nat

abbrev File := List Member

/-- Error values.  `fuel` and `short` are outcomes of the *model* (a loop bound was hit / `io.ReadFull`
would have had to loop).  On a valid history `fuel` is never returned (`Props.C02.errors_are_eof_only`) and a read
is short only together with an error (`sim_read`, `Props.C02.flat_short_only_with_eof`), which rules out `short`.
`panic` is a Go run-time panic. -/
inductive Err where
  | eof            -- io.EOF
  | unexpectedEOF  -- io.ErrUnexpectedEOF
  | other          -- any other error
  | fuel
  | short
  | panic
deriving DecidableEq, Repr

inductive Load where
  | ok (m : Member)
  | eof
  | bad

/-- Seek the underlying file to `off` and parse a member there. -/
def memberAt : File → Nat → Load
  | [], 0 => .eof
  | [], _ + 1 => .bad
  | m :: rest, off =>
    if off = 0 then .ok m
    else if off < m.csize then .bad
    else memberAt rest (off - m.csize)

/-- `bgzf.block` (cache.go): `base`, header size field (`hsize`, for `NextBase`), the decompressed data
with the `bytes.Reader` index `pos`, and `offset` (`tx`). -/
structure Block where
  base : Nat
  hsize : Nat
  data : List UInt8
  pos : Nat
  tx : Offset

namespace Block

/-- `b.buf.Len()` -/
def len (b : Block) : Nat := b.data.length - b.pos

def nextBase (b : Block) : Nat := b.base + b.hsize

/-- `block.Read(p)` with `len(p) = n`: `bytes.Reader.Read` returns `0, io.EOF` when nothing is left,
otherwise copies; `offset.Block += uint16(n)`. Result: bytes, EOF?, new block. -/
def read (b : Block) (n : Nat) : List UInt8 × Bool × Block :=
  if b.data.length ≤ b.pos then ([], true, b)
  else
    let out := (b.data.drop b.pos).take n
    (out, false, { b with pos := b.pos + out.length,
                          tx := ⟨b.tx.file, (b.tx.block + out.length) % 65536⟩ })

/-- `block.ReadByte()` -/
def readByte (b : Block) : UInt8 × Bool × Block :=
  match b.data.drop b.pos with
  | [] => (0, true, b)
  | c :: _ => (c, false, { b with pos := b.pos + 1, tx := ⟨b.tx.file, (b.tx.block + 1) % 65536⟩ })

/-- `block.seek(offset)`: `bytes.Reader.Seek(offset, 0)` accepts every non-negative offset. -/
def seek (b : Block) (off : Nat) : Block :=
  { b with pos := off, tx := ⟨b.tx.file, off % 65536⟩ }

/-- The block of a failed load (`decompressor.failAt`): labelled with the offset asked for, no header
(`hsize = 0`: `NextBase()` is −1; a loaded member always has a positive size) and no data (`buf == nil`). -/
def failed (base : Nat) : Block := ⟨base, 0, [], 0, ⟨base, 0⟩⟩

/-- `hasData()`: `buf != nil`.  Exactly the blocks of failed loads have none. -/
def hasData (b : Block) : Bool := b.hsize ≠ 0

/-- `dec.using(b).nextBlockAt(base).wait()` -/
def load (f : File) (_b : Block) (base : Nat) : Block × Option Err :=
  match memberAt f base with
  | .ok m => (⟨base, m.csize, m.data, 0, ⟨base, 0⟩⟩, none)
  | .eof => (failed base, some .eof)
  | .bad => (failed base, some .other)

end Block

structure Reader where
  file : File
  cur : Block
  lastChunk : Chunk
  err : Option Err
  blocked : Bool

namespace Reader

/-- `NewReader`: the first member is read synchronously; failure fails the constructor. -/
def new (f : File) : Except Err Reader :=
  match memberAt f 0 with
  | .ok m => .ok ⟨f, ⟨0, m.csize, m.data, 0, ⟨0, 0⟩⟩, ⟨⟨0, 0⟩, ⟨0, 0⟩⟩, none, false⟩
  | .eof => .error .eof
  | .bad => .error .other

/-- `nextBlock` (no cache): `bg.current, err = bg.dec.using(bg.current).nextBlockAt(NextBase).wait()` -/
def nextBlock (r : Reader) : Reader × Option Err :=
  let (b, e) := r.cur.load r.file r.cur.nextBase
  ({ r with cur := b }, e)

/-- `for bg.current.len() == 0 { bg.err = bg.nextBlock(); if bg.err != nil { return 0, bg.err } }`.
The result's `err` says whether the loop returned. -/
def skipEmpty : Nat → Reader → Reader
  | 0, r => { r with err := some .fuel }
  | fuel + 1, r =>
    if r.cur.len = 0 then
      match r.nextBlock with
      | (r', some e) => { r' with err := some e }
      | (r', none) => skipEmpty fuel { r' with err := none }
    else r

def setEnd (r : Reader) : Reader := { r with lastChunk := ⟨r.lastChunk.bgn, r.cur.tx⟩ }

/-- The copy loop of `Read`; `want` is `len(p) - n`.
```
for n < len(p) && bg.err == nil {
    _n, bg.err = bg.current.Read(p[n:]); n += _n
    if bg.err == io.EOF {
        if n == len(p) { bg.err = nil; break }
        if bg.Blocked { bg.err = nil; bg.lastChunk.End = bg.current.txOffset(); return n, io.EOF }
        bg.err = bg.nextBlock()
        if bg.err != nil { break }
    }
}
bg.lastChunk.End = bg.current.txOffset()
return n, bg.err
``` -/
def readLoop : Nat → Reader → Nat → Reader × List UInt8 × Option Err
  | 0, r, _ => ({ r with err := some .fuel }, [], some .fuel)
  | fuel + 1, r, want =>
    if 0 < want ∧ r.err = none then
      match r.cur.read want with
      | (out, false, b) =>
        let (r', rest, e) := readLoop fuel { r with cur := b } (want - out.length)
        (r', out ++ rest, e)
      | (out, true, b) =>
        let r := { r with cur := b, err := some .eof }
        if want - out.length = 0 then
          let r := { r with err := none }
          (r.setEnd, out, r.err)
        else if r.blocked then
          ({ r with err := none }.setEnd, out, some .eof)
        else
          match r.nextBlock with
          | (r', some e) =>
            let r' := { r' with err := some e }
            (r'.setEnd, out, r'.err)
          | (r', none) =>
            let (r'', rest, e) := readLoop fuel { r' with err := none } (want - out.length)
            (r'', out ++ rest, e)
    else (r.setEnd, [], r.err)

def skipFuel (r : Reader) : Nat := r.file.length + 1
def loopFuel (r : Reader) : Nat := 2 * r.file.length + 3

/-- `Reader.Read(p)`, `len(p) = n`. -/
def read (r : Reader) (n : Nat) : Reader × List UInt8 × Option Err :=
  match r.err with
  | some e => (r, [], some e)
  | none =>
    let r := r.skipEmpty r.skipFuel
    match r.err with
    | some e => (r, [], some e)
    | none =>
      let r := { r with lastChunk := ⟨r.cur.tx, r.lastChunk.fin⟩ }
      r.readLoop r.loopFuel n

/-- `Reader.ReadByte()` -/
def readByte (r : Reader) : Reader × UInt8 × Option Err :=
  match r.err with
  | some e => (r, 0, some e)
  | none =>
    let r := r.skipEmpty r.skipFuel
    match r.err with
    | some e => (r, 0, some e)
    | none =>
      let r := { r with lastChunk := ⟨r.cur.tx, r.lastChunk.fin⟩ }
      match r.cur.readByte with
      | (c, false, b) =>
        let r := { r with cur := b }
        (r.setEnd, c, none)
      | (c, true, b) =>
        let r := { r with cur := b, err := some .eof }
        if r.blocked then ({ r with err := none }.setEnd, c, some .eof)
        else
          let (r', e) := r.nextBlock
          let r' := { r' with err := e }
          (r'.setEnd, c, e)

/-- `Reader.Seek(off)` on a seekable file, no cache:
`if off.File != bg.current.Base() || !bg.current.hasData() { … load … }`. -/
def seek (r : Reader) (off : Offset) : Reader × Option Err :=
  if off.file ≠ r.cur.base ∨ r.cur.hasData = false then
    let (b, e) := r.cur.load r.file off.file
    let r := { r with cur := b, err := e }
    match e with
    | some e => (r, some e)
    | none => ({ r with cur := r.cur.seek off.block, err := none, lastChunk := ⟨off, off⟩ }, none)
  else
    ({ r with cur := r.cur.seek off.block, err := none, lastChunk := ⟨off, off⟩ }, none)

def setBlocked (r : Reader) (b : Bool) : Reader := { r with blocked := b }

/-- `BlockLen()` -/
def blockLen (r : Reader) : Nat := r.cur.len

end Reader

/-- What one operation returns. -/
structure Out where
  bytes : List UInt8
  err : Option Err

def Reader.step (r : Reader) : Op → Reader × Out
  | .read n => let (r', bs, e) := r.read n; (r', ⟨bs, e⟩)
  | .readByte => let (r', c, e) := r.readByte; (r', ⟨[c], e⟩)
  | .seek o => let (r', e) := r.seek o; (r', ⟨[], e⟩)
  | .setBlocked b => (r.setBlocked b, ⟨[], none⟩)

/-- Run a history, collecting per operation the output and the observable state after it. -/
def Reader.run (r : Reader) : List Op → List (Out × Reader)
  | [] => []
  | op :: ops => let (r', o) := r.step op; (o, r') :: Reader.run r' ops

/-- The flat view of a file: what `Hts.Spec.Flat` is about. -/
def flatBytes : File → List UInt8
  | [] => []
  | m :: rest => m.data ++ flatBytes rest

def layoutOf : File → Hts.Spec.Flat.Layout
  | [] => []
  | m :: rest => ⟨m.data.length, m.csize⟩ :: layoutOf rest

def flatOf (f : File) : Hts.Spec.Flat.FlatFile := ⟨flatBytes f, layoutOf f⟩

end Hts.Model.Bgzf
