/-
Model of `csi.Index` (csi/csi.go): Add, sort, Chunks, MergeChunks.  Core Lean only.
`reg2bin`/`reg2bins` are parameters (`binOf`, `binsOf`); the driver passes `Hts.Model.Coord.reg2bin`
and `Hts.Model.Coord.reg2bins` (C16).
-/
import Hts.Model.Index
namespace Hts.Model.Csi
open Hts.Model.Index

structure CBin where
  bin : Nat
  left : Int
  records : Nat
  chunks : List Chunk
deriving DecidableEq, Repr, Inhabited

structure CRef where
  bins : List CBin := []
  stats : Option Stats := none
deriving DecidableEq, Repr, Inhabited

structure CIndex where
  aux : List UInt8 := []
  version : Nat := 2
  refs : List CRef := []
  unmapped : Option Nat := none
  minShift : Nat := 14
  depth : Nat := 5
  isSorted : Bool := false
  lastRecord : Int := 0
deriving DecidableEq, Repr, Inhabited

/-- the upper bound of `validIndexPos`: `(1<<(minShift+depth*3) - 1) - 1` computed on Go's 64-bit `int`:
`2^(minShift+3·depth) - 2` up to a shift of 63 (at 63 the two wrap-arounds cancel), and `-2` from a shift
of 64 on (`1 << 64 = 0`), where NO position is valid and every `Add` is rejected -/
def posBound (minShift depth : Nat) : Int :=
  if minShift + 3 * depth < 64 then (2 : Int) ^ (minShift + 3 * depth) - 2 else -2

/-- `validIndexPos` -/
def validPos (minShift depth : Nat) (p : Int) : Bool :=
  decide (-1 ≤ p) && decide (p ≤ posBound minShift depth)

theorem posBound_of_le {ms d : Nat} (h : ms + 3 * d ≤ 63) : posBound ms d = (2 : Int) ^ (ms + 3 * d) - 2 :=
  if_pos (Nat.lt_succ_of_le h)

/-- what `csi.Index.Add(r, c, mapped, placed)` is called with -/
structure CRec where
  rid : Int
  start : Int
  stop : Int
  chunk : Chunk
  placed : Bool
  mapped : Bool
deriving DecidableEq, Repr, Inhabited

/-- bin bookkeeping; the record counter goes up in both branches of an existing bin -/
def addBin : List CBin → Nat → Chunk → List CBin × Bool
  | [], bin, c => ([⟨bin, c.b, 1, [c]⟩], false)
  | b :: bs, bin, c =>
    if b.bin = bin then ({ b with chunks := extendChunks b.chunks c, records := b.records + 1 } :: bs, true)
    else let r := addBin bs bin c; (b :: r.1, r.2)

def addRef (ref : CRef) (last : Int) (bin : Nat) (r : CRec) : CRef × Int × Bool × AddRes :=
  let nb := addBin ref.bins bin r.chunk
  if r.start < last then ({ ref with bins := nb.1 }, last, nb.2, .errPosOrder)
  else ({ bins := nb.1, stats := some (addStats ref.stats r.chunk r.mapped) }, r.start, nb.2, .ok)

/-- a reference index without records -/
def emptyRef : CRef := {}

/-- `csi.Index.Add` -/
def add (binOf : Int → Int → Nat → Nat → Nat) (i : CIndex) (r : CRec) : CIndex × AddRes :=
  if !(validPos i.minShift i.depth r.start && validPos i.minShift i.depth r.stop) then (i, .errRange) else
  let um := umCount i.unmapped
  if !r.placed then ({ i with unmapped := some (um + 1) }, .ok) else
  let i := { i with unmapped := some um }
  if r.rid < 0 then (i, .errNoRef) else
  if r.rid < (i.refs.length : Int) - 1 then (i, .errRefOrder) else
  let rid := r.rid.toNat
  let grown := decide (rid ≥ i.refs.length)
  let refs := if grown then i.refs ++ List.replicate (rid + 1 - i.refs.length) emptyRef else i.refs
  let last := if grown then 0 else i.lastRecord
  match refs[rid]? with
  | none => (i, .panicIndex)
  | some ref =>
    let x := addRef ref last (binOf r.start r.stop i.minShift i.depth) r
    ({ i with refs := refs.set rid x.1, lastRecord := x.2.1, isSorted := i.isSorted && x.2.2.1 }, x.2.2.2)

def addAll (binOf : Int → Int → Nat → Nat → Nat) (i : CIndex) : List CRec → CIndex × List AddRes
  | [] => (i, [])
  | r :: rs =>
    let x := add binOf i r
    let y := addAll binOf x.1 rs
    (y.1, x.2 :: y.2)

def leCBin (a b : CBin) : Bool := decide (a.bin ≤ b.bin)

def sortRef (r : CRef) : CRef :=
  { bins := (r.bins.mergeSort leCBin).map (fun b => { b with chunks := sortChunks b.chunks }), stats := r.stats }

def sort (i : CIndex) : CIndex :=
  if i.isSorted then i else { i with refs := i.refs.map sortRef, isSorted := true }

def findBin (bins : List CBin) (b : Nat) : Option CBin :=
  match bins.find? (fun x => decide (x.bin ≥ b)) with
  | some x => if x.bin = b then some x else none
  | none => none

def candidates (ref : CRef) (bins : List Nat) : List Chunk :=
  bins.flatMap (fun b =>
    match findBin ref.bins b with
    | some bn => bn.chunks.filter (fun c => decide (c.e > bn.left))
    | none => [])

/-- `csi.Index.Chunks`: nil for an unknown reference, otherwise the candidates sorted by begin and
passed through `adjacent` (a parameter) -/
def chunks (binsOf : Int → Int → Nat → Nat → List Nat) (adjacent : List Chunk → List Chunk)
    (i : CIndex) (rid beg stop : Int) : List Chunk :=
  if rid < 0 ∨ rid ≥ (i.refs.length : Int) then [] else
  match (sort i).refs[rid.toNat]? with
  | none => []
  | some ref => adjacent (sortChunks (candidates ref (binsOf beg stop i.minShift i.depth)))

def mergeChunks (s : List Chunk → List Chunk) (i : CIndex) : CIndex :=
  { i with refs := i.refs.map (fun r =>
      { r with bins := r.bins.map (fun b => { b with chunks := s (sortChunks b.chunks) }) }) }

end Hts.Model.Csi
