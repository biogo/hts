/-
C11 — panic-aware models of the repository's own decoding logic, at indexing granularity.
Core Lean only.

Every Go operation that can panic (index, slice, `make` with a negative count, explicit `panic`) is an
explicit partial operation here that yields `Outcome.panic site`; Go's `error` returns are `Outcome.err`.
Nothing is totalised with `getD`/`get!`: a model function is panic-free only if the checks that
dominate the operation in the Go source are present in the model too (the models mirror the code
WITH the repairs fixes/C11-*.diff and the repairs other properties made to the same functions (named
where they matter); on the unrepaired tree the correspondence check disagrees).  The exception are two
indices written with truncating `Nat` subtraction, `b.length - 1` in `readerLineIdx` and `i - 1` in
`clipCheck`: at 0 the model reads `b[:0]`, `c[0]`, where Go is kept from a panic only by its guard
(`err == nil`, `i != 0`).

Conventions: a byte string is `List UInt8`; Go `int` is 64-bit and modelled as `Int` (the decoders
never get near 2^63: lengths are bounded by the input length, `atoi` by 13 decimal digits);
slices are modelled with capacity = length (every slice expression of the modelled code is guarded
by a length check, so the capacity is never what makes it succeed).

Modelled here: sam.atoi, sam.ParseCigar, sam.NewCigarOp, CigarOpType.String and Consumes, Cigar.Lengths,
Record.End, Cigar.IsValid with its explicit `c[i-1]`/`c[i+1]`, sam.NewAux (the value kinds ParseAux
produces), sam.ParseAux (all type branches; strconv is a parameter), Aux.Type/Kind/Tag/Value/String and the
SAM formatter of aux fields, bam.parseAux (the aux block walker over bytes, incl. `B` arrays, the `jumps`
table and `decodeHex`), the indexing of itf8/ltf8 `Decode` and of the stream readers `errorReader.itf8/ltf8`.
-/
import Hts.Model.Coord
import Hts.Model.Itf8
import Hts.Model.Ltf8
namespace Hts.Model.Decoders
open Hts.Model.Coord (CigarOp)

/-! ### outcomes -/

inductive Outcome (α : Type) where
  | ok (v : α)
  | err
  | panic (site : String)
deriving Repr, DecidableEq

namespace Outcome
def isPanic {α} : Outcome α → Bool
  | panic _ => true
  | _ => false

def isOk {α} : Outcome α → Bool
  | ok _ => true
  | _ => false

@[inline] def bind {α β} (x : Outcome α) (f : α → Outcome β) : Outcome β :=
  match x with
  | ok v => f v
  | err => err
  | panic s => panic s

instance : Monad Outcome where
  pure := ok
  bind := bind

/-- `ok | err | panic` as text (correspondence) -/
def cls {α} : Outcome α → String
  | ok _ => "ok"
  | err => "err"
  | panic _ => "panic"
end Outcome
open Outcome (ok err)

abbrev Bytes := List UInt8

/-! ### the partial operations of Go -/

/-- `l[i]` -/
def index {α} (site : String) (l : List α) (i : Nat) : Outcome α :=
  match l[i]? with
  | some x => ok x
  | none => .panic site

/-- `l[i]` with a Go `int` index -/
def indexInt {α} (site : String) (l : List α) (i : Int) : Outcome α :=
  if i < 0 then .panic site else index site l i.toNat

/-- `l[lo:]` -/
def sliceFrom {α} (site : String) (l : List α) (lo : Nat) : Outcome (List α) :=
  if lo ≤ l.length then ok (l.drop lo) else .panic site

/-- `l[:hi]` -/
def sliceTo {α} (site : String) (l : List α) (hi : Nat) : Outcome (List α) :=
  if hi ≤ l.length then ok (l.take hi) else .panic site

/-- `l[lo:hi]` -/
def slice {α} (site : String) (l : List α) (lo hi : Nat) : Outcome (List α) :=
  if lo ≤ hi ∧ hi ≤ l.length then ok ((l.take hi).drop lo) else .panic site

/-- `make([]T, n)`: a negative count panics (a huge one is the separate outcome `oom`, not modelled) -/
def makeLen (site : String) (n : Int) : Outcome Nat :=
  if n < 0 then .panic site else ok n.toNat

/-! ### little-endian encodings (encoding/binary) -/

def byteOf (x : Int) : UInt8 := UInt8.ofNat (x % 256).toNat

def le16 (x : Int) : Bytes := [byteOf x, byteOf (x / 256)]
def le32 (x : Int) : Bytes := [byteOf x, byteOf (x / 256), byteOf (x / 65536), byteOf (x / 16777216)]

/-- `binary.LittleEndian.Uint32` of exactly four bytes -/
def u32le (b : Bytes) : Nat :=
  (b.getD 0 0).toNat + 256 * (b.getD 1 0).toNat + 65536 * (b.getD 2 0).toNat + 16777216 * (b.getD 3 0).toNat

/-- `int32(x)` of a uint32 -/
def asInt32 (x : Nat) : Int := if x < 2147483648 then x else (x : Int) - 4294967296

/-! ### sam.atoi and sam.ParseCigar -/

def powers : List Int :=
  [1, 10, 100, 1000, 10000, 100000, 1000000, 10000000, 100000000, 1000000000, 10000000000,
    100000000000, 1000000000000]

/-- the loop of `atoi`: `n += int64(v-'0') * powers[k-i]` (`v-'0'` is byte arithmetic) -/
def atoiLoop (k : Int) : (i : Int) → Bytes → Int → Outcome Int
  | _, [], n => ok n
  | i, v :: rest, n =>
    match indexInt "sam.atoi:powers[k-i]" powers (k - i) with
    | ok p => atoiLoop k (i + 1) rest (n + ((v - 48).toNat : Int) * p)
    | err => err
    | .panic s => .panic s

/-- `sam.atoi` (the `int64(int(n)) != n` test is never true with a 64-bit `int`) -/
def atoi (b : Bytes) : Outcome Int :=
  if b.length > powers.length then err else atoiLoop ((b.length : Int) - 1) 0 b 0

def isDigit (c : UInt8) : Bool := decide (48 ≤ c) && decide (c ≤ 57)

/-- `cigarOpTypeLookup`: "MIDNSHP=XB" ↦ 0..9, everything else ↦ `lastCigar` = 10 -/
def opLookup (c : UInt8) : Nat :=
  if c = 77 then 0 else if c = 73 then 1 else if c = 68 then 2 else if c = 78 then 3
  else if c = 83 then 4 else if c = 72 then 5 else if c = 80 then 6 else if c = 61 then 7
  else if c = 88 then 8 else if c = 66 then 9 else 10

def lastCigar : Nat := 10
def maxOpLen : Int := 268435455

/-- `sam.NewCigarOp`: panics when `uint64(n) > 1<<28-1` -/
def newCigarOp (t : Nat) (n : Int) : Outcome CigarOp :=
  if n < 0 ∨ maxOpLen < n then .panic "sam.NewCigarOp:illegal CIGAR op length" else ok ⟨t, n.toNat⟩

/-- `for { c = append(c, NewCigarOp(op, minInt(n, 1<<28-1))); n -= 1<<28-1; if n <= 0 { break } }` -/
def splitOp (t : Nat) (n : Int) (acc : List CigarOp) : Outcome (List CigarOp) :=
  match newCigarOp t (if n < maxOpLen then n else maxOpLen) with
  | ok co =>
    if _h : n - maxOpLen ≤ 0 then ok (acc ++ [co]) else splitOp t (n - maxOpLen) (acc ++ [co])
  | err => err
  | .panic s => .panic s
termination_by n.toNat
decreasing_by simp only [maxOpLen] at *; omega

/-- the inner scan of `ParseCigar`: `for j := i; j < len(b); j++ { if b[j] < '0' || '9' < b[j] { …; break } }`.
`some j`: the first position at or after `j₀` that holds no digit; `none`: the text ends first. -/
def scanOp (b : Bytes) : (fuel : Nat) → (j : Nat) → Outcome (Option Nat)
  | 0, _ => .panic "sam.ParseCigar:model out of fuel"
  | fuel + 1, j =>
    if b.length ≤ j then ok none
    else
      match index "sam.ParseCigar:b[j]" b j with
      | ok c => if isDigit c then scanOp b fuel (j + 1) else ok (some j)
      | err => err
      | .panic s => .panic s

/-- the outer loop of `sam.ParseCigar` with its explicit `b[j]`, `b[i:j]` (with the repair of fixes/C11-2:
digits that are not followed by an operation are an error).  Fuel `len(b)+1` always suffices
(`Hts.Props.C11.parseCigar_total`); running out of it is a panic of the model. -/
def parseOpsFrom (b : Bytes) : (fuel : Nat) → (i : Nat) → List CigarOp → Outcome (List CigarOp)
  | 0, _, _ => .panic "sam.ParseCigar:model out of fuel"
  | fuel + 1, i, acc =>
    if b.length ≤ i then ok acc
    else
      match scanOp b (b.length + 1) i with
      | ok none => err
      | ok (some j) =>
        match slice "sam.ParseCigar:b[i:j]" b i j with
        | ok ds =>
          match atoi ds with
          | ok n =>
            match index "sam.ParseCigar:cigarOpTypeLookup[b[j]]" b j with
            | ok c =>
              if opLookup c = lastCigar then err
              else
                match splitOp (opLookup c) n acc with
                | ok acc' => parseOpsFrom b fuel (j + 1) acc'
                | err => err
                | .panic s => .panic s
            | err => err
            | .panic s => .panic s
          | err => err
          | .panic s => .panic s
        | err => err
        | .panic s => .panic s
      | err => err
      | .panic s => .panic s

/-- `sam.ParseCigar`: `if len(b) == 1 && b[0] == '*' { return nil, nil }`, then the loops -/
def parseCigar (b : Bytes) : Outcome (List CigarOp) :=
  if b.length = 1 then
    match index "sam.ParseCigar:b[0]" b 0 with
    | ok c => if c = 42 then ok [] else parseOpsFrom b (b.length + 1) 0 []
    | err => err
    | .panic s => .panic s
  else parseOpsFrom b (b.length + 1) 0 []

/-! ### CIGAR accessors that index -/

/-- `cigarOps` = "MIDNSHP=XB?" -/
def cigarOpsTab : List UInt8 := [77, 73, 68, 78, 83, 72, 80, 61, 88, 66, 63]

/-- `CigarOpType.String`: `if ct < 0 || ct > lastCigar { ct = lastCigar }; return cigarOps[ct]` -/
def opString (t : Nat) : Outcome UInt8 :=
  index "sam.CigarOpType.String:cigarOps[ct]" cigarOpsTab (if lastCigar < t then lastCigar else t)

/-- `CigarOpType.Consumes` with the repair of fixes/C11-1 (`int(ct) >= len(consume)` ↦ the zero
value); `Hts.Model.Coord.consumes` is the same function -/
def consumesGo (t : Nat) : Outcome (Int × Int) :=
  if Hts.Model.Coord.consumeTab.length ≤ t then ok (0, 0)
  else index "sam.CigarOpType.Consumes:consume[ct]" Hts.Model.Coord.consumeTab t

/-- `Cigar.Lengths` with `Consumes` as the explicit table look-up -/
def lengthsGo (ref read : Int) : List CigarOp → Outcome (Int × Int)
  | [] => ok (ref, read)
  | co :: rest =>
    match consumesGo co.typ with
    | ok (q, r) => lengthsGo (if co.typ ≠ 9 then ref + co.len * r else ref) (read + co.len * q) rest
    | err => err
    | .panic s => .panic s

/-- the loop of `Record.End` with `Consumes` as the explicit table look-up -/
def endGo (pos e : Int) : List CigarOp → Outcome Int
  | [] => ok e
  | co :: rest =>
    match consumesGo co.typ with
    | ok (_, r) => endGo (pos + co.len * r) (if e < pos + co.len * r then pos + co.len * r else e) rest
    | err => err
    | .panic s => .panic s

/-- `Record.End` (and with it `Len` = `End() - Pos`, `Bin` = `BinFor(Pos, End())`, which add no partial operation) -/
def recordEndGo (unmapped : Bool) (pos : Int) (cigar : List CigarOp) : Outcome Int :=
  if unmapped || cigar.isEmpty then ok (pos + 1) else endGo pos pos cigar

/-- the soft-clip test of `Cigar.IsValid`: `c[i-1].Type() != CigarHardClipped && c[i+1].Type() != CigarHardClipped` -/
def clipCheck (c : List CigarOp) (i : Nat) : Outcome Bool := do
  let p ← index "sam.Cigar.IsValid:c[i-1]" c (i - 1)
  if p.typ ≠ 5 then
    let nx ← index "sam.Cigar.IsValid:c[i+1]" c (i + 1)
    pure (decide (nx.typ ≠ 5))
  else pure false

/-- `Cigar.IsValid` with the explicit indexing of the Go source: `c[i-1]`, `c[i+1]` -/
def isValidGo (c : List CigarOp) : (i : Nat) → (pos length : Int) → List CigarOp → Outcome Bool
  | _, _, length, [] => ok (length == 0)
  | i, pos, length, co :: rest =>
    let inner := decide (i ≠ 0) && decide (i ≠ c.length - 1)
    if co.typ = 5 ∧ inner then ok false
    else do
      let bad ← if co.typ = 4 ∧ inner then clipCheck c i else pure false
      if bad then pure false
      else
        let qr ← consumesGo co.typ
        if pos < 0 ∧ qr.1 ≠ 0 then pure false
        else isValidGo c (i + 1) (pos + co.len * qr.2) (length - co.len * qr.1) rest

def cigarIsValidGo (c : List CigarOp) (length : Int) : Outcome Bool := isValidGo c 0 0 length c

/-! ### aux fields: sam.NewAux, sam.ParseAux -/

/-- the standard-library parsers `sam.ParseAux` calls; `none` is an error return.  They are
parameters: the theorems hold for every instance, the driver instantiates them with the answers the
real `strconv` gave for the same text. -/
structure Parsers where
  atoi : Bytes → Option Int
  parseInt : Nat → Bytes → Option Int
  parseUint : Nat → Bytes → Option Int
  parseFloat32 : Bytes → Option Int

/-- an `error` return of a standard-library call -/
def ofOption {α} : Option α → Outcome α
  | some v => ok v
  | none => err

def hexVal (c : UInt8) : Option Nat :=
  if 48 ≤ c ∧ c ≤ 57 then some (c.toNat - 48)
  else if 97 ≤ c ∧ c ≤ 102 then some (c.toNat - 87)
  else if 65 ≤ c ∧ c ≤ 70 then some (c.toNat - 55)
  else none

/-- `encoding/hex.Decode` into a buffer of `DecodedLen(len(src))` bytes: `none` on a bad digit or an
odd length -/
def hexDecode : Bytes → Option Bytes
  | [] => some []
  | [_] => none
  | a :: b :: rest =>
    match hexVal a, hexVal b, hexDecode rest with
    | some x, some y, some r => some (UInt8.ofNat (x * 16 + y) :: r)
    | _, _, _ => none

/-- `NewAux(t, v)` for `v` an `int` -/
def newAuxInt (t0 t1 : UInt8) (v : Int) : Outcome Bytes :=
  if -128 ≤ v ∧ v ≤ 127 then ok [t0, t1, 99, byteOf v]
  else if -32768 ≤ v ∧ v ≤ 32767 then ok ([t0, t1, 115] ++ le16 v)
  else if -2147483648 ≤ v ∧ v ≤ 2147483647 then ok ([t0, t1, 105] ++ le32 v)
  else err

/-- `NewAux(t, v)` for `v` a `uint` -/
def newAuxUint (t0 t1 : UInt8) (v : Int) : Outcome Bytes :=
  if v ≤ 255 then ok [t0, t1, 67, byteOf v]
  else if v ≤ 65535 then ok ([t0, t1, 83] ++ le16 v)
  else if v ≤ 4294967295 then ok ([t0, t1, 73] ++ le32 v)
  else err

/-- element width of a `B` array by subtype byte -/
def elemSize (sub : UInt8) : Option Nat :=
  if sub = 99 ∨ sub = 67 then some 1
  else if sub = 115 ∨ sub = 83 then some 2
  else if sub = 105 ∨ sub = 73 ∨ sub = 102 then some 4
  else none

def leN (size : Nat) (x : Int) : Bytes :=
  if size = 1 then [byteOf x] else if size = 2 then le16 x else le32 x

/-- `NewAux(t, []T{...})`: header `t0 t1 'B' sub len32` followed by the elements -/
def newAuxArray (t0 t1 sub : UInt8) (size : Nat) (vals : List Int) : Bytes :=
  [t0, t1, 66, sub] ++ le32 vals.length ++ vals.flatMap (leN size)

/-- `bytes.Split(s, []byte{sep})` -/
def splitOn (sep : UInt8) : Bytes → List Bytes
  | [] => [[]]
  | c :: rest =>
    if c = sep then [] :: splitOn sep rest
    else
      match splitOn sep rest with
      | [] => [[c]]
      | f :: fs => (c :: f) :: fs

/-- parse every field with `p`; `none` as soon as one fails -/
def parseAll (p : Bytes → Option Int) : List Bytes → Option (List Int)
  | [] => some []
  | f :: fs =>
    match p f, parseAll p fs with
    | some v, some vs => some (v :: vs)
    | _, _ => none

/-- the parser and element width `ParseAux` uses for an array subtype -/
def arrayParser (P : Parsers) (sub : UInt8) : Option (Nat × (Bytes → Option Int)) :=
  if sub = 99 then some (1, P.parseInt 8)
  else if sub = 67 then some (1, P.parseUint 8)
  else if sub = 115 then some (2, P.parseInt 16)
  else if sub = 83 then some (2, P.parseUint 16)
  else if sub = 105 then some (4, P.parseInt 32)
  else if sub = 73 then some (4, P.parseUint 32)
  else if sub = 102 then some (4, P.parseFloat32)
  else none

/-- the `B` branch of `sam.ParseAux` (as repaired by /repo cef38a2):
`if len(txt) == 0 || (len(txt) > 1 && txt[1] != ',')` is an error, a bare element type is the empty
array (`nf` stays nil), otherwise `nf = bytes.Split(txt[2:], ",")`; then `switch txt[0]` -/
def parseAuxArray (P : Parsers) (t0 t1 : UInt8) (txt : Bytes) : Outcome Bytes :=
  if txt.length = 0 then err
  else do
    let bad ←
      if 1 < txt.length then do
        let comma ← index "sam.ParseAux:txt[1]" txt 1
        pure (decide (comma ≠ 44))
      else pure false
    if bad then err
    else
      let nf ←
        if 1 < txt.length then do
          let body ← sliceFrom "sam.ParseAux:txt[2:]" txt 2
          pure (splitOn 44 body)
        else pure []
      let sub ← index "sam.ParseAux:txt[0]" txt 0
      let (size, p) ← ofOption (arrayParser P sub)
      let vs ← ofOption (parseAll p nf)
      pure (newAuxArray t0 t1 sub size vs)

/-- `sam.ParseAux` -/
def parseAux (P : Parsers) (text : Bytes) : Outcome Bytes :=
  if text.length < 5 then err
  else do
    let c2 ← index "sam.ParseAux:text[2]" text 2
    let c4 ← index "sam.ParseAux:text[4]" text 4
    if c2 ≠ 58 ∨ c4 ≠ 58 then err
    else
      let txt ← sliceFrom "sam.ParseAux:text[5:]" text 5
      let typ ← index "sam.ParseAux:text[3]" text 3
      let t0 ← index "sam.ParseAux:text[0]" text 0
      let t1 ← index "sam.ParseAux:text[1]" text 1
      if typ = 65 then
        if txt.length ≠ 1 then err
        else do
          let v ← index "sam.ParseAux:txt[0]" txt 0
          pure [t0, t1, 65, v]
      else if typ = 105 then do
        let i ← ofOption (P.atoi txt)
        if i < 0 then newAuxInt t0 t1 i else newAuxUint t0 t1 i
      else if typ = 102 then do
        let bits ← ofOption (P.parseFloat32 txt)
        pure ([t0, t1, 102] ++ le32 bits)
      else if typ = 90 then pure ([t0, t1, 90] ++ txt)
      else if typ = 72 then do
        let b ← ofOption (hexDecode txt)
        pure ([t0, t1, 72] ++ b)
      else if typ = 66 then parseAuxArray P t0 t1 txt
      else err

/-! ### aux accessors: Aux.Type, Kind, Tag, Value, String, and the SAM formatter -/

/-- `a.Type()` = `a[2]` (also `a.Kind()` = `auxKind[a[2]]`: a 256-entry table indexed by a byte) -/
def auxType (a : Bytes) : Outcome UInt8 := index "sam.Aux.Type:a[2]" a 2

/-- `a.Tag()`: `copy(t[:], a[:2])` -/
def auxTag (a : Bytes) : Outcome Bytes := sliceTo "sam.Aux.Tag:a[:2]" a 2

/-- does `Aux.Value` hand back a slice (`true`) or something `reflect.Value.Len` panics on? -/
abbrev ValueIsSlice := Bool

/-- the `B` branch of `a.Value()` -/
def auxValueArray (a : Bytes) : Outcome ValueIsSlice := do
  let l ← slice "sam.Aux.Value:a[4:8]" a 4 8
  let sub ← index "sam.Aux.Value:a[3]" a 3
  let n := asInt32 (u32le l)
  match elemSize sub with
  | none => pure false   -- `fmt.Errorf("%%B!(UNKNOWN ARRAY type=%c)", t)`
  | some size =>
    if size = 1 then do
      let _ ← sliceFrom "sam.Aux.Value:a[8:]" a 8
      pure true
    else do
      let cnt ← makeLen "sam.Aux.Value:make([]T, length)" n
      let data ← sliceFrom "sam.Aux.Value:a[8:]" a 8
      -- `binary.Read` fails when fewer than cnt*size bytes are left, and the code panics on that error
      if data.length < cnt * size then .panic "sam.Aux.Value:binary.Read failed" else pure true

/-- `a.Value()`, outcome only: `ok isSlice` -/
def auxValue (a : Bytes) : Outcome ValueIsSlice := do
  let t ← auxType a
  if t = 65 ∨ t = 99 ∨ t = 67 then do
    let _ ← index "sam.Aux.Value:a[3]" a 3
    pure false
  else if t = 115 ∨ t = 83 then do
    let _ ← slice "sam.Aux.Value:a[3:5]" a 3 5
    pure false
  else if t = 105 ∨ t = 73 ∨ t = 102 then do
    let _ ← slice "sam.Aux.Value:a[3:7]" a 3 7
    pure false
  else if t = 90 ∨ t = 72 then do
    let _ ← sliceFrom "sam.Aux.Value:a[3:]" a 3
    pure (decide (t = 72))
  else if t = 66 then auxValueArray a
  else pure false   -- `fmt.Errorf("%%?!(UNKNOWN type=%c)", t)`

/-- `a.String()`: `a.Type()`, `a[:2]`, `a.Kind()`, `a.Value()`, and `a[3]` for arrays -/
def auxString (a : Bytes) : Outcome Unit := do
  let t ← auxType a
  let _ ← auxTag a
  let _ ← auxValue a
  if t = 66 then do
    let _ ← index "sam.Aux.String:a[3]" a 3
    pure ()
  else pure ()

/-- `samAux(a).String()` (used by `Record.MarshalSAM`): for arrays, `reflect.ValueOf(a.Value()).Len()`
panics unless `Value` returned a slice -/
def samAuxString (a : Bytes) : Outcome Unit := do
  let t ← auxType a
  let _ ← auxTag a
  let isSlice ← auxValue a
  if t = 66 then do
    let _ ← index "sam.samAux.String:a[3]" a 3
    if isSlice then pure () else .panic "sam.samAux.String:reflect.Value.Len on a non-slice"
  else pure ()

/-- `a.matches(tag)` on the aux side: `a[1] == tag[1] && a[0] == tag[0]` (`Record.Tag`, which checks
`len(tag) >= 2` itself) -/
def auxMatches (a : Bytes) : Outcome Unit := do
  let _ ← index "sam.Aux.matches:a[1]" a 1
  let _ ← index "sam.Aux.matches:a[0]" a 0
  pure ()

/-- everything the accessor sweep does with one aux field -/
def auxSweep (a : Bytes) : Outcome Unit := do
  let _ ← auxMatches a
  let _ ← auxTag a
  let _ ← auxType a
  let _ ← auxValue a
  let _ ← auxString a
  samAuxString a

/-- what the accessors need of an aux field: three bytes of tag and type, the fixed width of the
type, and for arrays a known element type with a count that fits an `int32` and is covered by the
bytes that follow -/
def wfAux (a : Bytes) : Bool :=
  match a[2]? with
  | none => false
  | some t =>
    if t = 65 ∨ t = 99 ∨ t = 67 then decide (4 ≤ a.length)
    else if t = 115 ∨ t = 83 then decide (5 ≤ a.length)
    else if t = 105 ∨ t = 73 ∨ t = 102 then decide (7 ≤ a.length)
    else if t = 90 ∨ t = 72 then true
    else if t = 66 then
      decide (8 ≤ a.length) &&
        (match elemSize (a.getD 3 0) with
          | none => false
          | some size =>
            decide (u32le ((a.take 8).drop 4) < 2147483648) &&
              decide (u32le ((a.take 8).drop 4) * size + 8 ≤ a.length))
    else false

/-! ### bam.parseAux: the aux block walker -/

/-- `bam.jumps`: value width by type byte; -1 for `Z`, `H`, `B`; 0 for everything else
(tie: Hts.Tie.C11.tie_jumps) -/
def jumpOf (t : UInt8) : Int :=
  if t = 65 ∨ t = 99 ∨ t = 67 then 1
  else if t = 115 ∨ t = 83 then 2
  else if t = 105 ∨ t = 73 ∨ t = 102 then 4
  else if t = 90 ∨ t = 72 ∨ t = 66 then -1
  else 0

/-- `bytes.IndexByte(l, 0)` -/
def indexZero : Bytes → Option Nat
  | [] => none
  | c :: rest => if c = 0 then some 0 else (indexZero rest).map (· + 1)

/-- the `B` case of the walker (repairs fixes/C11-7: `i+8 > len(aux)`, C11-8: subtype check) -/
def auxStepArray (rem : Bytes) : Outcome (Bytes × Nat) :=
  if rem.length < 8 then err
  else do
    let l ← slice "bam.parseAux:aux[i+4:i+8]" rem 4 8
    let sub ← index "bam.parseAux:aux[i+3]" rem 3
    let size ← ofOption (elemSize sub)
    let w := u32le l * size + 8
    if rem.length < w then err
    else do
      let f ← sliceTo "bam.parseAux:aux[i:i+j:i+j]" rem w
      pure (f, w)

/-- the pair loop of `bam.decodeHex`: `for k := 0; k < len(digits); k += 2 { hi, lo := unhex(digits[k]),
unhex(digits[k+1]); if hi < 0 || lo < 0 { return fmt.Errorf("%q", digits[k:k+2]) }; a[3+k/2] = … }`
with `alen = len(a)`. `bam.unhex` is a `switch` on byte ranges with the values of `hexVal`. The bytes
written so far are collected in `out`; running out of `fuel` is a `panic` of the model. -/
def decodeHexLoop (digits : Bytes) (alen : Nat) : (fuel : Nat) → (k : Nat) → Bytes → Outcome Bytes
  | 0, _, _ => .panic "bam.decodeHex:model out of fuel"
  | fuel + 1, k, out =>
    if digits.length ≤ k then ok out
    else do
      let c0 ← index "bam.decodeHex:digits[k]" digits k
      let c1 ← index "bam.decodeHex:digits[k+1]" digits (k + 1)
      match hexVal c0, hexVal c1 with
      | some hi, some lo =>
        if 3 + k / 2 < alen then decodeHexLoop digits alen fuel (k + 2) (out ++ [UInt8.ofNat (hi * 16 + lo)])
        else .panic "bam.decodeHex:a[3+k/2]"
      | _, _ => do
        let _ ← slice "bam.decodeHex:digits[k:k+2]" digits k (k + 2)
        err

/-- `bam.decodeHex(f)` (repair fixes/C05-2: a stored `H` value is its hex digits): `f[3:]`, the parity
check, `make(sam.Aux, 3+len(digits)/2)`, `copy(a, f[:3])`, then the pair loop -/
def decodeHexGo (f : Bytes) : Outcome Bytes := do
  let digits ← sliceFrom "bam.decodeHex:f[3:]" f 3
  if digits.length % 2 ≠ 0 then err
  else do
    let alen ← makeLen "bam.decodeHex:make(sam.Aux, 3+len(digits)/2)" ((3 + digits.length / 2 : Nat) : Int)
    let hd ← sliceTo "bam.decodeHex:f[:3]" f 3
    let body ← decodeHexLoop digits alen (digits.length / 2 + 1) 0 []
    pure (hd ++ body)

/-- one step of the walker on `rem = aux[i:]`: the field and the number of bytes consumed.
With the repairs fixes/C11-7 (bounds), C11-8 (array subtype), C11-9 (zero byte inside the tag),
fixes/C05-2 (`H` digits decoded). -/
def auxStep (rem : Bytes) : Outcome (Bytes × Nat) := do
  let t ← index "bam.parseAux:aux[i+2]" rem 2
  let j := jumpOf t
  if 0 < j then
    let w := (j + 3).toNat
    if rem.length < w then err
    else do
      let f ← sliceTo "bam.parseAux:aux[i:i+j:i+j]" rem w
      pure (f, w)
  else if j < 0 then
    if t = 90 ∨ t = 72 then do
      let z ← ofOption (indexZero rem)
      if z < 3 then err
      else if t = 72 then do
        let f ← sliceTo "bam.parseAux:aux[i:i+j]" rem z
        let a ← decodeHexGo f
        pure (a, z + 1)
      else do
        let f ← sliceTo "bam.parseAux:aux[i:i+j:i+j]" rem z
        pure (f, z + 1)
    else auxStepArray rem
  else err

/-- `bam.parseAux`: `for i := 0; i+2 < len(aux); { ... }`; `fuel` bounds the number of iterations and
`Hts.Props.C11.parseAuxBam_total` shows `aux.length + 1` is always enough (every step consumes ≥ 1
byte): running out of fuel is a `panic` of the model -/
def parseAuxLoop : (fuel : Nat) → Bytes → List Bytes → Outcome (List Bytes)
  | 0, _, _ => .panic "bam.parseAux:model out of fuel"
  | fuel + 1, rem, acc =>
    if rem.length ≤ 2 then ok acc
    else
      match auxStep rem with
      | ok (f, w) => parseAuxLoop fuel (rem.drop w) (acc ++ [f])
      | err => err
      | .panic s => .panic s

def parseAuxBam (aux : Bytes) : Outcome (List Bytes) :=
  if aux.length = 0 then ok [] else parseAuxLoop (aux.length + 1) aux []

/-! ### ITF-8 / LTF-8: the indexing of `Decode` and of the stream readers `errorReader.itf8/ltf8` -/

/-- read `b[k]` for every `k` of the list, in order -/
def indexAll (site : String) (b : Bytes) : List Nat → Outcome Unit
  | [] => ok ()
  | k :: ks =>
    match index site b k with
    | ok _ => indexAll site b ks
    | err => err
    | .panic s => .panic s

/-- the indexing of `itf8.Decode` / `ltf8.Decode`: `len(b) == 0` and `len(b) < n` return before any
`b[k]`; the `switch n` arm reads `b[0] .. b[n-1]`.  `width` is the announced width (leading one bits
of the first byte + 1; Hts.Model.Itf8.width / Ltf8.width, tied to the Go code by Hts.Tie.C20). -/
def decodeIdx (site : String) (width : UInt8 → Int) (b : Bytes) : Outcome Bool :=
  if b.length = 0 then ok false
  else
    match index site b 0 with
    | ok b0 =>
      let n := (width b0).toNat
      if b.length < n then ok false
      else
        match indexAll site b (List.range n) with
        | ok _ => ok true
        | err => err
        | .panic s => .panic s
    | err => err
    | .panic s => .panic s

def itf8Width (b0 : UInt8) : Int := Hts.Model.Itf8.width b0.toBitVec
def ltf8Width (b0 : UInt8) : Int := Hts.Model.Ltf8.width b0.toBitVec

/-- `errorReader.itf8` / `ltf8`: after the first byte, `io.ReadFull(r, buf[1:n])` and `Decode(buf[:n])`
on a `[bufLen]byte` array (`bufLen` = 5, resp. 9), `n` = announced width.  `true`: got a value. -/
def streamRead (site : String) (width : UInt8 → Int) (bufLen : Nat) (s : Bytes) : Outcome Bool :=
  match s with
  | [] => err
  | b0 :: rest =>
    let n := (width b0).toNat
    if n = 1 then ok true
    else
      match slice site (List.replicate bufLen (0 : UInt8)) 1 n, sliceTo site (List.replicate bufLen (0 : UInt8)) n with
      | ok _, ok _ => if rest.length < n - 1 then err else ok true
      | .panic s, _ => .panic s
      | _, .panic s => .panic s
      | _, _ => err

end Hts.Model.Decoders
