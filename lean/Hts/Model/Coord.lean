/-
Model of the coordinate arithmetic of sam/record.go (End, Len, Bin), sam/cigar.go (Consumes, Lengths,
IsValid), internal/index.go (BinFor, OverlappingBinsFor) and csi/csi.go (reg2bin, reg2bins).
Core Lean only.

Go `int`/`int64` positions are unbounded `Int` here (no 64-bit overflow: positions are below 2^62);
`uint32` arithmetic (bin numbers, the running level offset `t` of csi.reg2bin) is modelled explicitly
modulo 2^32.  `Consumes` is total since the repair fixes/C11-1-cigar-consumes-undefined-op.diff (an op
type > 10, which a BAM CIGAR word can carry, consumes nothing); the `Option` results are kept so that
the statements of C16 are unchanged, and C11 proves they are always `some`.
-/
import Hts.Model.GoPrim
namespace Hts.Model.Coord

/-! ### CIGAR -/

/-- a CIGAR operation: `Type() = co & 0xf`, `Len() = co >> 4` -/
structure CigarOp where
  typ : Nat
  len : Nat
deriving DecidableEq, Repr

/-- `sam.consume`: (Query, Reference) per operation type; 11 entries (tie: Hts.Tie.C16) -/
def consumeTab : List (Int × Int) :=
  [(1, 1), (1, 0), (0, 1), (0, 1), (1, 0), (0, 0), (0, 0), (1, 1), (1, 1), (0, -1), (0, 0)]

/-- `ct.Consumes()`: `if int(ct) >= len(consume) { return Consume{} }; return consume[ct]`.
(Before the repair fixes/C11-1 this was `consumeTab[t]?`, `none` being Go's index-out-of-range panic.) -/
def consumes (t : Nat) : Option (Int × Int) := some (consumeTab.getD t (0, 0))

def typH : Nat := 5
def typS : Nat := 4
def typB : Nat := 9

/-- `Cigar.Lengths`: the loop with accumulators -/
def lengthsLoop (ref read : Int) : List CigarOp → Option (Int × Int)
  | [] => some (ref, read)
  | co :: rest =>
    match consumes co.typ with
    | none => none
    | some (q, r) =>
      let ref' := if co.typ ≠ typB then ref + co.len * r else ref
      lengthsLoop ref' (read + co.len * q) rest

def cigarLengths (c : List CigarOp) : Option (Int × Int) := lengthsLoop 0 0 c

/-- `Record.End`'s loop: `pos += len*ref; end = max(end, pos)` -/
def endLoop (pos e : Int) : List CigarOp → Option Int
  | [] => some e
  | co :: rest =>
    match consumes co.typ with
    | none => none
    | some (_, r) =>
      let pos' := pos + co.len * r
      endLoop pos' (if e < pos' then pos' else e) rest

/-- `Record.End` -/
def recordEnd (unmapped : Bool) (pos : Int) (cigar : List CigarOp) : Option Int :=
  if unmapped || cigar.isEmpty then some (pos + 1) else endLoop pos pos cigar

/-- `Record.Len` -/
def recordLen (unmapped : Bool) (pos : Int) (cigar : List CigarOp) : Option Int :=
  (recordEnd unmapped pos cigar).map (· - pos)

/-- `Cigar.IsValid`'s loop; `prev` is `c[i-1]`, the list is `c[i:]`, `n = len(c)` -/
def isValidLoop (n : Nat) : (i : Nat) → (prev : Option CigarOp) → (pos length : Int) → List CigarOp → Option Bool
  | _, _, _, length, [] => some (length == 0)
  | i, prev, pos, length, co :: rest =>
    let inner := i ≠ 0 ∧ i ≠ n - 1
    if co.typ = typH ∧ inner then some false
    else if co.typ = typS ∧ inner ∧
        (prev.map (·.typ)) ≠ some typH ∧ (rest.head?.map (·.typ)) ≠ some typH then some false
    else
      match consumes co.typ with
      | none => none
      | some (q, r) =>
        if pos < 0 ∧ q ≠ 0 then some false
        else isValidLoop n (i + 1) (some co) (pos + co.len * r) (length - co.len * q) rest

def cigarIsValid (c : List CigarOp) (length : Int) : Option Bool :=
  isValidLoop c.length 0 none 0 length c

/-! ### BAI bins (internal.BinFor, OverlappingBinsFor) -/

def u32 (x : Int) : Nat := (x % 4294967296).toNat

/-- `internal.BinFor` with `uint32` results as naturals below 2^32 -/
def binFor (beg end_ : Int) : Nat :=
  let e := end_ - 1
  if beg >>> 14 = e >>> 14 then u32 (4681 + (beg >>> 14))
  else if beg >>> 17 = e >>> 17 then u32 (585 + (beg >>> 17))
  else if beg >>> 20 = e >>> 20 then u32 (73 + (beg >>> 20))
  else if beg >>> 23 = e >>> 23 then u32 (9 + (beg >>> 23))
  else if beg >>> 26 = e >>> 26 then u32 (1 + (beg >>> 26))
  else 0

/-- `for k := lo; k <= hi; k++ { list = append(list, k) }` over uint32 (hi < 2^32 - 1) -/
def rangeIncl (lo hi : Nat) : List Nat :=
  if lo ≤ hi then (List.range (hi - lo + 1)).map (lo + ·) else []

/-- the (offset, shift) table of `OverlappingBinsFor` -/
def baiLevels : List (Nat × Nat) := [(1, 26), (9, 23), (73, 20), (585, 17), (4681, 14)]

/-- the loops of `internal.OverlappingBinsFor` (the whole function before repair C04-5) -/
def overlappingBinsForCore (beg end_ : Int) : List Nat :=
  let e := end_ - 1
  0 :: baiLevels.flatMap fun (off, sh) => rangeIncl (u32 (off + (beg >>> sh))) (u32 (off + (e >>> sh)))

/-- `internal.OverlappingBinsFor`: `if end > 1<<29 { end = 1 << 29 }` (repair C04-5: nothing lies beyond
the indexable range; without the limit the uint32 bin arithmetic wraps for `end ≥ 2^46` and the finer
levels are lost), then the loops -/
def overlappingBinsFor (beg end_ : Int) : List Nat :=
  overlappingBinsForCore beg (if end_ > 536870912 then 536870912 else end_)

/-- Go's `for k := lo; k <= hi; k++` over uint32 terminates iff it is not entered or `hi < 2^32-1`
(`k++` wraps to 0 at `hi = 2^32-1` and `k <= hi` stays true): `none` = the loop never exits -/
def goRangeIncl (lo hi : Nat) : Option (List Nat) :=
  if lo ≤ hi ∧ hi = 4294967295 then none else some (rangeIncl lo hi)

/-- `internal.IsValidIndexPos` -/
def isValidIndexPos (i : Int) : Bool := decide (-1 ≤ i) && decide (i ≤ 536870910)

/-- `Record.Bin`: `end := r.End(); if end == r.Pos { end++ }; BinFor(r.Pos, end)` — an alignment that
consumes no reference counts as one base long (repair /repo fdfa0ce; before it `BinFor(Pos, End())`).  The
mate-unmapped flag plays no role. -/
def recordBin (unmapped _mateUnmapped : Bool) (pos : Int) (cigar : List CigarOp) : Option Nat :=
  (recordEnd unmapped pos cigar).map (fun e => binFor pos (if e = pos then e + 1 else e))

/-! ### CSI bins (csi.reg2bin, reg2bins) -/

/-- `1 << x` in uint32 -/
def shl1u32 (x : Nat) : Nat := if x < 32 then 2 ^ x else 0

/-- initial `t := uint32(((1 << (depth*3)) - 1) / 7)` -/
def csiT0 (depth : Nat) : Nat := ((shl1u32 (depth * 3) + 4294967295) % 4294967296) / 7

/-- the loop of csi.reg2bin (`level` counts down, `t -= 1 << ((level-1)*3)` in uint32) -/
def reg2binLoop (beg e : Int) : (level s t : Nat) → Nat
  | 0, _, _ => 0
  | level + 1, s, t =>
    if beg >>> s = e >>> s then (t + u32 (beg >>> s)) % 4294967296
    else reg2binLoop beg e level (s + 3) ((t + 4294967296 - shl1u32 (level * 3)) % 4294967296)

/-- `csi.reg2bin` -/
def reg2bin (beg end_ : Int) (minShift depth : Nat) : Nat :=
  reg2binLoop beg (end_ - 1) depth minShift (csiT0 depth)

/-- the loop of csi.reg2bins: `n` iterations remain, `level` counts up, `s -= 3`, `t += 1 << (level*3)` -/
def reg2binsLoop (beg e : Int) : (n level : Nat) → (s : Int) → (t : Nat) → List Nat
  | 0, _, _, _ => []
  | n + 1, level, s, t =>
    rangeIncl ((t + u32 (beg >>> s.toNat)) % 4294967296) ((t + u32 (e >>> s.toNat)) % 4294967296) ++
      reg2binsLoop beg e n (level + 1) (s - 3) ((t + shl1u32 (level * 3)) % 4294967296)

/-- the loops of `csi.reg2bins` (the whole function before repair C04-6) -/
def reg2binsCore (beg end_ : Int) (minShift depth : Nat) : List Nat :=
  reg2binsLoop beg (end_ - 1) (depth + 1) 0 (minShift + depth * 3 : Nat) 0

/-- the limits repair C04-6 puts before the loops, as in htslib: `if beg < 0 { beg = 0 }`,
`if s < 63 && end > 1<<s { end = 1 << s }` -/
def csiClampBeg (beg : Int) : Int := if beg < 0 then 0 else beg
def csiClampEnd (end_ : Int) (s : Nat) : Int := if s < 63 ∧ end_ > (2 : Int) ^ s then (2 : Int) ^ s else end_

/-- `csi.reg2bins`: the limits, `if beg >= end { return nil }`, then the loops -/
def reg2bins (beg end_ : Int) (minShift depth : Nat) : List Nat :=
  let b := csiClampBeg beg
  let e := csiClampEnd end_ (minShift + depth * 3)
  if b ≥ e then [] else reg2binsCore b e minShift depth

/-- `reg2binsLoop` with Go's loop semantics: `none` = one of the `for i := b; i <= e; i++` loops never exits -/
def reg2binsLoopGo (beg e : Int) : (n level : Nat) → (s : Int) → (t : Nat) → Option (List Nat)
  | 0, _, _, _ => some []
  | n + 1, level, s, t =>
    match goRangeIncl ((t + u32 (beg >>> s.toNat)) % 4294967296) ((t + u32 (e >>> s.toNat)) % 4294967296) with
    | none => none
    | some l =>
      (reg2binsLoopGo beg e n (level + 1) (s - 3) ((t + shl1u32 (level * 3)) % 4294967296)).map (l ++ ·)

/-- the unrepaired `csi.reg2bins` with Go's loop semantics -/
def reg2binsCoreGo (beg end_ : Int) (minShift depth : Nat) : Option (List Nat) :=
  reg2binsLoopGo beg (end_ - 1) (depth + 1) 0 (minShift + depth * 3 : Nat) 0

/-- `csi.reg2bins` with Go's loop semantics -/
def reg2binsGo (beg end_ : Int) (minShift depth : Nat) : Option (List Nat) :=
  let b := csiClampBeg beg
  let e := csiClampEnd end_ (minShift + depth * 3)
  if b ≥ e then some [] else reg2binsCoreGo b e minShift depth

/-- `csi.validIndexPos` -/
def csiValidIndexPos (i : Int) (minShift depth : Nat) : Bool :=
  decide (-1 ≤ i) && decide (i ≤ (2 : Int) ^ (minShift + depth * 3) - 1 - 1)

end Hts.Model.Coord
