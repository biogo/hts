/-
Model of the token source of `fai.NewIndex` (fai/fai.go) — core Lean only.

  * `split`       — the Split function installed by `NewIndex`, branch by branch;
  * `splitEager`  — the seeded variant C19 round 5 (everything left is ONE token as soon as `atEOF` holds);
  * `drainF`/`drain`, `scanTokens` — `bufio.Scanner.Scan`'s loop for this use, parameterised by the split function:
       the source is a list of chunks (one per `Read`), `eofWithLast` says whether the last `Read` that
       delivers bytes returns them together with `io.EOF` (flate/gzip readers, iotest.DataErrReader) or
       whether `io.EOF` arrives on a separate, empty `Read` (bytes.Reader, os.File);
  * `lines`       — the specification: maximal `\n`-terminated pieces, plus the unterminated rest when non-empty;
  * `stepAll`, `newIndexTokens`, `newIndexStream` — `NewIndex`'s loop body (`Hts.Model.Fai.step`) run over a token
       sequence, and `NewIndex` over a chunked source.

Modelling assumptions about bufio.Scanner (go1.23 src/bufio/scan.go), all stated in notes/reports/C19.md:
  A1 unbounded buffer (`sc.Buffer(nil, math.MaxInt)`: `ErrTooLong` unreachable), the buffer's compaction and
     growth are invisible: the scanner state is the unconsumed bytes `buf = s.buf[s.start:s.end]`;
  A2 the source returns no error other than `io.EOF` and, after `io.EOF`, is not read again (Scan stops);
  A3 empty reads without EOF (empty chunks) are allowed in any number; the real scanner gives up with
     `io.ErrNoProgress` after 100 CONSECUTIVE empty reads — a source doing that is outside the model;
  A4 split is called only when the buffer is non-empty or EOF has been seen (`s.end > s.start || s.err != nil`),
     with `atEOF = (s.err != nil)`;
  A5 a split result `(advance, nil)` consumes `advance` bytes and makes the scanner read more (or stop, after EOF);
     a result with a token and `0 < advance ≤ len(buf)` emits the token and loops;
     a token with `advance = 0` (the real scanner: up to 100 repeats, then panic) or `advance > len(buf)`
     (`ErrAdvanceTooFar`) ENDS the model run: neither arises for `split` (`split_advance_ok`; for `splitEager` nothing is
     proved, it is only evaluated in `newIndex_tokens_witness`).
-/
import Hts.Model.Fai
set_option linter.unusedVariables false
namespace Hts.Model.Fai

/-- `bytes.IndexByte(data, '\n')`: the length of the longest LF-free prefix when an LF follows it. -/
def indexLF (data : Bytes) : Option Nat :=
  let i := (data.takeWhile notLF).length
  if i < data.length then some i else none

abbrev SplitFn := Bytes → Bool → Nat × Option Bytes

/-- The Split function of `NewIndex` (result `(advance, token)`, the error is always nil). -/
def split : SplitFn := fun data atEOF =>
  if atEOF && data.isEmpty then (0, none)
  else match indexLF data with
    | some i => (i + 1, some (data.take (i + 1)))
    | none => if atEOF then (data.length, some data) else (0, none)

/-- Seeded variant: at EOF everything left is one token, complete lines included. -/
def splitEager : SplitFn := fun data atEOF =>
  if atEOF && data.isEmpty then (0, none)
  else if atEOF then (data.length, some data)
  else match indexLF data with
    | some i => (i + 1, some (data.take (i + 1)))
    | none => (0, none)

/-- Repeated `Scan` calls without a `Read`: tokens emitted and the bytes left in the buffer when split asks
for more data.  `fuel` bounds the number of split calls; `drain` supplies `len(buf)+1` (every emitted token
consumes at least one byte). -/
def drainF (sp : SplitFn) (atEOF : Bool) : Nat → Bytes → List Bytes × Bytes
  | 0, buf => ([], buf)
  | fuel + 1, buf =>
    if buf.isEmpty && !atEOF then ([], buf)          -- A4: nothing buffered, no EOF: read
    else
      match sp buf atEOF with
      | (adv, none) => ([], buf.drop adv)             -- A5: need more data
      | (adv, some tok) =>
        if 0 < adv ∧ adv ≤ buf.length then
          let r := drainF sp atEOF fuel (buf.drop adv)
          (tok :: r.1, r.2)
        else ([], buf)                                -- A5: outside the model

def drain (sp : SplitFn) (atEOF : Bool) (buf : Bytes) : List Bytes × Bytes :=
  drainF sp atEOF (buf.length + 1) buf

/-- All tokens `Scan` yields: `chunks` are the results of the successive `Read`s that return bytes (or nothing),
`buf` the unconsumed buffer.  After the last chunk `io.EOF` arrives — with it when `eofWithLast`, else on
one more, empty `Read`.  With no chunk at all the first `Read` returns `(0, io.EOF)`. -/
def scanFrom (sp : SplitFn) (eofWithLast : Bool) : List Bytes → Bytes → List Bytes
  | [], buf => (drain sp true buf).1
  | c :: cs, buf =>
    if cs.isEmpty && eofWithLast then (drain sp true (buf ++ c)).1
    else
      let r := drain sp false (buf ++ c)
      r.1 ++ scanFrom sp eofWithLast cs r.2

def scanTokens (sp : SplitFn) (eofWithLast : Bool) (chunks : List Bytes) : List Bytes :=
  scanFrom sp eofWithLast chunks []

/-- Specification: the maximal `\n`-terminated pieces of `data`, then the unterminated rest if non-empty. -/
def lines : Bytes → List Bytes
  | [] => []
  | b :: bs =>
    if notLF b then
      match lines bs with
      | [] => [[b]]
      | l :: ls => (b :: l) :: ls
    else [b] :: lines bs

/-- The `for sc.Scan()` loop of `NewIndex` over a given token sequence. -/
def stepAll (st : ScanState) : List Bytes → Except IdxErr ScanState
  | [] => .ok st
  | l :: ls =>
    match step st l with
    | .error e => .error e
    | .ok st' => stepAll st' ls

def newIndexTokens (toks : List Bytes) : Except IdxErr Index :=
  match stepAll {} toks with
  | .error e => .error e
  | .ok st => .ok (flush st).1

/-- `fai.NewIndex` over a source that delivers `chunks`. -/
def newIndexStream (eofWithLast : Bool) (chunks : List Bytes) : Except IdxErr Index :=
  newIndexTokens (scanTokens split eofWithLast chunks)

end Hts.Model.Fai
