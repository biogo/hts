/-
Model of the SAM text layer of biogo/hts (core Lean only):

  sam/record.go   MarshalSAM, UnmarshalSAM, formatFlags, formatMate, formatSeq, formatQual, NewSeq/Expand
  sam/auxtags.go  samAux.String (text of an aux field), ParseAux, NewAux's narrowing of `int`/`uint`
  sam/cigar.go    Cigar.String, ParseCigar (with the 2^28-1 splitting), atoi
  sam/sam.go      Reader.Read line handling (LF/CRLF, last line), header / no-header modes
  strconv         ParseUint / ParseInt / Atoi (base 0 prefixes and underscores included), as far as
                  their result and error/no-error outcome go

Text is bytes (`List UInt8`).  Errors and panics are values (`Except Fault`).  The model mirrors the
code WITH the repairs fixes/C06-*.diff applied (hex flags, empty Z/H values, empty arrays, upper-case H
digits, last line of the reader); DESIGN.md section 6 #9, #11, #33, #34, #35.

Abstractions (tied by the correspondence check, go/cmd/harness/c06.go):
* a `*sam.Reference` is the value (id, name, length); pointer equality `ref == mate` is equality of these
  values (exact for references of one header, whose names are unique, and for the fake references
  UnmarshalSAM makes for a nil header);
* a `sam.Aux` (raw bytes in Go) is the decoded (tag, type, value); integers are `Int`s, which Go's
  sized types keep inside the range of their type: nothing in the model does, the theorems assume it of the
  record (`AuxRep` of Lemmas/SamAux, `AuxOK`; `AuxVal.WF` below states it and is not used);
* `sam.Seq` is the list of 4-bit base codes (`Length` = its length);
* Go `int` is `Int` with explicit 64-bit wrap-around where the code computes (`Pos+1`, `Atoi-1`);
* float text (`%v` of a float32, strconv.ParseFloat(s, 32)) is the parameter `FloatText`;
* the header is the list of (reference name, length); header text is C07's.
-/
import Hts.Model.Coord
namespace Hts.Model.SamText
open Hts.Model.Coord (CigarOp cigarIsValid)

abbrev Bytes := List UInt8

inductive Fault
  | err    -- the Go function returns a non-nil error
  | panic  -- the Go function panics
deriving DecidableEq, Repr

/-- float text as a parameter: `fmt` is `%v` of a float32 given by its bits, `parse` is
`float32(strconv.ParseFloat(s, 32))` as bits, `none` when ParseFloat returns an error -/
structure FloatText where
  fmt : UInt32 → Bytes
  parse : Bytes → Option UInt32

/-! ### decimal and hexadecimal text -/

def digitChar (d : Nat) : UInt8 := UInt8.ofNat (48 + d)

/-- `%d` of a non-negative integer; the fuel is the number itself + 1 (never exhausted) -/
def showNatF : Nat → Nat → Bytes
  | 0, _ => []
  | f + 1, n => if n < 10 then [digitChar n] else showNatF f (n / 10) ++ [digitChar (n % 10)]

def showNat (n : Nat) : Bytes := showNatF (n + 1) n

/-- `%d` / `%v` of a signed integer -/
def showInt (i : Int) : Bytes := if i < 0 then 45 :: showNat i.natAbs else showNat i.toNat

def hexDigitLower (d : Nat) : UInt8 := if d < 10 then UInt8.ofNat (48 + d) else UInt8.ofNat (87 + d)
def hexDigitUpper (d : Nat) : UInt8 := if d < 10 then UInt8.ofNat (48 + d) else UInt8.ofNat (55 + d)

/-- `%x` of a non-negative integer -/
def showHexF : Nat → Nat → Bytes
  | 0, _ => []
  | f + 1, n => if n < 16 then [hexDigitLower n] else showHexF f (n / 16) ++ [hexDigitLower (n % 16)]

def showHex (n : Nat) : Bytes := showHexF (n + 1) n

/-- Go `int` arithmetic: wrap into [-2^63, 2^63) -/
def wrap64 (x : Int) : Int := (x + 9223372036854775808) % 18446744073709551616 - 9223372036854775808

/-! ### strconv.ParseUint / ParseInt / Atoi -/

/-- strconv's `lower(c) = c | ('x' - 'X')` -/
def lower (c : UInt8) : UInt8 := c ||| 32

/-- value of a digit byte in ParseUint's loop: '0'..'9', then letters of either case from 10 -/
def digitVal (c : UInt8) : Option Nat :=
  if 48 ≤ c ∧ c ≤ 57 then some (c.toNat - 48)
  else if 97 ≤ lower c ∧ lower c ≤ 122 then some ((lower c).toNat - 87)
  else none

/-- ParseUint's digit loop with an unbounded accumulator (`none` = syntax error).  The Go loop stops
with a range error as soon as the value exceeds the bit size; the caller here checks the range after
the loop, which gives the same error/no-error outcome. -/
def digitsLoop (base : Nat) (base0 : Bool) : Bytes → Nat → Option Nat
  | [], n => some n
  | c :: rest, n =>
    if c = 95 ∧ base0 = true then digitsLoop base base0 rest n
    else match digitVal c with
      | none => none
      | some d => if base ≤ d then none else digitsLoop base base0 rest (n * base + d)

def isDec (c : UInt8) : Bool := decide (48 ≤ c) && decide (c ≤ 57)
def isHexChar (c : UInt8) : Bool := isDec c || (decide (97 ≤ lower c) && decide (lower c ≤ 102))

/-- the scan of strconv.underscoreOK; `i` is the class of the previous byte:
0 = '^' (start), 1 = '0' (digit or base prefix), 2 = '_', 3 = '!' (anything else) -/
def underscoreScan (hex : Bool) : Bytes → Nat → Bool
  | [], i => i != 2
  | c :: rest, i =>
    if isDec c || (hex && isHexChar c) then underscoreScan hex rest 1
    else if c = 95 then (if i != 1 then false else underscoreScan hex rest 2)
    else if i = 2 then false
    else underscoreScan hex rest 3

def isBasePrefixLetter (c : UInt8) : Bool := lower c = 98 || lower c = 111 || lower c = 120

/-- strconv.underscoreOK: underscores only between digits or after a base prefix -/
def underscoreOK (s : Bytes) : Bool :=
  let s := match s with
    | c :: rest => if c = 45 ∨ c = 43 then rest else s
    | [] => s
  match s with
  | a :: b :: rest =>
    if a = 48 ∧ isBasePrefixLetter b then underscoreScan (lower b = 120) rest 1
    else underscoreScan false s 0
  | _ => underscoreScan false s 0

/-- base and digits of ParseUint with base 0: `0b`/`0o`/`0x` prefixes need at least three bytes,
any other leading `0` means octal -/
def basePrefix (s : Bytes) : Nat × Bytes :=
  match s with
  | 48 :: rest =>
    match rest with
    | b :: _ :: _ =>
      if lower b = 98 then (2, rest.drop 1)
      else if lower b = 111 then (8, rest.drop 1)
      else if lower b = 120 then (16, rest.drop 1)
      else (8, rest)
    | _ => (8, rest)
  | _ => (10, s)

/-- `strconv.ParseUint(s, base, bits)` for base 0 or 10: the value, `none` for any error -/
def parseUintGo (s : Bytes) (base bits : Nat) : Option Nat :=
  if s.isEmpty then none
  else
    let base0 := base == 0
    let (b, body) := if base0 then basePrefix s else (base, s)
    match digitsLoop b base0 body 0 with
    | none => none
    | some n =>
      if 2 ^ bits ≤ n then none
      else if base0 && s.contains 95 && !underscoreOK s then none
      else some n

/-- `strconv.ParseInt(s, base, bits)` for base 0 or 10 -/
def parseIntGo (s : Bytes) (base bits : Nat) : Option Int :=
  match s with
  | [] => none
  | c :: rest =>
    let neg := c = 45
    let body := if c = 43 ∨ c = 45 then rest else s
    match parseUintGo body base bits with
    | none => none
    | some un =>
      let cutoff := 2 ^ (bits - 1)
      if ¬ neg ∧ cutoff ≤ un then none
      else if neg ∧ cutoff < un then none
      else some (if neg then -(un : Int) else (un : Int))

/-- `strconv.Atoi` on a 64-bit platform -/
def atoi (s : Bytes) : Option Int := parseIntGo s 10 64

/-! ### splitting and joining -/

/-- `bytes.Split(b, []byte{sep})`: always at least one field -/
def splitOn (sep : UInt8) : Bytes → List Bytes
  | [] => [[]]
  | c :: rest =>
    if c = sep then [] :: splitOn sep rest
    else match splitOn sep rest with
      | [] => [[c]]
      | f :: fs => (c :: f) :: fs

def joinWith (sep : UInt8) : List Bytes → Bytes
  | [] => []
  | [f] => f
  | f :: g :: fs => f ++ sep :: joinWith sep (g :: fs)

/-! ### flags -/

inductive FlagFmt
  | dec  -- sam.FlagDecimal
  | hex  -- sam.FlagHex
  | str  -- sam.FlagString
deriving DecidableEq, Repr

def flagLetters : Bytes := [112, 80, 117, 85, 114, 82, 49, 50, 115, 102, 100, 83]  -- "pPuUrR12sfdS"

/-- formatFlags(f, FlagString): the letters of the set bits, after clearing the pair-only bits of an
unpaired read -/
def flagString (f : UInt16) : Bytes :=
  let f := if f &&& 1 = 0 then f &&& ~~~(0xea : UInt16) else f
  (List.range 12).filterMap fun i => if f &&& ((1 : UInt16) <<< i.toUInt16) ≠ 0 then flagLetters[i]? else none

/-- formatFlags (repaired FlagHex: `0x%x` of the numeric value) -/
def formatFlags (f : UInt16) : FlagFmt → Bytes
  | .dec => showNat f.toNat
  | .hex => 48 :: 120 :: showHex f.toNat
  | .str => flagString f

/-! ### CIGAR text -/

def cigarLetters : Bytes := [77, 73, 68, 78, 83, 72, 80, 61, 88, 66, 63]  -- "MIDNSHP=XB?"

/-- `CigarOpType.String`: anything above `lastCigar` prints as `?` -/
def opLetter (t : Nat) : UInt8 := (cigarLetters[t]?).getD 63

/-- `cigarOpTypeLookup`: 10 (`lastCigar`) for every byte that is not an operation letter -/
def opOfLetter (c : UInt8) : Nat :=
  if c = 77 then 0 else if c = 73 then 1 else if c = 68 then 2 else if c = 78 then 3
  else if c = 83 then 4 else if c = 72 then 5 else if c = 80 then 6 else if c = 61 then 7
  else if c = 88 then 8 else if c = 66 then 9 else 10

/-- `Cigar.String` -/
def formatCigar (c : List CigarOp) : Bytes :=
  if c.isEmpty then [42] else c.flatMap fun co => showNat co.len ++ [opLetter co.typ]

def maxOpLen : Nat := 268435455  -- 1<<28 - 1

/-- sam.atoi on a run of decimal digits: at most 13 of them -/
def cigarAtoi (ds : Bytes) : Option Nat :=
  if 13 < ds.length then none else some (ds.foldl (fun n d => n * 10 + (d.toNat - 48)) 0)

/-- the emission loop `for { c = append(c, NewCigarOp(op, min(n, 1<<28-1))); n -= 1<<28-1; if n <= 0 {break} }`
in closed form: the operations and the value `n` is left with; `none` = NewCigarOp panics (n < 0,
which ParseCigar never passes: `n` comes from `atoi`) -/
def emitOps (op : Nat) (n : Int) : Option (List CigarOp × Int) :=
  if n < 0 then none
  else
    let m := n.toNat
    let k := if m = 0 then 1 else (m + maxOpLen - 1) / maxOpLen
    some ((List.range k).map (fun i => ⟨op, min (m - i * maxOpLen) maxOpLen⟩), n - (k * maxOpLen : Nat))

/-- ParseCigar's loops; `cur` = digits read since the last operation letter, `op`/`n` = the variables
of the Go function (set at every operation letter).  A run of digits that reaches the end of the
text without an operation letter is an error (repair C11: it used to re-emit the previous operation
with the already decremented `n`, which made NewCigarOp panic). -/
def parseCigarLoop : Bytes → Bytes → Nat → Int → Except Fault (List CigarOp)
  | [], cur, _, _ => if cur.isEmpty then .ok [] else .error .err
  | c :: rest, cur, op, n =>
    if isDec c then parseCigarLoop rest (cur ++ [c]) op n
    else match cigarAtoi cur with
      | none => .error .err
      | some v =>
        let op' := opOfLetter c
        if op' = 10 then .error .err
        else match emitOps op' v with
          | none => .error .panic
          | some (ops, n') => (parseCigarLoop rest [] op' n').map (ops ++ ·)

/-- `sam.ParseCigar` -/
def parseCigar (b : Bytes) : Except Fault (List CigarOp) :=
  if b = [42] then .ok [] else parseCigarLoop b [] 0 0

/-! ### sequence and qualities -/

def n16TableRev : Bytes := [61, 65, 67, 77, 71, 82, 83, 86, 84, 87, 89, 72, 75, 68, 66, 78]  -- "=ACMGRSVTWYHKDBN"

def baseChar (x : Fin 16) : UInt8 := n16TableRev.get (x.cast (by decide))

def n16Table : List Nat := [
  15, 15, 15, 15, 15, 15, 15, 15, 15, 15, 15, 15, 15, 15, 15, 15,
  15, 15, 15, 15, 15, 15, 15, 15, 15, 15, 15, 15, 15, 15, 15, 15,
  15, 15, 15, 15, 15, 15, 15, 15, 15, 15, 15, 15, 15, 15, 15, 15,
  1, 2, 4, 8, 15, 15, 15, 15, 15, 15, 15, 15, 15, 0, 15, 15,
  15, 1, 14, 2, 13, 15, 15, 4, 11, 15, 15, 12, 15, 3, 15, 15,
  15, 15, 5, 6, 8, 15, 7, 9, 15, 10, 15, 15, 15, 15, 15, 15,
  15, 1, 14, 2, 13, 15, 15, 4, 11, 15, 15, 12, 15, 3, 15, 15,
  15, 15, 5, 6, 8, 15, 7, 9, 15, 10, 15, 15, 15, 15, 15, 15,
  15, 15, 15, 15, 15, 15, 15, 15, 15, 15, 15, 15, 15, 15, 15, 15,
  15, 15, 15, 15, 15, 15, 15, 15, 15, 15, 15, 15, 15, 15, 15, 15,
  15, 15, 15, 15, 15, 15, 15, 15, 15, 15, 15, 15, 15, 15, 15, 15,
  15, 15, 15, 15, 15, 15, 15, 15, 15, 15, 15, 15, 15, 15, 15, 15,
  15, 15, 15, 15, 15, 15, 15, 15, 15, 15, 15, 15, 15, 15, 15, 15,
  15, 15, 15, 15, 15, 15, 15, 15, 15, 15, 15, 15, 15, 15, 15, 15,
  15, 15, 15, 15, 15, 15, 15, 15, 15, 15, 15, 15, 15, 15, 15, 15,
  15, 15, 15, 15, 15, 15, 15, 15, 15, 15, 15, 15, 15, 15, 15, 15]

/-- `n16Table[b]`: the 4-bit code of a base letter (15 = N for everything unknown) -/
def n16 (c : UInt8) : Fin 16 := Fin.ofNat 16 ((n16Table[c.toNat]?).getD 15)

/-- formatSeq: `*` for the empty sequence, else Expand -/
def formatSeq (s : List (Fin 16)) : Bytes := if s.isEmpty then [42] else s.map baseChar

/-- formatQual: `*` unless some value differs from 0xff -/
def formatQual (q : Option Bytes) : Bytes :=
  match q with
  | none => [42]
  | some q => if q.any (· != 255) then q.map (· + 33) else [42]

/-! ### auxiliary fields -/

inductive IntTy
  | c | C | s | S | i | I
deriving DecidableEq, Repr

def IntTy.letter : IntTy → UInt8
  | .c => 99 | .C => 67 | .s => 115 | .S => 83 | .i => 105 | .I => 73

def IntTy.lo : IntTy → Int
  | .c => -128 | .C => 0 | .s => -32768 | .S => 0 | .i => -2147483648 | .I => 0

def IntTy.hi : IntTy → Int
  | .c => 127 | .C => 255 | .s => 32767 | .S => 65535 | .i => 2147483647 | .I => 4294967295

def IntTy.signed : IntTy → Bool
  | .c | .s | .i => true
  | _ => false

def IntTy.bits : IntTy → Nat
  | .c | .C => 8
  | .s | .S => 16
  | .i | .I => 32

def IntTy.ofLetter (c : UInt8) : Option IntTy :=
  if c = 99 then some .c else if c = 67 then some .C else if c = 115 then some .s
  else if c = 83 then some .S else if c = 105 then some .i else if c = 73 then some .I else none

inductive AuxVal
  | char (c : UInt8)                     -- A
  | int (ty : IntTy) (v : Int)           -- c C s S i I
  | float (bits : UInt32)                -- f
  | text (s : Bytes)                     -- Z
  | hex (b : Bytes)                      -- H
  | ints (ty : IntTy) (vs : List Int)    -- B with an integer element type
  | floats (vs : List UInt32)            -- B:f
deriving DecidableEq, Repr

structure Aux where
  t0 : UInt8
  t1 : UInt8
  val : AuxVal
deriving DecidableEq, Repr

/-- representation invariant: integer values lie in the range of their Go type -/
def AuxVal.WF : AuxVal → Prop
  | .int ty v => ty.lo ≤ v ∧ v ≤ ty.hi
  | .ints ty vs => ∀ v ∈ vs, ty.lo ≤ v ∧ v ≤ ty.hi
  | _ => True

/-- `%c` of a byte: the UTF-8 encoding of the code point with that number -/
def utf8OfByte (c : UInt8) : Bytes := if c < 128 then [c] else [(192 : UInt8) ||| (c >>> 6), (128 : UInt8) ||| (c &&& 63)]

/-- `%X` of a byte slice (repaired: upper-case digits as SAM requires, no padding of the empty value) -/
def hexEncode (b : Bytes) : Bytes := b.flatMap fun x => [hexDigitUpper (x.toNat / 16), hexDigitUpper (x.toNat % 16)]

def fromHexChar (c : UInt8) : Option Nat :=
  if 48 ≤ c ∧ c ≤ 57 then some (c.toNat - 48)
  else if 97 ≤ c ∧ c ≤ 102 then some (c.toNat - 87)
  else if 65 ≤ c ∧ c ≤ 70 then some (c.toNat - 55)
  else none

/-- `encoding/hex.Decode`: `none` for a bad digit or an odd length -/
def hexDecode : Bytes → Option Bytes
  | [] => some []
  | [_] => none
  | a :: b :: rest =>
    match fromHexChar a, fromHexChar b, hexDecode rest with
    | some x, some y, some r => some (UInt8.ofNat (x * 16 + y) :: r)
    | _, _, _ => none

/-- `samAux.String`: TAG:TYPE:VALUE, every integer type with the letter `i` -/
def formatAux (ft : FloatText) (a : Aux) : Bytes :=
  [a.t0, a.t1, 58] ++
  match a.val with
  | .char c => [65, 58] ++ utf8OfByte c
  | .int _ v => [105, 58] ++ showInt v
  | .float b => [102, 58] ++ ft.fmt b
  | .text s => [90, 58] ++ s
  | .hex b => [72, 58] ++ hexEncode b
  | .ints ty vs => [66, 58, ty.letter] ++ vs.flatMap fun v => 44 :: showInt v
  | .floats vs => [66, 58, 102] ++ vs.flatMap fun b => 44 :: ft.fmt b

/-- NewAux on a Go `int` (negative values in ParseAux) / `uint`: the smallest type that holds the value -/
def narrowInt (v : Int) : Option AuxVal :=
  if v < 0 then
    if -128 ≤ v then some (.int .c v)
    else if -32768 ≤ v then some (.int .s v)
    else if -2147483648 ≤ v then some (.int .i v)
    else none
  else
    if v ≤ 255 then some (.int .C v)
    else if v ≤ 65535 then some (.int .S v)
    else if v ≤ 4294967295 then some (.int .I v)
    else none

/-- one array element: strconv.ParseInt / ParseUint with base 0 and the element's bit size -/
def parseElem (ty : IntTy) (s : Bytes) : Option Int :=
  if ty.signed then parseIntGo s 0 ty.bits else (parseUintGo s 0 ty.bits).map Int.ofNat

/-- the element texts after the type letter of a `B` value: none for a bare letter, else a comma and
the comma-separated elements -/
def arrayElems (rest : Bytes) : Option (List Bytes) :=
  match rest with
  | [] => some []
  | c :: body => if c = 44 then some (splitOn 44 body) else none

/-- the `B` case of ParseAux (repaired: a bare type letter is the empty array) -/
def parseArray (ft : FloatText) (txt : Bytes) : Option AuxVal :=
  match txt with
  | [] => none
  | t :: rest =>
    match arrayElems rest with
    | none => none
    | some nf =>
      if t = 102 then (nf.mapM ft.parse).map .floats
      else match IntTy.ofLetter t with
        | none => none
        | some ty => (nf.mapM (parseElem ty)).map (.ints ty)

/-- `sam.ParseAux` (repaired: values may be empty) -/
def parseAux (ft : FloatText) (text : Bytes) : Except Fault Aux :=
  match text with
  | t0 :: t1 :: c2 :: typ :: c4 :: txt =>
    if c2 ≠ 58 ∨ c4 ≠ 58 then .error .err
    else
      let v : Option AuxVal :=
        if typ = 65 then (match txt with | [c] => some (.char c) | _ => none)
        else if typ = 105 then (atoi txt).bind narrowInt
        else if typ = 102 then (ft.parse txt).map .float
        else if typ = 90 then some (.text txt)
        else if typ = 72 then (hexDecode txt).map .hex
        else if typ = 66 then parseArray ft txt
        else none
      match v with
      | none => .error .err
      | some v => .ok ⟨t0, t1, v⟩
  | _ => .error .err

/-! ### records -/

/-- a `*sam.Reference` as a value -/
structure Ref where
  id : Int
  name : Bytes
  len : Nat
deriving DecidableEq, Repr

/-- the header as far as records need it: reference names and lengths, in id order -/
structure Header where
  refs : List (Bytes × Nat)
deriving DecidableEq, Repr

def Header.refAt (h : Header) (i : Nat) : Option Ref := (h.refs[i]?).map fun p => ⟨i, p.1, p.2⟩

structure Record where
  name : Bytes
  flags : UInt16
  ref : Option Ref
  pos : Int
  mapq : UInt8
  cigar : List CigarOp
  mateRef : Option Ref
  matePos : Int
  tempLen : Int
  seq : List (Fin 16)
  qual : Option Bytes       -- `none` = nil slice
  aux : List Aux
deriving DecidableEq, Repr

/-- `(*Reference).Name` -/
def refName : Option Ref → Bytes
  | none => [42]
  | some r => r.name

/-- formatMate: `=` when the mate reference is the read's reference -/
def formatMate (ref mate : Option Ref) : Bytes :=
  match mate with
  | some m => if ref = some m then [61] else m.name
  | none => [42]

/-- the text fields of `MarshalSAM`, in order -/
def recordFields (ft : FloatText) (f : FlagFmt) (r : Record) : List Bytes :=
  [r.name, formatFlags r.flags f, refName r.ref, showInt (wrap64 (r.pos + 1)), showNat r.mapq.toNat,
   formatCigar r.cigar, formatMate r.ref r.mateRef, showInt (wrap64 (r.matePos + 1)), showInt r.tempLen,
   formatSeq r.seq, formatQual r.qual] ++ r.aux.map (formatAux ft)

/-- `Record.MarshalSAM(flags)` -/
def formatRecord (ft : FloatText) (f : FlagFmt) (r : Record) : Except Fault Bytes :=
  match r.qual with
  | some q => if q.length ≠ r.seq.length then .error .err else .ok (joinWith 9 (recordFields ft f r))
  | none => .ok (joinWith 9 (recordFields ft f r))

def findRef (refs : List (Bytes × Nat)) (name : Bytes) (i : Nat) : Option Ref :=
  match refs with
  | [] => none
  | p :: rest => if p.1 = name then some ⟨i, p.1, p.2⟩ else findRef rest name (i + 1)

/-- referenceForName: `*` is nil; without a header a fake reference (id -1, length 0); with a header
the first reference of that name -/
def referenceForName (h : Option Header) (name : Bytes) : Except Fault (Option Ref) :=
  if name = [42] then .ok none
  else match h with
    | none => .ok (some ⟨-1, name, 0⟩)
    | some h =>
      match findRef h.refs name 0 with
      | some r => .ok (some r)
      | none => .error .err

def ofOpt {α} : Option α → Except Fault α
  | some a => .ok a
  | none => .error .err

/-- the quality field of UnmarshalSAM -/
def parseQual (f10 : Bytes) (seqLen : Nat) : Option Bytes :=
  if f10 ≠ [42] then (if f10.isEmpty then none else some (f10.map (· - 33)))
  else if seqLen ≠ 0 then some (List.replicate seqLen 255)
  else none

/-- the sequence field: `*` is the empty sequence, else `NewSeq` -/
def parseSeq (f9 : Bytes) : List (Fin 16) := if f9 = [42] then [] else f9.map n16

/-- `if len(r.Cigar) != 0 && !r.Cigar.IsValid(r.Seq.Length)`, only when a sequence is given -/
def checkCigar (hasSeq : Bool) (cigar : List CigarOp) (seqLen : Nat) : Except Fault Unit :=
  if hasSeq = true ∧ cigar.isEmpty = false then
    match cigarIsValid cigar seqLen with
    | none => .error .panic
    | some false => .error .err
    | some true => .ok ()
  else .ok ()

/-- `if len(r.Qual) != 0 && len(r.Qual) != r.Seq.Length` -/
def checkQualLen (qual : Option Bytes) (seqLen : Nat) : Except Fault Unit :=
  match qual with
  | some q => if q.length ≠ 0 ∧ q.length ≠ seqLen then .error .err else .ok ()
  | none => .ok ()

/-- RNEXT: equal to RNAME, or `=`, means the read's reference -/
def parseMateRef (h : Option Header) (ref : Option Ref) (f2 f6 : Bytes) : Except Fault (Option Ref) :=
  if f2 = f6 ∨ f6 = [61] then .ok ref else referenceForName h f6

/-- `Record.UnmarshalSAM(h, b)` -/
def parseRecord (ft : FloatText) (h : Option Header) (b : Bytes) : Except Fault Record :=
  match splitOn 9 b with
  | f0 :: f1 :: f2 :: f3 :: f4 :: f5 :: f6 :: f7 :: f8 :: f9 :: f10 :: auxf => do
    let flags ← ofOpt (parseUintGo f1 0 16)
    let ref ← referenceForName h f2
    let pos ← ofOpt (atoi f3)
    let mapq ← ofOpt (parseUintGo f4 10 8)
    let cigar ← parseCigar f5
    let mate ← parseMateRef h ref f2 f6
    let matePos ← ofOpt (atoi f7)
    let tlen ← ofOpt (atoi f8)
    let seq := parseSeq f9
    checkCigar (f9 != [42]) cigar seq.length
    let qual := parseQual f10 seq.length
    checkQualLen qual seq.length
    let aux ← auxf.mapM (parseAux ft)
    pure { name := f0, flags := UInt16.ofNat flags, ref := ref, pos := wrap64 (pos - 1), mapq := UInt8.ofNat mapq,
           cigar := cigar, mateRef := mate, matePos := wrap64 (matePos - 1), tempLen := tlen, seq := seq,
           qual := qual, aux := aux }
  | _ => .error .err

/-! ### sam.Reader -/

/-- the successive results of `bufio.Reader.ReadBytes('\n')` with the terminator cut off; a final
piece without terminator is a line of its own unless it is empty (repaired: it used to be dropped) -/
def readerLines (input : Bytes) : List Bytes :=
  let parts := splitOn 10 input
  if parts.getLast? = some [] then parts.dropLast else parts

/-- one trailing `\r` is removed (repaired: an empty line is an error of UnmarshalSAM, not a panic) -/
def stripCR (b : Bytes) : Bytes := if b.getLast? = some 13 then b.dropLast else b

/-- what successive `Read` calls return for the lines after the header, when the input had a header:
one result per line -/
def readAll (ft : FloatText) (h : Header) (body : Bytes) : List (Except Fault Record) :=
  ((readerLines body).map stripCR).map (parseRecord ft (some h))

/-- `ReadBytes('\n')` when a terminator exists: the line without it, and the rest -/
def takeLine : Bytes → Option (Bytes × Bytes)
  | [] => none
  | c :: rest => if c = 10 then some ([], rest) else (takeLine rest).map fun p => (c :: p.1, p.2)

/-- NewReader's split of the input into header text (lines starting with `@`, each newline-terminated)
and the rest; `none` = NewReader fails (empty input, or a header line without newline).  An empty
header text means the reader works in no-header mode.  Fuel: the input length + 1. -/
def splitHeader : Nat → Bytes → Bytes → Option (Bytes × Bytes)
  | 0, _, _ => none
  | fuel + 1, acc, input =>
    match input with
    | [] => if acc.isEmpty then none else some (acc, [])
    | c :: _ =>
      if c ≠ 64 then some (acc, input)
      else
        match takeLine input with
        | some (l, rest) => splitHeader fuel (acc ++ l ++ [10]) rest
        | none => none

/-- no-header mode: references are created as they are seen, ids in order of first appearance -/
def resolveSeen (seen : List Bytes) (r : Option Ref) : List Bytes × Option Ref :=
  match r with
  | none => (seen, none)
  | some x =>
    match seen.findIdx? (· = x.name) with
    | some i => (seen, some ⟨i, x.name, 0⟩)
    | none => (seen ++ [x.name], some ⟨seen.length, x.name, 0⟩)

/-- successive `Read` results in no-header mode over the lines (terminator and CR already removed);
`seen` = the reference names met so far -/
def noHeaderLoop (ft : FloatText) : List Bytes → List Bytes → List (Except Fault Record)
  | [], _ => []
  | l :: rest, seen =>
    match parseRecord ft none l with
    | .error e => .error e :: noHeaderLoop ft rest seen
    | .ok r =>
      let (seen1, ref) := resolveSeen seen r.ref
      let (seen2, mate) := resolveSeen seen1 r.mateRef
      .ok { r with ref := ref, mateRef := mate } :: noHeaderLoop ft rest seen2

def readAllNoHeader (ft : FloatText) (body : Bytes) : List (Except Fault Record) :=
  noHeaderLoop ft ((readerLines body).map stripCR) []

/-- `sam.NewReader` followed by `Read` until it fails or reports EOF.  `parseHeader` stands for
`Header.UnmarshalText` (C07) as far as records need it: the references of the header text; `none` where it
fails.  Result `none` = NewReader returns an error. -/
def readFile (ft : FloatText) (parseHeader : Bytes → Option Header) (input : Bytes) :
    Option (List (Except Fault Record)) :=
  match splitHeader (input.length + 1) [] input with
  | none => none
  | some (hdr, body) =>
    if hdr.isEmpty then some (readAllNoHeader ft body)
    else (parseHeader hdr).map fun h => readAll ft h body

/-! ### BAM view -/

/-- a record as bam.Reader returns it: absent qualities are a run of 0xff of the sequence's length -/
def norm (r : Record) : Record :=
  { r with qual := some (match r.qual with | none => List.replicate r.seq.length 255 | some q => q) }

end Hts.Model.SamText
