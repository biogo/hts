/-
bgzf.Writer's concurrency protocol as a labelled transition system (core Lean only).

Threads
* the API caller (single goroutine: bgzf.Writer is not safe for concurrent use) executing a script of
  `Write`/`Flush`/`Wait`/`Close` calls;
* the emitter goroutine started by `NewWriterLevel` (`for qw := range bg.queue { writeOK(bg, <-qw.flush) }`);
* one goroutine `c.writeBlock()` per queued compressor (its only visible action: `c.flush <- c`).

State = where each of the `n = max(wc+1, 2)` compressors is (active / channel `waiting` / channel `queue` /
held by the emitter / dropped by Close), with `queue` and `waiting` as FIFO lists of capacity `n`,
`pending` = the `qwg` WaitGroup counter, `err` = the error latch (`bg.err` under `bg.m`), `out` = the blocks
whose underlying `Write` returned success, `eof` = the EOF marker block written by `Close`.

Blocks are abstract: a data block is its submission number (0, 1, 2, …).  DEFLATE is irrelevant here.
A `Write` call that completes `k` blocks is the script op `write k`; whether `Flush` finds a non-empty
active block is a flag of the script (`flush true`), so every concrete script is covered.

Fault oracles: `cfg.fault i = true` iff the `i`-th call (0-based, counting every call) of the underlying
writer's `Write` fails (an error, possibly after partial data: such a block is not in `out`);
`cfg.cfault b = true` iff compressing block `b` fails (`compressor.writeBlock` sets `c.err`: a gzip header
error or `ErrBlockOverflow`), which the emitter finds when it takes the compressor from its `flush` channel
(`writeOK`: `if c.err != nil { bg.setErr(c.err); return false }`; on the unchanged tree without `qwg.Done()`).

`cfg.repaired = true` is the protocol after fixes/C09-1 (the emitter keeps draining the queue after the
first failure; `qwg.Done` is deferred so that it runs after `setErr`); `false` is the unchanged tree
(the emitter `break`s after the first failure; `qwg.Done()` runs before `setErr`).

Atomic actions are single channel operations, latch reads/writes (mutex), WaitGroup operations and `go`
statements, except for these seven merges (each merged action is local to its goroutine or a left-mover or both-mover,
so no behaviour of the finer-grained program is lost):
1. `bg.queue <- c; bg.qwg.Add(1); go c.writeBlock()` is one step (`wSub`, `cEnq` without the `go`);
2. in `Flush` the receive from `waiting` and that enqueue are one step (`fSwap`);
3. in `Close`, `c.writeBlock()` (synchronous) and `bg.closed = true; close(bg.queue)` are one step (`cComp`);
4. the emitter's `<-qw.flush`, its `c.err` test, its latch read (repaired tree) and the call of the underlying
   `Write` are one step (`hold`);
5. `Wait`: `bg.qwg.Wait()` and the following `bg.Error()` are one step (`wtBlock`) — exact: with `pending = 0`
   and the single API goroutine inside `Wait`, nothing can set the latch in between;
6. `Write`: the loop-exit test `err == nil` / `len(b) > 0` and the final `return n, bg.Error()` are one latch
   read (`wLoop 0`) — the first read's nil result leads to the second read, whose result is the one returned;
7. `Close`: the test `bg.err == nil` and the underlying `Write` of the EOF marker are one step (`cEof`) — exact:
   the emitter has finished (`wg.Wait()` returned), nobody else can set `bg.err`.
-/
namespace Hts.Model.WriterLTS

inductive Op
  | write (k : Nat)          -- a Write call that completes (submits) k blocks
  | flush (nonempty : Bool)  -- Flush; `nonempty` = the active block holds data
  | wait
  | close
deriving DecidableEq, Repr, Inhabited

inductive Res | ok | err | closed
deriving DecidableEq, Repr, Inhabited

/-- state of a queued compressor: `writeBlock` goroutine running / finished (`c.flush` holds c) /
    queued by Close and not yet compressed (Close calls `c.writeBlock()` itself, later) -/
inductive ISt | compressing | flushed | held
deriving DecidableEq, Repr, Inhabited

structure Item where
  cid : Nat
  blk : Nat
  st  : ISt
deriving DecidableEq, Repr, Inhabited

inductive ApiPc
  | idle
  | retClosed            -- about to return ErrClosed
  | wLoop (k : Nat)      -- Write: loop head (latch read); k blocks still to submit
  | wSub (k : Nat)       -- Write: `bg.queue <- c; qwg.Add(1); go c.writeBlock()`
  | wTake (k : Nat)      -- Write: `c = <-bg.waiting`
  | fChk (b : Bool)      -- Flush: latch read, empty test
  | fSwap                -- Flush: `<-bg.waiting`, enqueue the old active compressor
  | fRet                 -- Flush: `return bg.Error()`
  | wtChk                -- Wait: first latch read
  | wtBlock              -- Wait: `bg.qwg.Wait()` then `return bg.Error()`
  | cEnq                 -- Close: `bg.queue <- c; qwg.Add(1)`
  | cTake                -- Close: `<-bg.waiting`
  | cComp                -- Close: `c.writeBlock(); bg.closed = true; close(bg.queue)`
  | cJoin                -- Close: `bg.wg.Wait()`
  | cEof                 -- Close: `if bg.err == nil { _, bg.err = bg.w.Write(magicBlock) }`
  | cRet                 -- Close: `return bg.err`
deriving DecidableEq, Repr, Inhabited

inductive EmPc
  | recv                 -- `for qw := range bg.queue`
  | hold (it : Item)     -- `<-qw.flush` (then latch check and the underlying Write)
  | failed (it : Item)   -- the underlying Write or (repaired tree) the compression failed; latch not yet set
  | latch (it : Item)    -- unchanged tree only: `qwg.Done()` done, `setErr` next
  | rel (it : Item)      -- about to `qwg.Done()`
  | push (it : Item)     -- about to `bg.waiting <- c`, then loop
  | pushx (it : Item)    -- unchanged tree only: `bg.waiting <- c`, then `break`
  | done                 -- goroutine finished (`bg.wg.Done()`)
deriving DecidableEq, Repr, Inhabited

/-- observable events: API call / return (with the number of blocks submitted so far), and every call
    of the underlying writer (`blk = none` is the EOF marker; `ok = false` is a failed call) -/
inductive Ev
  | call (op : Op)
  | ret (op : Op) (r : Res) (submitted : Nat)
  | uw (blk : Option Nat) (ok : Bool)
deriving DecidableEq, Repr, Inhabited

structure Cfg where
  wc : Nat
  script : List Op
  fault : Nat → Bool
  repaired : Bool
  cfault : Nat → Bool := fun _ => false

/-- `wc++; if wc < 2 { wc = 2 }` -/
def Cfg.n (cfg : Cfg) : Nat := if cfg.wc + 1 < 2 then 2 else cfg.wc + 1

structure State where
  script : List Op
  api : ApiPc
  cur : Op
  active : Option Nat
  waiting : List Nat
  queue : List Item
  em : EmPc
  pending : Nat
  err : Bool
  closed : Bool
  out : List Nat
  eof : Bool
  nwrites : Nat
  submitted : Nat
deriving DecidableEq, Repr, Inhabited

def init (cfg : Cfg) : State :=
  { script := cfg.script, api := .idle, cur := .wait, active := some 0,
    waiting := List.range' 1 (cfg.n - 1), queue := [], em := .recv, pending := 0, err := false,
    closed := false, out := [], eof := false, nwrites := 0, submitted := 0 }

inductive Label
  | api
  | em
  | finQ (i : Nat)   -- the writeBlock goroutine of the i-th compressor in `queue` finishes
  | finE             -- the writeBlock goroutine of the compressor the emitter waits for finishes
deriving DecidableEq, Repr, Inhabited

def resOf (e : Bool) : Res := if e then .err else .ok

/-- first program counter of a call (the `bg.closed` test is local to the API goroutine) -/
def entry (op : Op) (closed : Bool) : ApiPc :=
  match op with
  | .write k => if closed then .retClosed else .wLoop k
  | .flush b => if closed then .retClosed else .fChk b
  | .wait => .wtChk
  | .close => if closed then .cRet else .cEnq

def unhold (it : Item) : Item := if it.st = .held then { it with st := .flushed } else it

def unholdEm : EmPc → EmPc
  | .hold it => .hold (unhold it)
  | e => e

def apiStep (cfg : Cfg) (s : State) : Option (Option Ev × State) :=
  match s.api with
  | .idle =>
    match s.script with
    | [] => none
    | op :: rest => some (some (.call op), { s with script := rest, cur := op, api := entry op s.closed })
  | .retClosed => some (some (.ret s.cur .closed s.submitted), { s with api := .idle })
  | .wLoop k =>
    if s.err then some (some (.ret s.cur .err s.submitted), { s with api := .idle })
    else match k with
      | 0 => some (some (.ret s.cur .ok s.submitted), { s with api := .idle })
      | k + 1 => some (none, { s with api := .wSub k })
  | .wSub k =>
    match s.active with
    | none => none
    | some c =>
      if s.queue.length < cfg.n then
        some (none, { s with queue := s.queue ++ [⟨c, s.submitted, .compressing⟩], pending := s.pending + 1,
                             submitted := s.submitted + 1, active := none, api := .wTake k })
      else none
  | .wTake k =>
    match s.waiting with
    | [] => none
    | c :: ws => some (none, { s with waiting := ws, active := some c, api := .wLoop k })
  | .fChk b =>
    if s.err then some (some (.ret s.cur .err s.submitted), { s with api := .idle })
    else if b then some (none, { s with api := .fSwap })
    else some (some (.ret s.cur .ok s.submitted), { s with api := .idle })
  | .fSwap =>
    match s.active, s.waiting with
    | some a, c :: ws =>
      if s.queue.length < cfg.n then
        some (none, { s with waiting := ws, queue := s.queue ++ [⟨a, s.submitted, .compressing⟩],
                             pending := s.pending + 1, submitted := s.submitted + 1, active := some c,
                             api := .fRet })
      else none
    | _, _ => none
  | .fRet => some (some (.ret s.cur (resOf s.err) s.submitted), { s with api := .idle })
  | .wtChk =>
    if s.err then some (some (.ret s.cur .err s.submitted), { s with api := .idle })
    else some (none, { s with api := .wtBlock })
  | .wtBlock =>
    if s.pending = 0 then some (some (.ret s.cur (resOf s.err) s.submitted), { s with api := .idle })
    else none
  | .cEnq =>
    match s.active with
    | none => none
    | some c =>
      if s.queue.length < cfg.n then
        some (none, { s with queue := s.queue ++ [⟨c, s.submitted, .held⟩], pending := s.pending + 1,
                             submitted := s.submitted + 1, active := none, api := .cTake })
      else none
  | .cTake =>
    match s.waiting with
    | [] => none
    | _ :: ws => some (none, { s with waiting := ws, api := .cComp })
  | .cComp =>
    some (none, { s with queue := s.queue.map unhold, em := unholdEm s.em, closed := true, api := .cJoin })
  | .cJoin => if s.em = .done then some (none, { s with api := .cEof }) else none
  | .cEof =>
    if s.err then some (none, { s with api := .cRet })
    else if cfg.fault s.nwrites then
      some (some (.uw none false), { s with err := true, nwrites := s.nwrites + 1, api := .cRet })
    else
      some (some (.uw none true), { s with eof := true, nwrites := s.nwrites + 1, api := .cRet })
  | .cRet => some (some (.ret s.cur (resOf s.err) s.submitted), { s with api := .idle })

def emStep (cfg : Cfg) (s : State) : Option (Option Ev × State) :=
  match s.em with
  | .recv =>
    match s.queue with
    | it :: q => some (none, { s with queue := q, em := .hold it })
    | [] => if s.closed then some (none, { s with em := .done }) else none
  | .hold it =>
    if it.st = .flushed then
      if cfg.cfault it.blk then
        -- `c.err != nil`: nothing is written; `setErr` next (repaired: then the deferred `qwg.Done()`;
        -- unchanged tree: no `Done` at all, and the emitter leaves its loop)
        if cfg.repaired then some (none, { s with em := .failed it }) else some (none, { s with em := .latch it })
      else if cfg.repaired && s.err then some (none, { s with em := .rel it })
      else if cfg.fault s.nwrites then
        some (some (.uw (some it.blk) false), { s with nwrites := s.nwrites + 1, em := .failed it })
      else
        some (some (.uw (some it.blk) true),
              { s with nwrites := s.nwrites + 1, out := s.out ++ [it.blk], em := .rel it })
    else none
  | .failed it =>
    if cfg.repaired then some (none, { s with err := true, em := .rel it })
    else some (none, { s with pending := s.pending - 1, em := .latch it })
  | .latch it => some (none, { s with err := true, em := .pushx it })
  | .rel it => some (none, { s with pending := s.pending - 1, em := .push it })
  | .push it =>
    if s.waiting.length < cfg.n then some (none, { s with waiting := s.waiting ++ [it.cid], em := .recv })
    else none
  | .pushx it =>
    if s.waiting.length < cfg.n then some (none, { s with waiting := s.waiting ++ [it.cid], em := .done })
    else none
  | .done => none

/-- the i-th queued compressor's goroutine sends on its `flush` channel (capacity 1) -/
def finishAt : Nat → List Item → Option (List Item)
  | _, [] => none
  | 0, it :: q => if it.st = .compressing then some ({ it with st := .flushed } :: q) else none
  | i + 1, it :: q => (finishAt i q).map (it :: ·)

def next (cfg : Cfg) (s : State) : Label → Option (Option Ev × State)
  | .api => apiStep cfg s
  | .em => emStep cfg s
  | .finQ i => (finishAt i s.queue).map fun q => (none, { s with queue := q })
  | .finE =>
    match s.em with
    | .hold it => if it.st = .compressing then some (none, { s with em := .hold { it with st := .flushed } }) else none
    | _ => none

def Step (cfg : Cfg) (s t : State) : Prop := ∃ l e, next cfg s l = some (e, t)

/-- runs with their observable trace, newest event first -/
inductive Run (cfg : Cfg) : List Ev → State → Prop
  | init : Run cfg [] (init cfg)
  | step {tr s l e t} : Run cfg tr s → next cfg s l = some (e, t) → Run cfg (e.toList ++ tr) t

inductive Reachable (cfg : Cfg) : State → Prop
  | init : Reachable cfg (init cfg)
  | step {s t} : Reachable cfg s → Step cfg s t → Reachable cfg t

/-- labels worth trying in state `s` (every label outside this list is disabled) -/
def labels (s : State) : List Label :=
  [.api, .em, .finE] ++ (List.range s.queue.length).map .finQ

/-- all successors, executable -/
def succs (cfg : Cfg) (s : State) : List (Label × Option Ev × State) :=
  (labels s).filterMap fun l => (next cfg s l).map fun p => (l, p.1, p.2)

def enabled (cfg : Cfg) (s : State) : Bool := !(succs cfg s).isEmpty

/-- the API goroutine has run its whole script and returned from the last call -/
def ApiDone (s : State) : Prop := s.api = .idle ∧ s.script = []

/-- nothing is left to do: script finished, nothing queued, emitter parked on an empty queue (writer never
    closed) or finished (writer closed) -/
def AllIdle (s : State) : Prop :=
  ApiDone s ∧ s.queue = [] ∧ s.pending = 0 ∧ (s.em = .recv ∨ s.em = .done)

instance (s : State) : Decidable (ApiDone s) := by unfold ApiDone; exact inferInstance
instance (s : State) : Decidable (AllIdle s) := by unfold AllIdle; exact inferInstance

/-- after Close has returned, every library goroutine has finished -/
def NoLibraryThread (s : State) : Prop :=
  s.em = .done ∧ s.queue = [] ∧ s.pending = 0

instance (s : State) : Decidable (NoLibraryThread s) := by unfold NoLibraryThread; exact inferInstance

/-! ### the sequential writer (what a writer without goroutines would deliver) -/

/-- number of blocks the script submits when no fault occurs (`closed` = Close already called) -/
def seqBlocks : List Op → Bool → Nat
  | [], _ => 0
  | _ :: rest, true => seqBlocks rest true
  | .write k :: rest, false => k + seqBlocks rest false
  | .flush b :: rest, false => (if b then 1 else 0) + seqBlocks rest false
  | .wait :: rest, false => seqBlocks rest false
  | .close :: rest, false => 1 + seqBlocks rest true

def hasClose (script : List Op) : Bool := script.contains .close

/-- output of the sequential writer: data blocks in submission order, EOF marker iff closed -/
def sequentialWriter (script : List Op) : List Nat × Bool :=
  (List.range (seqBlocks script false), hasClose script)

/-! ### executing a schedule (used by the driver and by the `decide`d witnesses) -/

def runLabels (cfg : Cfg) : State → List Label → Option State
  | s, [] => some s
  | s, l :: ls => match next cfg s l with
    | some (_, t) => runLabels cfg t ls
    | none => none

end Hts.Model.WriterLTS
